/-
Model of pydl/pydlspec2d/spec1d.py (core Lean only):

* `specAppend`            spec_append (1127-1163): zero padding, `pixshift` of either sign
* `latestMjd`             latest_mjd (535-565): largest MJD among the spPlate files of a plate
* `normalize`             readspec 863-915: scalar / vector calling conventions, numpy broadcasting
* `readspecX` (`stepX`, `normalizeAll`, `numberOfFibers`)
                          the same with `znum=` and `fiber=None` (extension, end of the file)
* `step`, `finish`, `readspec`
                          readspec 916-1086 with `align` and `znum` unset: grouping of the
                          requests by the unique values of `(plate << 16) + mjd`, one file per
                          key, per-file row selection `thisfiber - 1`, accumulation with
                          `spec_append(.., pixshift=0)` / `np.concatenate`, final gather with
                          `j = allpmjdindex.argsort()`.

File contents are an abstract function (`Survey`): plate, mjd ↦ the spPlate file
(and the spZbest / photoPlate tables when those files exist).  `np.argsort` is a
parameter of `readspec`; its contract (`IsArgsort`) is stated in Lemmas/SpecOrder.lean.
Pixels have any type `α` with the `Scalar` operations (Float in the driver); table
rows are values of an arbitrary type `τ`.
-/
import PydlVerif.Model.Scalar
namespace PydlVerif.SpecOrder

/-! ## spec_append -/

/-- a 2-d numpy array: `shape = (rows.length, npix)` -/
structure Img (α : Type) where
  npix : Nat
  rows : List (List α)

/-- one row of `spec3` after `spec3[r, nadd:nadd+len] = row` (all other cells are the zeros of `np.zeros`) -/
def place {α} (z : α) (w nadd : Nat) (r : List α) : List α :=
  List.replicate nadd z ++ r ++ List.replicate (w - (nadd + r.length)) z

/-- `nadd1`: zeros in front of `spec1` -/
def nadd1 (pixshift : Int) : Nat :=
  if pixshift != 0 then (if pixshift < 0 then (-pixshift).toNat else 0) else 0

/-- `nadd2`: zeros in front of `spec2` -/
def nadd2 (pixshift : Int) : Nat :=
  if pixshift != 0 then (if pixshift < 0 then 0 else pixshift.toNat) else 0

def specAppend {α} (z : α) (s1 s2 : Img α) (pixshift : Int) : Img α :=
  let a1 := nadd1 pixshift
  let a2 := nadd2 pixshift
  let maxpix := max (s1.npix + a1) (s2.npix + a2)
  ⟨maxpix, s1.rows.map (place z maxpix a1) ++ s2.rows.map (place z maxpix a2)⟩

/-! ## files -/

/-- what readspec reads from one plate-MJD -/
structure PlateFile (α τ : Type) where
  npix : Nat                 -- NAXIS1 of the primary header
  nfib : Nat                 -- number of rows of every image and table
  c0 : α                     -- COEFF0
  c1 : α                     -- COEFF1
  img : Nat → Nat → List α   -- HDU number (0 1 2 3 4 6), row ↦ pixels
  plug : Nat → τ             -- HDU 5 (plug-map table), row ↦ record
  zans : Option (Nat → τ)    -- spZbest HDU 1 when the file exists
  tsobj : Option (Nat → τ)   -- photoPlate HDU 1 when the file exists

/-- plate, mjd ↦ file, `none` when spPlate-pppp-mmmmm.fits does not exist -/
abbrev Survey (α τ : Type) := Nat → Nat → Option (PlateFile α τ)

/-- latest_mjd for one plate: `bigmjd = 0`, then the maximum over the files globbed for the plate -/
def latestMjd (files : List (Nat × Nat)) (plate : Nat) : Nat :=
  files.foldl (fun big f => if f.1 == plate && f.2 > big then f.2 else big) 0

/-! ## calling conventions (readspec 863-915) -/

inductive Arg (β : Type) where
  | scalar (v : β)
  | vec (l : List β)

/-- the value as numpy sees it in `np.zeros(n) + x` -/
def Arg.toList {β} : Arg β → List β
  | .scalar v => [v]
  | .vec l => l

/-- `len(x)`, or 1 after the `TypeError` of a scalar -/
def Arg.len {β} : Arg β → Nat
  | .scalar _ => 1
  | .vec l => l.length

/-- `np.zeros(n) + l` for a list / 0-d value: numpy broadcasting of shapes (n,) and (len l,) -/
def bcast {β} (n : Nat) (l : List β) : Except String (List β) :=
  if l.length == n then pure l
  else match l with
    | [v] => pure (List.replicate n v)
    | _ => if n == 1 then pure l else throw "ValueError"

/-- (platevec, mjdvec, fibervec), all of the common broadcast length -/
def normalize (latest : Nat → Nat) (platein : Arg Nat) (mjd : Option (Arg Nat)) (fiber : Arg Int) :
    Except String (List Nat × List Nat × List Int) := do
  let plate := platein.toList
  let nplate := platein.len
  let nfiber := fiber.len
  -- an empty argument never gets as far as the reorder step (UnboundLocalError / ValueError)
  if nplate == 0 || nfiber == 0 then throw "Empty"
  if nplate > 1 && nfiber > 1 && nplate != nfiber then throw "TypeError"
  let platevec ← if nplate > 1 then pure plate else bcast nfiber plate
  let fibervec ← if nfiber > 1 then pure fiber.toList else bcast nplate fiber.toList
  let mjdvec ← match mjd with
    | none => pure (platevec.map latest)
    | some m =>
      if m.len != nplate then throw "TypeError"
      else bcast nplate m.toList
  -- `(platevec << 16) + mjdvec`, `platevec == p & mjdvec == m`: broadcast to the common length
  let mjdvec ← bcast platevec.length mjdvec
  pure (platevec, mjdvec, fibervec)

/-! ## grouping, reading, reordering (readspec 916-1086) -/

/-- `(platevec << 16) + mjdvec` (u8 arithmetic; no wrap for i4 plates) -/
def key (plate mjd : Nat) : Nat := (plate <<< 16) + mjd

def insertU (x : Nat) : List Nat → List Nat
  | [] => [x]
  | y :: ys => if x < y then x :: y :: ys else if x = y then y :: ys else y :: insertU x ys

/-- np.unique: sorted, without repetitions -/
def uniq (l : List Nat) : List Nat := l.foldr insertU []

/-- numpy index `fiber - 1` into an axis of length `nfib` (negative indices wrap once) -/
def rowIndex (nfib : Nat) (fiber : Int) : Option Nat :=
  let k := fiber - 1
  if 0 ≤ k ∧ k < nfib then some k.toNat
  else if k < 0 ∧ -(nfib : Int) ≤ k then some (k + nfib).toNat
  else none

/-- the image arrays of the result in the order of `hdunames` without 'plugmap';
7 stands for 'loglam', which is computed and not read -/
def imgHdus : List Nat := [0, 1, 2, 3, 4, 6, 7]

/-- `loglam0 = c0 + c1*np.arange(npix)` -/
def loglam0 {α} [Scalar α] (f : PlateFile α τ) : List α :=
  (List.range f.npix).map (fun p => f.c0 + f.c1 * Scalar.ofNat p)

/-- `tmp` for image HDU `h` and the selected rows -/
def tmpImg {α τ} [Scalar α] (f : PlateFile α τ) (rows : List Nat) (h : Nat) : Img α :=
  if h == 7 then ⟨f.npix, rows.map (fun _ => loglam0 f)⟩ else ⟨f.npix, rows.map (f.img h)⟩

structure Acc (α τ : Type) where
  allidx : List Nat               -- allpmjdindex
  imgs : List (Img α)             -- spplate_data[name] for name in imgHdus
  plug : List τ                   -- spplate_data['plugmap'] (all columns of a row together)
  zans : Option (List τ)          -- spplate_data['zans'] if the key exists
  tsobj : Option (List τ)         -- spplate_data['tsobj'] if the key exists

/-- first use sets the dictionary entry, later ones concatenate -/
def catOpt {τ} (acc : Option (List τ)) (new : Option (List τ)) : Option (List τ) :=
  match acc, new with
  | a, none => a
  | none, some n => some n
  | some a, some n => some (a ++ n)

/-- the data part of the loop body: `tmp` arrays of file `f` for the request positions `pmjdindex`
(file rows `rows`), stored on first use and appended afterwards -/
def stepOk {α τ} [Scalar α] (f : PlateFile α τ) (pmjdindex rows : List Nat) (st : Option (Acc α τ)) : Acc α τ :=
  let tmps := imgHdus.map (tmpImg f rows)
  let plug := rows.map f.plug
  let zans := f.zans.map (fun t => rows.map t)
  let tsobj := f.tsobj.map (fun t => rows.map t)
  match st with
  | none => ⟨pmjdindex, tmps, plug, catOpt none zans, catOpt none tsobj⟩
  | some a =>
    ⟨a.allidx ++ pmjdindex,
      List.zipWith (fun s t => specAppend (Scalar.ofNat 0) s t 0) a.imgs tmps,
      a.plug ++ plug, catOpt a.zans zans, catOpt a.tsobj tsobj⟩

/-- request positions that belong to the key `u`: `((platevec == thisplate) & (mjdvec == thismjd)).nonzero()` -/
def idxOf (pv mv : List Nat) (u : Nat) : List Nat :=
  (List.range pv.length).filter
    (fun i => pv.getD i 0 == u >>> 16 && mv.getD i 0 == u &&& ((1 <<< 16) - 1))

/-- body of the loop over the unique plate-MJD keys -/
def step {α τ} [Scalar α] (S : Survey α τ) (pv mv : List Nat) (fv : List Int)
    (st : Option (Acc α τ)) (u : Nat) : Except String (Option (Acc α τ)) :=
  let thisplate := u >>> 16
  let thismjd := u &&& ((1 <<< 16) - 1)
  let pmjdindex := idxOf pv mv u
  let thisfiber := pmjdindex.map (fun i => fv.getD i 0)
  match S thisplate thismjd with
  | none => throw "FileNotFoundError"
  | some f =>
    if !(thisfiber.all (fun x => (rowIndex f.nfib x).isSome)) then throw "IndexError"
    else pure (some (stepOk f pmjdindex (thisfiber.map (fun x => (rowIndex f.nfib x).getD 0)) st))

/-- `x[j]` / `x[j, :]`; numpy raises IndexError for an index outside the axis -/
def gather {β} (l : List β) (j : List Nat) : Except String (List β) :=
  if j.all (· < l.length) then pure (j.filterMap (l[·]?)) else throw "IndexError"

def gatherOpt {β} (l : Option (List β)) (j : List Nat) : Except String (Option (List β)) :=
  match l with
  | none => pure none
  | some l => do pure (some (← gather l j))

structure Result (α τ : Type) where
  imgs : List (Img α)
  plug : List τ
  zans : Option (List τ)
  tsobj : Option (List τ)

/-- lines 1063-1078 -/
def finish {α τ} (argsort : List Nat → List Nat) (a : Acc α τ) : Except String (Result α τ) := do
  let j := argsort a.allidx
  let imgs ← a.imgs.mapM (fun s => do pure (⟨s.npix, ← gather s.rows j⟩ : Img α))
  let plug ← gather a.plug j
  let zans ← gatherOpt a.zans j
  let tsobj ← gatherOpt a.tsobj j
  pure ⟨imgs, plug, zans, tsobj⟩

/-- readspec on already normalised request vectors -/
def readspecCore {α τ} [Scalar α] (argsort : List Nat → List Nat) (S : Survey α τ)
    (pv mv : List Nat) (fv : List Int) : Except String (Result α τ) := do
  let upmjd := uniq (List.zipWith key pv mv)
  match ← upmjd.foldlM (step S pv mv fv) none with
  | none => throw "UnboundLocalError"
  | some a => finish argsort a

def readspec {α τ} [Scalar α] (argsort : List Nat → List Nat) (S : Survey α τ) (files : List (Nat × Nat))
    (platein : Arg Nat) (mjd : Option (Arg Nat)) (fiber : Arg Int) : Except String (Result α τ) := do
  let (pv, mv, fv) ← normalize (latestMjd files) platein mjd fiber
  readspecCore argsort S pv mv fv

/-! ## extension: `znum=` (spZall) and `fiber=None` (all fibres of the plates)

`readspecX` is readspec 863-1086 with `align` unset: `znum=` reads row
`(thisfiber-1)*nper + znum - 1` of spZall instead of row `thisfiber-1` of spZbest;
`fiber=None` builds the request vectors from `number_of_fibers` (568-626).  With `znum`
unset and `fiber` given it is `readspec` above (`readspecX_plain` in Props/C16.lean). -/

/-- spZall-pppp-mmmmm.fits: `nper` = DIMS0 of the primary header (fits per fibre), HDU 1 has `nrows` rows -/
structure ZAll (τ : Type) where
  nper : Nat
  nrows : Nat
  row : Nat → τ

/-- plate, mjd ↦ spZall file, `none` when it does not exist -/
abbrev ZSurvey (τ : Type) := Nat → Nat → Option (ZAll τ)

/-- numpy index `k` into an axis of length `n` (negative indices wrap once) -/
def npIndex (n : Nat) (k : Int) : Option Nat :=
  if 0 ≤ k ∧ k < n then some k.toNat
  else if k < 0 ∧ -(n : Int) ≤ k then some (k + n).toNat
  else none

/-- `stepOk` with the rows of the redshift table given (spZbest or spZall) -/
def stepOkG {α τ} [Scalar α] (f : PlateFile α τ) (pmjdindex rows : List Nat) (zans : Option (List τ))
    (st : Option (Acc α τ)) : Acc α τ :=
  let tmps := imgHdus.map (tmpImg f rows)
  let plug := rows.map f.plug
  let tsobj := f.tsobj.map (fun t => rows.map t)
  match st with
  | none => ⟨pmjdindex, tmps, plug, catOpt none zans, catOpt none tsobj⟩
  | some a =>
    ⟨a.allidx ++ pmjdindex,
      List.zipWith (fun s t => specAppend (Scalar.ofNat 0) s t 0) a.imgs tmps,
      a.plug ++ plug, catOpt a.zans zans, catOpt a.tsobj tsobj⟩

/-- `zfiber = (thisfiber-1)*nper + kwargs['znum'] - 1` as a numpy index into the spZall table -/
def zIndex {τ} (z : ZAll τ) (znum : Int) (fiber : Int) : Option Nat :=
  npIndex z.nrows ((fiber - 1) * (z.nper : Int) + znum - 1)

/-- body of the loop over the unique plate-MJD keys, `znum` possibly set -/
def stepX {α τ} [Scalar α] (S : Survey α τ) (Z : ZSurvey τ) (znum : Option Int) (pv mv : List Nat) (fv : List Int)
    (st : Option (Acc α τ)) (u : Nat) : Except String (Option (Acc α τ)) :=
  let thisplate := u >>> 16
  let thismjd := u &&& ((1 <<< 16) - 1)
  let pmjdindex := idxOf pv mv u
  let thisfiber := pmjdindex.map (fun i => fv.getD i 0)
  match S thisplate thismjd with
  | none => throw "FileNotFoundError"
  | some f =>
    if !(thisfiber.all (fun x => (rowIndex f.nfib x).isSome)) then throw "IndexError"
    else
      let rows := thisfiber.map (fun x => (rowIndex f.nfib x).getD 0)
      match znum with
      | none => pure (some (stepOkG f pmjdindex rows (f.zans.map (fun t => rows.map t)) st))
      | some k =>
        match Z thisplate thismjd with
        | none => pure (some (stepOkG f pmjdindex rows none st))
        | some z =>
          if !(thisfiber.all (fun x => (zIndex z k x).isSome)) then throw "IndexError"
          else pure (some (stepOkG f pmjdindex rows (some (thisfiber.map (fun x => z.row ((zIndex z k x).getD 0)))) st))

/-- readspec on already normalised request vectors, `znum` possibly set -/
def readspecCoreX {α τ} [Scalar α] (argsort : List Nat → List Nat) (S : Survey α τ) (Z : ZSurvey τ)
    (znum : Option Int) (pv mv : List Nat) (fv : List Int) : Except String (Result α τ) := do
  let upmjd := uniq (List.zipWith key pv mv)
  match ← upmjd.foldlM (stepX S Z znum pv mv fv) none with
  | none => throw "UnboundLocalError"
  | some a => finish argsort a

/-- one row of platelist.fits (HDU 1) -/
structure PlateListRow where
  plate : Nat
  mjd : Nat
  run2d : String
  run1d : String
  ntotal : Nat

/-- number_of_fibers (568-626): 640 when every plate's latest MJD is before 55025, otherwise every
plate is looked up in platelist.fits (`none`: the file does not exist) under (plate, latest MJD, run2d,
run1d); the first matching row counts, no matching row is an IndexError -/
def numberOfFibers (latest : Nat → Nat) (platelist : Option (List PlateListRow)) (run2d run1d : String)
    (plate : List Nat) : Except String (List Nat) :=
  let mjd := plate.map latest
  if mjd.all (· < 55025) then pure (mjd.map (fun _ => 640))
  else match platelist with
    | none => throw "FileNotFoundError"
    | some rows =>
      plate.mapM (fun p =>
        match rows.filter (fun r => r.plate == p && r.mjd == latest p && r.run2d == run2d && r.run1d == run1d) with
        | r :: _ => pure r.ntotal
        | [] => throw "IndexError")

/-- `n = np.unique(nfibers[plate == p])[0]` -/
def countFor (plate nfibers : List Nat) (p : Nat) : Nat :=
  (uniq (((plate.zip nfibers).filter (fun x => x.1 == p)).map (·.2))).headD 0

/-- readspec 877-890 and 906-915 (`fiber is None`): (platevec, mjdvec, fibervec).  `platevec` / `fibervec` are
`np.zeros(total_fibers)` filled block by block for the sorted distinct plates; what is not filled stays 0 -/
def normalizeAll (latest : Nat → Nat) (nfOf : List Nat → Except String (List Nat))
    (platein : Arg Nat) (mjd : Option (Arg Nat)) : Except String (List Nat × List Nat × List Int) := do
  let plate := platein.toList
  let nplate := platein.len
  let nfibers ← nfOf plate
  let total := nfibers.sum
  let blocks := (uniq plate).map (fun p => (p, countFor plate nfibers p))
  let pfill := blocks.flatMap (fun b => List.replicate b.2 b.1)
  let ffill := blocks.flatMap (fun b => (List.range b.2).map (fun (i : Nat) => (i : Int) + 1))
  let platevec := pfill ++ List.replicate (total - pfill.length) 0
  let fibervec := ffill ++ List.replicate (total - ffill.length) 0
  let mjdvec ← match mjd with
    | none => pure (platevec.map latest)
    | some m =>
      if m.len != nplate then throw "TypeError"
      else bcast nplate m.toList
  let mjdvec ← bcast platevec.length mjdvec
  pure (platevec, mjdvec, fibervec)

/-- readspec with `align` unset: `fiber = none` is `fiber=None`, `znum = none` is "no znum keyword" -/
def readspecX {α τ} [Scalar α] (argsort : List Nat → List Nat) (S : Survey α τ) (Z : ZSurvey τ)
    (files : List (Nat × Nat)) (platelist : Option (List PlateListRow)) (run2d run1d : String)
    (platein : Arg Nat) (mjd : Option (Arg Nat)) (fiber : Option (Arg Int)) (znum : Option Int) :
    Except String (Result α τ) := do
  let (pv, mv, fv) ← match fiber with
    | some f => normalize (latestMjd files) platein mjd f
    | none => normalizeAll (latestMjd files) (numberOfFibers (latestMjd files) platelist run2d run1d) platein mjd
  readspecCoreX argsort S Z znum pv mv fv

/-- a concrete argsort (stable merge sort of the positions by value) for the driver -/
def argsortImpl (a : List Nat) : List Nat :=
  (List.range a.length).mergeSort (fun i k => a.getD i 0 ≤ a.getD k 0)

end PydlVerif.SpecOrder
