/-
C18: great-circle distance (gcirc), the SDSS (mu, nu) rotation, stripe inclination, angles <-> unit vectors; the model
(Model/Geom.lean) read over ℝ with Mathlib's functions (`realTrig`).  Audited theorems: harness/props/c18.py.
-/
import PydlVerif.Model.Geom
import PydlVerif.Lemmas.RealTrig
import PydlVerif.Lemmas.MangleGeom
import PydlVerif.Lemmas.Haversine

namespace PydlVerif.C18
open PydlVerif PydlVerif.Geom
open PydlVerif.Sphere (havExpr havAngle)

section ring
variable {R : Type} [CommRing R]

/-- munu_to_radec's rotation undoes radec_to_munu's rotation exactly -/
theorem rot_inverse (c s : R) (h : c * c + s * s = 1) (v : V3 R) : rotInv c s (rotFwd c s v) = v := by
  obtain ⟨x, y, z⟩ := v
  simp only [rotFwd, rotInv, Prod.mk.injEq, true_and]
  constructor
  · linear_combination y * h
  · linear_combination z * h

theorem rot_inverse_rev (c s : R) (h : c * c + s * s = 1) (v : V3 R) : rotFwd c s (rotInv c s v) = v := by
  obtain ⟨x, y, z⟩ := v
  simp only [rotFwd, rotInv, Prod.mk.injEq, true_and]
  constructor
  · linear_combination y * h
  · linear_combination z * h

/-- the rotation preserves dot products (hence lengths and angular separations) -/
theorem rot_isometry (c s : R) (h : c * c + s * s = 1) (u v : V3 R) :
    dot (rotFwd c s u) (rotFwd c s v) = dot u v := by
  obtain ⟨x, y, z⟩ := u
  obtain ⟨x', y', z'⟩ := v
  simp only [rotFwd, dot]
  linear_combination (y * y' + z * z') * h

theorem rotInv_isometry (c s : R) (h : c * c + s * s = 1) (u v : V3 R) :
    dot (rotInv c s u) (rotInv c s v) = dot u v := by
  rw [← rot_isometry c s h (rotInv c s u), rot_inverse_rev c s h, rot_inverse_rev c s h]

example : rotFwd (0 : ℤ) 1 (1, 2, 3) = (1, 3, -2) := by decide
example : rotInv (0 : ℤ) 1 (rotFwd 0 1 (1, 2, 3)) = (1, 2, 3) := by decide
end ring

section real
open Real

/- `realTrig` is NOT made a local instance: numerals in the statements below must be ordinary real numerals. -/
local notation "deg2rad" => @Geom.deg2rad ℝ realTrig
local notation "rad2deg" => @Geom.rad2deg ℝ realTrig
local notation "hav" => @Geom.hav ℝ realTrig
local notation "gcircRad" => @Geom.gcircRad ℝ realTrig
local notation "gcirc" => @Geom.gcirc ℝ realTrig
local notation "unitVec" => @Geom.unitVec ℝ realTrig
local notation "munuVec" => @Geom.munuVec ℝ realTrig
local notation "stripeToEta" => @Geom.stripeToEta ℝ realTrig
local notation "stripeToIncl" => @Geom.stripeToIncl ℝ realTrig
local notation "wrap360" => @Geom.wrap360 ℝ realTrig
local notation "clip1" => @Geom.clip1 ℝ realTrig
local notation "vecLon" => @Geom.vecLon ℝ realTrig
local notation "vecLat" => @Geom.vecLat ℝ realTrig
local notation "radecToVec2" => @Geom.radecToVec2 ℝ realTrig
local notation "munuToVec1" => @Geom.munuToVec1 ℝ realTrig
local notation "radecToMunuNI" => @Geom.radecToMunuNI ℝ realTrig
local notation "munuToRadecNI" => @Geom.munuToRadecNI ℝ realTrig
local notation "radecToMunu" => @Geom.radecToMunu ℝ realTrig
local notation "munuToRadec" => @Geom.munuToRadec ℝ realTrig
local notation "anglesToX" => @Geom.anglesToX ℝ realTrig
local notation "xToAngles" => @Geom.xToAngles ℝ realTrig

theorem deg2rad_eq (x : ℝ) : deg2rad x = x * (π / 180) := rfl
theorem rad2deg_eq (x : ℝ) : rad2deg x = x * (180 / π) := rfl
theorem hav_eq (a b c d : ℝ) : hav a b c d =
    sin ((d - b) / 2) * sin ((d - b) / 2) + cos b * cos d * sin ((c - a) / 2) * sin ((c - a) / 2) := rfl
theorem gcircRad_eq (a b c d : ℝ) : gcircRad a b c d = 2 * arcsin (√(hav a b c d)) := rfl
theorem unitVec_eq (l b : ℝ) : unitVec l b = (cos b * cos l, cos b * sin l, sin b) := rfl
theorem munuVec_eq (m n : ℝ) : munuVec m n = (cos m * cos n, sin m * cos n, sin n) := rfl
theorem radecToVec2_eq (N I ra dec : ℝ) : radecToVec2 N I ra dec =
    rotFwd (cos (deg2rad I)) (sin (deg2rad I)) (unitVec (deg2rad (ra - N)) (deg2rad dec)) := rfl
theorem munuToVec1_eq (N I mu nu : ℝ) : munuToVec1 N I mu nu =
    rotInv (cos (deg2rad I)) (sin (deg2rad I)) (munuVec (deg2rad (mu - N)) (deg2rad nu)) := rfl
theorem radecToMunuNI_eq (N I ra dec : ℝ) : radecToMunuNI N I ra dec =
    (wrap360 (rad2deg (vecLon (radecToVec2 N I ra dec)) + N), rad2deg (vecLat (radecToVec2 N I ra dec))) := rfl
theorem munuToRadecNI_eq (N I mu nu : ℝ) : munuToRadecNI N I mu nu =
    (wrap360 (rad2deg (vecLon (munuToVec1 N I mu nu)) + N), rad2deg (vecLat (munuToVec1 N I mu nu))) := rfl

theorem deg2rad_rad2deg (x : ℝ) : deg2rad (rad2deg x) = x := rad_mul_cancel x
theorem rad2deg_deg2rad (x : ℝ) : rad2deg (deg2rad x) = x := deg_mul_cancel x

theorem deg2rad_add (x y : ℝ) : deg2rad (x + y) = deg2rad x + deg2rad y := add_mul x y _
theorem rad2deg_add (x y : ℝ) : rad2deg (x + y) = rad2deg x + rad2deg y := add_mul x y _

theorem deg2rad_turns (k : ℤ) : deg2rad (360 * k) = k * (2 * π) := by
  rw [deg2rad_eq]; ring
theorem rad2deg_turns (k : ℤ) : rad2deg (k * (2 * π)) = 360 * k := by
  rw [rad2deg_eq]; field_simp; ring

theorem deg2rad_lt_iff {x y : ℝ} : deg2rad x < deg2rad y ↔ x < y :=
  mul_lt_mul_iff_left₀ deg_pos
theorem deg2rad_le_iff {x y : ℝ} : deg2rad x ≤ deg2rad y ↔ x ≤ y :=
  mul_le_mul_iff_left₀ deg_pos

theorem deg2rad_zero : deg2rad 0 = 0 := zero_mul _
theorem deg2rad_neg (x : ℝ) : deg2rad (-x) = -deg2rad x := neg_mul x _
theorem deg2rad_90 : deg2rad 90 = π / 2 := by rw [deg2rad_eq]; ring
theorem deg2rad_neg_90 : deg2rad (-90) = -(π / 2) := by rw [deg2rad_neg, deg2rad_90]
theorem deg2rad_180 : deg2rad 180 = π := by rw [deg2rad_eq]; ring

theorem hav_havExpr (a b c d : ℝ) : hav a b c d = havExpr b d (c - a) := by
  rw [hav_eq, havExpr]; ring

theorem gcircRad_havAngle (a b c d : ℝ) : gcircRad a b c d = havAngle b d (c - a) := by
  unfold havAngle; rw [← hav_havExpr]; rfl

theorem dot_unitVec_cos (a b c d : ℝ) :
    Geom.dot (unitVec a b) (unitVec c d) = sin b * sin d + cos b * cos d * cos (c - a) := by
  rw [cos_sub]
  simp only [unitVec_eq, Geom.dot]
  ring

theorem dot_unitVec (a b c d : ℝ) : Geom.dot (unitVec a b) (unitVec c d) = 1 - 2 * hav a b c d := by
  rw [dot_unitVec_cos, hav_havExpr, Sphere.havExpr_eq]; ring

theorem hav_self (a b : ℝ) : hav a b a b = 0 := by
  rw [hav_havExpr, havExpr, sub_self, sub_self, zero_div, sin_zero]; ring

/-! A vector `v` is a unit vector when `Geom.dot v v = 1`; for `v = (x, y, z)` that is `x * x + y * y + z * z = 1` by unfolding, the
form `unit_z_mem` and `arg_unit` take. -/

theorem unitVec_norm (l b : ℝ) : Geom.dot (unitVec l b) (unitVec l b) = 1 := by
  rw [dot_unitVec, hav_self]; ring

theorem hav_symm (a b c d : ℝ) : hav a b c d = hav c d a b := by
  rw [hav_havExpr, hav_havExpr, Sphere.havExpr_comm, neg_sub]

theorem gcircRad_symm (a b c d : ℝ) : gcircRad a b c d = gcircRad c d a b := by
  rw [gcircRad_eq, gcircRad_eq, hav_symm]

/-- gcirc is symmetric in its two points, in every unit convention (and refuses the same `units`) -/
theorem gcirc_symm (units : Int) (ra1 dec1 ra2 dec2 : ℝ) :
    gcirc units ra1 dec1 ra2 dec2 = gcirc units ra2 dec2 ra1 dec1 := by
  unfold Geom.gcirc
  rw [gcircRad_symm ra1, gcircRad_symm (deg2rad (15 * ra1)), gcircRad_symm (deg2rad ra1)]

theorem gcircRad_self (a b : ℝ) : gcircRad a b a b = 0 := by
  rw [gcircRad_eq, hav_self, sqrt_zero, arcsin_zero, mul_zero]

/-- the distance of a point from itself is exactly 0, in the three conventions -/
theorem gcirc_self (units : Int) (hu : units = 0 ∨ units = 1 ∨ units = 2) (ra dec : ℝ) :
    gcirc units ra dec ra dec = .ok 0 := by
  have hz : rad2deg 0 * 3600 = 0 := by rw [rad2deg_eq]; ring
  rcases hu with rfl | rfl | rfl
  · show Except.ok (gcircRad ra dec ra dec) = Except.ok 0
    rw [gcircRad_self]
  all_goals
    show Except.ok (rad2deg (gcircRad _ _ _ _) * 3600) = Except.ok 0
    rw [gcircRad_self, hz]

theorem gcircRad_range (a b c d : ℝ) : 0 ≤ gcircRad a b c d ∧ gcircRad a b c d ≤ π := by
  rw [gcircRad_havAngle]; exact Sphere.havAngle_range _ _ _

theorem gcircArcsec_range (a b c d : ℝ) :
    0 ≤ rad2deg (gcircRad a b c d) * 3600 ∧ rad2deg (gcircRad a b c d) * 3600 ≤ 648000 := by
  obtain ⟨h0, h1⟩ := gcircRad_range a b c d
  rw [← deg2rad_rad2deg (gcircRad a b c d), ← deg2rad_zero, deg2rad_le_iff] at h0
  rw [← deg2rad_rad2deg (gcircRad a b c d), ← deg2rad_180, deg2rad_le_iff] at h1
  exact ⟨mul_nonneg h0 (by norm_num), by linarith⟩

/-- whatever the inputs, the distance lies in [0, π] (radians) resp. [0, 648000 arcsec = 180°] -/
theorem gcirc_range (units : Int) (ra1 dec1 ra2 dec2 g : ℝ) (h : gcirc units ra1 dec1 ra2 dec2 = .ok g) :
    0 ≤ g ∧ g ≤ (if units = 0 then π else 648000) := by
  unfold Geom.gcirc at h
  split_ifs at h with h0 h1 h2
  · obtain rfl := Except.ok.inj h
    rw [if_pos (beq_iff_eq.1 h0)]
    exact gcircRad_range _ _ _ _
  all_goals
    obtain rfl := Except.ok.inj h
    rw [if_neg fun hu => h0 (beq_iff_eq.2 hu)]
    exact gcircArcsec_range _ _ _ _

/-- the three unit conventions give the same angle: hours (RA) / degrees and degrees / degrees are the
    radian result `g` of the converted coordinates, expressed in arcsec -/
theorem gcirc_units (h1 d1 h2 d2 : ℝ) :
    ∃ g, gcirc 0 (deg2rad (15 * h1)) (deg2rad d1) (deg2rad (15 * h2)) (deg2rad d2) = .ok g ∧
      gcirc 1 h1 d1 h2 d2 = .ok (rad2deg g * 3600) ∧
      gcirc 2 (15 * h1) d1 (15 * h2) d2 = .ok (rad2deg g * 3600) ∧
      deg2rad (rad2deg g * 3600 / 3600) = g := by
  refine ⟨_, rfl, rfl, rfl, ?_⟩
  rw [mul_div_assoc, div_self (by norm_num), mul_one, deg2rad_rad2deg]

/-- haversine = chord: four times the term under the square root is the squared Euclidean distance of
    the two unit vectors -/
theorem haversine_chord (ra1 dec1 ra2 dec2 : ℝ) :
    4 * hav ra1 dec1 ra2 dec2 =
      ((unitVec ra1 dec1).1 - (unitVec ra2 dec2).1) ^ 2 + ((unitVec ra1 dec1).2.1 - (unitVec ra2 dec2).2.1) ^ 2 +
        ((unitVec ra1 dec1).2.2 - (unitVec ra2 dec2).2.2) ^ 2 := by
  -- |u - v|² = u·u + v·v - 2 u·v = 2 - 2 (1 - 2 hav)
  have h := dot_unitVec ra1 dec1 ra2 dec2
  have h1 := unitVec_norm ra1 dec1
  have h2 := unitVec_norm ra2 dec2
  simp only [Geom.dot] at h h1 h2
  linear_combination (2) * h - h1 - h2

/-- hence gcirc is the independent vector formula `2 arcsin(|u - v| / 2)` -/
theorem gcirc_vector (ra1 dec1 ra2 dec2 : ℝ) :
    gcircRad ra1 dec1 ra2 dec2 =
      2 * arcsin (√(((unitVec ra1 dec1).1 - (unitVec ra2 dec2).1) ^ 2 + ((unitVec ra1 dec1).2.1 - (unitVec ra2 dec2).2.1) ^ 2 +
        ((unitVec ra1 dec1).2.2 - (unitVec ra2 dec2).2.2) ^ 2) / 2) := by
  rw [← haversine_chord, gcircRad_eq]
  congr 2
  rw [show (4 : ℝ) * hav ra1 dec1 ra2 dec2 = 2 ^ 2 * hav ra1 dec1 ra2 dec2 by norm_num,
    sqrt_mul (by positivity), sqrt_sq (by norm_num)]
  ring

/-- and the angle between the two unit vectors: `arccos (u · v)` -/
theorem gcirc_arccos_dot (ra1 dec1 ra2 dec2 : ℝ) :
    gcircRad ra1 dec1 ra2 dec2 = arccos (Geom.dot (unitVec ra1 dec1) (unitVec ra2 dec2)) := by
  obtain ⟨h0, h1⟩ := Sphere.havAngle_range dec1 dec2 (ra2 - ra1)
  rw [dot_unitVec_cos, gcircRad_havAngle, ← Sphere.cos_havAngle, arccos_cos h0 h1]

example : ∃ g, gcirc 2 10 20 30 40 = .ok g := ⟨_, rfl⟩
example : gcirc 3 10 20 30 40 = .error "ValueError" := rfl

theorem wrap360_cases (t : ℝ) : (t < 0 ∧ wrap360 t = t + 360) ∨ (¬ t < 0 ∧ 360 ≤ t ∧ wrap360 t = t - 360) ∨
    (¬ t < 0 ∧ ¬ 360 ≤ t ∧ wrap360 t = t) := by
  unfold Geom.wrap360
  -- in two steps: `scalar_lit` also matches the ordinary numeral that `Nat.cast_ofNat` produces, so together they loop
  simp only [scalar_lit]
  simp only [Nat.cast_zero, Nat.cast_ofNat]
  split_ifs with h1 h2
  · exact Or.inl ⟨h1, rfl⟩
  · exact Or.inr (Or.inl ⟨h1, h2, rfl⟩)
  · exact Or.inr (Or.inr ⟨h1, h2, rfl⟩)

/-- the clip in front of `arcsin` does not change the real-number result (Mathlib's arcsin is already clamped) -/
theorem arcsin_clip1 (z : ℝ) : arcsin (clip1 z) = arcsin z := by
  unfold Geom.clip1
  dsimp only
  simp only [scalar_lit]
  simp only [Nat.cast_one]
  split_ifs with h1 h2 h3
  · exact absurd h2 (by norm_num)
  · rw [arcsin_neg_one, arcsin_of_le_neg_one h1.le]
  · rw [arcsin_one, arcsin_of_one_le h3.le]
  · rfl

theorem wrap360_mod (t : ℝ) : ∃ k : ℤ, wrap360 t = t + 360 * k := by
  rcases wrap360_cases t with ⟨_, e⟩ | ⟨_, _, e⟩ | ⟨_, _, e⟩
  · exact ⟨1, by rw [e, Int.cast_one]; ring⟩
  · exact ⟨-1, by rw [e, Int.cast_neg, Int.cast_one]; ring⟩
  · exact ⟨0, by rw [e, Int.cast_zero]; ring⟩

theorem wrap360_range (t : ℝ) (h0 : -360 ≤ t) (h1 : t < 720) : 0 ≤ wrap360 t ∧ wrap360 t < 360 := by
  rcases wrap360_cases t with ⟨h, e⟩ | ⟨h, h', e⟩ | ⟨h, h', e⟩ <;> rw [e] <;> constructor <;> linarith

theorem unit_z_mem {x y z : ℝ} (h : x * x + y * y + z * z = 1) : -1 ≤ z ∧ z ≤ 1 :=
  abs_le.1 (abs_le_one_iff_mul_self_le_one.2 (by linarith [mul_self_nonneg x, mul_self_nonneg y]))

theorem arg_unit {x y z : ℝ} (h : x * x + y * y + z * z = 1) :
    cos (Complex.arg ⟨x, y⟩) * √(1 - z ^ 2) = x ∧ sin (Complex.arg ⟨x, y⟩) * √(1 - z ^ 2) = y := by
  have hn : √(1 - z ^ 2) = ‖(⟨x, y⟩ : ℂ)‖ := by
    rw [Complex.norm_def, Complex.normSq_mk]; congr 1; linarith
  rw [hn, mul_comm, mul_comm (sin _)]
  exact ⟨Complex.norm_mul_cos_arg _, Complex.norm_mul_sin_arg _⟩

/-- `arg` of a point given in polar form is the angle modulo 2π; the number of turns `⌊(π - a) / 2π⌋` is 0 for a
principal value -/
theorem arg_polar (r a : ℝ) (hr : 0 < r) :
    ∃ k : ℤ, Complex.arg ⟨r * cos a, r * sin a⟩ = a + k * (2 * π) ∧ (-π < a → a ≤ π → k = 0) := by
  have e : (⟨r * cos a, r * sin a⟩ : ℂ) = (r : ℂ) * (Complex.cos a + Complex.sin a * Complex.I) := by
    rw [Complex.mk_eq_add_mul_I]; push_cast; ring
  rw [e]
  refine ⟨⌊(π - a) / (2 * π)⌋, by linarith [Complex.arg_mul_cos_add_sin_mul_I_sub hr a], fun h0 h1 => ?_⟩
  rw [Int.floor_eq_zero_iff]
  exact ⟨div_nonneg (by linarith) (by positivity), (div_lt_one (by positivity)).2 (by linarith)⟩

theorem rad2deg_arg_polar (r φ : ℝ) (hr : 0 < r) :
    ∃ k : ℤ, rad2deg (Complex.arg ⟨r * cos (deg2rad φ), r * sin (deg2rad φ)⟩) = φ + 360 * k ∧
      (-180 < φ → φ ≤ 180 → k = 0) := by
  obtain ⟨k, hk, h0⟩ := arg_polar r (deg2rad φ) hr
  refine ⟨k, by rw [hk, rad2deg_add, rad2deg_deg2rad, rad2deg_turns], fun a b => h0 ?_ ?_⟩
  · rw [← deg2rad_180, ← deg2rad_neg, deg2rad_lt_iff]; exact a
  · rw [← deg2rad_180, deg2rad_le_iff]; exact b

theorem munuVec_eq_unitVec (m n : ℝ) : munuVec m n = unitVec m n := by
  rw [munuVec_eq, unitVec_eq, mul_comm (cos m), mul_comm (sin m)]

theorem cos_sin_unit (i : ℝ) : cos i * cos i + sin i * sin i = 1 := by
  linear_combination sin_sq_add_cos_sq i

/-- what the next transform recomputes from a returned (longitude, latitude) in degrees is the unit vector of
    the original radian angles: the wrap and the node drop out -/
theorem unitVec_of_deg (N L ν : ℝ) :
    unitVec (deg2rad (wrap360 (rad2deg L + N) - N)) (deg2rad (rad2deg ν)) = unitVec L ν := by
  obtain ⟨k, hk⟩ := wrap360_mod (rad2deg L + N)
  rw [hk, add_sub_right_comm, add_sub_cancel_right, deg2rad_add, deg2rad_turns, deg2rad_rad2deg, deg2rad_rad2deg,
    unitVec_eq, unitVec_eq, cos_add_int_mul_two_pi, sin_add_int_mul_two_pi]

theorem unitVec_lonlat (v : V3 ℝ) (h : Geom.dot v v = 1) : unitVec (vecLon v) (vecLat v) = v := by
  obtain ⟨x, y, z⟩ := v
  obtain ⟨h1, h2⟩ := arg_unit h
  obtain ⟨hz0, hz1⟩ := unit_z_mem h
  show unitVec (Complex.arg ⟨x, y⟩) (arcsin (clip1 z)) = (x, y, z)
  rw [arcsin_clip1, unitVec_eq, cos_arcsin, mul_comm, mul_comm _ (sin _), h1, h2, sin_arcsin hz0 hz1]

theorem radecToVec2_norm (N I ra dec : ℝ) : Geom.dot (radecToVec2 N I ra dec) (radecToVec2 N I ra dec) = 1 := by
  rw [radecToVec2_eq, rot_isometry _ _ (cos_sin_unit _), unitVec_norm]

theorem munuToVec1_norm (N I mu nu : ℝ) : Geom.dot (munuToVec1 N I mu nu) (munuToVec1 N I mu nu) = 1 := by
  rw [munuToVec1_eq, rotInv_isometry _ _ (cos_sin_unit _), munuVec_eq_unitVec, unitVec_norm]

theorem lonlat_back (N x d : ℝ) (h0 : -90 ≤ d) (h1 : d ≤ 90) :
    rad2deg (vecLat (unitVec (deg2rad (x - N)) (deg2rad d))) = d ∧
    (-90 < d → d < 90 → ∃ k : ℤ,
      wrap360 (rad2deg (vecLon (unitVec (deg2rad (x - N)) (deg2rad d))) + N) = x + 360 * k) := by
  constructor
  · show rad2deg (arcsin (clip1 (sin (deg2rad d)))) = d
    rw [arcsin_clip1, arcsin_sin (deg2rad_neg_90 ▸ deg2rad_le_iff.2 h0) (deg2rad_90 ▸ deg2rad_le_iff.2 h1), rad2deg_deg2rad]
  · intro h0' h1'
    have hc : 0 < cos (deg2rad d) := cos_deg_pos (abs_lt.2 ⟨h0', h1'⟩)
    obtain ⟨k, hk, _⟩ := rad2deg_arg_polar (cos (deg2rad d)) (x - N) hc
    have hL : vecLon (unitVec (deg2rad (x - N)) (deg2rad d)) =
        Complex.arg ⟨cos (deg2rad d) * cos (deg2rad (x - N)), cos (deg2rad d) * sin (deg2rad (x - N))⟩ := rfl
    obtain ⟨k', hk'⟩ := wrap360_mod (rad2deg (vecLon (unitVec (deg2rad (x - N)) (deg2rad d))) + N)
    refine ⟨k + k', ?_⟩
    rw [hk', hL, hk, Int.cast_add]
    ring

/-- ICRS → (mu, nu) → ICRS, Cartesian level, ALL inputs: the vector that munu_to_radec builds from the
    (mu, nu) returned by radec_to_munu is the unit vector of the start -/
theorem radec_munu_vec_roundtrip (N I ra dec : ℝ) :
    munuToVec1 N I (radecToMunuNI N I ra dec).1 (radecToMunuNI N I ra dec).2 =
      unitVec (deg2rad (ra - N)) (deg2rad dec) := by
  rw [radecToMunuNI_eq, munuToVec1_eq, munuVec_eq_unitVec, unitVec_of_deg, unitVec_lonlat _ (radecToVec2_norm _ _ _ _),
    radecToVec2_eq, rot_inverse _ _ (cos_sin_unit _)]

/-- (mu, nu) → ICRS → (mu, nu), Cartesian level, ALL inputs -/
theorem munu_radec_vec_roundtrip (N I mu nu : ℝ) :
    radecToVec2 N I (munuToRadecNI N I mu nu).1 (munuToRadecNI N I mu nu).2 =
      munuVec (deg2rad (mu - N)) (deg2rad nu) := by
  rw [munuToRadecNI_eq, radecToVec2_eq, unitVec_of_deg, unitVec_lonlat _ (munuToVec1_norm _ _ _ _),
    munuToVec1_eq, rot_inverse_rev _ _ (cos_sin_unit _)]

/-- ICRS → (mu, nu) → ICRS at the level of angles: the declination comes back exactly on [-90, 90],
    the right ascension modulo 360 away from the poles (where it is not defined) -/
theorem radec_munu_radec (N I ra dec : ℝ) (h0 : -90 ≤ dec) (h1 : dec ≤ 90) :
    (munuToRadecNI N I (radecToMunuNI N I ra dec).1 (radecToMunuNI N I ra dec).2).2 = dec ∧
    (-90 < dec → dec < 90 → ∃ k : ℤ,
      (munuToRadecNI N I (radecToMunuNI N I ra dec).1 (radecToMunuNI N I ra dec).2).1 = ra + 360 * k) := by
  rw [munuToRadecNI_eq, radec_munu_vec_roundtrip]
  exact lonlat_back N ra dec h0 h1

/-- the same for (mu, nu) → ICRS → (mu, nu), away from the poles of the stripe system -/
theorem munu_radec_munu (N I mu nu : ℝ) (h0 : -90 ≤ nu) (h1 : nu ≤ 90) :
    (radecToMunuNI N I (munuToRadecNI N I mu nu).1 (munuToRadecNI N I mu nu).2).2 = nu ∧
    (-90 < nu → nu < 90 → ∃ k : ℤ,
      (radecToMunuNI N I (munuToRadecNI N I mu nu).1 (munuToRadecNI N I mu nu).2).1 = mu + 360 * k) := by
  rw [radecToMunuNI_eq, munu_radec_vec_roundtrip, munuVec_eq_unitVec]
  exact lonlat_back N mu nu h0 h1

theorem dot_node_free (N l1 b1 l2 b2 : ℝ) :
    Geom.dot (unitVec (deg2rad l1) b1) (unitVec (deg2rad l2) b2) =
      Geom.dot (unitVec (deg2rad (l1 - N)) b1) (unitVec (deg2rad (l2 - N)) b2) := by
  have e : deg2rad (l2 - N) - deg2rad (l1 - N) = deg2rad l2 - deg2rad l1 := by
    simp only [deg2rad_eq]; ring
  rw [dot_unitVec_cos, dot_unitVec_cos, e]

/-- the transform preserves angular separations: gcirc of the two (mu, nu) points is gcirc of the two
    (ra, dec) points -/
theorem munu_preserves_sep (N I ra1 dec1 ra2 dec2 : ℝ) :
    gcirc 2 (radecToMunuNI N I ra1 dec1).1 (radecToMunuNI N I ra1 dec1).2
        (radecToMunuNI N I ra2 dec2).1 (radecToMunuNI N I ra2 dec2).2 =
      gcirc 2 ra1 dec1 ra2 dec2 := by
  show Except.ok (rad2deg (gcircRad _ _ _ _) * 3600) = Except.ok (rad2deg (gcircRad _ _ _ _) * 3600)
  rw [gcirc_arccos_dot, gcirc_arccos_dot, dot_node_free N, dot_node_free N ra1]
  simp only [radecToMunuNI_eq]
  rw [unitVec_of_deg, unitVec_of_deg, unitVec_lonlat _ (radecToVec2_norm _ _ _ _),
    unitVec_lonlat _ (radecToVec2_norm _ _ _ _), radecToVec2_eq, radecToVec2_eq, rot_isometry _ _ (cos_sin_unit _)]

theorem munuToVec1_nu_zero (N I mu : ℝ) : munuToVec1 N I mu 0 =
    (cos (deg2rad (mu - N)), sin (deg2rad (mu - N)) * cos (deg2rad I), sin (deg2rad (mu - N)) * sin (deg2rad I)) := by
  rw [munuToVec1_eq, munuVec_eq, deg2rad_zero, cos_zero, sin_zero]
  simp only [Geom.rotInv, mul_one, zero_mul, sub_zero, add_zero]

/-- nu = 0 traces the great circle of inclination `I` through the node: with longitudes counted from the
    node, the point returned for (mu, 0) lies in the plane with normal (0, -sin I, cos I) and is the point of
    that circle at arc length mu - node from the node -/
theorem nu_zero_circle (N I mu : ℝ) :
    -(sin (deg2rad I)) * (unitVec (deg2rad ((munuToRadecNI N I mu 0).1 - N)) (deg2rad (munuToRadecNI N I mu 0).2)).2.1 +
      cos (deg2rad I) * (unitVec (deg2rad ((munuToRadecNI N I mu 0).1 - N)) (deg2rad (munuToRadecNI N I mu 0).2)).2.2 = 0 ∧
    unitVec (deg2rad ((munuToRadecNI N I mu 0).1 - N)) (deg2rad (munuToRadecNI N I mu 0).2) =
      (cos (deg2rad (mu - N)), sin (deg2rad (mu - N)) * cos (deg2rad I), sin (deg2rad (mu - N)) * sin (deg2rad I)) := by
  -- the plane equation follows from the coordinates
  refine (and_iff_right_of_imp fun hv => ?_).2 ?_
  · rw [hv]
    ring
  · rw [munuToRadecNI_eq, unitVec_of_deg, unitVec_lonlat _ (munuToVec1_norm _ _ _ _), munuToVec1_nu_zero]

/-- conversely a point has nu = 0 exactly when it lies in that plane -/
theorem nu_zero_iff (N I ra dec : ℝ) :
    (radecToMunuNI N I ra dec).2 = 0 ↔
      -(sin (deg2rad I)) * (unitVec (deg2rad (ra - N)) (deg2rad dec)).2.1 +
        cos (deg2rad I) * (unitVec (deg2rad (ra - N)) (deg2rad dec)).2.2 = 0 := by
  show rad2deg (arcsin (clip1 (-(unitVec _ _).2.1 * sin _ + (unitVec _ _).2.2 * cos _))) = 0 ↔ _
  have hp : (180 / π) ≠ 0 := by have := pi_ne_zero; positivity
  rw [arcsin_clip1, rad2deg_eq, mul_eq_zero, or_iff_left hp, arcsin_eq_zero_iff, neg_mul, neg_mul,
    mul_comm (sin _), mul_comm (cos _)]

/-- the node is a fixed point: (mu, nu) = (node, 0) is (ra, dec) = (node, 0) -/
theorem node_fixed (N I : ℝ) (h0 : 0 ≤ N) (h1 : N < 360) : munuToRadecNI N I N 0 = (N, 0) := by
  have hv : munuToVec1 N I N 0 = (1, 0, 0) := by
    rw [munuToVec1_nu_zero, sub_self, deg2rad_zero, cos_zero, sin_zero, zero_mul, zero_mul]
  have hw : wrap360 N = N := by
    rcases wrap360_cases N with ⟨h, _⟩ | ⟨_, h, _⟩ | ⟨_, _, e⟩
    · exact absurd h (not_lt.2 h0)
    · exact absurd h (not_le.2 h1)
    · exact e
  rw [munuToRadecNI_eq, hv]
  show (wrap360 (rad2deg (Complex.arg 1) + N), rad2deg (arcsin (clip1 0))) = (N, 0)
  rw [Complex.arg_one, arcsin_clip1, arcsin_zero, rad2deg_eq, zero_mul, zero_add, hw]

/-- stripe_to_incl as coded: eta + 32.5, i.e. 2.5 deg per stripe from stripe 10 (north) resp. 82 (south) -/
theorem incl_formula (s : ℝ) :
    stripeToIncl s = stripeToEta s + 32.5 ∧
      stripeToIncl s = (if 46 < s then (s - 82) * 2.5 else (s - 10) * 2.5) := by
  refine ⟨rfl, ?_⟩
  unfold Geom.stripeToIncl Geom.stripeToEta
  dsimp only
  simp only [scalar_lit, scalar_sci]
  simp only [Nat.cast_ofNat]
  split_ifs <;> norm_num [-scalar_lit] <;> ring

example : stripeToIncl 10 = 0 := by rw [(incl_formula 10).2]; norm_num [-scalar_lit]
example : stripeToIncl 82 = 0 := by rw [(incl_formula 82).2]; norm_num [-scalar_lit]
/- the hypotheses of radec_munu_radec and node_fixed are met by ordinary inputs -/
example : ∃ k : ℤ, (munuToRadecNI 95 50 (radecToMunuNI 95 50 200 30).1 (radecToMunuNI 95 50 200 30).2).1 = 200 + 360 * k :=
  (radec_munu_radec 95 50 200 30 (by norm_num [-scalar_lit]) (by norm_num [-scalar_lit])).2
    (by norm_num [-scalar_lit]) (by norm_num [-scalar_lit])
example : munuToRadecNI 95 50 95 0 = (95, 0) := node_fixed 95 50 (by norm_num [-scalar_lit]) (by norm_num [-scalar_lit])

/-- the frame transforms compared with astropy are the general ones at node 95 and inclination
    stripe_to_incl(stripe): every theorem above applies to them -/
theorem frame_eq (stripe a b : ℝ) :
    radecToMunu stripe a b = radecToMunuNI 95 (stripeToIncl stripe) a b ∧
      munuToRadec stripe a b = munuToRadecNI 95 (stripeToIncl stripe) a b := ⟨rfl, rfl⟩

theorem anglesToX_false (φ θ : ℝ) : anglesToX false φ θ =
    (cos (deg2rad φ) * sin (deg2rad θ), sin (deg2rad φ) * sin (deg2rad θ), cos (deg2rad θ)) := rfl
theorem xToAngles_false (x y z : ℝ) : xToAngles false (x, y, z) =
    (rad2deg (Complex.arg ⟨x, y⟩), rad2deg (arccos (z / (x * x + y * y + z * z)))) := rfl
theorem anglesToX_true (φ θ : ℝ) : anglesToX true φ θ = anglesToX false φ (90 - θ) := rfl
theorem xToAngles_true (v : V3 ℝ) : xToAngles true v = ((xToAngles false v).1, 90 - (xToAngles false v).2) := rfl

theorem angles_x_false (φ θ : ℝ) (h0 : 0 < θ) (h1 : θ < 180) :
    (xToAngles false (anglesToX false φ θ)).2 = θ ∧
      ∃ k : ℤ, (xToAngles false (anglesToX false φ θ)).1 = φ + 360 * k ∧ (-180 < φ → φ ≤ 180 → k = 0) := by
  have t0 : 0 < deg2rad θ := deg2rad_zero ▸ deg2rad_lt_iff.2 h0
  have t1 : deg2rad θ < π := deg2rad_180 ▸ deg2rad_lt_iff.2 h1
  have hk := rad2deg_arg_polar (sin (deg2rad θ)) φ (sin_pos_of_pos_of_lt_pi t0 t1)
  rw [mul_comm (sin _) (cos _), mul_comm (sin _) (sin _)] at hk
  rw [anglesToX_false, xToAngles_false, MangleGeom.polar_unit, div_one, arccos_cos t0.le t1.le, rad2deg_deg2rad]
  exact ⟨rfl, hk⟩

/-- angles → x → angles is the identity: the polar angle (resp. latitude) comes back exactly, the
    longitude modulo 360, and exactly when it is given in (-180, 180]; the poles are excluded (the longitude
    is lost there) -/
theorem angles_x_inverse (lat : Bool) (φ θ : ℝ)
    (hθ : if lat then (-90 < θ ∧ θ < 90) else (0 < θ ∧ θ < 180)) :
    (xToAngles lat (anglesToX lat φ θ)).2 = θ ∧
      ∃ k : ℤ, (xToAngles lat (anglesToX lat φ θ)).1 = φ + 360 * k ∧ (-180 < φ → φ ≤ 180 → k = 0) := by
  cases lat
  · exact angles_x_false φ θ hθ.1 hθ.2
  · obtain ⟨h2, hk⟩ := angles_x_false φ (90 - θ) (by linarith [hθ.2]) (by linarith [hθ.1])
    rw [anglesToX_true, xToAngles_true, h2]
    exact ⟨sub_sub_cancel 90 θ, hk⟩

/-- x → angles → x is the identity on unit vectors (both conventions) -/
theorem x_angles_inverse (lat : Bool) (v : V3 ℝ) (h : v.1 ^ 2 + v.2.1 ^ 2 + v.2.2 ^ 2 = 1) :
    anglesToX lat (xToAngles lat v).1 (xToAngles lat v).2 = v := by
  have hf : anglesToX false (xToAngles false v).1 (xToAngles false v).2 = v := by
    obtain ⟨x, y, z⟩ := v
    have hr : x * x + y * y + z * z = 1 := by rw [← h]; ring
    obtain ⟨h1, h2⟩ := arg_unit hr
    obtain ⟨hz0, hz1⟩ := unit_z_mem hr
    rw [← sin_arccos] at h1 h2
    rw [xToAngles_false, anglesToX_false, hr, div_one, deg2rad_rad2deg, deg2rad_rad2deg, h1, h2, cos_arccos hz0 hz1]
  cases lat
  · exact hf
  · rw [xToAngles_true, anglesToX_true, sub_sub_cancel]
    exact hf

example : ∃ k : ℤ, (xToAngles false (anglesToX false 200 30)).1 = 200 + 360 * k :=
  let ⟨k, hk, _⟩ := (angles_x_inverse false 200 30 (by norm_num [-scalar_lit])).2; ⟨k, hk⟩
example : anglesToX true (xToAngles true (0, 0, 1)).1 (xToAngles true (0, 0, 1)).2 = (0, 0, 1) :=
  x_angles_inverse true (0, 0, 1) (by norm_num [-scalar_lit])

end real
end PydlVerif.C18
