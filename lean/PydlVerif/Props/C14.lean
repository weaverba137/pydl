/-
C14: smooth, median, uniq, rebin follow IDL semantics.  Value facts are over an arbitrary linearly ordered field K,
index / selection facts over Nat and List for all sizes.  The audited theorems are listed in harness/props/c14.py.
Float arrays only: the integer dtypes of rebin (`rr//f`, truncating casts) are compared by the harness oracle only.
-/
import PydlVerif.Lemmas.Idl
import PydlVerif.Lemmas.Sums
namespace PydlVerif.C14
open PydlVerif PydlVerif.Idl

section field
variable {K : Type} [Field K] [LinearOrder K] [IsStrictOrderedRing K] [FloorRing K]
attribute [local instance] fieldScalar

theorem smooth_length (x : List K) (ow : Int) (t : Bool) : (smooth x ow t).length = x.length := by
  unfold smooth
  by_cases h : oddWidth ow < 3
  · rw [if_pos h]
  · rw [if_neg h, List.length_map, List.length_range]

/-- width (made odd) below 3: the input is returned -/
theorem smooth_identity (x : List K) (ow : Int) (t : Bool) (h : oddWidth ow < 3) :
    smooth x ow t = x := by
  simp [smooth, h]

/-- interior points: centred boxcar mean of the odd width -/
theorem smooth_interior (x : List K) (ow : Int) (t : Bool) (i : Nat) (hw : 3 ≤ oddWidth ow)
    (h1 : (oddWidth ow).toNat / 2 ≤ i) (h2 : i + (oddWidth ow).toNat / 2 < x.length) :
    (smooth x ow t).getD i 0 =
      ((List.range (oddWidth ow).toNat).map fun j => x.getD (i - (oddWidth ow).toNat / 2 + j) 0).sum
        / ((oddWidth ow).toNat : K) := by
  obtain ⟨h, hh, hW⟩ := oddWidth_toNat ow hw
  rw [hW, half_odd] at h1 h2 ⊢
  rw [smooth_getD x ow t h i hW hh (by omega), if_neg (by omega), if_neg (by omega),
    drop_take_eq_map_getD _ 0 _ _ (by omega)]

/-- edge points are left untouched without `edge_truncate` -/
theorem smooth_edges_untouched (x : List K) (ow : Int) (i : Nat) (hw : 3 ≤ oddWidth ow)
    (hi : i < x.length)
    (h : i < (oddWidth ow).toNat / 2 ∨ x.length ≤ i + (oddWidth ow).toNat / 2) :
    (smooth x ow false).getD i 0 = x.getD i 0 := by
  obtain ⟨k, hk, hW⟩ := oddWidth_toNat ow hw
  rw [hW, half_odd] at h
  rw [smooth_getD x ow false k i hW hk hi]
  rcases h with h | h
  · rw [if_pos h]; rfl
  · by_cases hc : i < k
    · rw [if_pos hc]; rfl
    · rw [if_neg hc, if_pos h]; rfl

/-- `edge_truncate`: every point is the mean over the window with out-of-range samples
    replaced by the nearest edge value.  `hn`: for w' > n+1 the slice `signal[0:istart+i+1]` is cut at n and pydl
    does not replicate the far edge -/
theorem smooth_truncate (x : List K) (ow : Int) (i : Nat) (hw : 3 ≤ oddWidth ow)
    (hi : i < x.length) (hn : (oddWidth ow).toNat ≤ x.length + 1) :
    (smooth x ow true).getD i 0 =
      ((List.range (oddWidth ow).toNat).map fun j =>
          x.getD (min (i + j - (oddWidth ow).toNat / 2) (x.length - 1)) 0).sum
        / ((oddWidth ow).toNat : K) := by
  obtain ⟨h, hh, hW⟩ := oddWidth_toNat ow hw
  rw [hW] at hn
  rw [hW, half_odd, smooth_getD x ow true h i hW hh hi]
  clear hW hw
  simp only [if_true]
  by_cases hc : i < h
  · -- the first `h - i` window samples are clamped to `x[0]`, the rest is `x[0 .. h+i]`
    rw [if_pos hc]
    congr 1
    rw [show 2 * h + 1 = (h - i) + (h + i + 1) by omega, sum_range_add,
      sum_range_const (h - i) (x.getD 0 0) _ (fun j hj => by
        rw [show i + j - h = 0 by omega, Nat.zero_min]), nsmul_eq_mul,
      take_eq_map _ _ (by omega), add_comm]
    congr 1
    apply sum_range_congr; intro j hj
    rw [← Nat.add_assoc, Nat.add_sub_cancel' hc.le, Nat.add_sub_cancel_left, Nat.min_eq_left (by omega)]
  · rw [if_neg hc]
    by_cases hc2 : x.length ≤ i + h
    · -- `x[i-h ..]` followed by `i + h + 1 - n` samples clamped to the last element
      rw [if_pos hc2]
      congr 1
      rw [show 2 * h + 1 = (x.length - (i - h)) + (i + h + 1 - x.length) by omega, sum_range_add,
        drop_eq_map _ _ (by omega),
        sum_range_const (i + h + 1 - x.length) (x.getD (x.length - 1) 0) _ (fun j hj => by
          rw [Nat.min_eq_right (by omega)]), nsmul_eq_mul]
      congr 1
      apply sum_range_congr; intro j hj
      rw [Nat.sub_add_comm (Nat.le_of_not_lt hc), Nat.min_eq_left (by omega)]
    · rw [if_neg hc2]
      congr 1
      rw [drop_take_eq_map_getD _ 0 _ _ (by omega)]
      apply sum_range_congr; intro j hj
      rw [Nat.sub_add_comm (Nat.le_of_not_lt hc), Nat.min_eq_left (by omega)]

/-- the stand-in for numpy's sort returns a sorted rearrangement, so the `s` of `median_plain` / `median_running` exists -/
theorem isort_sorted_perm (l : List K) : (isort l).Pairwise (· ≤ ·) ∧ (isort l).Perm l := by
  rw [isort_eq]
  exact ⟨List.pairwise_insertionSort _ l, List.perm_insertionSort _ l⟩

theorem isort_unique (l s : List K) (hp : s.Perm l) (hs : s.Pairwise (· ≤ ·)) : isort l = s :=
  List.Perm.eq_of_pairwise' (isort_sorted_perm l).1 hs ((isort_sorted_perm l).2.trans hp.symm)

/-- IDL MEDIAN without width: for every sorted rearrangement `s` of the data, the result is the
    upper middle element `s[n/2]`, or with `even` and an even count the mean of the two middle ones -/
theorem median_plain (x s : List K) (even : Bool) (hn : 1 ≤ x.length) (hp : s.Perm x)
    (hs : s.Pairwise (· ≤ ·)) :
    medianPlain x even = .ok
      (if x.length % 2 = 0 ∧ even = true then
        (s.getD (x.length / 2 - 1) 0 + s.getD (x.length / 2) 0) / ((2 : Nat) : K)
       else s.getD (x.length / 2) 0) := by
  have hu := isort_unique x s hp hs
  have hn0 : ¬ x.length = 0 := by omega
  unfold medianPlain
  simp only [hu]
  have hb0 : (x.length == 0) = false := by simp [hn0]
  by_cases hodd : x.length % 2 = 1
  · have hb1 : (x.length % 2 == 1) = true := by simp [hodd]
    have : ¬ (x.length % 2 = 0 ∧ even = true) := by omega
    simp only [hb0, hb1, Bool.true_or, if_true, Bool.false_eq_true, if_false, this]; rfl
  · have h0 : x.length % 2 = 0 := by omega
    have hb1 : (x.length % 2 == 1) = false := by simp [h0]
    cases even
    · simp only [hb0, hb1, Bool.or_self, Bool.false_eq_true, if_false, and_false]; rfl
    · simp only [hb0, Bool.or_true, if_true, Bool.false_eq_true, if_false, h0, and_self,
        npSum_eq_sum, List.sum_cons, List.sum_nil, add_zero, scalar_ofNat]; rfl

/-- the samples x[i-h .. i+h] -/
noncomputable def window1 (x : List K) (h i : Nat) : List K :=
  (List.range (2 * h + 1)).map fun j => x.getD (i - h + j) 0

/-- the model of scipy.signal.medfilt: on points whose window lies inside the array it returns
    the middle element of the sorted window (zero padding is never seen there) -/
theorem medfilt1_contract (x : List K) (k i : Nat) (hk : k % 2 = 1) (h1 : k / 2 ≤ i)
    (h2 : i + k / 2 < x.length) :
    (medfilt1 k x).length = x.length ∧
    (medfilt1 k x).getD i 0 = (isort (window1 x (k / 2) i)).getD (k / 2) 0 := by
  obtain ⟨h, rfl⟩ : ∃ h, k = 2 * h + 1 := ⟨k / 2, by omega⟩
  clear hk
  rw [half_odd] at h1 h2 ⊢
  constructor
  · rw [medfilt1, List.length_map, List.length_range]
  · simp only [medfilt1]
    rw [getD_map_range_lt _ _ _ _ (by omega), half_odd]
    congr 2
    apply List.map_congr_left
    intro j _
    rw [if_neg (by omega), Nat.sub_add_comm h1]

/-- running median, 1-D, odd width not exceeding n, for any filter `mf` that returns the
    middle of the sorted window on interior points: `(w-1)/2` points at either end are the
    input, every other point is the median (element `h` of ANY sorted rearrangement) of x[i-h..i+h] -/
theorem median_running (mf : Nat → List K → List K) (x : List K) (w : Nat) (hodd : w % 2 = 1)
    (hw : w ≤ x.length)
    (hmf : ∀ i, w / 2 ≤ i → i + w / 2 < x.length →
      (mf w x).getD i 0 = (isort (window1 x (w / 2) i)).getD (w / 2) 0) :
    ∃ r, medianRun1 mf x w = .ok r ∧ r.length = x.length ∧
      (∀ i, i < x.length → (i < w / 2 ∨ x.length ≤ i + w / 2) → r.getD i 0 = x.getD i 0) ∧
      (∀ i (s : List K), w / 2 ≤ i → i + w / 2 < x.length → s.Perm (window1 x (w / 2) i) →
        s.Pairwise (· ≤ ·) → r.getD i 0 = s.getD (w / 2) 0) := by
  refine ⟨(List.range x.length).map fun i =>
    if isEdge x.length w i then x.getD i 0 else (mf w x).getD i 0, ?_, ?_, ?_, ?_⟩
  · simp only [medianRun1, Nat.min_eq_left hw]
    rw [if_neg (by rw [hodd]; decide)]
    rfl
  · rw [List.length_map, List.length_range]
  · intro i hi he
    rw [getD_map_range_lt _ _ _ _ hi, if_pos ((isEdge_iff _ _ _ hodd).2 he)]
  · intro i s h1 h2 hp hs
    rw [getD_map_range_lt _ _ _ _ (by omega), if_neg (by rw [isEdge_iff _ _ _ hodd]; omega),
      hmf i h1 h2, isort_unique _ s hp hs]

/-- the hypothesis of `median_running` is met by the model of scipy.signal.medfilt -/
theorem median_running_model (x : List K) (w : Nat) (hodd : w % 2 = 1) (hw : w ≤ x.length) :
    ∃ r, medianRun1 medfilt1 x w = .ok r ∧ r.length = x.length ∧
      (∀ i, i < x.length → (i < w / 2 ∨ x.length ≤ i + w / 2) → r.getD i 0 = x.getD i 0) ∧
      (∀ i (s : List K), w / 2 ≤ i → i + w / 2 < x.length → s.Perm (window1 x (w / 2) i) →
        s.Pairwise (· ≤ ·) → r.getD i 0 = s.getD (w / 2) 0) :=
  median_running medfilt1 x w hodd hw (fun i h1 h2 => (medfilt1_contract x w i hodd h1 h2).2)

/-- the samples x[i-h .. i+h][j-h .. j+h], row by row -/
noncomputable def window2 (x : List (List K)) (h i j : Nat) : List K :=
  (List.range (2 * h + 1)).flatMap fun a => (List.range (2 * h + 1)).map fun b =>
    get2 x (i - h + a) (j - h + b)

/-- the model of scipy.signal.medfilt2d on points whose k × k window lies inside the array -/
theorem medfilt2_contract (x : List (List K)) (k i j : Nat) (hk : k % 2 = 1) (h1 : k / 2 ≤ i)
    (h2 : i + k / 2 < x.length) (h3 : k / 2 ≤ j) (h4 : j + k / 2 < (x.getD 0 []).length) :
    (medfilt2 k x).length = x.length ∧
    get2 (medfilt2 k x) i j = (isort (window2 x (k / 2) i j)).getD (k * k / 2) 0 := by
  obtain ⟨h, rfl⟩ : ∃ h, k = 2 * h + 1 := ⟨k / 2, by omega⟩
  clear hk
  rw [half_odd] at h1 h2 h3 h4 ⊢
  constructor
  · rw [medfilt2, List.length_map, List.length_range]
  · simp only [medfilt2, get2]
    rw [getD_map_range_lt _ _ _ _ (by omega), getD_map_range_lt _ _ _ _ (by omega),
      half_odd]
    congr 2
    apply List.flatMap_congr
    intro a _
    apply List.map_congr_left
    intro b _
    rw [if_neg (by omega), Nat.sub_add_comm h1, Nat.sub_add_comm h3]
    rfl

/-- running median, 2-D (n0 rows of length n1), odd width ≤ n0, n1: the `(w-1)/2` outer rows
    and columns are the input, every other point is the median of its w × w neighbourhood -/
theorem median_running2 (mf : Nat → List (List K) → List (List K)) (x : List (List K))
    (n1 w : Nat) (hodd : w % 2 = 1) (hw0 : w ≤ x.length) (hw1 : w ≤ n1)
    (hmf : ∀ i j, w / 2 ≤ i → i + w / 2 < x.length → w / 2 ≤ j → j + w / 2 < n1 →
      get2 (mf w x) i j = (isort (window2 x (w / 2) i j)).getD (w * w / 2) 0) :
    ∃ r, medianRun2 mf x n1 w = .ok r ∧ r.length = x.length ∧
      (∀ i, i < x.length → (r.getD i []).length = n1) ∧
      (∀ i j, i < x.length → j < n1 →
        (i < w / 2 ∨ x.length ≤ i + w / 2 ∨ j < w / 2 ∨ n1 ≤ j + w / 2) →
        get2 r i j = get2 x i j) ∧
      (∀ i j (s : List K), w / 2 ≤ i → i + w / 2 < x.length → w / 2 ≤ j → j + w / 2 < n1 →
        s.Perm (window2 x (w / 2) i j) → s.Pairwise (· ≤ ·) →
        get2 r i j = s.getD (w * w / 2) 0) := by
  have hk : min w (x.length * n1) = w :=
    Nat.min_eq_left (le_trans hw0 (Nat.le_mul_of_pos_right _ (by omega)))
  have hedge : ∀ i j, (isEdge x.length w i || isEdge n1 w j) = true ↔
      (i < w / 2 ∨ x.length ≤ i + w / 2 ∨ j < w / 2 ∨ n1 ≤ j + w / 2) := fun i j => by
    rw [Bool.or_eq_true, isEdge_iff _ _ _ hodd, isEdge_iff _ _ _ hodd, or_assoc]
  refine ⟨(List.range x.length).map fun i => (List.range n1).map fun j =>
    if isEdge x.length w i || isEdge n1 w j then get2 x i j else get2 (mf w x) i j, ?_, ?_, ?_, ?_, ?_⟩
  · simp only [medianRun2, hk]
    rw [if_neg (by rw [hodd]; decide)]
    rfl
  · rw [List.length_map, List.length_range]
  · intro i hi
    rw [getD_map_range_lt _ _ _ _ hi, List.length_map, List.length_range]
  · intro i j hi hj he
    rw [get2, getD_map_range_lt _ _ _ _ hi, getD_map_range_lt _ _ _ _ hj, if_pos ((hedge i j).2 he)]
  · intro i j s h1 h2 h3 h4 hp hs
    rw [get2, getD_map_range_lt _ _ _ _ (by omega), getD_map_range_lt _ _ _ _ (by omega),
      if_neg (by rw [hedge]; omega), hmf i j h1 h2 h3 h4, isort_unique _ s hp hs]

/-- the hypothesis of `median_running2` is met by the model of scipy.signal.medfilt2d
    (rows of equal length n1) -/
theorem median_running2_model (x : List (List K)) (n1 w : Nat) (hodd : w % 2 = 1)
    (hw0 : w ≤ x.length) (hw1 : w ≤ n1) (hrect : (x.getD 0 []).length = n1) :
    ∃ r, medianRun2 medfilt2 x n1 w = .ok r ∧ r.length = x.length ∧
      (∀ i j, i < x.length → j < n1 →
        (i < w / 2 ∨ x.length ≤ i + w / 2 ∨ j < w / 2 ∨ n1 ≤ j + w / 2) →
        get2 r i j = get2 x i j) ∧
      (∀ i j (s : List K), w / 2 ≤ i → i + w / 2 < x.length → w / 2 ≤ j → j + w / 2 < n1 →
        s.Perm (window2 x (w / 2) i j) → s.Pairwise (· ≤ ·) →
        get2 r i j = s.getD (w * w / 2) 0) := by
  obtain ⟨r, h1, h2, _, h4, h5⟩ := median_running2 medfilt2 x n1 w hodd hw0 hw1
    (fun i j a b c d => (medfilt2_contract x w i j hodd a b c (by rw [hrect]; exact d)).2)
  exact ⟨r, h1, h2, h4, h5⟩

/-! ## rebin: one lane (`laneRebin`: what one axis does to one 1-D slice) -/

/-- shrinking by the integer factor f = d0/d: block means -/
theorem rebin_shrink (x : List K) (d0 d i : Nat) (b : Bool) (hx : x.length = d0) (hd : d ∣ d0)
    (hlt : d < d0) (hi : i < d) :
    (laneRebin false b d0 d x).getD i 0 =
      ((List.range (d0 / d)).map fun j => x.getD (d0 / d * i + j) 0).sum / ((d0 / d : Nat) : K) := by
  have hmul : d0 / d * d = d0 := Nat.div_mul_cancel hd
  simp only [laneRebin, if_neg (show ¬ d > d0 by omega), if_neg (show ¬ d = d0 by omega), laneShrink]
  rw [getD_map_range_lt _ _ _ _ hi]
  simp only [Bool.false_eq_true, if_false, axisSum_eq, scalar_ofNat]
  rw [drop_take_eq_map_getD _ 0]
  rw [hx]
  calc d0 / d * i + d0 / d = d0 / d * (i + 1) := by ring
    _ ≤ d0 / d * d := Nat.mul_le_mul_left _ hi
    _ = d0 := hmul

/-- `sample`: nearest-neighbour picks, x[⌊i·d0/d⌋] when expanding, x[i·f] when shrinking -/
theorem rebin_sample (x : List K) (d0 d i : Nat) (b : Bool) (hi : i < d) :
    (d0 < d → (laneRebin true b d0 d x).getD i 0 = x.getD (i * d0 / d) 0) ∧
    (d < d0 → (laneRebin true b d0 d x).getD i 0 = x.getD (d0 / d * i) 0) := by
  constructor
  · intro h
    simp only [laneRebin, if_pos h, laneExpand]
    rw [getD_map_range_lt _ _ _ _ hi]
    exact if_pos trivial
  · intro h
    simp only [laneRebin, if_neg (show ¬ d > d0 by omega), if_neg (show ¬ d = d0 by omega), laneShrink]
    rw [getD_map_range_lt _ _ _ _ hi]
    exact if_pos trivial

theorem rebin_keep (x : List K) (d0 : Nat) (s b : Bool) : laneRebin s b d0 d0 x = x := by
  simp [laneRebin]

/-- expanding d0 → d: linear interpolation at p = i·d0/d between x[⌊p⌋] and x[⌊p⌋+1],
    clamped to the last sample from p ≥ d0-1 on; all subscripts used are in range -/
theorem rebin_expand (x : List K) (d0 d i : Nat) (b : Bool) (h0 : 0 < d0) (hlt : d0 < d) (hi : i < d) :
    let p : K := ((i * d0 : Nat) : K) / (d : K)
    let fl : Nat := i * d0 / d
    (laneRebin false b d0 d x).getD i 0 =
        (if p < ((d0 - 1 : Nat) : K) then
          x.getD fl 0 + (p - (fl : K)) * (x.getD (fl + 1) 0 - x.getD fl 0)
         else x.getD fl 0) ∧
      fl < d0 ∧ (p < ((d0 - 1 : Nat) : K) ↔ fl + 1 < d0) ∧ (fl : K) ≤ p ∧ p < ((fl + 1 : Nat) : K) := by
  intro p fl
  have hd : 0 < d := by omega
  have hdpos := (Nat.cast_pos (α := K)).2 hd
  refine ⟨?_, ?_, ?_, ?_, ?_⟩
  · simp only [laneRebin, if_pos hlt, laneExpand]
    rw [getD_map_range_lt _ _ _ _ hi]
    simp only [Bool.false_eq_true, if_false, scalar_ofNat, expandPos_eq, floor_toNat_natdiv]
    rfl
  · show i * d0 / d < d0
    rw [Nat.div_lt_iff_lt_mul hd, Nat.mul_comm]
    exact Nat.mul_lt_mul_of_pos_left hi h0
  · show ((i * d0 : Nat) : K) / (d : K) < ((d0 - 1 : Nat) : K) ↔ i * d0 / d + 1 < d0
    rw [div_lt_iff₀ hdpos, ← Nat.cast_mul, Nat.cast_lt, ← Nat.lt_sub_iff_add_lt,
      Nat.div_lt_iff_lt_mul hd]
  · show ((i * d0 / d : Nat) : K) ≤ ((i * d0 : Nat) : K) / (d : K)
    rw [le_div_iff₀ hdpos, ← Nat.cast_mul, Nat.cast_le]
    exact Nat.div_mul_le_self _ _
  · show ((i * d0 : Nat) : K) / (d : K) < ((i * d0 / d + 1 : Nat) : K)
    rw [div_lt_iff₀ hdpos, ← Nat.cast_mul, Nat.cast_lt, Nat.mul_comm _ d]
    exact Nat.lt_mul_div_succ _ hd

/-- the index rule of `sample` as it was before the fix, `floor((d0/d)·i)`, is the same rule in
    exact arithmetic: defect D11 was float rounding only -/
theorem sample_float_exact (x : List K) (d0 d : Nat) (hd : 0 < d) :
    laneExpandSampleFloat d0 d x = laneExpand true d0 d x := by
  simp only [laneExpandSampleFloat, laneExpand, if_true, scalar_ofNat, expandPos_eq, floor_toNat_natdiv]

end field

/-! ## rebin: N-D structure

One axis step and the lane rules above are stated separately; no statement here composes them into one about an element of
`rebin x d sample`. -/

section nd
variable {α : Type} [Scalar α]

/-- rebin returns exactly the requested shape (and that many elements) whenever the new shape has
    the same rank and every axis is an integer multiple or factor -/
theorem rebin_shape (x : ND α) (d : List Nat) (sample : Bool) (hc : Compatible x.shape d)
    (hx : x.data.size = prod x.shape) :
    ∃ r, rebin x d sample = .ok r ∧ r.shape = d ∧ r.data.size = prod d := by
  have hl := hc.length_eq
  refine ⟨⟨d, rebinAxes sample [] x.shape d x.data⟩, ?_, rfl, ?_⟩
  · rw [rebin_of_length_eq x d sample hl, rebinCheck_ok _ _ hc]
    rfl
  · rw [rebinAxes_size _ _ _ _ _ hl (by rw [hx]; exact (Nat.one_mul _).symm)]
    exact Nat.one_mul _

/-- rank changes, and (for positive dimensions) an axis that is neither an integer multiple nor an
    integer factor, are refused with ValueError -/
theorem rebin_rejects (x : ND α) (d : List Nat) (sample : Bool) :
    (x.shape.length ≠ d.length → rebin x d sample = .error "ValueError") ∧
    ((∀ a ∈ x.shape, 0 < a) → (∀ a ∈ d, 0 < a) → x.shape.length = d.length →
      (∃ k, ∃ (h0 : k < x.shape.length) (h1 : k < d.length),
        ¬ x.shape[k] ∣ d[k] ∧ ¬ d[k] ∣ x.shape[k]) →
      rebin x d sample = .error "ValueError") := by
  constructor
  · intro h
    unfold rebin
    rw [if_pos (bne_iff_ne.2 h)]
    rfl
  · intro hp0 hp1 hl ⟨k, h0, h1, hb⟩
    rw [rebin_of_length_eq x d sample hl, rebinCheck_error _ _ hp0 hp1 k h0 h1 hb]
    rfl

/-- the N-D loop treats one axis after the other with the lane rule of that axis -/
theorem rebin_axes_step (sample : Bool) (done s ds : List Nat) (d0 d : Nat) (data : Array α) :
    rebinAxes sample done (d0 :: s) (d :: ds) data =
      rebinAxes sample (done ++ [d]) s ds
        (mapAxis (laneRebin sample (prod s == 1) d0 d) (prod done) d0 d (prod s) data) := rfl

/-- this is hypothesis `hf` of `rebin_axis_elem` at `f = laneRebin …` -/
theorem laneRebin_length (sample b : Bool) (d0 d : Nat) (x : List α) (hx : x.length = d0) :
    (laneRebin sample b d0 d x).length = d := by
  unfold laneRebin
  split
  · simp only [laneExpand, List.length_map, List.length_range]
  · split
    · rename_i h; rw [hx, h]
    · simp only [laneShrink, List.length_map, List.length_range]

/-- one axis step of the N-D loop: element (o, i, t) of the new array is element i of the lane
    rule applied to lane (o, ·, t) of the old one -/
theorem rebin_axis_elem (f : List α → List α) (outer d0 d inner : Nat) (data : Array α) (q : Nat)
    (hq : q < outer * d * inner) (hf : ∀ l, l.length = d0 → (f l).length = d) :
    (mapAxis f outer d0 d inner data)[q]! =
      (f ((List.range d0).map fun j =>
        data[((q / inner / d) * d0 + j) * inner + q % inner]!)).getD (q / inner % d) default := by
  have hin : 0 < inner := Nat.pos_of_ne_zero fun h => by simp [h] at hq
  have hdpos : 0 < d := Nat.pos_of_ne_zero fun h => by simp [h] at hq
  have ho : q / inner / d < outer := by
    rw [Nat.div_lt_iff_lt_mul hdpos, Nat.div_lt_iff_lt_mul hin]; exact hq
  have ht : q % inner < inner := Nat.mod_lt _ hin
  -- `q` is position `(o, i, t)` of the result; its value is read from lane number `o * inner + t`
  have hlane : q / inner / d * inner + q % inner < outer * inner := by
    calc q / inner / d * inner + q % inner < q / inner / d * inner + inner := by omega
      _ = (q / inner / d + 1) * inner := by ring
      _ ≤ outer * inner := Nat.mul_le_mul_right _ ho
  have e1 : (q / inner / d * inner + q % inner) / inner = q / inner / d := by
    rw [Nat.add_comm, Nat.add_mul_div_right _ _ hin, Nat.div_eq_of_lt ht]; simp
  have e2 : (q / inner / d * inner + q % inner) % inner = q % inner := by
    rw [Nat.add_comm, Nat.add_mul_mod_self_right, Nat.mod_mod]
  have hlen := hf ((List.range d0).map fun j => data[((q / inner / d) * d0 + j) * inner + q % inner]!) (by simp)
  have hi : q / inner % d < d := Nat.mod_lt _ hdpos
  simp only [mapAxis]
  rw [ofFn_getElem! _ _ q hq]
  simp only []
  rw [ofFn_getElem! _ _ _ hlane]
  simp only [e1, e2]
  simp [List.getD_eq_getElem?_getD, hlen, hi]

end nd

section uniq
-- three theorems of this section do not use every class of its `variable` line
set_option linter.unusedSectionVars false
variable {β : Type} [BEq β] [LawfulBEq β] [PartialOrder β]

/-- UNIQ of a sorted, non-constant array: the ascending list of the last index of every run -/
theorem uniq_sorted (x : List β) (hs : x.Pairwise (· ≤ ·)) (hnc : ¬ Constant x) :
    ∃ r, uniq x = r.map Int.ofNat ∧ IsRunEnds x r := by
  refine ⟨neqNext x, ?_, neqNext_runEnds x hs hnc⟩
  have := neqNext_ne_nil x hs hnc
  simp [uniq, this]

/-- UNIQ of a constant array: the single subscript n-1 -/
theorem uniq_all_equal (x : List β) (hc : Constant x) : uniq x = [(x.length : Int) - 1] := by
  simp [uniq, neqNext_constant x hc]

/-- UNIQ through an index array whose subscripts are in range and through which the array is
    sorted and not constant: the index entries at the run ends of `x[index]`.  Negative subscripts (which numpy and
    the model accept) and the IndexError branch are outside all uniq theorems -/
theorem uniq_index (x : List β) (index : List Int)
    (h : ∀ j ∈ index, 0 ≤ j ∧ j < (x.length : Int)) :
    ∃ q, take? x index = .ok q ∧ List.Forall₂ (fun j v => x[j.toNat]? = some v) index q ∧
      (q.Pairwise (· ≤ ·) → ¬ Constant q →
        ∃ r, uniqIndex x index = .ok (r.map fun i => index.getD i 0) ∧ IsRunEnds q r) := by
  obtain ⟨q, hq, hf⟩ := take?_ok x index h
  refine ⟨q, hq, hf, ?_⟩
  intro hs hnc
  refine ⟨neqNext q, ?_, neqNext_runEnds q hs hnc⟩
  have hne := neqNext_ne_nil q hs hnc
  simp only [uniqIndex, hq, bind, Except.bind]
  simp [hne]; rfl

/-- UNIQ through an index array when `x[index]` is constant: (like IDL's UNIQ) the answer is the
    position n-1 itself, not `index[n-1]` -/
theorem uniq_index_all_equal (x : List β) (index : List Int) (q : List β)
    (hq : take? x index = .ok q) (hc : Constant q) :
    uniqIndex x index = .ok [(index.length : Int) - 1] ∧ q.length = index.length := by
  have hl := take?_length x index q hq
  refine ⟨?_, hl⟩
  simp only [uniqIndex, hq, bind, Except.bind, neqNext_constant q hc]
  simp [hl]; rfl

/-- the values at the run ends of a sorted array are strictly increasing and are exactly the
    values of the array: every distinct value once -/
theorem uniq_values (x : List β) (r : List Nat) (hs : x.Pairwise (· ≤ ·)) (hr : IsRunEnds x r) :
    (r.filterMap fun i => x[i]?).Pairwise (· < ·) ∧
    ∀ v, v ∈ x ↔ ∃ i ∈ r, x[i]? = some v := by
  obtain ⟨hasc, hmem⟩ := hr
  have hsg := List.pairwise_iff_getElem.1 hs
  constructor
  · rw [List.pairwise_filterMap]
    refine hasc.imp_of_mem ?_
    intro i j hi hj hij a ha b hb
    obtain ⟨hil, hie⟩ := (hmem i).1 hi
    obtain ⟨hjl, _⟩ := (hmem j).1 hj
    have h1 : i + 1 < x.length := by omega
    rw [List.getElem?_eq_getElem hil] at ha
    rw [List.getElem?_eq_getElem hjl] at hb
    cases ha; cases hb
    rcases hie with hie | hie
    · omega
    · rw [List.getElem?_eq_getElem hil, List.getElem?_eq_getElem h1] at hie
      have hne : x[i] ≠ x[i + 1] := fun e => hie (by rw [e])
      have l1 : x[i] ≤ x[i + 1] := hsg i (i + 1) hil h1 (by omega)
      have l2 : x[i + 1] ≤ x[j] := by
        by_cases e : i + 1 = j
        · subst e; exact le_refl _
        · exact hsg (i + 1) j h1 hjl (by omega)
      exact lt_of_lt_of_le (lt_of_le_of_ne l1 hne) l2
  · intro v
    constructor
    · intro hv
      obtain ⟨k, hk, rfl⟩ := List.getElem_of_mem hv
      -- walk right to the end of the run of x[k]; `d` = number of elements after position `k`
      suffices h : ∀ d k, k + d + 1 = x.length → ∃ i ∈ r, x[i]? = x[k]? by
        obtain ⟨i, hi, e⟩ := h (x.length - k - 1) k (by omega)
        exact ⟨i, hi, e.trans (List.getElem?_eq_getElem hk)⟩
      intro d
      induction d with
      | zero => exact fun k hk => ⟨k, (hmem k).2 ⟨by omega, Or.inl hk⟩, rfl⟩
      | succ d ih =>
        intro k hk
        by_cases he : x[k]? = x[k + 1]?
        · obtain ⟨i, hi, e⟩ := ih (k + 1) (by omega)
          exact ⟨i, hi, e.trans he.symm⟩
        · exact ⟨k, (hmem k).2 ⟨by omega, Or.inr he⟩, rfl⟩
    · rintro ⟨i, _, hv⟩
      exact List.mem_of_getElem? hv

end uniq

example : (3 : Int) ≤ oddWidth 4 ∧ (oddWidth 4).toNat / 2 ≤ 2 ∧ 2 + (oddWidth 4).toNat / 2 < 7 := by decide
example : oddWidth 2 = 3 ∧ oddWidth 1 < 3 ∧ oddWidth 0 < 3 := by decide
#guard smooth ([0, 3, 6, 3, 0] : List Rat) 3 false = [0, 3, 4, 3, 0]
#guard smooth ([0, 3, 6, 3, 0] : List Rat) 2 true = [1, 3, 4, 3, 1]
example : medianPlain ([4, 1, 3, 2] : List Rat) false = .ok 3 := by decide
#guard medianPlain ([4, 1, 3, 2] : List Rat) true = .ok (5 / 2)
example : medianRun1 medfilt1 ([5, 1, 9, 2, 8] : List Rat) 3 = .ok [5, 5, 2, 8, 8] := by decide
example : ([1, 1, 2] : List Int).Pairwise (· ≤ ·) ∧ ¬ Constant ([1, 1, 2] : List Int) := by
  refine ⟨by decide, fun h => ?_⟩
  have := h 1 (by simp) 2 (by simp)
  omega
example : uniq ([1, 1, 2, 5, 5, 5] : List Int) = [1, 2, 5] := by decide
example : uniq ([7, 7, 7] : List Int) = [2] := by decide
example : uniqIndex ([2, 1, 2, 1] : List Int) [1, 3, 0, 2] = .ok [3, 2] := by decide
example : uniqIndex ([4, 4, 4] : List Int) [2, 0, 1] = .ok [2] := by decide
example : Compatible [2, 6] [4, 3] := by simp [Compatible]
#guard laneRebin false true 5 10 ([0, 1, 2, 3, 4] : List Rat)
    = [0, 1 / 2, 1, 3 / 2, 2, 5 / 2, 3, 7 / 2, 4, 4]
#guard laneRebin false true 10 5 ([0, 1, 2, 3, 4, 5, 6, 7, 8, 9] : List Rat)
    = [1 / 2, 5 / 2, 9 / 2, 13 / 2, 17 / 2]
#guard (rebin (α := Rat) ⟨[2, 2], #[1, 2, 2, 3]⟩ [4, 2] false).map (·.data)
    = .ok #[1, 2, 3 / 2, 5 / 2, 2, 3, 2, 3]
-- the case of defect D11: index 49 of 2 -> 98 picks x[1]; the pre-fix float rule agrees in exact arithmetic
#guard (laneRebin true true 2 98 ([10, 20] : List Rat)).getD 49 0 = 20
#guard (laneExpandSampleFloat 2 98 ([10, 20] : List Rat)).getD 49 0 = 20
#guard (laneExpandSampleFloat 2 98 ([10, 20] : List Float)).getD 49 0 == 10
example : (rebin (α := Rat) ⟨[6], #[1, 2, 3, 4, 5, 6]⟩ [4] false).map (·.data) = .error "ValueError" := by
  decide

end PydlVerif.C14
