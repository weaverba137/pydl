/-
C20: a program of the effect IR (Model/EnvIR.lean) that passes the checker `restores` leaves the environment
exactly as it found it, on every path and for every oracle.  The checker runs the abstract interpreter `ana`;
`Gam` says which concrete states an abstract state describes, `ana_sound` that `ana` describes every run; what a
run cannot touch at all is said by `Keeps`, rule by rule of the language.
-/
import PydlVerif.Model.EnvIR
namespace PydlVerif.C20
open PydlVerif.EnvIR

/-- `Gam orig a s`: the concrete state `s` is described by `a`, `orig` being the
environment on entry -/
def Gam (orig : Env) (a : Abs) (s : St) : Prop :=
  (∀ v, v ∉ a.dirty → s.env v = orig v) ∧
  (∀ x v, (x, v) ∈ a.holds → s.sto x = Val.ofOpt (orig v)) ∧
  (∀ x, x ∈ a.isNone → s.sto x = Val.none) ∧
  (∀ x, x ∈ a.isStr → (s.sto x).isStr = true)

/-- an unreachable abstract state describes no concrete state -/
def GamO (orig : Env) : Option Abs → St → Prop
  | none, _ => False
  | some a, s => Gam orig a s

section
variable {orig : Env} {a b : Abs} {s s' : St}

/-- `Gam` does not read the tick (for `Gam` itself this holds by unfolding) -/
theorem gamO_next {x : Option Abs} (h : GamO orig x s) : GamO orig x s.next := by
  cases x with
  | none => exact h
  | some a => exact h

theorem gam_mono (hd : a.dirty ⊆ b.dirty) (hh : b.holds ⊆ a.holds)
    (hn : b.isNone ⊆ a.isNone) (hs : b.isStr ⊆ a.isStr) (h : Gam orig a s) : Gam orig b s :=
  ⟨fun v hv => h.1 v fun hc => hv (hd hc), fun x v hx => h.2.1 x v (hh hx),
   fun x hx => h.2.2.1 x (hn hx), fun x hx => h.2.2.2 x (hs hx)⟩

theorem gam_frame (he : ∀ v, v ∉ a.dirty → s'.env v = s.env v)
    (hs : ∀ x, ((∃ v, (x, v) ∈ a.holds) ∨ x ∈ a.isNone ∨ x ∈ a.isStr) → s'.sto x = s.sto x)
    (h : Gam orig a s) : Gam orig a s' :=
  ⟨fun v hv => (he v hv).trans (h.1 v hv), fun x v hx => (hs x (.inl ⟨v, hx⟩)).trans (h.2.1 x v hx),
   fun x hx => (hs x (.inr (.inl hx))).trans (h.2.2.1 x hx),
   fun x hx => (congrArg Val.isStr (hs x (.inr (.inr hx)))).trans (h.2.2.2 x hx)⟩

/-- the dirty list of a join or a widening holds both arguments -/
theorem mem_append_filter {l ws : List Var} {v : Var} (h : v ∈ ws) :
    v ∈ l ++ ws.filter (fun v => !l.contains v) := by
  by_cases hd : v ∈ l
  · exact List.mem_append_left _ hd
  · exact List.mem_append_right _ (List.mem_filter.2 ⟨h, by simpa using hd⟩)

theorem gam_join_left (h : Gam orig a s) : Gam orig (a.join b) s :=
  gam_mono (b := a.join b) (List.subset_append_left ..) List.filter_sublist.subset List.filter_sublist.subset
    List.filter_sublist.subset h

theorem gam_join_right (h : Gam orig b s) : Gam orig (a.join b) s :=
  gam_mono (b := a.join b) (fun _ => mem_append_filter)
    (fun _ hx => List.contains_iff_mem.1 (List.mem_filter.1 hx).2)
    (fun _ hx => List.contains_iff_mem.1 (List.mem_filter.1 hx).2)
    (fun _ hx => List.contains_iff_mem.1 (List.mem_filter.1 hx).2) h

theorem gamO_join_left {x y : Option Abs} (h : GamO orig x s) : GamO orig (joinO x y) s := by
  cases x with
  | none => exact absurd h id
  | some a =>
    cases y with
    | none => exact h
    | some b => exact gam_join_left h

theorem gamO_join_right {x y : Option Abs} (h : GamO orig y s) : GamO orig (joinO x y) s := by
  cases y with
  | none => exact absurd h id
  | some b =>
    cases x with
    | none => exact h
    | some a => exact gam_join_right h

theorem gam_forget (x : Loc) (t : Val) (h : Gam orig a s) :
    Gam orig (a.forget x) { s with sto := s.sto.set x t } := by
  refine gam_frame (s := s) (fun _ _ => rfl) (fun y hy => ?_) (gam_mono (a := a) (b := a.forget x) (List.Subset.refl _)
    List.filter_sublist.subset List.filter_sublist.subset List.filter_sublist.subset h)
  -- `a.forget x` mentions `x` nowhere
  have : y ≠ x := by
    rcases hy with ⟨v, hy⟩ | hy | hy <;> simpa using (List.mem_filter.1 hy).2
  simp [Store.set, this]

theorem gam_isNone {x : Loc} (h : Gam orig a s) (hx : s.sto x = Val.none) :
    Gam orig { a with isNone := x :: a.isNone } s :=
  ⟨h.1, h.2.1, List.forall_mem_cons.2 ⟨hx, h.2.2.1⟩, h.2.2.2⟩

theorem gam_isStr {x : Loc} (h : Gam orig a s) (hx : (s.sto x).isStr = true) :
    Gam orig { a with isStr := x :: a.isStr } s :=
  ⟨h.1, h.2.1, h.2.2.1, List.forall_mem_cons.2 ⟨hx, h.2.2.2⟩⟩

theorem gam_bind (x : Loc) (v : Var) (h : Gam orig a s) :
    Gam orig (a.bind x v) { s with sto := s.sto.set x (Val.ofOpt (s.env v)) } := by
  have hf := gam_forget x (Val.ofOpt (s.env v)) h
  unfold Abs.bind
  split
  · exact hf
  · next hd =>
    refine ⟨hf.1, ?_, hf.2.2⟩
    intro y w hy
    rcases List.mem_cons.1 hy with e | hy
    · cases e
      -- `v` is not dirty: what `x` receives is the entry value of `v`
      simp [Store.set, h.1 v (by simpa using hd)]
    · exact hf.2.1 y w hy

theorem gam_markDirty (v : Var) (t : Option String) (h : Gam orig a s) :
    Gam orig (a.markDirty v) { s with env := s.env.set v t } := by
  have key : Gam orig { a with dirty := v :: a.dirty } { s with env := s.env.set v t } := by
    refine ⟨fun w hw => ?_, h.2⟩
    have hw' := not_or.1 (mt List.mem_cons.2 hw)
    simp [Env.set, hw'.1, h.1 w hw'.2]
  unfold Abs.markDirty
  split
  · next hd =>
    exact gam_mono (a := { a with dirty := v :: a.dirty }) (b := a)
      (List.cons_subset.2 ⟨List.contains_iff_mem.1 hd, List.Subset.refl _⟩) (List.Subset.refl _) (List.Subset.refl _)
      (List.Subset.refl _) key
  · exact key

theorem gam_markClean (v : Var) (t : Option String) (ht : t = orig v) (h : Gam orig a s) :
    Gam orig (a.markClean v) { s with env := s.env.set v t } := by
  refine ⟨fun w hw => ?_, h.2⟩
  by_cases e : w = v
  · subst e; simp [Env.set, ht]
  · simp [Env.set, e]; apply h.1; intro hc; apply hw; simp [Abs.markClean, hc, e]

theorem ofOpt_eq_none {u : Option String} (h : Val.ofOpt u = Val.none) : u = none := by
  cases u with
  | none => rfl
  | some t => cases h

theorem ofOpt_eq_str {u : Option String} {t : String} (h : Val.ofOpt u = Val.str t) : some t = u := by
  cases u with
  | none => cases h
  | some t' => cases h; rfl

theorem gam_origNone (v : Var) (h : Gam orig a s) (hn : a.origNone v = true) :
    orig v = none := by
  simp only [Abs.origNone, List.any_eq_true, Bool.and_eq_true, decide_eq_true_eq, List.contains_iff_mem] at hn
  obtain ⟨⟨x, w⟩, hm, rfl, hx⟩ := hn
  exact ofOpt_eq_none ((h.2.1 x w hm).symm.trans (h.2.2.1 x hx))

/-- `del` / `pop` on a state described by `a` -/
theorem gam_unset (v : Var) (h : Gam orig a s) :
    Gam orig (if a.origNone v then a.markClean v else a.markDirty v) { s with env := s.env.set v none } := by
  split
  · next hn => exact gam_markClean v none (gam_origNone v h hn).symm h
  · exact gam_markDirty v none h

theorem gam_widen (ws : List Var) (xs : List Loc) (h : Gam orig a s) :
    Gam orig (a.widen ws xs) s :=
  gam_mono (b := a.widen ws xs) (List.subset_append_left ..) List.filter_sublist.subset List.filter_sublist.subset
    List.filter_sublist.subset h

theorem gam_widen_frame (ws : List Var) (xs : List Loc)
    (he : ∀ v, v ∉ ws → s'.env v = s.env v) (hs : ∀ x, x ∉ xs → s'.sto x = s.sto x)
    (h : Gam orig (a.widen ws xs) s) : Gam orig (a.widen ws xs) s' := by
  refine gam_frame (fun v hv => he v fun hc => hv (mem_append_filter hc)) (fun x hx => hs x ?_) h
  rcases hx with ⟨v, hx⟩ | hx | hx <;> simpa using (List.mem_filter.1 hx).2

theorem gam_le (hle : a.le b = true) (h : Gam orig a s) : Gam orig b s := by
  simp only [Abs.le, Bool.and_eq_true, List.all_eq_true, List.contains_iff_mem] at hle
  exact gam_mono hle.1.1.1 (fun _ => hle.1.1.2 _) hle.1.2 hle.2 h

theorem gamO_le {x : Option Abs} {b : Abs} (hle : leO x b = true) (h : GamO orig x s) :
    Gam orig b s := by
  cases x with
  | none => exact absurd h id
  | some a => exact gam_le hle h

end

theorem iter_succ (f : St → St × Outcome) (k : Nat) (s : St) :
    iter f (k + 1) s = if (f s).2 = .ok then iter f k (f s).1 else f s := by
  rw [iter]
  rcases f s with ⟨s', _ | _ | _⟩ <;> rfl

theorem iter_inv (f : St → St × Outcome) (I : St → Prop) (E : Outcome → St → Prop)
    (h : ∀ s, I s → ((f s).2 = .ok → I (f s).1) ∧ ((f s).2 ≠ .ok → E (f s).2 (f s).1)) :
    ∀ n s, I s → ((iter f n s).2 = .ok → I (iter f n s).1) ∧
      ((iter f n s).2 ≠ .ok → E (iter f n s).2 (iter f n s).1) := by
  intro n
  induction n with
  | zero => intro s hs; simp [iter, hs]
  | succ k ih =>
    intro s hs
    rw [iter_succ]
    split
    · next e => exact ih _ ((h s hs).1 e)
    · next e => exact ⟨fun e' => absurd e' e, fun _ => (h s hs).2 e⟩

theorem iter_frame {β} (f : St → St × Outcome) (g : St → β) (h : ∀ s, g (f s).1 = g s) (n : Nat) (s : St) :
    g (iter f n s).1 = g s := by
  have key := iter_inv f (fun t => g t = g s) (fun _ t => g t = g s)
    (fun t ht => ⟨fun _ => (h t).trans ht, fun _ => (h t).trans ht⟩) n s rfl
  by_cases e : (iter f n s).2 = .ok
  · exact key.1 e
  · exact key.2 e

/-- outcome of `try: (ends with oa) finally: (ends with ob)` -/
def fin (oa : Outcome) : Outcome → Outcome
  | .ok => oa
  | ob => ob

theorem run_tryFinally (o : Oracle) (p q : Stmt) (s : St) :
    run o (.tryFinally p q) s =
      ((run o q (run o p s).1).1, fin (run o p s).2 (run o q (run o p s).1).2) := by
  conv => lhs; unfold run
  rcases run o p s with ⟨s', oa⟩
  dsimp only
  rcases run o q s' with ⟨s'', ob⟩
  cases ob <;> rfl

/-- no run of `p` changes the observation `g` of environment and store -/
def Keeps (o : Oracle) {β} (g : Env → Store → β) (p : Stmt) : Prop :=
  ∀ s, g (run o p s).1.env (run o p s).1.sto = g s.env s.sto

section Keeps
variable {o : Oracle} {β : Type} {g : Env → Store → β} {a b : Stmt}

theorem Keeps.seq (ha : Keeps o g a) (hb : Keeps o g b) : Keeps o g (.seq a b) := by
  intro s
  have h1 := ha s
  unfold run
  split
  · next s' heq => rw [hb s']; rw [heq] at h1; exact h1
  · exact h1

theorem Keeps.choice {i : Nat} (ha : Keeps o g a) (hb : Keeps o g b) : Keeps o g (.choice i a b) := by
  intro s
  unfold run
  split
  · exact ha s.next
  · exact hb s.next

theorem Keeps.ifNone {x : Loc} (ha : Keeps o g a) (hb : Keeps o g b) : Keeps o g (.ifNone x a b) := by
  intro s
  unfold run
  split
  · exact ha s
  · exact hb s

theorem Keeps.ifSet {v : Var} (ha : Keeps o g a) (hb : Keeps o g b) : Keeps o g (.ifSet v a b) := by
  intro s
  unfold run
  split
  · exact ha s
  · exact hb s

theorem Keeps.loop {i : Nat} (ha : Keeps o g a) : Keeps o g (.loop i a) :=
  fun s => iter_frame (run o a) (fun t => g t.env t.sto) ha _ s.next

theorem Keeps.tryFinally (ha : Keeps o g a) (hb : Keeps o g b) : Keeps o g (.tryFinally a b) := by
  intro s
  rw [run_tryFinally, ← ha s]
  exact hb (run o a s).1

theorem Keeps.tryExcept {i : Nat} (ha : Keeps o g a) (hb : Keeps o g b) : Keeps o g (.tryExcept i a b) := by
  intro s
  have h1 := ha s
  unfold run
  split
  · next s' heq =>
    rw [heq] at h1
    split
    · rw [hb s'.next]; exact h1
    · exact h1
  · exact h1

theorem Keeps.scope (ha : Keeps o g a) : Keeps o g (.scope a) := by
  intro s
  have h1 := ha s
  unfold run
  split
  · next s' heq => rw [heq] at h1; exact h1
  · exact h1

end Keeps

def Touches (o : Oracle) (p : Stmt) (W : List Var) (X : List Loc) : Prop :=
  (∀ v, v ∉ W → Keeps o (fun e _ => e v) p) ∧ (∀ x, x ∉ X → Keeps o (fun _ st => st x) p)

section Touches
variable {o : Oracle} {a b : Stmt} {W W' : List Var} {X X' : List Loc}

/-- a constructor under which `Keeps` composes joins the footprints of its two parts -/
theorem Touches.comp2 {C : Stmt → Stmt → Stmt}
    (hC : ∀ {β : Type} {g : Env → Store → β}, Keeps o g a → Keeps o g b → Keeps o g (C a b))
    (ha : Touches o a W X) (hb : Touches o b W' X') : Touches o (C a b) (W ++ W') (X ++ X') :=
  ⟨fun v hv => hC (ha.1 v (mt (List.mem_append_left _) hv)) (hb.1 v (mt (List.mem_append_right _) hv)),
   fun x hx => hC (ha.2 x (mt (List.mem_append_left _) hx)) (hb.2 x (mt (List.mem_append_right _) hx))⟩

theorem Touches.comp1 {C : Stmt → Stmt} (hC : ∀ {β : Type} {g : Env → Store → β}, Keeps o g a → Keeps o g (C a))
    (ha : Touches o a W X) : Touches o (C a) W X :=
  ⟨fun v hv => hC (ha.1 v hv), fun x hx => hC (ha.2 x hx)⟩

end Touches

/- `w ∉ [v]` is how `touches` meets the side condition: the footprint of an atomic statement is a one-element list -/
theorem Env.set_ne {e : Env} {v w : Var} {t : Option String} (h : w ∉ [v]) : e.set v t w = e w :=
  if_neg fun e => h (List.mem_singleton.2 e)

theorem Store.set_ne {e : Store} {x y : Loc} {t : Val} (h : y ∉ [x]) : e.set x t y = e y :=
  if_neg fun e => h (List.mem_singleton.2 e)

theorem touches (o : Oracle) : ∀ p : Stmt, Touches o p (writes p) (assigns p) := by
  intro p
  induction p with
  | skip | fault | raise | ret | need => exact ⟨fun _ _ _ => rfl, fun _ _ _ => rfl⟩
  | save | setNone | kill => exact ⟨fun _ _ _ => rfl, fun _ h _ => Store.set_ne h⟩
  | pop => exact ⟨fun _ h _ => Env.set_ne h, fun _ _ _ => rfl⟩
  | load =>
    constructor
    · intro _ _ s; unfold run; split <;> rfl
    · intro _ h s; unfold run; split
      · exact Store.set_ne h
      · rfl
  | del | setExpr | setFrom =>
    constructor
    · intro _ h s; unfold run; split
      · exact Env.set_ne h
      · rfl
    · intro _ _ s; unfold run; split <;> rfl
  | seq _ _ iha ihb => exact iha.comp2 Keeps.seq ihb
  | choice _ _ _ iha ihb => exact iha.comp2 Keeps.choice ihb
  | ifNone _ _ _ iha ihb => exact iha.comp2 Keeps.ifNone ihb
  | ifSet _ _ _ iha ihb => exact iha.comp2 Keeps.ifSet ihb
  | tryFinally _ _ iha ihb => exact iha.comp2 Keeps.tryFinally ihb
  | tryExcept _ _ _ iha ihb => exact iha.comp2 Keeps.tryExcept ihb
  | loop _ _ iha => exact iha.comp1 Keeps.loop
  | scope _ iha => exact iha.comp1 Keeps.scope

theorem keeps_env (o : Oracle) (v : Var) (p : Stmt) (h : v ∉ writes p) : Keeps o (fun e _ => e v) p :=
  (touches o p).1 v h

theorem keeps_sto (o : Oracle) (x : Loc) (p : Stmt) (h : x ∉ assigns p) : Keeps o (fun _ st => st x) p :=
  (touches o p).2 x h

/-! ## soundness of the abstract interpreter -/

theorem sel_join_left {orig : Env} {x y : Res} {oc : Outcome} {s : St}
    (h : GamO orig (x.sel oc) s) : GamO orig ((x.join y).sel oc) s := by
  cases oc <;> exact gamO_join_left h

theorem sel_join_right {orig : Env} {x y : Res} {oc : Outcome} {s : St}
    (h : GamO orig (y.sel oc) s) : GamO orig ((x.join y).sel oc) s := by
  cases oc <;> exact gamO_join_right h

/-- the finaliser's contribution: it ran from a state reached with outcome `oa` and ended with `ob` -/
theorem sel_after {orig : Env} {q : Res} {oa ob : Outcome} {s : St}
    (h : GamO orig (q.sel ob) s) :
    GamO orig ((q.after oa).sel (fin oa ob)) s := by
  cases oa with
  | ok => cases ob <;> exact h
  | raised =>
    cases ob with
    | ok => exact gamO_join_left h
    | raised => exact gamO_join_right h
    | ret => exact h
  | ret =>
    cases ob with
    | ok => exact gamO_join_left h
    | raised => exact h
    | ret => exact gamO_join_right h

/-- what `ana` promises about one run: the component of its result that belongs to the outcome of
the run describes the state reached -/
def Sound (o : Oracle) (orig : Env) (p : Stmt) (a : Abs) (s : St) : Prop :=
  GamO orig ((ana p a).sel (run o p s).2) (run o p s).1

theorem sound_onO {o : Oracle} {orig : Env} {p : Stmt} (ih : ∀ a s, Gam orig a s → Sound o orig p a s)
    {x : Option Abs} {s : St} (h : GamO orig x s) :
    GamO orig ((onO (ana p) x).sel (run o p s).2) (run o p s).1 := by
  cases x with
  | none => exact absurd h id
  | some a => exact ih a s h

theorem sound_iter {o : Oracle} {orig : Env} {body : Stmt} {inv : Abs}
    (ih : ∀ a s, Gam orig a s → Sound o orig body a s)
    (hstep : ∀ t, Gam orig inv t → (run o body t).2 = .ok → Gam orig inv (run o body t).1)
    (n : Nat) (s : St) (h : Gam orig inv s) :
    GamO orig ((Res.mk (some inv) (ana body inv).e (ana body inv).r).sel (iter (run o body) n s).2)
      (iter (run o body) n s).1 := by
  have key := iter_inv (run o body) (Gam orig inv) (fun oc t => GamO orig ((ana body inv).sel oc) t)
    (fun t ht => ⟨hstep t ht, fun _ => ih inv t ht⟩) n s h
  generalize iter (run o body) n s = r at key ⊢
  obtain ⟨s', oc⟩ := r
  cases oc with
  | ok => exact key.1 rfl
  | raised | ret => exact key.2 (fun e => nomatch e)

theorem ana_sound (o : Oracle) (orig : Env) : ∀ (p : Stmt) (a : Abs) (s : St),
    Gam orig a s → Sound o orig p a s := by
  intro p
  induction p with intro a s h
  | skip | raise | ret => exact h
  | fault | need =>
    unfold Sound run ana
    -- neither touches environment or store (`fault` moves the tick only), and `Gam` does not read the tick
    split <;> exact h
  | save x v => exact gam_bind x v h
  | load x v =>
    unfold Sound run ana
    split
    · next t ht =>
      have hb := gam_bind x v h
      rw [ht] at hb
      exact gam_isStr hb (by simp [Store.set, Val.isStr])
    · exact h
  | setNone x => exact gam_isNone (x := x) (gam_forget x Val.none h) (if_pos rfl)
  | kill x i => exact gam_forget x _ h
  | del v =>
    unfold Sound run ana
    cases hv : s.env v with
    | some t => exact gam_unset v h
    | none => exact h
  | pop v => exact gam_unset v h
  | setExpr v i =>
    unfold Sound run ana
    split
    · exact gam_markDirty v _ h
    · exact h
  | setFrom v x =>
    unfold Sound run ana
    cases hv : s.sto x with
    | str t =>
      simp only [Res.sel, GamO]
      split
      · next hc =>
        -- `x` holds the entry value of `v`, and it is the string `t`
        have h1 := h.2.1 x v (List.contains_iff_mem.1 hc)
        rw [hv] at h1
        exact gam_markClean v (some t) (ofOpt_eq_str h1.symm) h
      · exact gam_markDirty v (some t) h
    | none | other =>
      simp only [Res.sel]
      split
      · next hc =>
        -- a local known to be a string cannot make the assignment raise
        have hs := h.2.2.2 x (List.contains_iff_mem.1 hc)
        rw [hv] at hs
        cases hs
      · exact h
  | seq p q ihp ihq =>
    have hp := ihp a s h
    unfold Sound at hp ⊢; unfold run ana
    generalize run o p s = r at hp ⊢
    obtain ⟨s', oc⟩ := r
    cases oc with
    | ok => exact sel_join_right (sound_onO ihq hp)
    | raised => exact sel_join_left hp
    | ret => exact sel_join_left hp
  | choice _ p q ihp ihq | ifSet _ p q ihp ihq =>
    unfold Sound run ana
    split
    · exact sel_join_left (ihp a _ h)
    · exact sel_join_right (ihq a _ h)
  | ifNone x p q ihp ihq =>
    unfold Sound run ana
    by_cases hx : s.sto x = Val.none
    · rw [if_pos hx]
      exact sel_join_left (ihp _ s (gam_isNone h hx))
    · rw [if_neg hx]
      refine sel_join_right (ihq _ s ?_)
      split
      · next hh =>
        -- not None, and an entry value: those are None or strings
        simp only [List.any_eq_true, decide_eq_true_eq] at hh
        obtain ⟨⟨x', w⟩, hm, rfl⟩ := hh
        have h1 := h.2.1 x' w hm
        refine gam_isStr h ?_
        cases ho : orig w with
        | none => rw [ho] at h1; exact absurd h1 hx
        | some u => rw [ho] at h1; rw [h1]; rfl
      · exact h
  | loop i body ih =>
    simp only [Sound, run, ana]
    split
    · next hle =>
      refine sound_iter ih (fun t ht e => ?_) _ _ h
      have hb := ih a t ht
      rw [Sound, e] at hb
      exact gamO_le hle hb
    · exact sound_iter ih (fun t ht _ => gam_widen_frame _ _ (fun v hv => keeps_env o v body hv t)
        (fun x hx => keeps_sto o x body hx t) ht) _ _ (gam_widen _ _ h)
  | tryFinally p q ihp ihq =>
    have key := sel_after (oa := (run o p s).2) (sound_onO ihq (ihp a s h))
    rw [Sound, run_tryFinally, ana]
    -- the finaliser was analysed from the component of `ana p a` that belongs to the way `p` was left
    cases hoa : (run o p s).2 <;> rw [hoa] at key
    · exact sel_join_left key
    · exact sel_join_right (sel_join_left key)
    · exact sel_join_right (sel_join_right key)
  | tryExcept i p hh ihp ihh =>
    have hp := ihp a s h
    unfold Sound at hp ⊢; unfold run ana
    generalize run o p s = r at hp ⊢
    obtain ⟨s', oc⟩ := r
    cases oc with
    | ok => exact sel_join_left hp
    | ret => exact sel_join_left hp
    | raised =>
      simp only []
      split
      · exact sel_join_right (sound_onO ihh (gamO_next hp))
      · exact sel_join_left (gamO_next hp)
  | scope p ihp =>
    have hp := ihp a s h
    unfold Sound at hp ⊢; unfold run ana
    generalize run o p s = r at hp ⊢
    obtain ⟨s', oc⟩ := r
    cases oc with
    | ok => exact gamO_join_left hp
    | ret => exact gamO_join_right hp
    | raised => exact hp

theorem gamO_clean {orig : Env} {x : Option Abs} {s : St} (h : GamO orig x s) (hc : cleanO x = true) : s.env = orig := by
  cases x with
  | none => exact absurd h id
  | some a =>
    funext v
    apply h.1 v
    simp [cleanO, List.isEmpty_iff] at hc
    simp [hc]

theorem restores_iff (p : Stmt) (vs : List Var) :
    restores p vs = true ↔ (∀ v, v ∈ writes p → v ∈ vs) ∧ cleanO (ana p Abs.init).n = true ∧
      cleanO (ana p Abs.init).e = true ∧ cleanO (ana p Abs.init).r = true := by
  simp only [restores, Bool.and_eq_true, List.all_eq_true, List.contains_iff_mem, and_assoc]

/-- a program accepted by the checker leaves the environment as
it found it: for every oracle (which points raise, which branches are taken, loop
counts, opaque values), every initial environment and store, on normal return, on
`return` inside `try`, and on every exceptional path. -/
theorem restores_sound (p : Stmt) (vs : List Var) (h : restores p vs = true) :
    ∀ (o : Oracle) (s : St), (run o p s).1.env = s.env := by
  intro o s
  obtain ⟨_, hn, he, hr⟩ := (restores_iff p vs).1 h
  -- `Abs.init` claims nothing about the locals and calls no variable dirty
  refine gamO_clean (ana_sound o s.env p Abs.init s
    ⟨fun _ _ => rfl, fun _ _ hx => (nomatch hx), fun _ hx => (nomatch hx), fun _ hx => (nomatch hx)⟩) ?_
  -- whichever way the run ended, the checker has looked at that component
  cases (run o p s).2 <;> assumption

/-- a variable that the program does not write syntactically has at exit the value it had
on entry, whatever happens. -/
theorem other_vars_untouched (p : Stmt) (o : Oracle) (s : St) (v : Var) (h : v ∉ writes p) :
    (run o p s).1.env v = s.env v := keeps_env o v p h s

/-- an accepted program writes no variable outside the
declared list `vs` (so, with `other_vars_untouched`, variables outside `vs` are at exit
as they were on entry: none created, changed or removed). -/
theorem restores_only_touches (p : Stmt) (vs : List Var) (h : restores p vs = true) :
    ∀ v, v ∈ writes p → v ∈ vs := ((restores_iff p vs).1 h).1

/-! ## the checker accepts a guarded program, rejects the unguarded one, and the rejected one really
leaks under a concrete fault schedule -/

/-- save; delete; try: (anything that may fail) finally: put back -/
def guarded : Stmt :=
  .seq (.tryExcept 0 (.load "x" "A") .raise)
  (.seq (.del "A")
  (.tryFinally (.seq (.fault 1) (.seq (.need "B") (.fault 2))) (.setFrom "A" "x")))

def unguarded : Stmt :=
  .seq (.tryExcept 0 (.load "x" "A") .raise)
  (.seq (.del "A") (.seq (.fault 1) (.setFrom "A" "x")))

/-- two variables saved with `.get`, overwritten, restored as value or as absence -/
def guarded2 : Stmt :=
  .seq (.save "a" "A") (.seq (.save "b" "B")
  (.tryFinally (.seq (.fault 1) (.seq (.setExpr "A" 2) (.seq (.setExpr "B" 3) (.seq (.fault 4) .ret))))
    (.seq (.ifNone "a" (.pop "A") (.setFrom "A" "a")) (.ifNone "b" (.pop "B") (.setFrom "B" "b")))))

/-- a loop whose body sets and puts back the variable in every round -/
def guardedLoop : Stmt :=
  .seq (.save "a" "A")
  (.loop 0 (.tryFinally (.seq (.setExpr "A" 1) (.fault 2)) (.ifNone "a" (.pop "A") (.setFrom "A" "a"))))

example : restores guardedLoop ["A"] = true := by decide +kernel
example : restores guarded ["A"] = true := by decide +kernel
example : restores guarded2 ["A", "B"] = true := by decide +kernel
example : restores unguarded ["A"] = false := by decide +kernel
example : restores guarded [] = false := by decide +kernel

def envA : Env := fun v => if v = "A" then some "/calib" else none
def failAt1 : Oracle := ⟨fun _ i => i == 1, fun _ _ => 0, fun _ _ => .other⟩

example : (run failAt1 unguarded ⟨envA, fun _ => .other, 0⟩).1.env "A" = none := by decide +kernel
example : (run failAt1 unguarded ⟨envA, fun _ => .other, 0⟩).2 = .raised := by decide +kernel
example : (run failAt1 guarded ⟨envA, fun _ => .other, 0⟩).1.env "A" = some "/calib" := by decide +kernel
example : (run failAt1 guarded ⟨envA, fun _ => .other, 0⟩).2 = .raised := by decide +kernel

/-! ## the `pop` and `setdefault` idioms: the translator reads them into the terms below; these lemmas
state what those terms do, for all states (the specification the translator relies on) -/

/-- `x = os.environ.pop(v)` is read as `load x v; del v` (`MutableMapping.pop`: `value = self[v]`, then `del self[v]`):
when `v` is set, `x` gets its value and `v` is removed -/
theorem pop_idiom_set (o : Oracle) (x : Loc) (v : Var) (s : St) (t : String) (h : s.env v = some t) :
    run o (.seq (.load x v) (.del v)) s =
      ({ s with sto := s.sto.set x (.str t), env := s.env.set v none }, .ok) := by
  simp [run, h]

/-- ... and when `v` is unset the lookup raises (KeyError) and nothing at all has changed -/
theorem pop_idiom_unset (o : Oracle) (x : Loc) (v : Var) (s : St) (h : s.env v = none) :
    run o (.seq (.load x v) (.del v)) s = (s, .raised) := by
  simp [run, h]

/-- `x = os.environ.pop(v, None)` is read as `save x v; pop v`: never raises, `x` is the old value or None,
`v` is unset afterwards -/
theorem pop_default_idiom (o : Oracle) (x : Loc) (v : Var) (s : St) :
    run o (.seq (.save x v) (.pop v)) s =
      ({ s with sto := s.sto.set x (Val.ofOpt (s.env v)), env := s.env.set v none }, .ok) :=
  rfl

/-- `os.environ.setdefault(v, x)` is read as `ifSet v skip (setFrom v x)`: a variable that is set is left alone -/
theorem setdefault_idiom_set (o : Oracle) (x : Loc) (v : Var) (s : St) (h : (s.env v).isSome = true) :
    run o (.ifSet v .skip (.setFrom v x)) s = (s, .ok) := by
  simp [run, h]

/-- ... and a variable that is unset gets the (string) value of `x` -/
theorem setdefault_idiom_unset (o : Oracle) (x : Loc) (v : Var) (s : St) (t : String)
    (h : s.env v = none) (hx : s.sto x = .str t) :
    run o (.ifSet v .skip (.setFrom v x)) s = ({ s with env := s.env.set v (some t) }, .ok) := by
  simp [run, h, hx]

/-- `calib = os.environ.pop('A')` under `except KeyError: raise ...`, the work, `finally: os.environ['A'] = calib` -/
def guardedPop : Stmt :=
  .seq (.tryExcept 0 (.seq (.load "x" "A") (.del "A")) (.seq (.fault 9) .raise))
  (.tryFinally (.seq (.fault 1) (.seq (.need "B") (.fault 2))) (.setFrom "A" "x"))

/-- the same without the `finally` -/
def unguardedPop : Stmt :=
  .seq (.tryExcept 0 (.seq (.load "x" "A") (.del "A")) (.seq (.fault 9) .raise))
  (.seq (.fault 1) (.setFrom "A" "x"))

/-- snapshot `{n: os.environ.get(n) for n in ('A', 'B')}`, `setdefault` / `update`, restore loop over `.items()` -/
def guardedSnapshot : Stmt :=
  .seq (.save "s1" "A") (.seq (.save "s2" "B")
  (.tryFinally (.seq (.fault 1) (.seq (.ifSet "A" .skip (.setExpr "A" 2)) (.seq (.setExpr "B" 3) (.fault 4))))
    (.seq (.ifNone "s1" (.pop "A") (.setFrom "A" "s1")) (.ifNone "s2" (.pop "B") (.setFrom "B" "s2")))))

/-- the restore loop forgets to remove a variable that was unset -/
def leakySnapshot : Stmt :=
  .seq (.save "s1" "A") (.seq (.save "s2" "B")
  (.tryFinally (.seq (.fault 1) (.seq (.ifSet "A" .skip (.setExpr "A" 2)) (.seq (.setExpr "B" 3) (.fault 4))))
    (.seq (.ifNone "s1" .skip (.setFrom "A" "s1")) (.ifNone "s2" .skip (.setFrom "B" "s2")))))

example : restores guardedPop ["A"] = true := by decide +kernel
example : restores unguardedPop ["A"] = false := by decide +kernel
example : restores guardedSnapshot ["A", "B"] = true := by decide +kernel
example : restores leakySnapshot ["A", "B"] = false := by decide +kernel

example : (run failAt1 unguardedPop ⟨envA, fun _ => .other, 0⟩).1.env "A" = none := by decide +kernel
example : (run failAt1 guardedPop ⟨envA, fun _ => .other, 0⟩).1.env "A" = some "/calib" := by decide +kernel

/-- the property statement for one program, semantically -/
def Restoring (p : Stmt) : Prop := ∀ (o : Oracle) (s : St), (run o p s).1.env = s.env

/-- an accepted program is restoring (`restores_sound` in this vocabulary) -/
theorem restores_restoring {p : Stmt} {vs : List Var} (h : restores p vs = true) : Restoring p :=
  restores_sound p vs h

theorem neutral_restoring {p : Stmt} (h : writes p = []) : Restoring p := by
  intro o s
  funext v
  exact keeps_env o v p (by rw [h]; exact List.not_mem_nil) s

/- `Restoring p` says that every oracle keeps the whole environment: the composition rules are those of `Keeps`. -/

theorem restoring_seq {p q : Stmt} (hp : Restoring p) (hq : Restoring q) : Restoring (.seq p q) :=
  fun o => Keeps.seq (g := fun e _ => e) (hp o) (hq o)

theorem restoring_tryFinally {a b : Stmt} (ha : Restoring a) (hb : Restoring b) :
    Restoring (.tryFinally a b) :=
  fun o => Keeps.tryFinally (g := fun e _ => e) (ha o) (hb o)

theorem restoring_tryExcept {i : Nat} {a h : Stmt} (ha : Restoring a) (hh : Restoring h) :
    Restoring (.tryExcept i a h) :=
  fun o => Keeps.tryExcept (g := fun e _ => e) (ha o) (hh o)

theorem restoring_choice {i : Nat} {a b : Stmt} (ha : Restoring a) (hb : Restoring b) :
    Restoring (.choice i a b) :=
  fun o => Keeps.choice (g := fun e _ => e) (ha o) (hb o)

theorem restoring_ifNone {x : Loc} {a b : Stmt} (ha : Restoring a) (hb : Restoring b) :
    Restoring (.ifNone x a b) :=
  fun o => Keeps.ifNone (g := fun e _ => e) (ha o) (hb o)

theorem restoring_ifSet {v : Var} {a b : Stmt} (ha : Restoring a) (hb : Restoring b) :
    Restoring (.ifSet v a b) :=
  fun o => Keeps.ifSet (g := fun e _ => e) (ha o) (hb o)

theorem restoring_loop {i : Nat} {a : Stmt} (ha : Restoring a) : Restoring (.loop i a) :=
  fun o => Keeps.loop (g := fun e _ => e) (ha o)

theorem restoring_scope {a : Stmt} (ha : Restoring a) : Restoring (.scope a) :=
  fun o => Keeps.scope (g := fun e _ => e) (ha o)

/-- two programs accepted by the checker (each for its own declared set), run one
after the other - e.g. two calls of the entry points in one process - leave the environment as the
first one found it.  (Semantic composition: the checker need not accept the sequence itself.) -/
theorem restores_seq (p q : Stmt) (vs ws : List Var) (hp : restores p vs = true) (hq : restores q ws = true) :
    ∀ (o : Oracle) (s : St), (run o (.seq p q) s).1.env = s.env :=
  restoring_seq (restores_restoring hp) (restores_restoring hq)

theorem restores_tryFinally_neutral (p f : Stmt) (vs : List Var) (hp : restores p vs = true)
    (hf : writes f = []) : ∀ (o : Oracle) (s : St), (run o (.tryFinally p f) s).1.env = s.env :=
  restoring_tryFinally (restores_restoring hp) (neutral_restoring hf)

theorem restores_mono (p : Stmt) (vs vs' : List Var) (hsub : ∀ v, v ∈ vs → v ∈ vs')
    (h : restores p vs = true) : restores p vs' = true := by
  rw [restores_iff] at h ⊢
  exact ⟨fun v hv => hsub v (h.1 v hv), h.2⟩

/-- the declared set matters only through `writes p ⊆ vs`: `writes p` is the
least set for which a program can be accepted -/
theorem restores_iff_writes (p : Stmt) (vs : List Var) :
    restores p vs = true ↔ (restores p (writes p) = true ∧ ∀ v, v ∈ writes p → v ∈ vs) := by
  rw [restores_iff, restores_iff]
  exact ⟨fun h => ⟨⟨fun _ hv => hv, h.2⟩, h.1⟩, fun h => ⟨h.2, h.1.2⟩⟩

/-! ### exactness of the checker on a fragment: straight-line programs over `x = os.environ.get(v)` and
`os.environ.pop(v, None)` (no fault point, no restore statement) -/

inductive Atom where
  | save (x : Loc) (v : Var)
  | pop (v : Var)

def Atom.stmt : Atom → Stmt
  | .save x v => .save x v
  | .pop v => .pop v

def straight : List Atom → Stmt
  | [] => .skip
  | a :: l => .seq a.stmt (straight l)

def popped : List Atom → List Var
  | [] => []
  | .save _ _ :: l => popped l
  | .pop v :: l => v :: popped l

theorem mem_markDirty (a : Abs) (v w : Var) : w ∈ (a.markDirty v).dirty ↔ w = v ∨ w ∈ a.dirty := by
  unfold Abs.markDirty
  split
  · next hc => exact ⟨Or.inr, fun h => h.elim (fun e => e ▸ List.contains_iff_mem.1 hc) id⟩
  · exact List.mem_cons

/-- the analysis of a straight-line program ends normally only, with the popped variables added to the dirty ones (from a
state that knows no local to be None: then no `pop` can be taken for a restore) -/
theorem ana_straight : ∀ (l : List Atom) (a : Abs), a.isNone = [] →
    ∃ b, ana (straight l) a = ⟨some b, none, none⟩ ∧ ∀ w, w ∈ b.dirty ↔ (w ∈ a.dirty ∨ w ∈ popped l) := by
  intro l
  induction l with
  | nil => intro a _; exact ⟨a, rfl, fun w => by simp [popped]⟩
  | cons at0 l ih =>
    intro a ha
    cases at0 with
    | save x v =>
      have hb : (a.bind x v).isNone = [] := by
        simp only [Abs.bind, Abs.forget]; split <;> simp [ha]
      have hd : (a.bind x v).dirty = a.dirty := by
        simp only [Abs.bind, Abs.forget]; split <;> rfl
      obtain ⟨b, hb1, hb2⟩ := ih (a.bind x v) hb
      refine ⟨b, ?_, fun w => ?_⟩
      · show (Res.mk none none none).join (ana (straight l) (a.bind x v)) = _
        rw [hb1]; rfl
      · rw [hb2 w, hd]; rfl
    | pop v =>
      -- nothing is known to be None, so the popped variable is counted as changed
      have hon : a.origNone v = false := by simp [Abs.origNone, ha]
      have hb : (a.markDirty v).isNone = [] := by
        simp only [Abs.markDirty]; split <;> simp [ha]
      obtain ⟨b, hb1, hb2⟩ := ih (a.markDirty v) hb
      refine ⟨b, ?_, fun w => ?_⟩
      · show (Res.mk none none none).join
          (ana (straight l) (if a.origNone v then a.markClean v else a.markDirty v)) = _
        rw [hon, if_neg Bool.false_ne_true, hb1]; rfl
      · rw [hb2 w, mem_markDirty, or_assoc, or_left_comm]
        exact or_congr_right List.mem_cons.symm

theorem run_straight (o : Oracle) : ∀ (l : List Atom) (s : St),
    (run o (straight l) s).2 = .ok ∧
    ∀ w, (run o (straight l) s).1.env w = if w ∈ popped l then none else s.env w := by
  intro l
  induction l with
  | nil => intro s; exact ⟨rfl, fun w => by simp [popped, straight, run]⟩
  | cons at0 l ih =>
    intro s
    cases at0 with
    | save x v => exact ih _
    | pop v =>
      obtain ⟨h1, h2⟩ := ih { s with env := s.env.set v none }
      refine ⟨h1, fun w => (h2 w).trans ?_⟩
      by_cases hw : w = v
      · subst hw; simp [popped, Env.set]
      · simp [popped, Env.set, hw]

/-- on straight-line save / clobber programs the checker is exact, not only sound: it accepts (for the least
possible declared set) iff the semantics restores every initial state (iff nothing is popped) -/
theorem restores_exact_straight (l : List Atom) :
    restores (straight l) (writes (straight l)) = true ↔ Restoring (straight l) := by
  constructor
  · exact restores_restoring
  · intro h
    -- a popped variable would be lost from an environment in which everything is set
    have hp : ∀ w, w ∉ popped l := by
      intro w hw
      have h1 := congrFun (h ⟨fun _ _ => false, fun _ _ => 0, fun _ _ => .other⟩ ⟨fun _ => some "", fun _ => .other, 0⟩) w
      rw [(run_straight _ l _).2 w, if_pos hw] at h1
      cases h1
    obtain ⟨b, hb1, hb2⟩ := ana_straight l Abs.init rfl
    have hd : b.dirty = [] :=
      List.eq_nil_iff_forall_not_mem.2 fun w hw => ((hb2 w).1 hw).elim (fun h => nomatch h) (hp w)
    rw [restores_iff, hb1]
    exact ⟨fun _ hv => hv, by rw [cleanO, hd]; rfl, rfl, rfl⟩

theorem Env.set_self {e : Env} {v : Var} {t : Option String} (h : e v = t) : e.set v t = e := by
  funext w
  unfold Env.set
  split
  · next hw => rw [hw, h]
  · rfl

theorem Env.set_set (e : Env) (v : Var) (t u : Option String) : (e.set v t).set v u = e.set v u := by
  funext w
  unfold Env.set
  split <;> rfl

/-- the boundary of exactness: `x = os.environ.get(v); os.environ.pop(v, None); os.environ[v] = x` restores
every initial state (when `v` was unset the assignment raises, with nothing changed), but the checker
rejects it - it wants the None case handled (`if x is None: pop else: assign`), as the real code does -/
def unguardedRestore : Stmt := .seq (.save "x" "A") (.seq (.pop "A") (.setFrom "A" "x"))

theorem checker_incomplete_witness :
    Restoring unguardedRestore ∧ restores unguardedRestore ["A"] = false := by
  refine ⟨?_, by decide +kernel⟩
  intro o s
  simp only [unguardedRestore, run, Store.set, Val.ofOpt]
  cases hA : s.env "A" with
  | none => exact Env.set_self hA
  | some t => exact (Env.set_set ..).trans (Env.set_self hA)

example : restores (straight [.save "x" "A", .save "y" "B"]) [] = true := by decide +kernel
example : restores (straight [.save "x" "A", .pop "A"]) ["A"] = false := by decide +kernel

/-- `x = os.environ.get(v); try: <body> finally: (pop v if x is None else os.environ[v] = x)` -/
def guardIdiom (x : Loc) (v : Var) (b : Stmt) : Stmt :=
  .seq (.save x v) (.tryFinally b (.ifNone x (.pop v) (.setFrom v x)))

/-- the `try` / `finally` of the guarded idiom, from a state in which `x` holds the value of `v` -/
theorem guard_finally_restores (o : Oracle) (x : Loc) (v : Var) (b : Stmt)
    (hw : ∀ w, w ∈ writes b → w = v) (hx : x ∉ assigns b) (s1 : St) (h1 : s1.sto x = Val.ofOpt (s1.env v)) :
    (run o (.tryFinally b (.ifNone x (.pop v) (.setFrom v x))) s1).1.env = s1.env := by
  have hsto : (run o b s1).1.sto x = Val.ofOpt (s1.env v) := (keeps_sto o x b hx s1).trans h1
  have henv : ∀ t, (run o b s1).1.env.set v t = s1.env.set v t := by
    intro t
    funext w
    unfold Env.set
    split
    · rfl
    · next hwv => exact keeps_env o w b (fun hm => hwv (hw w hm)) s1
  simp only [run]
  cases hv : s1.env v with
  | none =>
    rw [hv] at hsto
    simp only [hsto, Val.ofOpt, if_true, henv]
    exact Env.set_self hv
  | some t =>
    rw [hv] at hsto
    simp only [hsto, Val.ofOpt, henv]
    exact Env.set_self hv

/-- for EVERY body (any faults, branches, loops, returns, nested handlers) that
writes no variable other than `v` and does not rebind `x`, the guarded idiom is restoring: a template theorem
that needs no run of the checker -/
theorem guard_idiom_restoring (x : Loc) (v : Var) (b : Stmt)
    (hw : ∀ w, w ∈ writes b → w = v) (hx : x ∉ assigns b) : Restoring (guardIdiom x v b) := by
  intro o s
  unfold guardIdiom run
  exact guard_finally_restores o x v b hw hx _ (by simp [Store.set])

example : Restoring (guardIdiom "x" "A" (.seq (.fault 1) (.seq (.setExpr "A" 2) (.loop 3 (.seq (.pop "A") .ret))))) :=
  guard_idiom_restoring _ _ _ (by decide +kernel) (by decide +kernel)

end PydlVerif.C20
