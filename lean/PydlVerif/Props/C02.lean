/-
C02 - yanny: the meaning of a file does not depend on its surface syntax.  A file is a document written in a layout
(`renders io d lay`, Model/YannyLayout.lean, where the layout domains `layoutOK2`, `layoutOKW` and, for text mode, `layoutOKU`
are defined); it is read by C01's reader model with the typedef selection of the tree after the D16/D17 fix.  Left out:
two declarations written with brackets on one line of a struct definition (`int a[2]; char t[8];`), which the greedy
`[...]` of `type()` mis-types; `;` `{` `}` `"` or a backslash in a comment inside a definition (it adds a declaration or
ends the block); no white space after the `{` of a struct (`colLayOK`: `pre` not empty); a continuation in front of an
empty keyword value (the greedy `\s*` takes the next line); white space between an enum label and its comma; the word
`typedef` in a comment or a value, a `{ws{ws}ws}` pattern on a keyword or data line (D4); a lone CR in a typedef
comment in text mode.  Floats under C01's hypothesis H1.  The four file theorems `parseFile_layout(_w/_univNl)` and `parseRaw_layout` are
projections of `reads_layW` (Lemmas/YannyLayTop.lean); the audited chain theorems in front of them state the pieces from
which it is assembled.
-/
import PydlVerif.Lemmas.YannyLayUniv
namespace PydlVerif.C02
open PydlVerif.Yanny PydlVerif.YannyRT

variable {F : Type}

/-- `get_token` returns a token written in any quoting style legal for it (as a scalar cell or as an array
element) and the rest of the line behind the white space -/
theorem getToken_quote (q : QStyle) (s sep rest : Str) (hl : tokLegal q s = true ∨ elemLegal q s = true)
    (hsep : sep ≠ []) (hb : ∀ c ∈ sep, isSpace c = true)
    (hr : ∀ c, rest.head? = some c → isSpace c = false) (hn : '\n' ∉ rest) :
    getToken (quoteTok q s ++ (sep ++ rest)) = .ok (s, rest) :=
  getToken_quote_sep q s sep rest (hl.elim id (elemLegal_tokLegal q s)) hsep hb hr hn

/-- the last token of a line (trailing blanks allowed) -/
theorem getToken_quote_last (q : QStyle) (s trail : Str) (hl : tokLegal q s = true ∨ elemLegal q s = true)
    (hb : ∀ c ∈ trail, isSpace c = true) (hn : '\n' ∉ trail) :
    getToken (quoteTok q s ++ trail) = .ok (s, []) :=
  getToken_quote_trail q s trail (hl.elim id (elemLegal_tokLegal q s)) hb

example : tokLegal .bare "2008-06-21T00:27:33".toList = true := by decide +kernel
example : tokLegal .quoted "My dog has no #nose.".toList = true := by decide +kernel
example : tokLegal (.braced " ".toList) "a b ;{".toList = true := by decide +kernel
example : tokLegal .bare "a b".toList = false := by decide
example : tokLegal (.braced []) "#hash".toList = false := by decide

/-- a row written in any per-line layout legal for it (`cellsLayOK`: a quoting style legal for each token,
non-empty blank/tab separators - also those that were split by a continuation -, blanks inside array
braces), followed by any trailing blanks, reads back as the row.  Floats under C01's hypothesis H1 (text → float round trip); what
C01's H2 provided is here part of `cellsLayOK` (the style must be legal for the printed text). -/
theorem parseRow_layout (io : FloatIO F) (h1 : H1 io) (sch : List ColSpec) (r : List (Cell F))
    (lays : List (Sep × CellLay)) (body trail : Str) (hk : rowKinds sch r = true)
    (hok : cellsLayOK io r lays = true) (hb : renderCells Sep.logical io r lays = some body)
    (ht : ∀ c ∈ trail, isBlank c = true) :
    parseRow io sch ((body ++ trail).dropWhile isSpace) = .ok r :=
  parseRow_layout' io h1 sch r lays body trail hk hok hb ht

def intIO : FloatIO Int := ⟨fun _ x => fmtInt x, fun _ t => parseInt t⟩
example : H1 intIO := fun _ x => parseInt_fmtInt x

def sampleSch : List ColSpec := [⟨.int, false⟩, ⟨.str, false⟩, ⟨.str, true⟩, ⟨.flt .f4, true⟩, ⟨.str, false⟩]
def sampleRow : List (Cell Int) :=
  [.one (.int (-32768)), .one (.str "a b #;".toList), .many [.str [], .str "x{y".toList, .str "p q".toList],
   .many [.flt .f4 7, .flt .f4 (-1)], .one (.str "tail  ".toList)]
def sampleLay : List (Sep × CellLay) :=
  [(⟨" \t".toList, none⟩, .one (.braced " ".toList)),
   (⟨[], some ("  ".toList, true, "    ".toList)⟩, .one .quoted),
   (⟨"\t".toList, none⟩, .many " ".toList .quoted [(⟨"  ".toList, none⟩, .bare), (⟨" ".toList, some ([], false, "\t".toList)⟩, .quoted)] " ".toList),
   (⟨" ".toList, none⟩, .many [] .bare [(⟨" ".toList, none⟩, .quoted)] []),
   (⟨"   ".toList, none⟩, .one (.braced []))]

example : rowKinds sampleSch sampleRow = true := by decide
example : cellsLayOK intIO sampleRow sampleLay = true := by decide +kernel
example : (renderCells Sep.logical intIO sampleRow sampleLay).isSome = true := by decide +kernel

/-- a trailing comment without a further `#` and with an even number of `"` is stripped together
with the blanks before it, whatever the line `l` contains (quoted `#` included) -/
theorem trailingComment_strip (l ws c : Str) (hws : ∀ x ∈ ws, isSpace x = true)
    (hl : ∀ x, l.getLast? = some x → isSpace x = false)
    (hc : '#' ∉ c) (hq : c.count '"' % 2 = 0) :
    trailingComment (l ++ ws ++ '#' :: c) = l := by
  rw [trailingComment_cut (l ++ ws) c hc hq]
  exact rstrip_append_space l ws hws hl

/-- the documented failure: a comment with a single double quote is not stripped -/
theorem trailingComment_odd_counterexample :
    trailingComment "mystruct 1234 # a 'pathological\" trailing comment".toList =
      "mystruct 1234 # a 'pathological\" trailing comment".toList := by decide +kernel

example : trailingComment "mystruct 1234 \"#hashtag\" # a \"comment\".".toList = "mystruct 1234 \"#hashtag\"".toList := by
  decide +kernel

/-- the name of a typedef text is the word in its trailing `} NAME ;`, whatever precedes -/
theorem tdNameOf_typedef (pre g3 name g4 : Str) (h3 : ∀ c ∈ g3, isSpace c = true)
    (h4 : ∀ c ∈ g4, isSpace c = true) (hne : name ≠ []) (hw : ∀ c ∈ name, isWordCh c = true) :
    tdNameOf (pre ++ '}' :: (g3 ++ name ++ g4 ++ [';'])) = some name :=
  tdNameOf_shape pre g3 name g4 h3 h4 hne hw

/-- among definitions whose names differ ignoring case, `type()` (post-fix rule)
works on the definition whose typedef name is the table's - no matter what the names or the
texts contain (substrings of each other, column names, type words) -/
theorem struct_name_lookup (defs : List (Str × Str)) (hname : ∀ d ∈ defs, tdNameOf d.2 = some d.1)
    (hd : (defs.map (fun d => upper d.1)).Nodup) (d : Str × Str) (hmem : d ∈ defs) (T : Str)
    (hT : upper T = upper d.1) : selectDef2 (defs.map (·.2)) T = some d.2 :=
  selectDef2_by_name defs hname hd d hmem T hT

/-- column typing of table `T` is the type search in `T`'s own definition -/
theorem struct_name_lookup_typing (defs : List (Str × Str)) (hname : ∀ d ∈ defs, tdNameOf d.2 = some d.1)
    (hd : (defs.map (fun d => upper d.1)).Nodup) (d : Str × Str) (hmem : d ∈ defs) (T var : Str)
    (hT : upper T = upper d.1) :
    typeOfS selectDef2 (defs.map (·.2)) T var =
      match typeSearch var d.2 with
      | none => .error "AttributeError"
      | some (typ, arr) => .ok (typ ++ normB arr) := by
  unfold typeOfS
  rw [selectDef2_by_name defs hname hd d hmem T hT]
  rfl

def fooText : Str := "typedef struct {\n    int a;\n} FOO;".toList
def foobarText : Str := "typedef struct {\n    double b;\n} FOOBAR;".toList
def barText : Str := "typedef struct {\n    double foo;\n    char a[4];\n} BAR;".toList
def mixedText : Str := "typedef struct {\n    int a;\n} Foo;".toList

/-- the pre-fix rule (`selectDefOld`: `x.find(name) > 0` over whole typedef texts) fails on exactly the inputs of
D16 / D17: FOO next to FOOBAR finds two texts (→ `None` → TypeError), FOO next to a struct with a
column `foo` selects the other struct's text, a typedef name in mixed case finds nothing; the
post-fix rule selects FOO's own definition in all three -/
theorem old_lookup_counterexample :
    selectDefOld [fooText, foobarText] "FOO".toList = none ∧
    selectDefOld [fooText, barText] "FOO".toList = some barText ∧
    selectDefOld [mixedText] "FOO".toList = none ∧
    selectDef2 [fooText, foobarText] "FOO".toList = some fooText ∧
    selectDef2 [fooText, barText] "FOO".toList = some fooText ∧
    selectDef2 [mixedText] "FOO".toList = some mixedText := by decide +kernel

example : tdNameOf foobarText = some "FOOBAR".toList := by decide +kernel
example : (([("FOO".toList, fooText), ("FOOBAR".toList, foobarText), ("BAR".toList, barText)] : List (Str × Str)).map
    (fun d => upper d.1)).Nodup := by decide +kernel

/-- whenever the file reads, raw mode succeeds on it, has the same keyword pairs,
and every table of the record-array result holds - row by row, cell by cell - the raw values of the
data lines that carry at least one cell: identical integers and floats, strings identical or cut
to the column width (`rowSame`, `scSame`) -/
theorem raw_same_values (sel : Sel) (io : FloatIO F) (text : Str) (p : Parsed F)
    (h : parseFileS sel io text = .ok p) :
    ∃ raw, parseRawS sel io text = .ok raw ∧ p.pairs = raw.pairs ∧
      all2 (tableSame raw.rows) raw.front.tables p.tables := by
  unfold parseFileS at h
  cases hr : parseRawS sel io text with
  | error e => rw [hr] at h; cases h
  | ok raw =>
    rw [hr] at h
    simp only at h
    cases hf : finishTablesS sel (raw.front.structs.map (·.text)) (enumCache raw.front.enums) raw.rows
        raw.front.tables with
    | error e => rw [hf] at h; cases h
    | ok ts =>
      rw [hf] at h
      injection h with h; subst h
      exact ⟨raw, rfl, rfl, finishTablesS_same sel _ _ raw.rows raw.front.tables ts hf⟩

/-- the reader with the selection rule as a parameter, at C01's rule, is C01's `parseFile` -/
theorem parseFileS_selectDef (io : FloatIO F) (text : Str) :
    parseFileS selectDef io text = parseFile io text := by
  unfold parseFileS parseRawS parseFile
  simp only [colSpecsS_selectDef]
  cases lineLoop io ((front text).tables.map (fun t => (t.1, colSpecs ((front text).structs.map (·.text)) t.1 t.2)))
      ⟨[], (front text).tables.map (fun t => (t.1, []))⟩ (splitNl (front text).rest) with
  | error e => rfl
  | ok fin => simp only [finishTablesS_selectDef]; rfl

section FileLevel
open PydlVerif.YannyLay PydlVerif.YannyLayScan PydlVerif.YannyLayBlock

/-- continuation joining: `re.sub(r'\\\s*\n', ' ', text)` turns the file as written
(separators possibly split by backslash-newline) into the file with every separator in its joined
form; nothing else in the file is touched (no other backslash is followed by blanks up to a line end) -/
theorem joinCont_layout (io : FloatIO F) (d : Doc F) (lay : Layout) (text : Str)
    (hd : docOK2 d = true) (hl : layoutOK io d lay = true) (hr : renders io d lay = some text) :
    ∃ ltext, rendersLogical io d lay = some ltext ∧ joinCont text = ltext :=
  PydlVerif.YannyLayCont.joinCont_renders io d lay text hd hl hr

/-- one typedef block in any layout (`typedef` g1 `struct|enum` g2 `{` body `}` g3 NAME g4 `;`
with arbitrary white space g1..g4, g1 non-empty): the expression for its own keyword matches it as a
whole (found with its body and name, cut out entirely), the expression for the other keyword matches
nowhere inside it -/
theorem typedef_block_layout (K kw g1 g2 body g3 name g4 B : Str) (hK : isKw K) (hkw : isKw kw) (hne : K ≠ kw)
    (hg1 : g1 ≠ [] ∧ ∀ c ∈ g1, isSpace c = true) (hg2 : ∀ c ∈ g2, isSpace c = true)
    (hg3 : ∀ c ∈ g3, isSpace c = true) (hg4 : ∀ c ∈ g4, isSpace c = true)
    (hb : body ≠ [] ∧ '}' ∉ body ∧ '{' ∉ body) (hn : wordy name) :
    tdFind K 0 (blockL K g1 g2 body g3 name g4 ++ B) = ⟨blockL K g1 g2 body g3 name g4, body, name⟩ :: tdFind K 0 B ∧
    tdRemove K 0 (blockL K g1 g2 body g3 name g4 ++ B) = tdRemove K 0 B ∧
    tdFind kw 0 (blockL K g1 g2 body g3 name g4 ++ B) = tdFind kw 0 B ∧
    tdRemove kw 0 (blockL K g1 g2 body g3 name g4 ++ B) = blockL K g1 g2 body g3 name g4 ++ tdRemove kw 0 B :=
  have ⟨s, o⟩ := cuts_blockL K kw g1 g2 body g3 name g4 hK hkw hne hg1 hg2 hg3 hg4 hb hn
  ⟨(s B).1, (s B).2, (o B).1, (o B).2⟩

/-- `re.search(r'(\S+)\s+VAR([\[<].*[\]>]|);', text)` on a struct definition in any layout
(white space and `# …` comments before every declaration and before the closing brace, `[n]` or `<n>`,
`[]`, any blanks between type and name; every declaration after the first preceded by a newline)
finds the declaration of `VAR`: its type word and its array suffix as written - whatever the other
column names, the struct name and the comments contain -/
theorem typeSearch_layout (ms : List Mem) (closePre g1 g2 g3 name g4 : Str)
    (hms : ∀ m ∈ ms, MemOK m) (hnd : (ms.map (·.N)).Nodup) (hnl : ∀ m ∈ ms.tail, '\n' ∈ m.pre)
    (hcp : tdWsOK false closePre = true)
    (hg1 : g1 ≠ [] ∧ ∀ c ∈ g1, wsChar c = true) (hg2 : ∀ c ∈ g2, wsChar c = true)
    (hg3 : ∀ c ∈ g3, wsChar c = true) (hg4 : ∀ c ∈ g4, wsChar c = true)
    (hname : wordy name) (m : Mem) (hm : m ∈ ms) :
    typeSearch m.N (structL g1 g2 (bodyL ms closePre) g3 name g4) = some (m.T, m.arr) :=
  typeSearch_layW ms closePre g1 g2 g3 name g4 hms hnd (LineOK_of_nl ms hnl) hcp hg1.2 hg2 hg3 hg4 hname m hm

/-- `re.findall(r'\S+\s+\S+;', body)` + `stripArr` on the same body gives the column names in order -/
theorem columnsOf_layout (ms : List Mem) (closePre : Str) (hms : ∀ m ∈ ms, MemOK m)
    (hcp : tdWsOK false closePre = true) : columnsOf (bodyL ms closePre) = ms.map (·.N) :=
  columnsOf_lay ms closePre hms hcp

/-- typing of a table's columns from its definition in any layout: the column specs
the row reader needs and the canonical record-array columns; a column written `char name[]` gets the
width of its longest value (`unsizedOK`: the document's declared width IS that length).  `hsel` speaks of C01's
`selectDef`, which is the rule `selectDef2` of `struct_name_lookup` (`selectDef_eq`); `hnum`: `rcolOf` asks the enum cache
before `rtOfBase`, so no number word may stand in it as an enum type name -/
theorem typing_layout (enums : List EnumDecl) (he : ∀ e ∈ enums, enumOK e = true) (t : TableD F) (l : StructLay)
    (ht : tableOK2 enums t = true) (hl : structLayOK enums t l = true) (hnl : declNlOK l.cols = true)
    (sts : List Str) (hsel : selectDef sts (upper t.name) = some (structBlk enums t l))
    (cache : List (Str × List Str))
    (hcache : ∀ e ∈ enums, lookupLast (upper e.tyName) cache = some e.labels)
    (hnum : ∀ w ∈ ["short".toList, "int".toList, "long".toList, "float".toList, "double".toList],
      lookupLast w cache = none) :
    colSpecs sts (upper t.name) (t.cols.map (·.name)) = .ok (t.cols.map specOfCol) ∧
    ∀ (k : Nat) (c : Col), t.cols[k]? = some c →
      rcolOf sts cache (upper t.name) c.name (t.rows.filterMap (fun r => r[k]?)) = .ok (rcolCanon enums c) :=
  typing_layW enums he t l ht hl (declLineOK_of_nl enums t.cols l.cols hnl) sts hsel cache hcache hnum

/-- `char name[]` (type text `char[]` / `char[n][]`): the column is a string column, an array iff
`n` is given, and its width is the longest value present in the column -/
theorem char_unsized_layout (c : Col) (data : List (Cell F)) :
    baseType (typUnsized c) = "char".toList ∧ isArrayT (typUnsized c) = decide (c.alen > 0) ∧
    (c.alen > 0 → arrayLength (typUnsized c) = .ok c.alen) ∧
    charLength (typUnsized c) data = if data.isEmpty then .ok 1 else .ok ((data.map cellMaxLen).foldl max 0) :=
  ⟨baseType_unsized c, isArrayT_unsized c, arrayLength_unsized c, charLength_unsized c data⟩

/-- a newline before every declaration after the first (`layoutOK2`) is a special case of the line condition
of `layoutOKW` -/
theorem layoutOK2_sub (io : FloatIO F) (d : Doc F) (lay : Layout) (h : layoutOK2 io d lay = true) :
    layoutOKW io d lay = true := by
  simp only [layoutOK2, Bool.and_eq_true] at h
  simp only [layoutOKW, Bool.and_eq_true]
  exact ⟨h.1, sdefsLineOK_of_nl d.enums d.tables lay.slots h.2⟩

/-- the front half of `_parse` on a file in any layout: after continuation joining, typedef extraction finds exactly
the struct and enum definitions, in slot order, cuts exactly them out, the symbol table lists every table with its
columns, and what is left for the line loop is the chunk-wise residual text -/
theorem front_layout (io : FloatIO F) (h1 : H1 io) (d : Doc F) (lay : Layout) (text : Str)
    (hd : docOK2 d = true) (hl : layoutOK2 io d lay = true) (hr : renders io d lay = some text) :
    ∃ infos, slotInfos io d (initRSt d) lay.slots = some infos ∧ (∀ i ∈ infos, InfoOK io (laySpecs d) i) ∧
      front text = ⟨layStructs d lay, layEnums d lay,
        d.tables.map (fun t => (upper t.name, t.cols.map (·.name))),
        joinChunks lay.finalEol (residChunks infos)⟩ :=
  front_layW io h1 d lay text hd (layoutOK2_sub io d lay hl) hr

/-- the line step on a whole data line in any layout: leading blanks, the struct name in any
letter case, the cells in any per-line layout, trailing blanks, an optional trailing comment, an
optional CR - the row is appended to its table -/
theorem lineStep_layout_row (io : FloatIO F) (h1 : H1 io) (specs : List (Str × Except String (List ColSpec)))
    (st : LoopSt F) (sch : List ColSpec) (r : List (Cell F)) (lay : RowLay) (b cr : Str)
    (hlead : ∀ c ∈ lay.lead, isBlank c = true) (htrail : ∀ c ∈ lay.trail, isBlank c = true)
    (hname : wordOK lay.name = true) (hcom : commentOK lay.comment = true)
    (hcells : cellsLayOK io r lay.cells = true) (hb : renderCells Sep.logical io r lay.cells = some b)
    (hdb : dbFree (lay.name ++ b) = true) (hk : rowKinds sch r = true)
    (hs : lookupSpec specs (upper lay.name) = some (.ok sch)) (hcr : cr = [] ∨ cr = ['\r']) :
    lineStep io specs st (lay.lead ++ lay.name ++ b ++ lay.trail ++ commentText lay.comment ++ cr) =
      .ok { st with rows := addRow st.rows (upper lay.name) r } :=
  PydlVerif.YannyLayLine.lineStep_row_lay io h1 specs st sch r lay b cr hlead htrail
    (PydlVerif.YannyLayLine.wordOK_bare _ hname) hcom hcells hb hdb hk hs hcr

/-- the line step on a whole keyword line in any layout -/
theorem lineStep_layout_pair (io : FloatIO F) (specs : List (Str × Except String (List ColSpec)))
    (st : LoopSt F) (k v : Str) (lay : PairLay) (cr : Str)
    (hlead : ∀ c ∈ lay.lead, isBlank c = true) (htrail : ∀ c ∈ lay.trail, isBlank c = true)
    (hcom : commentOK lay.comment = true)
    (hne : k ≠ []) (hk : ∀ c ∈ k, isSpace c = false ∧ c ≠ '#')
    (hh1 : k.head? ≠ some '"') (hh2 : k.head? ≠ some '{')
    (hv : '#' ∉ v) (hvn : '\n' ∉ v) (hvs : strip v = v)
    (hsep : if v.isEmpty then (∀ c ∈ lay.sep.a, isBlank c = true) ∧ lay.sep.cont = none else lay.sep.ok = true)
    (hdb : dbFree (k ++ lay.sep.logical ++ v) = true)
    (hs : lookupSpec specs (upper k) = none) (hcr : cr = [] ∨ cr = ['\r']) :
    lineStep io specs st (lay.lead ++ k ++ lay.sep.logical ++ v ++ lay.trail ++ commentText lay.comment ++ cr) =
      .ok { st with pairs := setPair st.pairs k v } := by
  -- `hsep` is the separator clause of `pairLayOK` written out; these are the two facts `pairLayOK_props` draws from it
  have hs' : (∀ c ∈ lay.sep.logical, isBlank c = true) ∧ (v ≠ [] → lay.sep.logical ≠ []) := by
    cases v with
    | nil =>
      simp only [List.isEmpty_nil, if_true] at hsep
      exact ⟨sep_logical_blank _ (Sep.blank_of_bare hsep.1 hsep.2), fun e => absurd rfl e⟩
    | cons a w =>
      simp only [List.isEmpty_cons, Bool.false_eq_true, if_false] at hsep
      exact ⟨sep_logical_blank _ (Sep.blank_of_ok hsep), fun _ => (sep_logical_props _ hsep).1⟩
  exact PydlVerif.YannyLayLine.lineStep_pair_lay io specs st lay.lead k lay.sep.logical v lay.trail lay.comment cr hlead
    hs'.1 htrail hcom hne hk hh1 hh2 hv hvs hs'.2 hdb hs hcr

/-- the loop over the lines of a file in any layout: comment / blank lines and the rests of
definition lines are skipped, keyword pairs are recorded in file order, and the rows of each table
arrive in that table's order, whatever the interleaving of the tables' lines -/
theorem loop_layout (io : FloatIO F) (d : Doc F) (lay : Layout) (hd : docOK2 d = true)
    (hl : layoutOK2 io d lay = true) (infos : List (ChunkInfo F))
    (hsi : slotInfos io d (initRSt d) lay.slots = some infos) (hio : ∀ i ∈ infos, InfoOK io (laySpecs d) i) :
    lineLoop io (laySpecs d) ⟨[], d.tables.map (fun t => (upper t.name, []))⟩
      (splitNl (joinChunks lay.finalEol (residChunks infos))) =
      .ok ⟨d.hdr, d.tables.map (fun t => (upper t.name, t.rows))⟩ :=
  loop_layW io d lay hd (layoutOK2_sub io d lay hl) infos hsi hio

/-- building the record arrays: every column is typed with the column data that is actually passed to `char_length` -/
theorem finishTables_layout (st : List Str) (cache : List (Str × List Str)) (enums : List EnumDecl)
    (all : List (TableD F)) (hnd : nodup (all.map (fun t => upper t.name)) = true)
    (ts : List (TableD F)) (hsub : ∀ t ∈ ts, t ∈ all)
    (hok : ∀ t ∈ ts, t.cols ≠ [] ∧
      (∀ (k : Nat) (c : Col), t.cols[k]? = some c →
        rcolOf st cache (upper t.name) c.name (t.rows.filterMap (fun r => r[k]?)) = .ok (rcolCanon enums c)) ∧
      ∀ r ∈ t.rows, cellsOK enums t.cols r = true) :
    finishTables st cache (all.map (fun t => (upper t.name, t.rows)))
      (ts.map (fun t => (upper t.name, t.cols.map (·.name)))) =
      .ok (ts.map (fun t => ⟨upper t.name, t.cols.map (rcolCanon enums), t.rows⟩)) :=
  finishTables_written st cache enums all hnd ts hsub hok

/-- the reader of the tree after the D16/D17 fix is C01's reader (C01's `selectDef` follows the fix) -/
theorem parseFile2_eq (io : FloatIO F) (text : Str) : parseFile2 io text = parseFile io text := by
  have hsel : selectDef2 = selectDef := rfl
  unfold parseFile2
  rw [hsel]
  exact parseFileS_selectDef io text

/-- the meaning of a file does not depend on its surface syntax: every document
of the domain `docOK2` (several tables, enum and struct definitions, keyword pairs; struct names
arbitrary distinct identifiers), written in ANY layout of the domain `layoutOK2` - comment lines and
trailing comments, blank lines, leading blanks, blank/tab runs, CRLF, backslash continuation inside
any separator, bare / "quoted" / {braced} tokens, `[n]` / `<n>` / `[]`, any letter case of the struct
name, white space and comments inside definitions, definitions anywhere, rows of different tables
interleaved - reads back as the document's canonical form: tables, column types, row order per table,
cells, pairs in order -/
theorem parseFile_layout (io : FloatIO F) (h1 : H1 io) (d : Doc F) (lay : Layout) (text : Str)
    (hd : docOK2 d = true) (hl : layoutOK2 io d lay = true) (hr : renders io d lay = some text) :
    parseFile2 io text = .ok (canon d) :=
  -- `reads_layW` speaks of `parseFileS selectDef`, which `parseFile2` is by unfolding (`selectDef2` is `selectDef`)
  (reads_layW io h1 d lay text hd (layoutOK2_sub io d lay hl) hr).1

end FileLevel

/-! ### the domain of `parseFile_layout` is inhabited

Two tables and an enum; the file starts with a continuation-split keyword line carrying a trailing
comment with quotes, an enum definition without blanks before `{`, a data line of the second table
(lower-case name, CRLF) BEFORE any struct definition, a struct definition with a comment line inside,
`<n>` brackets, a tab between type and name and a mixed-case name, interleaved rows with {braced} and
"quoted" tokens and a continuation inside an array, a `char t[]` column, a blank line. -/

def layDoc : Doc Int :=
  { comments := [], hdr := [("mjd".toList, "54579".toList), ("alpha".toList, "beta \"gamma\"".toList)],
    enums := [⟨"state".toList, "STATUS".toList, ["ON".toList, "OFF".toList]⟩],
    tables := [
      { name := "OBS".toList, cols := [⟨"mag".toList, .f4, 2⟩, ⟨"b".toList, .S 3, 0⟩, ⟨"state".toList, .S 5, 0⟩],
        rows := [[.many [.flt .f4 17, .flt .f4 (-3)], .one (.str "a b".toList), .one (.str "ON".toList)],
                 [.many [.flt .f4 1, .flt .f4 2], .one (.str "#x".toList), .one (.str "OFF".toList)]] },
      { name := "OBSLOG".toList, cols := [⟨"n".toList, .i8, 0⟩, ⟨"t".toList, .S 3, 0⟩],
        rows := [[.one (.int 5), .one (.str "x;y".toList)]] }] }

def layLay : Layout :=
  { finalEol := true,
    slots := [
      .filler "#%yanny".toList false,
      .pair ⟨"  ".toList, ⟨" ".toList, some ([], false, "   ".toList)⟩, [], some " c \"q\" ".toList, false⟩,
      .edef ⟨[], " ".toList, [], "\n  ".toList, ["\n  ".toList], "\n".toList, " ".toList, [], [], none, false⟩,
      .row 1 ⟨[], "obslog".toList, [(⟨" ".toList, none⟩, .one .bare), (⟨"\t".toList, none⟩, .one .quoted)], " ".toList, none, true⟩,
      .sdef ⟨" ".toList, "  ".toList, "\n".toList,
        [⟨"\n  # magnitudes\n  ".toList, " ".toList, true, false, false⟩,
         ⟨"\n ".toList, "\t".toList, false, true, false⟩,
         ⟨" #c\n".toList, " ".toList, false, false, false⟩],
        "\n".toList, " ".toList, "Obs".toList, " ".toList, " ".toList, some " def".toList, false⟩,
      .row 0 ⟨"\t".toList, "obs".toList,
        [(⟨" ".toList, none⟩, .many " ".toList .bare [(⟨" ".toList, some (" ".toList, true, "  ".toList)⟩, .quoted)] []),
         (⟨"  ".toList, none⟩, .one (.braced " ".toList)), (⟨" ".toList, none⟩, .one .bare)], [], some " first".toList, false⟩,
      .filler [] false,
      .sdef ⟨[], " ".toList, " ".toList,
        [⟨" ".toList, " ".toList, false, false, false⟩, ⟨"\n".toList, " ".toList, false, false, true⟩],
        " ".toList, [], "OBSLOG".toList, [], [], none, false⟩,
      .row 0 ⟨[], "OBS".toList,
        [(⟨" ".toList, none⟩, .many [] .bare [(⟨" ".toList, none⟩, .bare)] " ".toList),
         (⟨" ".toList, none⟩, .one .quoted), (⟨" ".toList, none⟩, .one .quoted)], [], none, false⟩,
      .pair ⟨[], ⟨"\t".toList, none⟩, " ".toList, none, false⟩] }

theorem layDoc_ok : docOK2 layDoc = true := by decide +kernel
theorem layLay_ok : layoutOK2 intIO layDoc layLay = true := by decide +kernel

set_option maxRecDepth 1000000 in
example : docOK2 layDoc = true := layDoc_ok
set_option maxRecDepth 1000000 in
example : layoutOK2 intIO layDoc layLay = true := layLay_ok
set_option maxRecDepth 1000000 in
example : (renders intIO layDoc layLay).isSome = true := by decide +kernel

set_option maxRecDepth 1000000 in
example : ∀ text, renders intIO layDoc layLay = some text → parseFile2 intIO text = .ok (canon layDoc) :=
  fun text hr => parseFile_layout intIO (fun _ x => parseInt_fmtInt x) layDoc layLay text layDoc_ok layLay_ok hr

section WiderDomain
open PydlVerif.YannyLay PydlVerif.YannyLayScan PydlVerif.YannyLayBlock

/-- `type()`'s search on a struct definition in any layout in which a declaration written with brackets
is the last such declaration of its line (`LineOK`); `hnl` of `typeSearch_layout` is the special case `LineOK_of_nl` -/
theorem typeSearch_layout_w (ms : List Mem) (closePre g1 g2 g3 name g4 : Str)
    (hms : ∀ m ∈ ms, MemOK m) (hnd : (ms.map (·.N)).Nodup) (hline : LineOK ms)
    (hcp : tdWsOK false closePre = true)
    (hg1 : g1 ≠ [] ∧ ∀ c ∈ g1, wsChar c = true) (hg2 : ∀ c ∈ g2, wsChar c = true)
    (hg3 : ∀ c ∈ g3, wsChar c = true) (hg4 : ∀ c ∈ g4, wsChar c = true)
    (hname : wordy name) (m : Mem) (hm : m ∈ ms) :
    typeSearch m.N (structL g1 g2 (bodyL ms closePre) g3 name g4) = some (m.T, m.arr) :=
  typeSearch_layW ms closePre g1 g2 g3 name g4 hms hnd hline hcp hg1.2 hg2 hg3 hg4 hname m hm

/-- column typing from a struct definition of the wider domain -/
theorem typing_layout_w (enums : List EnumDecl) (he : ∀ e ∈ enums, enumOK e = true) (t : TableD F) (l : StructLay)
    (ht : tableOK2 enums t = true) (hl : structLayOK enums t l = true)
    (hline : declLineOK enums t.cols l.cols = true)
    (sts : List Str) (hsel : selectDef sts (upper t.name) = some (structBlk enums t l))
    (cache : List (Str × List Str))
    (hcache : ∀ e ∈ enums, lookupLast (upper e.tyName) cache = some e.labels)
    (hnum : ∀ w ∈ ["short".toList, "int".toList, "long".toList, "float".toList, "double".toList],
      lookupLast w cache = none) :
    colSpecs sts (upper t.name) (t.cols.map (·.name)) = .ok (t.cols.map specOfCol) ∧
    ∀ (k : Nat) (c : Col), t.cols[k]? = some c →
      rcolOf sts cache (upper t.name) c.name (t.rows.filterMap (fun r => r[k]?)) = .ok (rcolCanon enums c) :=
  typing_layW enums he t l ht hl hline sts hsel cache hcache hnum

/-- `parseFile_layout` on the wider domain `layoutOKW` (several declarations
on one line of a struct definition, at most one of them written with brackets per line) -/
theorem parseFile_layout_w (io : FloatIO F) (h1 : H1 io) (d : Doc F) (lay : Layout) (text : Str)
    (hd : docOK2 d = true) (hl : layoutOKW io d lay = true) (hr : renders io d lay = some text) :
    parseFile2 io text = .ok (canon d) :=
  (reads_layW io h1 d lay text hd hl hr).1

/-- what text-mode `open()` delivers for a rendered file is itself a rendering: of
the same document in the layout `lay.univ` (every line end LF, every CR of a white-space run inside a
definition LF, CRLF collapsed) -/
theorem renders_univNl (io : FloatIO F) (d : Doc F) (lay : Layout) (text : Str) (hd : docOK2 d = true)
    (hl : layoutOK io d lay = true) (hc : layoutCrOK lay = true) (ht : tokCrOK io d = true)
    (hr : renders io d lay = some text) : renders io d lay.univ = some (univNl text) :=
  renders_univ io d lay text hd hl hc ht hr

/-- the universal-newline layout of a layout of the domain is in the domain -/
theorem univLayout_ok (io : FloatIO F) (d : Doc F) (lay : Layout) (h : layoutOKW io d lay = true)
    (hc : layoutCrOK lay = true) : layoutOKW io d lay.univ = true := layoutOKW_univ io d lay h hc

/-- layout independence for a file read through text-mode `open()`
(universal newlines: `\r\n` and a lone `\r` become `\n`): every document of `docOK2`, written in ANY layout
of the domain `layoutOKU` (line ends LF or CRLF per line, CR / LF / CRLF inside the white space of a
definition), reads back from the translated text as the document's canonical form -/
theorem parseFile_layout_univNl (io : FloatIO F) (h1 : H1 io) (d : Doc F) (lay : Layout) (text : Str)
    (hd : docOK2 d = true) (hl : layoutOKU io d lay = true) (hr : renders io d lay = some text) :
    parseFile2 io (univNl text) = .ok (canon d) :=
  have ⟨hw, hu⟩ := univ_reduce io d lay text hd hl hr
  (reads_layW io h1 d lay.univ (univNl text) hd hw hu).1

/-- the cell part of `layoutOKU` follows from `docOK2` when the float printer emits no CR -/
theorem tokCrOK_of_float (io : FloatIO F) (h3 : ∀ w x, '\r' ∉ io.fmtF w x) (d : Doc F) (hd : docOK2 d = true) :
    tokCrOK io d = true := by
  obtain ⟨_, _, htab, _, _, _⟩ := docOK2_props d hd
  have hsc : ∀ (ty : NpT) (labs : Option (List Str)) (arr : Bool) (v : Sc F), scOK ty labs arr v = true →
      (!(scText io v).contains '\r') = true := by
    intro ty labs arr v hv
    suffices '\r' ∉ scText io v by simpa using this
    cases v with
    | int n => exact fun hm => absurd (fmtInt_chars n _ hm) (by decide)
    | flt w x => exact h3 w x
    | str s =>
      simp only [scOK, Bool.and_eq_true] at hv
      have hs : strOK s = true := by
        have := hv.1.2
        cases arr
        · simpa using this
        · simp only [if_true, arrElemOK, Bool.and_eq_true] at this; exact this.1
      simp only [strOK, Bool.and_eq_true] at hs
      exact cellChar_noCR s hs.1.1
  have hcell : ∀ (c : Col) (x : Cell F), cellOK d.enums c x = true → cellCrOK io x = true := by
    intro c x hx
    cases x with
    | one v =>
      simp only [cellOK, Bool.and_eq_true] at hx
      exact hsc _ _ _ v hx.2
    | many vs =>
      simp only [cellOK, Bool.and_eq_true, List.all_eq_true] at hx
      exact List.all_eq_true.mpr (fun v hv => hsc _ _ _ v (hx.2 v hv))
  have hcells : ∀ (cols : List Col) (r : List (Cell F)), cellsOK d.enums cols r = true →
      List.all r (cellCrOK io) = true := by
    intro cols
    induction cols with
    | nil =>
      intro r hr
      cases r with
      | nil => rfl
      | cons _ _ => simp [cellsOK] at hr
    | cons c cs ih =>
      intro r hr
      cases r with
      | nil => simp [cellsOK] at hr
      | cons x xs =>
        simp only [cellsOK, Bool.and_eq_true] at hr
        simp only [List.all_cons, Bool.and_eq_true]
        exact ⟨hcell c x hr.1, ih xs hr.2⟩
  simp only [tokCrOK, List.all_eq_true]
  intro t htm r hr
  exact List.all_eq_true.mp (hcells t.cols r ((tableOK2_props d.enums t (htab t htm)).2.2.2.2 r hr))

/-- raw mode at file level: `yanny(file, raw=True)` on a file in any layout of the
domain returns the keyword pairs in order and, per table, the document's rows as plain lists in that
table's order (the symbol table lists every table with its columns) -/
theorem parseRaw_layout (io : FloatIO F) (h1 : H1 io) (d : Doc F) (lay : Layout) (text : Str)
    (hd : docOK2 d = true) (hl : layoutOKW io d lay = true) (hr : renders io d lay = some text) :
    ∃ raw, parseRaw2 io text = .ok raw ∧ raw.pairs = d.hdr ∧
      raw.rows = d.tables.map (fun t => (upper t.name, t.rows)) ∧
      raw.front.tables = d.tables.map (fun t => (upper t.name, t.cols.map (·.name))) :=
  (reads_layW io h1 d lay text hd hl hr).2

/-- raw mode through text-mode `open()` -/
theorem parseRaw_layout_univNl (io : FloatIO F) (h1 : H1 io) (d : Doc F) (lay : Layout) (text : Str)
    (hd : docOK2 d = true) (hl : layoutOKU io d lay = true) (hr : renders io d lay = some text) :
    ∃ raw, parseRaw2 io (univNl text) = .ok raw ∧ raw.pairs = d.hdr ∧
      raw.rows = d.tables.map (fun t => (upper t.name, t.rows)) ∧
      raw.front.tables = d.tables.map (fun t => (upper t.name, t.cols.map (·.name))) :=
  have ⟨hw, hu⟩ := univ_reduce io d lay text hd hl hr
  (reads_layW io h1 d lay.univ (univNl text) hd hw hu).2

/-- text mode for any float printer that emits no CR: the cell condition of `layoutOKU` then follows from `docOK2` -/
theorem parseFile_layout_univNl_float (io : FloatIO F) (h1 : H1 io) (h3 : ∀ w x, '\r' ∉ io.fmtF w x)
    (d : Doc F) (lay : Layout) (text : Str) (hd : docOK2 d = true) (hl : layoutOKW io d lay = true)
    (hc : layoutCrOK lay = true) (hr : renders io d lay = some text) :
    parseFile2 io (univNl text) = .ok (canon d) := by
  apply parseFile_layout_univNl io h1 d lay text hd _ hr
  simp only [layoutOKU, Bool.and_eq_true]
  exact ⟨⟨hl, hc⟩, tokCrOK_of_float io h3 d hd⟩

/-- the enum part at file level: whatever the layout of the enum definitions (white space, CR / LF, their
place in the file), the reader's enum cache maps every enum type to the document's labels, in order -/
theorem enums_layout (io : FloatIO F) (h1 : H1 io) (d : Doc F) (lay : Layout) (text : Str)
    (hd : docOK2 d = true) (hl : layoutOKW io d lay = true) (hr : renders io d lay = some text) :
    ∀ e ∈ d.enums, lookupLast (upper e.tyName) (enumCache (front text).enums) = some e.labels := by
  obtain ⟨he, het, _, _, _, _⟩ := docOK2_props d hd
  obtain ⟨infos, _, _, hfront⟩ := front_layW io h1 d lay text hd hl hr
  rw [hfront]
  exact (cache_lay d he het _ (layouts_ok hl).2).1

end WiderDomain

/-! ### `layoutOKW` and `layoutOKU` are inhabited, and strictly larger than `layoutOK2`

`layDoc` in a layout with CRLF line ends, a continuation split at a CRLF, lone CRs and CRLFs inside the
white space of the definitions, a comment inside a struct ended by CRLF, and SEVERAL DECLARATIONS ON ONE
LINE: `char b<3>;\r STATUS state;` (a lone CR is no line end in the bytes: one line there, two lines in
text mode; only `b` uses brackets) and `long n; char t[];` : outside `layoutOK2`, inside `layoutOKW` and
`layoutOKU`; the text differs from its universal-newline form. -/

def layLay2 : Layout :=
  { finalEol := true,
    slots := [
      .filler "#%yanny".toList true,
      .pair ⟨[], ⟨" ".toList, some ([], true, " ".toList)⟩, [], none, true⟩,
      .edef ⟨[], "\r".toList, [], "\r\n  ".toList, ["\r  ".toList], "\n".toList, " ".toList, [], [], none, true⟩,
      .sdef ⟨[], " ".toList, "\r\n".toList,
        [⟨"\r\n  # magnitudes\r\n  ".toList, " ".toList, true, false, false⟩,
         ⟨"\n ".toList, "\t".toList, false, true, false⟩,
         ⟨"\r ".toList, " ".toList, false, false, false⟩],
        "\r\n".toList, " ".toList, "Obs".toList, "\r".toList, " ".toList, some " def".toList, true⟩,
      .sdef ⟨[], " ".toList, " ".toList,
        [⟨" ".toList, " ".toList, false, false, false⟩, ⟨" ".toList, " ".toList, false, false, true⟩],
        " ".toList, [], "OBSLOG".toList, [], [], none, false⟩,
      .row 0 ⟨[], "obs".toList,
        [(⟨" ".toList, none⟩, .many [] .bare [(⟨" ".toList, some ([], true, " ".toList)⟩, .quoted)] []),
         (⟨" ".toList, none⟩, .one (.braced [])), (⟨" ".toList, none⟩, .one .bare)], [], some " first".toList, true⟩,
      .row 1 ⟨[], "obslog".toList, [(⟨" ".toList, none⟩, .one .bare), (⟨"\t".toList, none⟩, .one .quoted)], [], none, true⟩,
      .row 0 ⟨[], "OBS".toList,
        [(⟨" ".toList, none⟩, .many [] .bare [(⟨" ".toList, none⟩, .bare)] []),
         (⟨" ".toList, none⟩, .one .quoted), (⟨" ".toList, none⟩, .one .quoted)], [], none, false⟩,
      .pair ⟨[], ⟨"\t".toList, none⟩, [], none, true⟩] }

theorem layLay2_okW : layoutOKW intIO layDoc layLay2 = true := by decide +kernel

theorem layDoc_tokCr : tokCrOK intIO layDoc = true := by decide +kernel

theorem layLay2_okU : layoutOKU intIO layDoc layLay2 = true := by
  rw [layoutOKU, layLay2_okW, layDoc_tokCr, show layoutCrOK layLay2 = true by decide +kernel]
  rfl

set_option maxRecDepth 1000000 in
example : layoutOK2 intIO layDoc layLay2 = false := by
  -- the second struct definition has both declarations on one line
  rw [layoutOK2, show layLay2.slots.all slotNlOK = false by decide +kernel, Bool.and_false]
set_option maxRecDepth 1000000 in
example : layoutOKW intIO layDoc layLay2 = true := layLay2_okW
set_option maxRecDepth 1000000 in
example : layoutOKU intIO layDoc layLay2 = true := layLay2_okU
set_option maxRecDepth 1000000 in
example : (renders intIO layDoc layLay2).isSome = true := by decide +kernel
set_option maxRecDepth 1000000 in
example : (renders intIO layDoc layLay2).map univNl ≠ renders intIO layDoc layLay2 := by decide +kernel

set_option maxRecDepth 1000000 in
example : ∀ text, renders intIO layDoc layLay2 = some text →
    parseFile2 intIO text = .ok (canon layDoc) ∧ parseFile2 intIO (univNl text) = .ok (canon layDoc) :=
  fun text hr =>
    ⟨parseFile_layout_w intIO (fun _ x => parseInt_fmtInt x) layDoc layLay2 text layDoc_ok layLay2_okW hr,
     parseFile_layout_univNl intIO (fun _ x => parseInt_fmtInt x) layDoc layLay2 text layDoc_ok layLay2_okU hr⟩

/-- the sample of `layoutOK2` is also inside the text-mode domain -/
example : layoutOKU intIO layDoc layLay = true := by
  rw [layoutOKU, layoutOK2_sub intIO layDoc layLay layLay_ok, layDoc_tokCr,
    show layoutCrOK layLay = true by decide +kernel]
  rfl

/-- two bracketed declarations on one line stay outside the wider domain -/
example : declLineOK [] [⟨"a".toList, .i4, 2⟩, ⟨"t".toList, .S 8, 0⟩]
    [⟨" ".toList, " ".toList, false, false, false⟩, ⟨" ".toList, " ".toList, false, false, false⟩] = false := by decide
example : declLineOK [] [⟨"a".toList, .i4, 0⟩, ⟨"b".toList, .i4, 2⟩, ⟨"c".toList, .i4, 0⟩]
    [⟨" ".toList, " ".toList, false, false, false⟩, ⟨" ".toList, " ".toList, false, false, false⟩,
     ⟨" ".toList, " ".toList, false, false, false⟩] = true := by decide +kernel
/-- a lone CR inside a typedef comment is outside the text-mode domain, a CRLF ending it is inside -/
example : tdWsCrOK false "\n # a\rb\n ".toList = false := by decide +kernel
example : tdWsCrOK false "\r # ab\r\n\r ".toList = true := by decide +kernel

end PydlVerif.C02
