/-
C17: rejection, mask interpolation, sky masking and the running median act on exactly the intended pixels.
All statements are over an arbitrary linearly ordered field `K` (exact arithmetic).
-/
import PydlVerif.Lemmas.Reject
import PydlVerif.Lemmas.SkyMask
import PydlVerif.Lemmas.Maxrej
import PydlVerif.Lemmas.Interp
import PydlVerif.Lemmas.Damp
import PydlVerif.Lemmas.Median2
import Mathlib.Data.Rat.Floor
namespace PydlVerif.C17
open PydlVerif PydlVerif.Reject PydlVerif.Interp

-- the bound proofs of `bad[a]`, `y[b]`, … in the statements are closed by `omega`; core tries `simp +arith` first, which fails
-- slowly under Mathlib's simp set
local macro_rules | `(tactic| get_elem_tactic_extensible) => `(tactic| omega)

section field
variable {K : Type} [Field K] [LinearOrder K] [IsStrictOrderedRing K] [FloorRing K]
attribute [local instance] fieldScalar
attribute [-instance] Scalar.instOfNat Scalar.instOfScientific

theorem map_isZero_true (bad : List K) (j : Nat) (hj : j < bad.length) :
    (bad.map isZero)[j]? = some true ↔ bad[j] = 0 := by
  rw [List.getElem?_map, List.getElem?_eq_getElem hj, Option.map_some, Option.some.injEq, isZero_iff]

/-- the end of `djs_reject` from any working array (`newmask = badness == 0`, grow in the flattened array - repair
dc596bf -, `& inmask`, `& outmask` when sticky); `i`, `j` are flat C-order positions, the data of any shape -/
theorem finishMask_spec (o : Opts K) (px : List (Pix K)) (bad : List K) (hlen : bad.length = px.length) :
    (finishMask o px bad).1.length = px.length ∧
    ∀ i (hi : i < px.length), ((finishMask o px bad).1[i]? = some true ↔
      (Eligible o px[i] ∧
        ¬ ∃ j, ∃ hj : j < px.length, i ≤ j + o.grow ∧ j ≤ i + o.grow ∧ bad[j] ≠ 0)) := by
  refine ⟨finishMask_length o px bad hlen, fun i hi => ?_⟩
  unfold Eligible
  rw [finishMask_true o px bad i hi, growMask_true _ _ _ (by rw [List.length_map]; omega), List.length_map]
  constructor
  · rintro ⟨⟨hg, h1⟩, h2⟩
    refine ⟨⟨h1, h2⟩, fun ⟨j, hj, hj1, hj2, hb⟩ => hb ?_⟩
    exact (map_isZero_true bad j (by omega)).1 (hg j (by omega) hj1 hj2)
  · rintro ⟨⟨h1, h2⟩, hg⟩
    refine ⟨⟨fun j hj hj1 hj2 => (map_isZero_true bad j hj).2 ?_, h1⟩, h2⟩
    exact not_not.1 fun hb => hg ⟨j, by omega, hj1, hj2, hb⟩

/-- djs_reject, the output mask (1-D data, no `maxrej`).  Pixel `i` stays good exactly when it is not excluded by
`inmask`, nor - if `sticky` - by the previous `outmask`, and no pixel `j` within `grow` of it is newly rejected;
`j` is newly rejected when it is itself not excluded and its residual `d - m` is below `-lower*sigma`, above
`upper*sigma` (`(d-m)*sqrt(invvar)` against `-lower` / `upper` when `invvar` is given) or `|d - m| > maxdev`. -/
theorem reject_mask (sqrt : K → K) (o : Opts K) (px : List (Pix K))
    (hlo : ∀ lo, o.lower = some lo → 0 ≤ lo) (hup : ∀ up, o.upper = some up → 0 ≤ up)
    (hmd : ∀ md, o.maxdev = some md → 0 < md)
    (hs : ∀ p ∈ px, o.useSigma = true → 0 ≤ p.s) :
    (djsRejectPix sqrt o px).1.length = px.length ∧
    ∀ i (hi : i < px.length), ((djsRejectPix sqrt o px).1[i]? = some true ↔
      (Eligible o px[i] ∧
        ¬ ∃ j, ∃ hj : j < px.length, i ≤ j + o.grow ∧ j ≤ i + o.grow ∧ IsBad sqrt o px[j])) := by
  rw [← finishMask_badness]
  obtain ⟨hl, hm⟩ := finishMask_spec o px (px.map (badness sqrt o)) (List.length_map _)
  refine ⟨hl, fun i hi => (hm i hi).trans ?_⟩
  -- non-zero badness is `IsBad`
  refine and_congr_right' (not_congr (exists_congr fun j => exists_congr fun hj =>
    and_congr_right' (and_congr_right' ?_)))
  rw [List.getElem_map, Ne, ← isZero_iff,
    badness_zero_iff sqrt o px[j] hlo hup hmd (hs _ (List.getElem_mem hj)), not_not]

/-- the invvar tests are the sigma tests with `sigma = 1/sqrt(invvar)` wherever `sqrt(invvar) > 0` (`s` is `sqrt p.s`, `diff` is
`p.d - p.m`: the two shapes of `LowEx` / `UpEx`, `useSigma = false` on the left, `true` on the right) -/
theorem reject_invvar_units (diff lim s : K) (hs : 0 < s) :
    (diff * s < -lim ↔ diff < -(lim * (1 / s))) ∧ (diff * s > lim ↔ diff > lim * (1 / s)) := by
  constructor
  · rw [mul_one_div, ← neg_div, lt_div_iff₀ hs]
  · rw [mul_one_div, gt_iff_lt, gt_iff_lt, div_lt_iff₀ hs]

/-- `qdone` from any working array: true iff the returned mask equals the previous `outmask` -/
theorem qdone_iff_unchanged_full (o : Opts K) (px : List (Pix K)) (bad : List K) (hlen : bad.length = px.length) :
    (finishMask o px bad).2 = true ↔ (finishMask o px bad).1 = px.map (·.prev) :=
  zipWith_beq_all (fun p : Pix K => p.prev) _ px (finishMask_length o px bad hlen)

/-- `djs_reject` reports completion (`qdone`) exactly when the new mask equals the previous one -/
theorem qdone_iff_unchanged (sqrt : K → K) (o : Opts K) (px : List (Pix K)) :
    (djsRejectPix sqrt o px).2 = true ↔ (djsRejectPix sqrt o px).1 = px.map (·.prev) := by
  rw [← finishMask_badness]
  exact qdone_iff_unchanged_full o px _ (List.length_map _)

/-- djs_reject on data of any shape, `grow` included (`px` is the C-order flattening the code works on after repair
dc596bf): `reject_mask` holds with `i`, `j` flat positions - the neighbours of a rejected point are its neighbours in
the flattened array, as in the IDL original (`where` returns flat indices) -/
theorem reject_mask_nd (sqrt : K → K) (o : Opts K) (px : List (Pix K))
    (hlo : ∀ lo, o.lower = some lo → 0 ≤ lo) (hup : ∀ up, o.upper = some up → 0 ≤ up)
    (hmd : ∀ md, o.maxdev = some md → 0 < md)
    (hs : ∀ p ∈ px, o.useSigma = true → 0 ≤ p.s) :
    (finishMask o px (px.map (badness sqrt o))).1.length = px.length ∧
    ∀ i (hi : i < px.length), ((finishMask o px (px.map (badness sqrt o))).1[i]? = some true ↔
      (Eligible o px[i] ∧
        ¬ ∃ j, ∃ hj : j < px.length, i ≤ j + o.grow ∧ j ≤ i + o.grow ∧ IsBad sqrt o px[j])) := by
  rw [finishMask_badness]
  exact reject_mask sqrt o px hlo hup hmd hs

/-- without `maxrej` the options `groupdim`, `groupsize`, `groupbadpix` are inert (this is how `iterfit` and
`combine1fiber` call `djs_reject(..., groupbadpix=True)`; in the code the checks and the block that read them are
under `if maxrej is not None:`): any two settings of them, on data of any shape, return the same -/
theorem groupbadpix_without_maxrej (sqrt : K → K) (o : Opts K) (g g' : GroupOpts) (shape : List Nat)
    (data mdl s : List K) (hm : mdl.length = data.length) (hsl : s.length = data.length) :
    djsRejectFull sqrt o g shape data (some mdl) none none s =
      djsRejectFull sqrt o g' shape data (some mdl) none none s ∧
    ∃ px : List (Pix K), px.length = data.length ∧
      djsRejectFull sqrt o g shape data (some mdl) none none s =
        .ok (finishMask { o with hasIn := false } px (px.map (badness sqrt { o with hasIn := false }))) := by
  refine ⟨rfl, ?_⟩
  rw [djsRejectFull, djsReject_model, if_pos ⟨fun _ h => (nomatch h), hm, fun _ h => (nomatch h), hsl⟩,
    ← finishMask_badness]
  exact ⟨_, by rw [List.length_map, List.length_range], rfl⟩

/-- the hypotheses of `reject_mask` are satisfiable by a pixel that is rejected:
`data = 5`, `model = 0`, `sigma = 1`, `upper = 3` -/
example : ∃ (o : Opts ℚ) (p : Pix ℚ), (∀ lo, o.lower = some lo → 0 ≤ lo) ∧
    (∀ up, o.upper = some up → 0 ≤ up) ∧ (∀ md, o.maxdev = some md → 0 < md) ∧
    (o.useSigma = true → 0 ≤ p.s) ∧ IsBad (fun x => x) o p := by
  refine ⟨⟨true, none, some 3, none, false, false, 1⟩, ⟨5, 0, 1, true, true⟩, ?_, ?_, ?_, ?_, ?_⟩
  · intro lo h; cases h
  · intro up h; cases h; norm_num
  · intro md h; cases h
  · intro _; norm_num
  · refine ⟨⟨fun h => Bool.noConfusion h, fun h => Bool.noConfusion h⟩, Or.inr (Or.inl ⟨3, rfl, ?_⟩)⟩
    show (5 : ℚ) - 0 > 3 * 1
    norm_num

section
-- the `Except` monad of the models, unfolded by every `simp` below
attribute [local simp] bind Except.bind pure Except.pure throw throwThe MonadExceptOf.throw

/-- djs_reject, the calls that do not reach the rejection rule: an argument of another size raises ValueError;
`model=None` returns `(inmask or the previous outmask or all ones, qdone=False)` -/
theorem reject_refusals (sqrt : K → K) (o : Opts K) (data : List K) (model : Option (List K))
    (outmask inmask : Option (List Bool)) (s : List K) :
    (∀ om, outmask = some om → om.length ≠ data.length →
      djsReject sqrt o data model outmask inmask s = .error "ValueError") ∧
    ((∀ om, outmask = some om → om.length = data.length) → model = none →
      djsReject sqrt o data model outmask inmask s =
        .ok ((match inmask with
              | some im => im
              | none => (match outmask with | some om => om | none => List.replicate data.length true)), false)) ∧
    ((∀ om, outmask = some om → om.length = data.length) → ∀ mdl, model = some mdl →
      (mdl.length ≠ data.length ∨ (∃ im, inmask = some im ∧ im.length ≠ data.length) ∨ s.length ≠ data.length) →
      djsReject sqrt o data model outmask inmask s = .error "ValueError") := by
  refine ⟨?_, ?_, ?_⟩
  · intro om ho hne
    subst ho
    simp [djsReject, hne]
  · intro ho hm
    subst hm
    cases outmask with
    | none => cases inmask <;> simp [djsReject]
    | some om => cases inmask <;> simp [djsReject, ho om rfl]
  · rintro ho mdl rfl hbad
    rw [djsReject_model, if_neg]
    rintro ⟨_, h1, h2, h3⟩
    rcases hbad with h | ⟨im, rfl, h⟩ | h
    · exact h h1
    · exact h (h2 im rfl)
    · exact h h3

/-- the option checks of djs_reject, lines 286-296 (the TypeErrors are `len()` of a scalar; `groupsize` defaults to
`len(data)`) -/
theorem maxrej_checks_clauses (shape : List Nat) (b : Bool) :
    (∀ v n rest, shape = n :: rest → maxrejChecks ⟨.scalar v, none, none, b⟩ shape = .ok ([], .scalar n)) ∧
    (∀ v d gs, maxrejChecks ⟨.scalar v, some d, gs, b⟩ shape = .error "TypeError") ∧
    (∀ v sz, maxrejChecks ⟨.scalar v, none, some sz, b⟩ shape = .error "TypeError") ∧
    (∀ mr v gs, maxrejChecks ⟨.seq mr, some (.scalar v), gs, b⟩ shape = .error "TypeError") ∧
    (∀ mr gd gs, mr.length ≠ gd.length → maxrejChecks ⟨.seq mr, some (.seq gd), gs, b⟩ shape = .error "ValueError") ∧
    (∀ mr gd n rest, shape = n :: rest → mr.length = gd.length →
        maxrejChecks ⟨.seq mr, some (.seq gd), none, b⟩ shape = .ok (gd, .scalar n)) ∧
    (∀ mr gd sz, mr.length = gd.length → mr.length = sz.length →
        maxrejChecks ⟨.seq mr, some (.seq gd), some (.seq sz), b⟩ shape = .ok (gd, .seq sz)) ∧
    (∀ mr sz, mr.length = sz.length → maxrejChecks ⟨.seq mr, none, some (.seq sz), b⟩ shape = .ok ([], .seq sz)) ∧
    (∀ mr sz, mr.length ≠ sz.length → maxrejChecks ⟨.seq mr, none, some (.seq sz), b⟩ shape = .error "ValueError") := by
  refine ⟨?_, ?_, ?_, ?_, ?_, ?_, ?_, ?_, ?_⟩
  · rintro v n rest rfl; rfl
  · intro v d gs; rfl
  · intro v sz; rfl
  · intro mr v gs; rfl
  · intro mr gd gs h
    simp [maxrejChecks, pyLen, h]
  · rintro mr gd n rest rfl h
    simp [maxrejChecks, pyLen, h]
  · intro mr gd sz h1 h2
    simp [maxrejChecks, pyLen, h1, ← h2]
  · intro mr sz h
    simp [maxrejChecks, pyLen, h]
  · intro mr sz h
    simp [maxrejChecks, pyLen, h]

end

/-! ## djs_reject called WITH `maxrej`

The property statement does not cover `maxrej`.  The theorems say what the block of the repository code guarantees:
it NEVER limits the number of rejected points - a call with `maxrej` raises or returns exactly what the call without it
returns. -/

theorem djsRejectMaxrej_ok (sqrt : K → K) (body : Nat → List Nat → Nat → List K → Except String (List K))
    (o : Opts K) (g : MaxrejOpts) (shape : List Nat) (data mdl : List K)
    (outmask inmask : Option (List Bool)) (s : List K) (r : List Bool × Bool)
    (h : djsRejectMaxrej sqrt body o g shape data (some mdl) outmask inmask s = .ok r) :
    ∃ (px : List (Pix K)) (gg : List Int × PyArg) (b : List K), px.length = data.length ∧
      maxrejChecks g shape = .ok gg ∧
      maxrejBlock body gg.1 shape (px.map (badness sqrt { o with hasIn := inmask.isSome })) = .ok b ∧
      r = finishMask { o with hasIn := inmask.isSome } px b ∧
      djsReject sqrt o data (some mdl) outmask inmask s =
        .ok (djsRejectPix sqrt { o with hasIn := inmask.isSome } px) := by
  have hl : ∀ f : Nat → Pix K, ((List.range data.length).map f).length = data.length := fun f => by
    rw [List.length_map, List.length_range]
  -- `bind` stays folded: `bind_eq_ok_iff` and `ite_error_ok` turn the do-block into the list of passed checks
  rcases outmask with _ | om <;> rcases inmask with _ | im <;>
    simp only [djsRejectMaxrej, djsReject, bind, pure, Except.pure, throw, throwThe,
      MonadExceptOf.throw, Except.bind.eq_1, Except.bind.eq_2, bind_eq_ok_iff, ite_error_ok] at h ⊢
  · obtain ⟨hm, gg, hgg, hs, b, hb, hr⟩ := h
    exact ⟨_, gg, b, hl _, hgg, hb, (Except.ok.inj hr).symm, hm, hs, rfl⟩
  · obtain ⟨hm, hi, gg, hgg, hs, b, hb, hr⟩ := h
    exact ⟨_, gg, b, hl _, hgg, hb, (Except.ok.inj hr).symm, hm, hi, hs, rfl⟩
  · obtain ⟨ho, hm, gg, hgg, hs, b, hb, hr⟩ := h
    exact ⟨_, gg, b, hl _, hgg, hb, (Except.ok.inj hr).symm, ho, hm, hs, rfl⟩
  · obtain ⟨ho, hm, hi, gg, hgg, hs, b, hb, hr⟩ := h
    exact ⟨_, gg, b, hl _, hgg, hb, (Except.ok.inj hr).symm, ho, hm, hi, hs, rfl⟩

/-- a call with `maxrej` that returns, returns the result of the call without `maxrej` - for every loop body
(lines 380-427 are never executed), every setting of the options, every shape, every input.
In particular "at most `maxrej` points are newly rejected" does NOT hold for the repository code. -/
theorem maxrej_never_limits (sqrt : K → K) (body : Nat → List Nat → Nat → List K → Except String (List K))
    (o : Opts K) (g : MaxrejOpts) (G : GroupOpts) (shape : List Nat) (data : List K) (model : Option (List K))
    (outmask inmask : Option (List Bool)) (s : List K) (r : List Bool × Bool)
    (h : djsRejectMaxrej sqrt body o g shape data model outmask inmask s = .ok r) :
    djsRejectFull sqrt o G shape data model outmask inmask s = .ok r := by
  cases model with
  | none => exact h
  | some mdl =>
    obtain ⟨px, gg, b, _, _, hb, rfl, hr⟩ := djsRejectMaxrej_ok sqrt body o g shape data mdl outmask inmask s r h
    rw [maxrejBlock_ok _ _ _ _ _ hb, finishMask_badness]
    exact hr

/-- every call with `maxrej` that returns, returns the end of the routine applied to the UNLIMITED working array of the
flattened data: the theorems about the call without `maxrej` apply to it as they are -/
theorem maxrej_ok_is_rule (sqrt : K → K) (body : Nat → List Nat → Nat → List K → Except String (List K))
    (o : Opts K) (g : MaxrejOpts) (shape : List Nat) (data mdl : List K)
    (outmask inmask : Option (List Bool)) (s : List K) (r : List Bool × Bool)
    (h : djsRejectMaxrej sqrt body o g shape data (some mdl) outmask inmask s = .ok r) :
    ∃ px : List (Pix K), px.length = data.length ∧
      r = finishMask { o with hasIn := inmask.isSome } px (px.map (badness sqrt { o with hasIn := inmask.isSome })) := by
  obtain ⟨px, gg, b, hl, _, hb, rfl, _⟩ := djsRejectMaxrej_ok sqrt body o g shape data mdl outmask inmask s r h
  exact ⟨px, hl, by rw [maxrejBlock_ok _ _ _ _ _ hb]⟩

/-- when the option checks pass and the block is skipped, the call with `maxrej` IS the call without it
(equality of results including the refusals) -/
theorem maxrej_ignored_when_skipped (sqrt : K → K) (body : Nat → List Nat → Nat → List K → Except String (List K))
    (o : Opts K) (g : MaxrejOpts) (G : GroupOpts) (shape : List Nat) (data : List K) (model : Option (List K))
    (outmask inmask : Option (List Bool)) (s : List K) (gg : List Int × PyArg)
    (hc : maxrejChecks g shape = .ok gg) (hb : ∀ bad : List K, maxrejBlock body gg.1 shape bad = .ok bad) :
    djsRejectMaxrej sqrt body o g shape data model outmask inmask s =
      djsRejectFull sqrt o G shape data model outmask inmask s := by
  rcases outmask with _ | om <;> rcases model with _ | mdl <;> rcases inmask with _ | im <;>
    simp only [djsRejectMaxrej, djsRejectFull, djsReject, bind, Except.bind, pure, Except.pure, throw, throwThe,
      MonadExceptOf.throw, hc, hb, finishMask_badness]

/-- 1-D data (not empty): `maxrej` is ignored whenever the option checks pass and no `groupdim` entry exceeds 1 -/
theorem maxrej_1d_ignored (sqrt : K → K) (body : Nat → List Nat → Nat → List K → Except String (List K))
    (o : Opts K) (g : MaxrejOpts) (G : GroupOpts) (data : List K) (model : Option (List K))
    (outmask inmask : Option (List Bool)) (s : List K) (gg : List Int × PyArg) (hne : data ≠ [])
    (hc : maxrejChecks g [data.length] = .ok gg) (hgd : ∀ x ∈ gg.1, x ≤ 1) :
    djsRejectMaxrej sqrt body o g [data.length] data model outmask inmask s =
      djsReject sqrt o data model outmask inmask s :=
  maxrej_ignored_when_skipped sqrt body o g G [data.length] data model outmask inmask s gg hc
    (fun bad => maxrejBlock_1d body gg.1 data.length (by simpa using hne) hgd bad)

/-- without `groupdim` `maxrej` is ignored for data of every shape (`dimnum = [0]`, `range(0)`) -/
theorem maxrej_nogroupdim_ignored (sqrt : K → K) (body : Nat → List Nat → Nat → List K → Except String (List K))
    (o : Opts K) (g : MaxrejOpts) (G : GroupOpts) (shape : List Nat) (data : List K) (model : Option (List K))
    (outmask inmask : Option (List Bool)) (s : List K) (gs : PyArg)
    (hc : maxrejChecks g shape = .ok ([], gs)) :
    djsRejectMaxrej sqrt body o g shape data model outmask inmask s =
      djsRejectFull sqrt o G shape data model outmask inmask s :=
  maxrej_ignored_when_skipped sqrt body o g G shape data model outmask inmask s ([], gs) hc
    (fun bad => maxrejBlock_nogroupdim body shape bad)

/-- data with two or more dimensions and a non-empty `groupdim`: the call always raises (a check in front, or
Python's `max` / `range` on the N-D `dimnum`) -/
theorem maxrej_nd_groupdim_raises (sqrt : K → K) (body : Nat → List Nat → Nat → List K → Except String (List K))
    (o : Opts K) (g : MaxrejOpts) (shape : List Nat) (data mdl : List K)
    (outmask inmask : Option (List Bool)) (s : List K) (gg : List Int × PyArg)
    (hc : maxrejChecks g shape = .ok gg) (hgd : gg.1 ≠ []) (hs : 2 ≤ shape.length) :
    ∃ e, djsRejectMaxrej sqrt body o g shape data (some mdl) outmask inmask s = .error e := by
  cases h : djsRejectMaxrej sqrt body o g shape data (some mdl) outmask inmask s with
  | error e => exact ⟨e, rfl⟩
  | ok r =>
    obtain ⟨px, gg', b, _, hc', hb, _⟩ := djsRejectMaxrej_ok sqrt body o g shape data mdl outmask inmask s r h
    obtain ⟨e, he⟩ := maxrejBlock_nd_raises body gg.1 shape hs hgd
      (px.map (badness sqrt { o with hasIn := inmask.isSome }))
    rw [hc] at hc'
    cases hc'
    rw [he] at hb
    cases hb

/-- `groupbadpix`: the group starts `(-1*np.diff(np.insert(badness == 0, 0, 1)) == 1).nonzero()` are empty for every
working array (numpy's `diff` of booleans is `!=`, `-1*bool` is never `1`) -/
theorem groupbadpix_no_groups (bad : List K) : groupsLower bad = [] := by
  unfold groupsLower
  simp only
  apply List.filter_eq_nil_iff.2
  intro i _
  split <;> decide

/-- pixel `j` of the row carries BADSKYCHI (bit 27) or REDMONSTER (bit 28) in `ormask` -/
def FlaggedAt (ormask : Option (List Int)) (j : Nat) : Prop :=
  ∃ om m, ormask = some om ∧ om[j]? = some m ∧ flagged m = true

theorem skyBad_spec (ormask : Option (List Int)) (n g : Nat)
    (hlen : ∀ om, ormask = some om → om.length = n) (i : Nat) (hi : i < n) :
    ((∃ j, i ≤ j + g ∧ j ≤ i + g ∧ FlaggedAt ormask j) → (skyBad ormask n g)[i]? = some 1) ∧
    ((¬ ∃ j, i ≤ j + g ∧ j ≤ i + g ∧ FlaggedAt ormask j) → (skyBad ormask n g)[i]? = some 0) := by
  obtain ⟨b, hb, hbl, hb01, hbf⟩ : ∃ b : List Int, b = skyBad0 ormask n ∧
      b.length = n ∧ (∀ x ∈ b, x = 0 ∨ x = 1) ∧ (∀ j : Nat, b[j]? = some 1 ↔ FlaggedAt ormask j) := by
    cases ormask with
    | none =>
      exact ⟨_, rfl, List.length_replicate, fun x hx => Or.inl (List.mem_replicate.1 hx).2,
        fun j => by simp [skyBad0, FlaggedAt, List.getElem?_replicate]⟩
    | some om =>
      refine ⟨_, rfl, by rw [skyBad0, List.length_map, hlen om rfl], fun x hx => ?_,
        fun j => by simp [skyBad0, FlaggedAt]⟩
      obtain ⟨m, _, rfl⟩ := List.mem_map.1 hx
      split <;> simp
  unfold skyBad
  rw [← hb]
  have hib : i < b.length := by omega
  by_cases hg : g > 0
  · rw [if_pos hg]
    obtain ⟨v, hv, hiff⟩ := smoothInt_dilate b hb01 g hg i hib
    rw [List.getElem?_map, hv]
    simp only [Option.map_some, hbf] at hiff ⊢
    constructor
    · intro h; rw [if_pos (hiff.2 h)]
    · intro h; rw [if_neg (fun hp => h (hiff.1 hp))]
  · rw [if_neg hg]
    have hg0 : g = 0 := by omega
    subst hg0
    constructor
    · rintro ⟨j, h1, h2, hf⟩
      have : j = i := by omega
      subst this
      exact (hbf j).2 hf
    · intro h
      have hne : b[i]? ≠ some 1 := fun hc => h ⟨i, by omega, by omega, (hbf i).1 hc⟩
      rw [List.getElem?_eq_getElem hib] at hne ⊢
      rcases hb01 b[i] (List.getElem_mem hib) with h0 | h1
      · rw [h0]
      · rw [h1] at hne; exact absurd rfl hne

/-- skymask: within one row the inverse variance is set to zero exactly at the pixels that
lie within `ngrow` of a pixel flagged BADSKYCHI or REDMONSTER; every other pixel is unchanged.
(`ormask = none`: nothing is flagged.) -/
theorem skymask_dilate (invvar : List K) (ormask : Option (List Int)) (g : Nat)
    (hlen : ∀ om, ormask = some om → om.length = invvar.length) (i : Nat) (hi : i < invvar.length) :
    ((∃ j, i ≤ j + g ∧ j ≤ i + g ∧ FlaggedAt ormask j) →
        (skymaskRow invvar ormask g)[i]? = some 0) ∧
    ((¬ ∃ j, i ≤ j + g ∧ j ≤ i + g ∧ FlaggedAt ormask j) →
        (skymaskRow invvar ormask g)[i]? = some invvar[i]) := by
  obtain ⟨h1, h0⟩ := skyBad_spec ormask invvar.length g hlen i hi
  unfold skymaskRow
  rw [List.getElem?_zipWith, List.getElem?_eq_getElem hi]
  constructor
  · intro h; rw [h1 h]; simp
  · intro h; rw [h0 h]; simp

/-- bit 27 is recognised, also in a negative (sign-extended) value; other bits are not -/
example : flagged (2 ^ 27) = true ∧ flagged (-1) = true ∧ flagged (2 ^ 26 + 2 ^ 29) = false := by decide

theorem skymaskRow_length (invvar : List K) (ormask : Option (List Int)) (g : Nat)
    (hlen : ∀ om, ormask = some om → om.length = invvar.length) :
    (skymaskRow invvar ormask g).length = invvar.length := by
  apply Nat.le_antisymm
  · rw [skymaskRow, List.length_zipWith]
    exact Nat.min_le_left _ _
  · -- a shorter result would have no entry at its own length, but `skymask_dilate` gives one
    by_contra hlt
    obtain ⟨h1, h0⟩ := skymask_dilate invvar ormask g hlen _ (Nat.lt_of_not_le hlt)
    obtain ⟨v, hv⟩ : ∃ v, (skymaskRow invvar ormask g)[(skymaskRow invvar ormask g).length]? = some v :=
      (Classical.em _).elim (fun h => ⟨_, h1 h⟩) (fun h => ⟨_, h0 h⟩)
    rw [List.getElem?_eq_none (Nat.le_refl _)] at hv
    cases hv

/-- skymask on the whole image: for a 2-D `invvar` (`ormask` of the same shape or `None`) and EVERY `ngrow` (zero and
negative values mean no dilation), `skymask_dilate` holds in every row - rows do not leak into each other.  An array
that is not 2-D is refused (ValueError). -/
theorem skymask_image (shape : List Nat) (invvar : List (List K)) (ormask : Option (List (List Int))) (ngrow : Int) :
    (shape.length ≠ 2 → skymaskImage shape invvar ormask ngrow = .error "ValueError") ∧
    (shape.length = 2 →
      (∀ oms, ormask = some oms → oms.length = invvar.length ∧
        ∀ r (hr : r < invvar.length) (hr' : r < oms.length), oms[r].length = invvar[r].length) →
      ∃ out, skymaskImage shape invvar ormask ngrow = .ok out ∧ out.length = invvar.length ∧
        ∀ r (hr : r < invvar.length), ∃ row, out[r]? = some row ∧ row.length = invvar[r].length ∧
          ∀ i (hi : i < invvar[r].length),
            ((∃ j, i ≤ j + ngrow.toNat ∧ j ≤ i + ngrow.toNat ∧ FlaggedAt (ormask.map (fun oms => oms.getD r [])) j) →
              row[i]? = some 0) ∧
            ((¬ ∃ j, i ≤ j + ngrow.toNat ∧ j ≤ i + ngrow.toNat ∧ FlaggedAt (ormask.map (fun oms => oms.getD r [])) j) →
              row[i]? = some invvar[r][i])) := by
  constructor
  · intro h
    simp [skymaskImage, h, throw, throwThe, MonadExceptOf.throw]
  · intro h hlen
    refine ⟨skymaskRows invvar ormask ngrow, by simp [skymaskImage, h, pure, Except.pure], ?_, ?_⟩
    · cases ormask with
      | none => simp [skymaskRows]
      | some oms => simp [skymaskRows, List.length_zipWith, (hlen oms rfl).1]
    · intro r hr
      have hrow : (skymaskRows invvar ormask ngrow)[r]? =
            some (skymaskRow invvar[r] (ormask.map fun oms => oms.getD r []) ngrow.toNat) ∧
          ∀ om, (ormask.map fun oms => oms.getD r []) = some om → om.length = invvar[r].length := by
        cases ormask with
        | none => exact ⟨by simp [skymaskRows, List.getElem?_eq_getElem hr], fun om h => nomatch h⟩
        | some oms =>
          obtain ⟨h1, h2⟩ := hlen oms rfl
          have hr' : r < oms.length := by omega
          have e : (some oms).map (fun oms => oms.getD r []) = some oms[r] := by
            rw [Option.map_some, getD_lt _ _ r hr']
          rw [e]
          refine ⟨?_, fun om h => by cases h; exact h2 r hr hr'⟩
          simp [skymaskRows, List.getElem?_zipWith, List.getElem?_eq_getElem hr, List.getElem?_eq_getElem hr']
      exact ⟨_, hrow.1, skymaskRow_length _ _ _ hrow.2, skymask_dilate _ _ _ hrow.2⟩

theorem ptsIdx_length (y : List K) (bad : List Bool) : (ptsIdx y bad).length = y.length := by
  simp [ptsIdx]

theorem ptsIdx_get (y : List K) (bad : List Bool) (hlen : bad.length = y.length) (i : Nat)
    (hi : i < (ptsIdx y bad).length) :
    (ptsIdx y bad)[i] = ⟨(i : K), y[i]'(by rw [ptsIdx_length] at hi; exact hi),
      bad[i]'(by rw [ptsIdx_length] at hi; omega)⟩ := by
  rw [ptsIdx_length] at hi
  simp only [ptsIdx, List.getElem_map, List.getElem_range, scalar_ofNat, scalar_lit, Nat.cast_zero,
    getD_lt y _ i hi, getD_lt bad _ i (show i < bad.length by omega)]

theorem ptsIdx_sorted (y : List K) (bad : List Bool) (hlen : bad.length = y.length) :
    Sorted (ptsIdx y bad) := by
  intro k l hkl hl
  rw [ptsIdx_get y bad hlen, ptsIdx_get y bad hlen]
  exact Nat.cast_lt.2 hkl

/-- only masked samples change (`djs_maskinterp1`, index mode, any `const`) -/
theorem maskinterp_only_masked (y : List K) (bad : List Bool) (const : Bool)
    (hlen : bad.length = y.length) (i : Nat) (hi : i < y.length) (g : bad[i] = false) :
    (maskinterp1 y bad const)[i]? = some y[i] := by
  have := core_only_masked (ptsIdx y bad) const i (by rw [ptsIdx_length]; exact hi)
  simp only [ptsIdx_get y bad hlen] at this
  exact this g

/-- linear interpolation between the nearest unmasked neighbours `a < i < b` (index mode) -/
theorem maskinterp_linear (y : List K) (bad : List Bool) (const : Bool) (hlen : bad.length = y.length)
    (a i b : Nat) (hai : a < i) (hib : i < b) (hb : b < y.length) (ga : bad[a] = false)
    (gb : bad[b] = false) (hmid : ∀ k (_ : a < k) (_ : k < b), bad[k] = true) :
    (maskinterp1 y bad const)[i]? =
      some ((y[b] - y[a]) / ((b : K) - (a : K)) * ((i : K) - (a : K)) + y[a]) := by
  have := core_linear (ptsIdx y bad) (ptsIdx_sorted y bad hlen) const a i b hai hib
    (by rw [ptsIdx_length]; exact hb)
  simp only [ptsIdx_get y bad hlen] at this
  exact this ga gb hmid

/-- end values are held constant: masked samples before the first (after the last) unmasked one
take its value, with or without `const` -/
theorem ends_constant (y : List K) (bad : List Bool) (const : Bool) (hlen : bad.length = y.length) :
    (∀ a (ha : a < y.length), bad[a] = false → (∀ k (_ : k < a), bad[k] = true) →
      ∀ i, i < a → (maskinterp1 y bad const)[i]? = some y[a]) ∧
    (∀ b (hb : b < y.length), bad[b] = false → (∀ k (_ : b < k) (_ : k < y.length), bad[k] = true) →
      ∀ i, b < i → i < y.length → (maskinterp1 y bad const)[i]? = some y[b]) := by
  have hl := ptsIdx_length y bad
  have h1 := core_left_end (ptsIdx y bad) (ptsIdx_sorted y bad hlen) const
  have h2 := core_right_end (ptsIdx y bad) (ptsIdx_sorted y bad hlen) const
  simp only [ptsIdx_get y bad hlen, hl] at h1 h2
  exact ⟨fun a ha ga hpre i hi => h1 a ha ga hpre i hi, fun b hb gb hpost i hbi hi => h2 b hb gb hpost i hbi hi⟩

/-- a single unmasked sample: its value is returned everywhere -/
theorem single_good (y : List K) (bad : List Bool) (const : Bool) (hlen : bad.length = y.length)
    (a : Nat) (ha : a < y.length) (ga : bad[a] = false)
    (honly : ∀ k (_ : k < y.length), k ≠ a → bad[k] = true) (i : Nat) (hi : i < y.length) :
    (maskinterp1 y bad const)[i]? = some y[a] := by
  have := core_single_good (ptsIdx y bad) const a (by rw [ptsIdx_length]; exact ha)
  simp only [ptsIdx_get y bad hlen, ptsIdx_length] at this
  exact this ga honly i hi

/-- the hypotheses of `maskinterp_linear`: `y = [1, _, _, 7]`, samples 1 and 2 masked -/
example : ∃ v, (maskinterp1 ([1, 100, 100, 7] : List ℚ) [false, true, true, false] false)[1]? = some v :=
  ⟨_, maskinterp_linear ([1, 100, 100, 7] : List ℚ) [false, true, true, false] false rfl 0 1 3
    (by omega) (by omega) (by decide) rfl rfl
    (by intro k h1 h2; have : k = 1 ∨ k = 2 := by omega
        rcases this with rfl | rfl <;> rfl)⟩

/-- the values under the mask do not matter, as long as one sample is unmasked (with none the input is returned
unchanged) -/
theorem independent_of_masked_values (y y' : List K) (bad : List Bool) (const : Bool)
    (hl : bad.length = y.length) (hl' : y'.length = y.length)
    (hsame : ∀ i (hi : i < y.length), bad[i] = false → y[i] = y'[i])
    (hgood : ∃ i, ∃ hi : i < y.length, bad[i] = false) :
    maskinterp1 y bad const = maskinterp1 y' bad const := by
  obtain ⟨g, hg, hgb⟩ := hgood
  simp only [maskinterp1, ptsIdx, scalar_lit, Nat.cast_zero, hl']
  refine core_indep _ y y' bad _ const (fun k hk hb => ?_)
    ⟨g, List.mem_range.2 hg, by rw [getD_lt bad _ g (by omega)]; exact hgb⟩
  have hk := List.mem_range.1 hk
  rw [getD_lt bad _ k (by omega)] at hb
  rw [getD_lt y _ k hk, getD_lt y' _ k (by omega)]
  exact hsame k hk hb

/-- no unmasked sample at all: the input is returned unchanged (index mode, any `const`) -/
theorem maskinterp_all_masked (y : List K) (bad : List Bool) (const : Bool) (hlen : bad.length = y.length)
    (hall : ∀ i (hi : i < y.length), bad[i] = true) : maskinterp1 y bad const = y := by
  have hmap : (ptsIdx y bad).map (·.y) = y := by
    apply List.ext_getElem
    · simp [ptsIdx_length]
    · intro i h1 h2
      rw [List.getElem_map, ptsIdx_get y bad hlen]
  have hb : ∀ p ∈ ptsIdx y bad, p.bad = true := by
    intro p hp
    obtain ⟨k, hk, rfl⟩ := List.getElem_of_mem hp
    rw [ptsIdx_get y bad hlen]
    exact hall k (by rw [ptsIdx_length] at hk; exact hk)
  rw [maskinterp1, interpCore_none _ const hb, hmap]

/-- x mode: `djs_maskinterp1(yval, mask, xval)` works on the samples in the order
`ii = xval.argsort()` and writes the results back through `ii`: the output at `ii[p]` is the
`p`-th value of the interpolation over the sorted samples.  (`ii` without repetition, entries `< n`.) -/
theorem maskinterp_x_writeback (y : List K) (bad : List Bool) (x : List K) (ii : List Nat) (const : Bool)
    (hnd : ii.Nodup) (hlt : ∀ k ∈ ii, k < y.length) (p : Nat) (hp : p < ii.length) :
    (maskinterp1X y bad x ii const)[ii[p]]? = (interpCore (ptsX y bad x ii) const)[p]? := by
  have hk := hlt _ (List.getElem_mem hp)
  have hlen : (interpCore (ptsX y bad x ii) const).length = ii.length := by
    rw [interpCore_length]; simp [ptsX]
  unfold maskinterp1X
  simp only
  rw [List.getElem?_map, List.getElem?_range hk, Option.map_some, hnd.idxOf_getElem p hp,
    List.getD_eq_getElem?_getD, List.getElem?_eq_getElem (by omega)]
  rfl

/-- x mode: with the samples `ptsX y bad x ii` in increasing-x order (contract of argsort: `Sorted`), a masked sample
at sorted position `p` between the nearest unmasked positions `a < p < b` becomes the linear interpolation in `x`;
the unmasked samples are unchanged -/
theorem maskinterp_x_linear (y : List K) (bad : List Bool) (x : List K) (ii : List Nat) (const : Bool)
    (hnd : ii.Nodup) (hlt : ∀ k ∈ ii, k < y.length) (hs : Sorted (ptsX y bad x ii))
    (a p b : Nat) (hap : a < p) (hpb : p < b) (hb : b < (ptsX y bad x ii).length)
    (ga : ((ptsX y bad x ii)[a]'(by omega)).bad = false) (gb : (ptsX y bad x ii)[b].bad = false)
    (hmid : ∀ k (_ : a < k) (h2 : k < b), ((ptsX y bad x ii)[k]'(by omega)).bad = true) :
    (maskinterp1X y bad x ii const)[ii[p]'(by simp [ptsX] at hb; omega)]? =
      some (((ptsX y bad x ii)[b].y - ((ptsX y bad x ii)[a]'(by omega)).y) /
        ((ptsX y bad x ii)[b].x - ((ptsX y bad x ii)[a]'(by omega)).x) *
        (((ptsX y bad x ii)[p]'(by omega)).x - ((ptsX y bad x ii)[a]'(by omega)).x) +
        ((ptsX y bad x ii)[a]'(by omega)).y) ∧
    (∀ q (hq : q < ii.length), ((ptsX y bad x ii)[q]'(by simp [ptsX]; exact hq)).bad = false →
      (maskinterp1X y bad x ii const)[ii[q]]? = some ((ptsX y bad x ii)[q]'(by simp [ptsX]; exact hq)).y) := by
  have hl : (ptsX y bad x ii).length = ii.length := by simp [ptsX]
  constructor
  · rw [maskinterp_x_writeback y bad x ii const hnd hlt p (by omega)]
    exact core_linear _ hs const a p b hap hpb hb ga gb hmid
  · intro q hq hg
    rw [maskinterp_x_writeback y bad x ii const hnd hlt q hq]
    exact core_only_masked _ const q (by omega) hg

/-- x mode, end values are held constant: `ends_constant` in increasing-x order, read through the write-back `ii` -/
theorem ends_constant_x (y : List K) (bad : List Bool) (x : List K) (ii : List Nat) (const : Bool)
    (hnd : ii.Nodup) (hlt : ∀ k ∈ ii, k < y.length) (hs : Sorted (ptsX y bad x ii)) :
    (∀ a (ha : a < (ptsX y bad x ii).length), (ptsX y bad x ii)[a].bad = false →
      (∀ k (hk : k < a), ((ptsX y bad x ii)[k]'(by omega)).bad = true) →
      ∀ p (hp : p < a), (maskinterp1X y bad x ii const)[ii[p]'(by simp [ptsX] at ha; omega)]? =
        some (ptsX y bad x ii)[a].y) ∧
    (∀ b (hb : b < (ptsX y bad x ii).length), (ptsX y bad x ii)[b].bad = false →
      (∀ k (_ : b < k) (hk : k < (ptsX y bad x ii).length), (ptsX y bad x ii)[k].bad = true) →
      ∀ p (_ : b < p) (hp : p < ii.length), (maskinterp1X y bad x ii const)[ii[p]]? =
        some (ptsX y bad x ii)[b].y) := by
  have hl : (ptsX y bad x ii).length = ii.length := by simp [ptsX]
  constructor
  · intro a ha ga hpre p hp
    rw [maskinterp_x_writeback y bad x ii const hnd hlt p (by omega)]
    exact core_left_end _ hs const a ha ga hpre p hp
  · intro b hb gb hpost p hbp hp
    rw [maskinterp_x_writeback y bad x ii const hnd hlt p hp]
    exact core_right_end _ hs const b hb gb hpost p hbp (by omega)

/-- x mode, a single unmasked sample: its value is returned at every sample -/
theorem single_good_x (y : List K) (bad : List Bool) (x : List K) (ii : List Nat) (const : Bool)
    (hnd : ii.Nodup) (hlt : ∀ k ∈ ii, k < y.length)
    (a : Nat) (ha : a < (ptsX y bad x ii).length) (ga : (ptsX y bad x ii)[a].bad = false)
    (honly : ∀ k (hk : k < (ptsX y bad x ii).length), k ≠ a → (ptsX y bad x ii)[k].bad = true)
    (p : Nat) (hp : p < ii.length) :
    (maskinterp1X y bad x ii const)[ii[p]]? = some (ptsX y bad x ii)[a].y := by
  have hl : (ptsX y bad x ii).length = ii.length := by simp [ptsX]
  rw [maskinterp_x_writeback y bad x ii const hnd hlt p hp]
  exact core_single_good _ const a ha ga honly p (by omega)

/-- x mode, the values under the mask do not matter (at least one unmasked among the samples listed by `ii`) -/
theorem independent_of_masked_values_x (y y' : List K) (bad : List Bool) (x : List K) (ii : List Nat)
    (const : Bool) (hl' : y'.length = y.length)
    (hsame : ∀ k ∈ ii, bad.getD k false = false → y.getD k 0 = y'.getD k 0)
    (hgood : ∃ k ∈ ii, bad.getD k false = false) :
    maskinterp1X y bad x ii const = maskinterp1X y' bad x ii const := by
  simp only [maskinterp1X, ptsX, scalar_lit, Nat.cast_zero, hl',
    core_indep (fun k => x.getD k 0) y y' bad ii const hsame hgood]

/-- the axis loops (index mode, 2-D and 3-D, C-order flattened arrays): with IDL-style
`axis = a` every output element `p` is element `t` of `djs_maskinterp1` applied to the line through
`p` along numpy axis `ndim-1-a` (`lineOf` gives stride, length, position `t` and base of that line) -/
theorem maskinterp_axis_line (argsort : List K → List Nat) (shape : List Nat) (y : List K)
    (bad : List Bool) (a : Nat) (const : Bool) (hnd : shape.length = 2 ∨ shape.length = 3)
    (ha : a < shape.length) (p : Nat) (hp : p < y.length) :
    ∃ out, maskinterp argsort shape shape none y bad [] (some (a : Int)) const = .ok out ∧
      out[p]? = some ((maskinterp1
        (gather 0 y.toArray (lineOf shape (shape.length - 1 - a) p).2.2.2
          (lineOf shape (shape.length - 1 - a) p).1 (lineOf shape (shape.length - 1 - a) p).2.1)
        (gather false bad.toArray (lineOf shape (shape.length - 1 - a) p).2.2.2
          (lineOf shape (shape.length - 1 - a) p).1 (lineOf shape (shape.length - 1 - a) p).2.1)
        const).getD (lineOf shape (shape.length - 1 - a) p).2.2.1 0) := by
  have h1 : (shape.length == 1) = false := by
    rcases hnd with h | h <;> rw [h] <;> rfl
  have h2 : (shape.length != 2 && shape.length != 3) = false := by
    rcases hnd with h | h <;> rw [h] <;> rfl
  have h3 : ¬ ((a : Int) < 0 ∨ (a : Int) > (shape.length : Int) - 1) := by omega
  unfold maskinterp
  simp only [ne_eq, not_true_eq_false, if_false, bind, Except.bind, pure, Except.pure, h1,
    Bool.false_eq_true, h3, h2, Int.toNat_natCast]
  refine ⟨_, rfl, ?_⟩
  rw [List.getElem?_map, List.getElem?_range hp]
  simp only [Option.map_some, scalar_lit, Nat.cast_zero]

/-- the axis loops, x mode (`xval` given with the shape of `yval`): as `maskinterp_axis_line`, with the x-mode
`djs_maskinterp1` on the line through `p` of `yval`, `mask` and `xval` -/
theorem maskinterp_axis_line_x (argsort : List K → List Nat) (shape : List Nat) (y : List K)
    (bad : List Bool) (x : List K) (a : Nat) (const : Bool) (hnd : shape.length = 2 ∨ shape.length = 3)
    (ha : a < shape.length) (p : Nat) (hp : p < y.length) :
    ∃ out, maskinterp argsort shape shape (some shape) y bad x (some (a : Int)) const = .ok out ∧
      out[p]? = some ((maskinterp1X
        (gather 0 y.toArray (lineOf shape (shape.length - 1 - a) p).2.2.2
          (lineOf shape (shape.length - 1 - a) p).1 (lineOf shape (shape.length - 1 - a) p).2.1)
        (gather false bad.toArray (lineOf shape (shape.length - 1 - a) p).2.2.2
          (lineOf shape (shape.length - 1 - a) p).1 (lineOf shape (shape.length - 1 - a) p).2.1)
        (gather 0 x.toArray (lineOf shape (shape.length - 1 - a) p).2.2.2
          (lineOf shape (shape.length - 1 - a) p).1 (lineOf shape (shape.length - 1 - a) p).2.1)
        (argsort (gather 0 x.toArray (lineOf shape (shape.length - 1 - a) p).2.2.2
          (lineOf shape (shape.length - 1 - a) p).1 (lineOf shape (shape.length - 1 - a) p).2.1))
        const).getD (lineOf shape (shape.length - 1 - a) p).2.2.1 0) := by
  have h1 : (shape.length == 1) = false := by
    rcases hnd with h | h <;> rw [h] <;> rfl
  have h2 : (shape.length != 2 && shape.length != 3) = false := by
    rcases hnd with h | h <;> rw [h] <;> rfl
  have h3 : ¬ ((a : Int) < 0 ∨ (a : Int) > (shape.length : Int) - 1) := by omega
  unfold maskinterp
  simp only [ne_eq, not_true_eq_false, if_false, bind, Except.bind, pure, Except.pure, h1,
    Bool.false_eq_true, h3, h2, Int.toNat_natCast]
  refine ⟨_, rfl, ?_⟩
  rw [List.getElem?_map, List.getElem?_range hp]
  simp only [Option.map_some, scalar_lit, Nat.cast_zero]

section
-- the `Except` monad of the models, unfolded by every `simp` below
attribute [local simp] bind Except.bind pure Except.pure throw throwThe MonadExceptOf.throw

/-- djs_maskinterp, the refusals (mask or xval of another shape, more than one dimension without `axis`, an axis
outside `0 … ndim-1`, more than three dimensions); with one dimension `axis` is ignored -/
theorem maskinterp_refusals (argsort : List K → List Nat) (yshape mshape : List Nat) (xshape : Option (List Nat))
    (y : List K) (bad : List Bool) (x : List K) (axis : Option Int) (const : Bool) :
    (mshape ≠ yshape → maskinterp argsort yshape mshape xshape y bad x axis const = .error "ValueError") ∧
    (∀ xs, xshape = some xs → xs ≠ yshape →
      maskinterp argsort yshape mshape xshape y bad x axis const = .error "ValueError") ∧
    (mshape = yshape → xshape = none ∨ xshape = some yshape → yshape.length ≠ 1 →
      (axis = none → maskinterp argsort yshape mshape xshape y bad x axis const = .error "ValueError") ∧
      (∀ a, axis = some a → a < 0 ∨ a > (yshape.length : Int) - 1 →
        maskinterp argsort yshape mshape xshape y bad x axis const = .error "ValueError") ∧
      (∀ a, axis = some a → yshape.length ≠ 2 → yshape.length ≠ 3 →
        maskinterp argsort yshape mshape xshape y bad x axis const = .error "ValueError")) ∧
    (mshape = yshape → yshape.length = 1 →
      (xshape = none → maskinterp argsort yshape mshape xshape y bad x axis const = .ok (maskinterp1 y bad const)) ∧
      (xshape = some yshape → maskinterp argsort yshape mshape xshape y bad x axis const =
        .ok (maskinterp1X y bad x (argsort x) const))) := by
  unfold maskinterp
  refine ⟨?_, ?_, ?_, ?_⟩
  · intro h
    simp [h]
  · rintro xs rfl hne
    by_cases hm : mshape = yshape
    · simp [hm, hne]
    · simp [hm]
  · intro hm hx hnd
    have h1 : (yshape.length == 1) = false := beq_eq_false_iff_ne.2 hnd
    refine ⟨?_, ?_, ?_⟩
    · rintro rfl
      rcases hx with rfl | rfl <;> simp [hm, h1]
    · rintro a rfl hr
      rcases hx with rfl | rfl <;> simp [hm, h1, hr]
    · rintro a rfl h2 h3
      rcases hx with rfl | rfl <;> simp [hm, h1, h2, h3]
  · intro hm hnd
    have h1 : (yshape.length == 1) = true := by rw [hnd]; rfl
    constructor
    · rintro rfl
      simp [hm, h1]
    · rintro rfl
      simp [hm, h1]

end

theorem interp_isZero_iff (a : K) : (Interp.isZeroI a = true) ↔ a = 0 := by
  simp [Interp.isZeroI, Scalar.beq]

theorem badpts_get (invvar : List K) (k : Nat) (hk : k < invvar.length) :
    (invvar[k] ≠ 0 → (invvar.map Interp.isZeroI)[k]'(by rw [List.length_map]; exact hk) = false) ∧
    (invvar[k] = 0 → (invvar.map Interp.isZeroI)[k]'(by rw [List.length_map]; exact hk) = true) := by
  rw [List.getElem_map]
  exact ⟨fun h => Bool.eq_false_iff.2 (mt (interp_isZero_iff _).1 h), (interp_isZero_iff _).2⟩

theorem maskinterp_invvar_good (flux invvar : List K) (const : Bool) (hlen : invvar.length = flux.length) (i : Nat)
    (hi : i < flux.length) (g : invvar[i]'(by omega) ≠ 0) :
    (maskinterp1 flux (invvar.map Interp.isZeroI) const)[i]? = some flux[i] :=
  maskinterp_only_masked flux _ const (by rw [List.length_map, hlen]) i hi ((badpts_get invvar i _).1 g)

/-- `aesthetics` (traditional, noconst, mean, nothing) returns the flux at every pixel whose inverse variance is not
zero - for 'mean', which tests `invvar > 0`, at every pixel of positive inverse variance -/
theorem aesthetics_keeps (flux invvar : List K) (m : Method) (gm : K) (hlen : invvar.length = flux.length)
    (hm : m = .traditional ∨ m = .noconst ∨ m = .mean ∨ m = .nothing) :
    ∃ out, aesthetics flux invvar m gm = .ok out ∧
      ∀ i (hi : i < flux.length), invvar[i]'(hlen ▸ hi) ≠ 0 → (m = .mean → 0 < invvar[i]'(hlen ▸ hi)) →
        out[i]? = some flux[i] := by
  unfold aesthetics
  simp only
  split
  · rcases hm with rfl | rfl | rfl | rfl
    · exact ⟨_, rfl, fun i hi hne _ => maskinterp_invvar_good flux invvar true hlen i hi hne⟩
    · exact ⟨_, rfl, fun i hi hne _ => maskinterp_invvar_good flux invvar false hlen i hi hne⟩
    · refine ⟨_, rfl, fun i hi _ hpos => ?_⟩
      rw [zip_map_get flux invvar hlen _ i hi]
      simp [hpos rfl]
    · exact ⟨_, rfl, fun i hi _ _ => List.getElem?_eq_getElem hi⟩
  · exact ⟨_, rfl, fun i hi _ _ => List.getElem?_eq_getElem hi⟩

/-- aesthetics changes flux only where the inverse variance is zero (`invvar ≥ 0`;
methods traditional, noconst, mean, nothing; `gm` is numpy's mean of the good flux values) -/
theorem aesthetics_only_bad (flux invvar : List K) (m : Method) (gm : K)
    (hlen : invvar.length = flux.length) (hnn : ∀ v ∈ invvar, 0 ≤ v)
    (hm : m = .traditional ∨ m = .noconst ∨ m = .mean ∨ m = .nothing) :
    ∃ out, aesthetics flux invvar m gm = .ok out ∧
      ∀ i (hi : i < flux.length), invvar[i] ≠ 0 → out[i]? = some flux[i] := by
  obtain ⟨out, h, hv⟩ := aesthetics_keeps flux invvar m gm hlen hm
  exact ⟨out, h, fun i hi hne => hv i hi hne fun _ =>
    lt_of_le_of_ne (hnn _ (List.getElem_mem (by omega : i < invvar.length))) (Ne.symm hne)⟩

theorem badpts_any (invvar : List K) :
    (invvar.map Interp.isZeroI).any id = true ↔ ∃ v ∈ invvar, v = 0 := by
  simp only [List.any_map, List.any_eq_true, Function.comp, id, interp_isZero_iff]

/-- no pixel with `invvar == 0`: every method - 'damp' and an unknown name included - returns the flux itself -/
theorem aesthetics_clean (erf : K → K) (flux invvar : List K) (m : Method) (gm : K)
    (h : ∀ v ∈ invvar, v ≠ 0) : aestheticsFull erf flux invvar m gm = .ok flux := by
  have hb : (invvar.map Interp.isZeroI).any id = false :=
    Bool.eq_false_iff.2 fun hb => (badpts_any invvar).1 hb |>.elim fun v ⟨hv, h0⟩ => h v hv h0
  cases m <;> simp [aestheticsFull, aesthetics, aestheticsDamp, hb]

/-- `aesthetics_only_bad` read through the full dispatch `aestheticsFull` -/
theorem aesthetics_full_only_bad (erf : K → K) (flux invvar : List K) (m : Method) (gm : K)
    (hlen : invvar.length = flux.length) (hnn : ∀ v ∈ invvar, 0 ≤ v)
    (hm : m = .traditional ∨ m = .noconst ∨ m = .mean ∨ m = .nothing) :
    ∃ out, aestheticsFull erf flux invvar m gm = .ok out ∧
      ∀ i (hi : i < flux.length), invvar[i] ≠ 0 → out[i]? = some flux[i] := by
  have e : aestheticsFull erf flux invvar m gm = aesthetics flux invvar m gm := by
    rcases hm with rfl | rfl | rfl | rfl <;> rfl
  rw [e]
  exact aesthetics_only_bad flux invvar m gm hlen hnn hm

/-- an unknown method raises `Pydlspec2dException` as soon as one pixel has `invvar == 0` -/
theorem aesthetics_unknown_raises (erf : K → K) (flux invvar : List K) (gm : K) (h : ∃ v ∈ invvar, v = 0) :
    aestheticsFull erf flux invvar .unknown gm = .error "PydlException:Pydlspec2dException" := by
  have hb := (badpts_any invvar).2 h
  simp [aestheticsFull, aesthetics, hb]

/-- 'traditional' / 'noconst' are `djs_maskinterp(flux, invvar == 0, const = True / False)` -/
theorem aesthetics_is_maskinterp (erf : K → K) (flux invvar : List K) (gm : K) (h : ∃ v ∈ invvar, v = 0) :
    aestheticsFull erf flux invvar .traditional gm = .ok (maskinterp1 flux (invvar.map Interp.isZeroI) true) ∧
    aestheticsFull erf flux invvar .noconst gm = .ok (maskinterp1 flux (invvar.map Interp.isZeroI) false) := by
  have hb := (badpts_any invvar).2 h
  constructor <;> simp [aestheticsFull, aesthetics, hb]

/-- 'nothing' returns the flux -/
theorem aesthetics_nothing (erf : K → K) (flux invvar : List K) (gm : K) :
    aestheticsFull erf flux invvar .nothing gm = .ok flux := by
  simp [aestheticsFull, aesthetics]

/-- 'traditional' / 'noconst': a run of `invvar == 0` pixels between two good pixels `a < b` is replaced by the
straight line through `(a, flux[a])` and `(b, flux[b])`; a leading / trailing run takes the value of the first / last
good pixel (for both methods: `np.interp` already holds the ends constant) -/
theorem aesthetics_replaced_values (erf : K → K) (flux invvar : List K) (gm : K) (m : Method)
    (hm : m = .traditional ∨ m = .noconst) (hlen : invvar.length = flux.length) :
    ∃ out, aestheticsFull erf flux invvar m gm = .ok out ∧
      (∀ a i b (_ : a < i) (_ : i < b) (hb : b < flux.length), invvar[a]'(by omega) ≠ 0 → invvar[b]'(by omega) ≠ 0 →
        (∀ k (_ : a < k) (_ : k < b), invvar[k]'(by omega) = 0) →
        out[i]? = some ((flux[b] - flux[a]'(by omega)) / ((b : K) - (a : K)) * ((i : K) - (a : K)) + flux[a]'(by omega))) ∧
      (∀ a (ha : a < flux.length), invvar[a]'(by omega) ≠ 0 → (∀ k (_ : k < a), invvar[k]'(by omega) = 0) →
        ∀ i, i < a → out[i]? = some flux[a]) ∧
      (∀ b (hb : b < flux.length), invvar[b]'(by omega) ≠ 0 →
        (∀ k (_ : b < k) (_ : k < flux.length), invvar[k]'(by omega) = 0) →
        ∀ i, b < i → i < flux.length → out[i]? = some flux[b]) := by
  by_cases h : ∃ v ∈ invvar, v = 0
  · obtain ⟨const, hc⟩ : ∃ const, aestheticsFull erf flux invvar m gm =
        .ok (maskinterp1 flux (invvar.map Interp.isZeroI) const) := by
      obtain ⟨h1, h2⟩ := aesthetics_is_maskinterp erf flux invvar gm h
      rcases hm with rfl | rfl
      · exact ⟨true, h1⟩
      · exact ⟨false, h2⟩
    have hbl : (invvar.map Interp.isZeroI).length = flux.length := by rw [List.length_map, hlen]
    refine ⟨_, hc, ?_, ?_, ?_⟩
    · intro a i b hai hib hb ga gb hmid
      exact maskinterp_linear flux _ const hbl a i b hai hib hb ((badpts_get invvar a _).1 ga)
        ((badpts_get invvar b _).1 gb) (fun k h1 h2 => (badpts_get invvar k _).2 (hmid k h1 h2))
    · intro a ha ga hpre i hi
      exact (ends_constant flux _ const hbl).1 a ha ((badpts_get invvar a _).1 ga)
        (fun k hk => (badpts_get invvar k _).2 (hpre k hk)) i hi
    · intro b hb gb hpost i hbi hi
      exact (ends_constant flux _ const hbl).2 b hb ((badpts_get invvar b _).1 gb)
        (fun k h1 h2 => (badpts_get invvar k _).2 (hpost k h1 h2)) i hbi hi
  · -- no bad pixel at all: the flux is returned and the three clauses have no instance with a bad pixel
    have hall : ∀ v ∈ invvar, v ≠ 0 := fun v hv h0 => h ⟨v, hv, h0⟩
    refine ⟨flux, aesthetics_clean erf flux invvar m gm hall, ?_, ?_, ?_⟩
    · intro a i b hai hib hb _ _ hmid
      exact absurd (hmid i hai hib) (hall _ (List.getElem_mem _))
    · intro a ha _ hpre i hi
      exact absurd (hpre i hi) (hall _ (List.getElem_mem _))
    · intro b hb _ hpost i hbi hi
      exact absurd (hpost i hbi hi) (hall _ (List.getElem_mem _))

/-- 'mean': when some pixel has `invvar == 0`, every pixel with `invvar > 0` keeps its flux and every other pixel
(`invvar == 0`, and `invvar < 0` if present) gets `gm` = the mean of the flux over the pixels with `invvar > 0`
(`newflux[goodpts].mean()`, computed by numpy: parameter) -/
theorem aesthetics_mean_values (erf : K → K) (flux invvar : List K) (gm : K) (hlen : invvar.length = flux.length)
    (h : ∃ v ∈ invvar, v = 0) :
    ∃ out, aestheticsFull erf flux invvar .mean gm = .ok out ∧ out.length = flux.length ∧
      ∀ i (hi : i < flux.length), out[i]? = some (if invvar[i]'(by omega) > 0 then flux[i] else gm) := by
  have hb := (badpts_any invvar).2 h
  have he : aestheticsFull erf flux invvar .mean gm =
      .ok ((flux.zip invvar).map fun (f, v) => if decide (v > 0) then f else gm) := by
    simp only [aestheticsFull, aesthetics, hb, if_true, scalar_lit, Nat.cast_zero]
  refine ⟨_, he, by simp [hlen], ?_⟩
  intro i hi
  rw [zip_map_get flux invvar hlen _ i hi]
  simp

/-- the exact mean of the flux over the pixels with `invvar > 0` -/
noncomputable def meanGood (flux invvar : List K) : K :=
  (((flux.zip invvar).filter (fun p => decide (p.2 > 0))).map (·.1)).sum /
    (((flux.zip invvar).filter (fun p => decide (p.2 > 0))).length : K)

/-- 'mean' with the exact mean: the pixels without positive inverse variance get (sum of the good flux values) /
(number of good pixels) -/
theorem aesthetics_mean_exact (erf : K → K) (flux invvar : List K) (hlen : invvar.length = flux.length)
    (h : ∃ v ∈ invvar, v = 0) :
    ∃ out, aestheticsFull erf flux invvar .mean (meanGood flux invvar) = .ok out ∧ out.length = flux.length ∧
      ∀ i (hi : i < flux.length),
        out[i]? = some (if invvar[i]'(by omega) > 0 then flux[i] else meanGood flux invvar) :=
  aesthetics_mean_values erf flux invvar _ hlen h

/-- the factor `0.5*(1+erf((pixels-mingood)/damp1))`, `damp1 = min(mingood, 250)`, applied to EVERY pixel when bad
pixels lead (`mingood > 0`); 1 otherwise -/
def dampL (erf : K → K) (lo i : Nat) : K :=
  if lo > 0 then 0.5 * (1.0 + erf (((i : K) - (lo : K)) / ((min lo 250 : Nat) : K))) else 1

/-- the factor `0.5*(1+erf((maxgood-pixels)/damp2))`, `damp2 = max(min(maxgood, 250), 1)`, applied to EVERY pixel when
bad pixels trail (`maxgood < nflux-1`); 1 otherwise -/
def dampR (erf : K → K) (hi n i : Nat) : K :=
  if hi < n - 1 then 0.5 * (1.0 + erf (((hi : K) - (i : K)) / ((max (min hi 250) 1 : Nat) : K))) else 1

/-- the test of `goodpts = invvar.nonzero()[0]` in aesthetics('damp') at pixel `k` -/
theorem goodpts_get (invvar : List K) (k : Nat) (hk : k < invvar.length) :
    (invvar[k] ≠ 0 → (fun i => !((invvar.map Interp.isZeroI).getD i true)) k = true) ∧
    (invvar[k] = 0 → (fun i => !((invvar.map Interp.isZeroI).getD i true)) k = false) := by
  have e : (invvar.map Interp.isZeroI).getD k true = Interp.isZeroI invvar[k] := by
    rw [List.getD_eq_getElem?_getD, List.getElem?_map, List.getElem?_eq_getElem hk]; rfl
  simp only [e, Bool.not_eq_true', Bool.not_eq_false']
  exact ⟨fun h => Bool.eq_false_iff.2 (mt (interp_isZero_iff _).1 h), (interp_isZero_iff _).2⟩

omit [LinearOrder K] [IsStrictOrderedRing K] [FloorRing K] in
theorem dampStep (c : Prop) [Decidable c] (nf : List K) (F : Nat → K) :
    (if c then (List.range nf.length).map (fun i => nf.getD i 0 * F i) else nf).length = nf.length ∧
    ∀ i, i < nf.length → (if c then (List.range nf.length).map (fun i => nf.getD i 0 * F i) else nf)[i]? =
      some (nf[i]?.getD 0 * (if c then F i else 1)) := by
  by_cases hc : c
  · simp only [if_pos hc, List.length_map, List.length_range, true_and]
    intro i hi
    rw [List.getElem?_map, List.getElem?_range hi, Option.map_some, List.getD_eq_getElem?_getD]
  · simp only [if_neg hc, mul_one, true_and]
    intro i hi
    rw [List.getElem?_eq_getElem hi, Option.getD_some]

/-- aesthetics('damp'), the code's formula (`lo` = first, `hi` = last pixel with `invvar != 0`, some pixel with
`invvar == 0`): the result is `djs_maskinterp(flux, invvar == 0, const=True)` multiplied - at EVERY pixel, good ones
included - by `dampL` (≠ 1 only when bad pixels lead) and by `dampR` (≠ 1 only when bad pixels trail) -/
theorem damp_formula (erf : K → K) (flux invvar : List K) (hlen : invvar.length = flux.length)
    (lo hi : Nat) (hlh : lo ≤ hi) (hhi : hi < flux.length)
    (glo : invvar[lo]'(by omega) ≠ 0) (ghi : invvar[hi]'(by omega) ≠ 0)
    (hpre : ∀ k (_ : k < lo), invvar[k]'(by omega) = 0)
    (hpost : ∀ k (_ : hi < k) (_ : k < flux.length), invvar[k]'(by omega) = 0)
    (hbad : ∃ v ∈ invvar, v = 0) :
    ∃ out, aestheticsDamp erf flux invvar = .ok out ∧ out.length = flux.length ∧
      ∀ i (_ : i < flux.length), out[i]? = some
        ((maskinterp1 flux (invvar.map Interp.isZeroI) true).getD i 0 * dampL erf lo i *
          dampR erf hi flux.length i) := by
  have hb := (badpts_any invvar).2 hbad
  have h1 := filter_range_head (fun i => !((invvar.map Interp.isZeroI).getD i true)) invvar.length lo (by omega)
    ((goodpts_get invvar lo (by omega)).1 glo) (fun k hk => (goodpts_get invvar k (by omega)).2 (hpre k hk))
  have h2 := filter_range_last (fun i => !((invvar.map Interp.isZeroI).getD i true)) hi
    ((goodpts_get invvar hi (by omega)).1 ghi) invvar.length (by omega)
    (fun k hk1 hk2 => (goodpts_get invvar k hk2).2 (hpost k hk1 (by omega)))
  have hl0 := maskinterp1_length flux (invvar.map Interp.isZeroI) true
  unfold aestheticsDamp dampL dampR
  simp only [hb, if_true, h1, h2, scalar_ofNat, scalar_sci, scalar_lit, Nat.cast_zero]
  refine ⟨_, rfl, ?_, fun i hi' => ?_⟩
  · rw [(dampStep _ _ _).1, (dampStep _ _ _).1, hl0]
  · rw [(dampStep _ _ _).2 i (by rw [(dampStep _ _ _).1, hl0]; exact hi'),
      (dampStep _ _ _).2 i (by rw [hl0]; exact hi'), Option.getD_some, List.getD_eq_getElem?_getD]

/-- aesthetics('damp'), pixel by pixel: the value 'traditional' gives (`aesthetics_replaced_values`; `flux[i]` at a good
pixel) times `dampL erf lo i * dampR erf hi n i` -/
theorem damp_values (erf : K → K) (flux invvar : List K) (hlen : invvar.length = flux.length)
    (lo hi : Nat) (hlh : lo ≤ hi) (hhi : hi < flux.length)
    (glo : invvar[lo]'(by omega) ≠ 0) (ghi : invvar[hi]'(by omega) ≠ 0)
    (hpre : ∀ k (_ : k < lo), invvar[k]'(by omega) = 0)
    (hpost : ∀ k (_ : hi < k) (_ : k < flux.length), invvar[k]'(by omega) = 0)
    (hbad : ∃ v ∈ invvar, v = 0) :
    ∃ out, aestheticsDamp erf flux invvar = .ok out ∧ out.length = flux.length ∧
      (∀ i (hi' : i < flux.length), invvar[i]'(by omega) ≠ 0 →
        out[i]? = some (flux[i] * dampL erf lo i * dampR erf hi flux.length i)) ∧
      (∀ a i b (_ : a < i) (_ : i < b) (hb : b < flux.length), invvar[a]'(by omega) ≠ 0 → invvar[b]'(by omega) ≠ 0 →
        (∀ k (_ : a < k) (_ : k < b), invvar[k]'(by omega) = 0) →
        out[i]? = some (((flux[b] - flux[a]'(by omega)) / ((b : K) - (a : K)) * ((i : K) - (a : K)) + flux[a]'(by omega)) *
          dampL erf lo i * dampR erf hi flux.length i)) ∧
      (∀ i, i < lo → out[i]? = some (flux[lo]'(by omega) * dampL erf lo i * dampR erf hi flux.length i)) ∧
      (∀ i, hi < i → i < flux.length → out[i]? = some (flux[hi] * dampL erf lo i * dampR erf hi flux.length i)) := by
  obtain ⟨out, h1, h2, h3⟩ := damp_formula erf flux invvar hlen lo hi hlh hhi glo ghi hpre hpost hbad
  -- the interpolated spectrum is what 'traditional' returns
  obtain ⟨nf, hnf, m2, m3, m4⟩ := aesthetics_replaced_values erf flux invvar 0 .traditional (Or.inl rfl) hlen
  rw [(aesthetics_is_maskinterp erf flux invvar 0 hbad).1] at hnf
  cases hnf
  have m1 := maskinterp_invvar_good flux invvar true hlen
  have conv : ∀ i (v : K), (maskinterp1 flux (invvar.map Interp.isZeroI) true)[i]? = some v →
      (maskinterp1 flux (invvar.map Interp.isZeroI) true).getD i 0 = v := by
    intro i v h; rw [List.getD_eq_getElem?_getD, h]; rfl
  refine ⟨out, h1, h2, ?_, ?_, ?_, ?_⟩
  · intro i hi' g
    rw [h3 i hi', conv i _ (m1 i hi' g)]
  · intro a i b hai hib hb ga gb hmid
    rw [h3 i (by omega), conv i _ (m2 a i b hai hib hb ga gb hmid)]
  · intro i hi'
    rw [h3 i (by omega), conv i _ (m3 lo (by omega) glo hpre i hi')]
  · intro i hi1 hi2
    rw [h3 i hi2, conv i _ (m4 hi hhi ghi hpost i hi1 hi2)]

/-- aesthetics('damp') leaves the good pixels alone exactly in the situation "first and last pixel good": then both
factors are 1 and the result is `djs_maskinterp(flux, invvar == 0, const=True)` -/
theorem damp_ends_good (erf : K → K) (flux invvar : List K) (hlen : invvar.length = flux.length)
    (hn : 0 < flux.length) (g0 : invvar[0]'(by omega) ≠ 0) (g1 : invvar[flux.length - 1]'(by omega) ≠ 0)
    (hbad : ∃ v ∈ invvar, v = 0) :
    ∃ out, aestheticsDamp erf flux invvar = .ok out ∧ out = maskinterp1 flux (invvar.map Interp.isZeroI) true ∧
      ∀ i (hi' : i < flux.length), invvar[i]'(by omega) ≠ 0 → out[i]? = some flux[i] := by
  obtain ⟨out, h1, h2, h3⟩ := damp_formula erf flux invvar hlen 0 (flux.length - 1) (by omega) (by omega) g0 g1
    (fun k hk => absurd hk (by omega)) (fun k k1 k2 => absurd k1 (by omega)) hbad
  have hl0 := maskinterp1_length flux (invvar.map Interp.isZeroI) true
  have e : out = maskinterp1 flux (invvar.map Interp.isZeroI) true := by
    apply List.ext_getElem?
    intro i
    by_cases hi' : i < flux.length
    · rw [h3 i hi']
      simp only [dampL, dampR, lt_self_iff_false, if_false, mul_one]
      rw [List.getD_eq_getElem?_getD, List.getElem?_eq_getElem (by omega)]; rfl
    · rw [List.getElem?_eq_none (by omega), List.getElem?_eq_none (by omega)]
  exact ⟨out, h1, e, e ▸ maskinterp_invvar_good flux invvar true hlen⟩

/-- aesthetics('damp') with bad leading pixels changes a good pixel (why "flux changes only where invvar = 0" is
not claimed for 'damp'): for an odd function `erf` (`erf 0 = 0`) the first good pixel `lo > 0` is halved (times the
trailing factor) -/
theorem damp_halves_first_good (erf : K → K) (he : erf 0 = 0) (flux invvar : List K)
    (hlen : invvar.length = flux.length) (lo hi : Nat) (hlh : lo ≤ hi) (hhi : hi < flux.length) (hlo : 0 < lo)
    (glo : invvar[lo]'(by omega) ≠ 0) (ghi : invvar[hi]'(by omega) ≠ 0)
    (hpre : ∀ k (_ : k < lo), invvar[k]'(by omega) = 0)
    (hpost : ∀ k (_ : hi < k) (_ : k < flux.length), invvar[k]'(by omega) = 0) :
    ∃ out, aestheticsDamp erf flux invvar = .ok out ∧
      out[lo]? = some (flux[lo]'(by omega) / 2 * dampR erf hi flux.length lo) := by
  have hbad : ∃ v ∈ invvar, v = 0 := ⟨_, List.getElem_mem (by omega : 0 < invvar.length), hpre 0 hlo⟩
  obtain ⟨out, h1, _, h3, _⟩ := damp_values erf flux invvar hlen lo hi hlh hhi glo ghi hpre hpost hbad
  refine ⟨out, h1, ?_⟩
  rw [h3 lo (by omega) glo]
  congr 2
  simp only [dampL, hlo, if_true, sub_self, zero_div, he]
  norm_num
  ring

/-- aesthetics('damp') without any good pixel raises ValueError (`goodpts.min()` of an empty array) -/
theorem damp_no_good_raises (erf : K → K) (flux invvar : List K) (hne : invvar ≠ [])
    (hall : ∀ v ∈ invvar, v = 0) : aestheticsDamp erf flux invvar = .error "ValueError" := by
  have hb : (invvar.map Interp.isZeroI).any id = true := by
    rw [badpts_any]
    cases invvar with
    | nil => exact absurd rfl hne
    | cons v l => exact ⟨v, List.mem_cons_self, hall v List.mem_cons_self⟩
  have hnil := filter_range_nil (fun i => !((invvar.map Interp.isZeroI).getD i true)) invvar.length
    (fun k hk => (goodpts_get invvar k hk).2 (hall _ (List.getElem_mem hk)))
  unfold aestheticsDamp
  simp only [hb, if_true, hnil, List.head?_nil, List.getLast?_nil]

/-- the hypotheses of `damp_formula` / `damp_values` / `damp_halves_first_good`: `flux = [1, 2, 3]`, `invvar = [0, 1, 0]`
(one good pixel, bad pixels lead and trail) meets the hypotheses with `lo = hi = 1` -/
example : ∃ out, aestheticsDamp (fun x : ℚ => x) [1, 2, 3] [0, 1, 0] = .ok out ∧ out.length = 3 :=
  let ⟨out, h1, h2, _⟩ := damp_formula (fun x : ℚ => x) [1, 2, 3] [0, 1, 0] rfl 1 1 (by omega) (by decide)
    (by decide) (by decide)
    (by intro k hk; have : k = 0 := by omega
        subst this; rfl)
    (by intro k h1 h2; have h3 : k < 3 := h2
        have : k = 2 := by omega
        subst this; rfl)
    ⟨0, List.mem_cons_self, rfl⟩
  ⟨out, h1, h2⟩

/-- symmetric reflection `d c b a | a b c d | d c b a` of `a` about its ends: `a.getD (reflIdx a.length j) 0` written out -/
def ext (a : List K) (j : Int) : K :=
  if j < 0 then a.getD (-1 - j).toNat 0
  else if j ≥ a.length then a.getD (2 * (a.length : Int) - 1 - j).toNat 0
  else a.getD j.toNat 0

omit [LinearOrder K] [IsStrictOrderedRing K] [FloorRing K] in
theorem ext_eq_reflIdx (a : List K) (j : Int) : ext a j = a.getD (reflIdx a.length j) 0 := by
  unfold ext reflIdx
  split
  · rfl
  · split <;> rfl

omit [LinearOrder K] [IsStrictOrderedRing K] [FloorRing K] in
/-- `bigarr` of the 1-D branch of `djs_median` with `padsize = p`: position `m` holds `ext a (m - p)` -/
theorem bigarr_get (a : List K) (p : Nat) (hp : p ≤ a.length) (m : Nat) (hm : m < a.length + 2 * p) :
    ((a.take p).reverse ++ a ++ (a.drop (a.length - p)).reverse)[m]? = some (ext a ((m : Int) - p)) := by
  rw [reflect_getElem? a p m hp hm, ext_eq_reflIdx, List.getD_eq_getElem?_getD,
    List.getElem?_eq_getElem (reflIdx_lt _ _ (by omega) (by omega) (by omega)), Option.getD_some]

/-- 1-D, `boundary = 'none'` (`median(array, width)`: `medfilt` with the borders restored): whenever the kernel
`min(width, size)` is odd the call succeeds; sample `i` with `h ≤ i` and `i + h < n` becomes the median of
`a[i-h … i+h]`, every sample closer than `h` to an end keeps its input value -/
theorem median_none (med : List K → K) (a : List K) (h : Nat) (hh : 1 ≤ h)
    (hodd : (min (2 * h + 1) a.length) % 2 = 1) :
    ∃ out, djsMedian1 med a (2 * h + 1) .none = .ok out ∧ out.length = a.length ∧
      ∀ i, i < a.length →
        out[i]? = some (
          if h ≤ i ∧ i + h < a.length then
            med ((List.range (2 * h + 1)).map (fun (k : Nat) => a.getD (i + k - h) 0))
          else a.getD i 0) := by
  unfold djsMedian1
  simp only [beq_eq_false_iff_ne.2 (show 2 * h + 1 ≠ 1 by omega), Bool.false_eq_true, if_false,
    medianFilt_odd med a h hodd]
  refine ⟨_, rfl, by rw [List.length_map, List.length_range], fun i hi => ?_⟩
  rw [List.getElem?_map, List.getElem?_range hi, Option.map_some]

/-- 1-D: every `boundary` other than `'none'` is the reflecting branch ("forced to be 'reflect'"), so
`median_reflect` speaks about `'nearest'`, `'wrap'` and unknown names as well; width 1 returns the input -/
theorem median_1d_boundary (med : List K → K) (a : List K) (w : Nat) :
    (∀ b, djsMedian1 med a 1 b = .ok a) ∧
    (w ≠ 1 → djsMedian1 med a w .reflect = djsMedianReflect med a w ∧
      djsMedian1 med a w .nearest = djsMedianReflect med a w ∧ djsMedian1 med a w .wrap = djsMedianReflect med a w ∧
      djsMedian1 med a w .other = djsMedianReflect med a w) := by
  constructor
  · intro b; simp [djsMedian1]
  · intro hw
    simp [djsMedian1, beq_eq_false_iff_ne.2 hw]

/-- the reflecting running median (`djs_median(a, width = 2h+1, boundary = 'reflect')`, 1-D, at least `h+1` values):
output `i` is the window median `med` of the `2h+1` values around `i` in the symmetric reflection `ext a` -/
theorem median_reflect (med : List K → K) (a : List K) (h : Nat) (hh : 1 ≤ h) (hn : h + 1 ≤ a.length) :
    ∃ out, djsMedianReflect med a (2 * h + 1) = .ok out ∧ out.length = a.length ∧
      ∀ i, i < a.length →
        out[i]? = some (med ((List.range (2 * h + 1)).map
          (fun (k : Nat) => ext a ((i : Int) + (k : Int) - (h : Int))))) := by
  have hbl : ((a.take (h + 1)).reverse ++ a ++ (a.drop (a.length - (h + 1))).reverse).length =
      a.length + 2 * (h + 1) := by
    rw [List.length_append, List.length_append, List.length_reverse, List.length_reverse, List.length_take,
      List.length_drop, Nat.min_eq_left hn, Nat.sub_sub_self hn]
    omega
  have hget := bigarr_get a (h + 1) hn
  unfold djsMedianReflect
  simp only [beq_eq_false_iff_ne.2 (show 2 * h + 1 ≠ 1 by omega), Bool.false_eq_true, if_false,
    half_odd_succ h]
  rw [if_neg (fun hc => Nat.not_lt.2 hn hc.1), if_neg (Nat.not_lt.2 hn)]
  generalize (a.take (h + 1)).reverse ++ a ++ (a.drop (a.length - (h + 1))).reverse = big at hbl hget
  rw [medianFilt_odd med big h (by rw [hbl, Nat.min_eq_left (by omega), Nat.mul_add_mod]), hbl]
  clear hbl
  refine ⟨_, rfl, ?_, fun i hi => ?_⟩
  · rw [List.length_take, List.length_drop, List.length_map, List.length_range]; omega
  · rw [List.getElem?_take_of_lt hi, List.getElem?_drop, List.getElem?_map, List.getElem?_range (by omega),
      Option.map_some, if_pos (by omega)]
    congr 2
    apply List.map_congr_left
    intro k hk
    have hk := List.mem_range.1 hk
    rw [List.getD_eq_getElem?_getD, hget _ (by omega), Option.getD_some]
    congr 1
    omega

/-- the reflection of `[1, 2, 3]` continues `1` to the left and `3` to the right -/
example : ext ([1, 2, 3] : List ℚ) (-1) = 1 ∧ ext ([1, 2, 3] : List ℚ) 0 = 1 ∧
    ext ([1, 2, 3] : List ℚ) 3 = 3 ∧ ext ([1, 2, 3] : List ℚ) 4 = 2 :=
  ⟨rfl, rfl, rfl, rfl⟩

/-- the reflecting running median, refusals (1-D): an array shorter than `ceil(width/2)` - other than a single
value, which numpy broadcasts - raises ValueError; an even width `≥ 2` ALWAYS raises ValueError (the kernel of
`scipy.signal.medfilt` must be odd) -/
theorem median_reflect_refusals (med : List K → K) (a : List K) :
    (∀ w, w ≠ 1 → a.length < (w + 1) / 2 → a.length ≠ 1 → djsMedianReflect med a w = .error "ValueError") ∧
    (∀ h, 1 ≤ h → djsMedianReflect med a (2 * h) = .error "ValueError") := by
  constructor
  · intro w hw hs h1
    rw [djsMedianReflect, if_neg (by simpa using hw), if_pos ⟨hs, h1⟩]
  · intro h hh
    simp only [djsMedianReflect, beq_eq_false_iff_ne.2 (show 2 * h ≠ 1 by omega), Bool.false_eq_true, if_false,
      half_odd h]
    split
    · rfl
    · rw [medianFilt_even]
      rw [Nat.min_eq_left, Nat.mul_mod_right]
      split
      · rw [List.length_append, List.length_append, List.length_replicate]
        omega
      · rw [List.length_append, List.length_append, List.length_reverse, List.length_reverse, List.length_take,
          List.length_drop]
        omega

/-- the reflecting running median of a single value (numpy broadcasts the one value into the padding): the
window median of `2h+1` copies of it -/
theorem median_reflect_single (med : List K → K) (v : K) (h : Nat) (hh : 1 ≤ h) :
    djsMedianReflect med [v] (2 * h + 1) = .ok [med (List.replicate (2 * h + 1) v)] := by
  have hbig : List.replicate (h + 1) v ++ [v] ++ List.replicate (h + 1) v = List.replicate (2 * h + 3) v := by
    rw [show [v] = List.replicate 1 v from rfl, List.replicate_append_replicate, List.replicate_append_replicate]
    congr 1; omega
  unfold djsMedianReflect
  simp only [beq_eq_false_iff_ne.2 (show 2 * h + 1 ≠ 1 by omega), Bool.false_eq_true, if_false,
    half_odd_succ h, List.length_singleton]
  rw [if_neg (by omega), if_pos (by omega)]
  simp only [List.getD_cons_zero, hbig]
  rw [medianFilt_odd med _ h (by rw [List.length_replicate]; omega), List.length_replicate]
  show Except.ok _ = _
  rw [List.take_one_drop_eq_of_lt_length (by rw [List.length_map, List.length_range]; omega)]
  simp only [List.get_eq_getElem, List.getElem_map, List.getElem_range]
  rw [if_pos (by omega)]
  congr 3
  rw [List.eq_replicate_iff]
  refine ⟨by rw [List.length_map, List.length_range], fun b hb => ?_⟩
  obtain ⟨k, hk, rfl⟩ := List.mem_map.1 hb
  have hk := List.mem_range.1 hk
  rw [getD_replicate _ _ _ _ (by omega)]

/-- 2-D, `boundary = 'none'` (`medfilt2d` with the borders restored): as `median_none`, with the `(2h+1) × (2h+1)`
window and the edges of the image -/
theorem median_none_2d (med : List K → K) (n0 n1 : Nat) (a : List K) (h : Nat) (hh : 1 ≤ h)
    (hodd : (min (2 * h + 1) (n0 * n1)) % 2 = 1) :
    ∃ out, djsMedian2 med n0 n1 a (2 * h + 1) .none = .ok out ∧ out.length = n0 * n1 ∧
      ∀ i j, i < n0 → j < n1 →
        out[i * n1 + j]? = some (
          if h ≤ i ∧ i + h < n0 ∧ h ≤ j ∧ j + h < n1 then
            med (win2 (fun r c => a.getD (r.toNat * n1 + c.toNat) 0) h i j)
          else a.getD (i * n1 + j) 0) := by
  unfold djsMedian2
  rw [if_neg (by rw [beq_iff_eq]; omega)]
  have hev : ((min (2 * h + 1) (n0 * n1)) % 2 == 0) = false := by rw [hodd]; rfl
  unfold medianFilt2
  -- the halves of the width first: `omega` is slow on the divisions under the casts
  simp only [hev, Bool.false_eq_true, if_false, scalar_lit, Nat.cast_zero, Nat.add_sub_cancel,
    Nat.mul_div_cancel_left h Nat.two_pos, half_odd_succ h]
  -- out of the way of `omega`, which would split on the `min` and `%` at every call
  clear hodd hev
  refine ⟨_, rfl, by rw [List.length_map, List.length_range], ?_⟩
  intro i j hi hj
  rw [List.getElem?_map, List.getElem?_range (flat_lt i j n0 n1 hi hj)]
  simp only [Option.map_some, mul_add_div_of_lt i n1 j hj, Nat.mul_add_mod_of_lt (a := i) hj, Option.some.injEq]
  by_cases hin : h ≤ i ∧ i + h < n0 ∧ h ≤ j ∧ j + h < n1
  · have hw : 2 * h + 1 ≤ n0 * n1 :=
      Nat.le_trans (by omega : 2 * h + 1 ≤ n0) (Nat.le_mul_of_pos_right n0 (by omega))
    rw [if_pos hin, if_neg (by omega), Nat.min_eq_left hw, half_odd h]
    -- the window never leaves the array, so the zero padding is not read
    show med (win2 (fun r c => if r < 0 ∨ r ≥ n0 ∨ c < 0 ∨ c ≥ n1 then 0
      else a.toArray.getD (r.toNat * n1 + c.toNat) 0) h i j) = _
    refine congrArg med (win2_ext _ _ h i j i j fun di dj hdi hdj => ?_)
    rw [if_neg (by omega), Array.getD_eq_getD_getElem?, List.getElem?_toArray, List.getD_eq_getElem?_getD]
  · rw [if_neg hin, if_pos (by omega), Array.getD_eq_getD_getElem?, List.getElem?_toArray,
      List.getD_eq_getElem?_getD]

/-- the 2-D reflecting running median (`djs_median(a, width = 2h+1, boundary = 'reflect')`, `a` an `n0 × n1` array
given C-order flattened, both axes at least `h+1` long - the domain on which the code accepts the call): output pixel
`(i, j)` is the window median of the `(2h+1) × (2h+1)` values around it in the image reflected symmetrically about its
four edges (`ext2`) - for any window-median kernel `med` (the contract of `scipy.signal.medfilt2d`) -/
theorem median_reflect_2d (med : List K → K) (n0 n1 : Nat) (a : List K) (h : Nat) (hh : 1 ≤ h)
    (h0 : h + 1 ≤ n0) (h1 : h + 1 ≤ n1) :
    ∃ out, djsMedian2 med n0 n1 a (2 * h + 1) .reflect = .ok out ∧ out.length = n0 * n1 ∧
      ∀ i j, i < n0 → j < n1 → out[i * n1 + j]? = some (med (win2 (ext2 a n0 n1) h i j)) := by
  unfold djsMedian2
  rw [if_neg (by rw [beq_iff_eq]; omega)]
  have hsq : 2 * h + 1 ≤ n0 * n1 :=
    calc 2 * h + 1 ≤ (h + 1) * 2 := by omega
      _ ≤ (h + 1) * (h + 1) := Nat.mul_le_mul_left _ (by omega)
      _ ≤ n0 * n1 := Nat.mul_le_mul h0 h1
  have hodd : (min (2 * h + 1) ((n0 + 2 * (h + 1)) * (n1 + 2 * (h + 1)))) % 2 = 1 := by
    rw [Nat.min_eq_left (Nat.le_trans hsq (Nat.mul_le_mul (Nat.le_add_right _ _) (Nat.le_add_right _ _))),
      Nat.mul_add_mod]
  obtain ⟨f, hf, _, hfs⟩ := median_none_2d med (n0 + 2 * (h + 1)) (n1 + 2 * (h + 1))
    (bigarr2 a n0 n1 (h + 1)) h hh hodd
  clear hodd
  rw [djsMedian2, if_neg (by rw [beq_iff_eq]; omega)] at hf
  rw [djsMedianReflect2_eq]
  simp only [beq_eq_false_iff_ne.2 (show 2 * h + 1 ≠ 1 by omega), Bool.false_eq_true, if_false,
    half_odd_succ h, Nat.min_eq_left hsq]
  rw [if_neg (by omega), hf]
  refine ⟨_, rfl, by rw [List.length_map, List.length_range], fun i j hi hj => ?_⟩
  rw [List.getElem?_map, List.getElem?_range (flat_lt i j n0 n1 hi hj), Option.map_some, mul_add_div_of_lt i n1 j hj,
    Nat.mul_add_mod_of_lt (a := i) hj, Array.getD_eq_getD_getElem?, List.getElem?_toArray,
    hfs _ _ (by omega) (by omega), if_pos (by omega), Option.getD_some]
  -- entry `(di, dj)` of the window around `(i + pad, j + pad)` in `bigarr` is `bigarr[i + 1 + di, j + 1 + dj]`
  refine congrArg some (congrArg med (win2_ext _ _ h _ _ i j fun di dj hdi hdj => ?_))
  have e1 : ∀ x d : Nat, ((x + (h + 1) : Nat) : Int) + d - h = ((x + 1 + d : Nat) : Int) := by
    intro x d; push_cast; ring
  have e2 : ∀ x d : Nat, ((x + 1 + d : Nat) : Int) - ((h + 1 : Nat) : Int) = x + d - h := by
    intro x d; push_cast; ring
  rw [e1, e1, Int.toNat_natCast, Int.toNat_natCast,
    bigarr2_get a n0 n1 (h + 1) h0 h1 (i + 1 + di) (j + 1 + dj) (by omega) (by omega), e2, e2]

/-- the hypotheses of `median_reflect_2d` (`h = 1`, a `2 × 2` image `[[1, 2], [3, 4]]`): the reflected image continues
`1` beyond the top-left corner, `4` beyond the bottom-right corner and mirrors column 1 into column 2 -/
example : (1 ≤ 1 ∧ 1 + 1 ≤ 2) ∧ ext2 ([1, 2, 3, 4] : List ℚ) 2 2 (-1) (-1) = 1 ∧
    ext2 ([1, 2, 3, 4] : List ℚ) 2 2 2 2 = 4 ∧ ext2 ([1, 2, 3, 4] : List ℚ) 2 2 0 2 = 2 ∧
    ext2 ([1, 2, 3, 4] : List ℚ) 2 2 1 (-1) = 3 :=
  ⟨⟨Nat.le_refl 1, Nat.le_refl 2⟩, rfl, rfl, rfl, rfl⟩

/-- 2-D, the remaining `boundary` clauses and the refusals: unlike 1-D, `'nearest'`, `'wrap'` and unknown names raise;
an even kernel `min(width, size)` is refused by scipy; `'reflect'` with an axis shorter than `ceil(width/2)` (other than
length 1) fails because numpy cannot broadcast the reflected block -/
theorem median_2d_clauses (med : List K → K) (n0 n1 : Nat) (a : List K) :
    (∀ b, djsMedian2 med n0 n1 a 1 b = .ok a) ∧
    (∀ w, w ≠ 1 → djsMedian2 med n0 n1 a w .nearest = .error "ValueError" ∧
      djsMedian2 med n0 n1 a w .wrap = .error "ValueError" ∧ djsMedian2 med n0 n1 a w .other = .error "ValueError") ∧
    (∀ w, w ≠ 1 → (min w (n0 * n1)) % 2 = 0 → djsMedian2 med n0 n1 a w .none = .error "ValueError") ∧
    (∀ w, w ≠ 1 → (n0 < (w + 1) / 2 ∧ n0 ≠ 1) ∨ (n1 < (w + 1) / 2 ∧ n1 ≠ 1) →
      djsMedian2 med n0 n1 a w .reflect = .error "ValueError") ∧
    (∀ h, 1 ≤ h → 2 * h ≤ n0 * n1 → h ≤ n0 → h ≤ n1 →
      djsMedian2 med n0 n1 a (2 * h) .reflect = .error "ValueError") := by
  have ne1 : ∀ w, w ≠ 1 → (w == 1) = false := fun w hw => beq_eq_false_iff_ne.2 hw
  refine ⟨fun b => rfl, ?_, ?_, ?_, ?_⟩
  · intro w hw
    simp only [djsMedian2, ne1 w hw, Bool.false_eq_true, if_false, and_self]
  · intro w hw hev
    simp only [djsMedian2, ne1 w hw, Bool.false_eq_true, if_false]
    exact medianFilt2_even med n0 n1 a w hev
  · intro w hw hs
    simp only [djsMedian2, ne1 w hw, Bool.false_eq_true, if_false]
    rw [djsMedianReflect2_eq, ne1 w hw, if_neg Bool.false_ne_true, if_pos hs]
  · intro h hh hsz h0 h1
    have hw : 2 * h ≠ 1 := by omega
    simp only [djsMedian2, ne1 _ hw, Bool.false_eq_true, if_false]
    rw [djsMedianReflect2_eq, ne1 _ hw, if_neg Bool.false_ne_true, half_odd h,
      if_neg (by omega), medianFilt2_even]
    rw [Nat.min_eq_left hsz, Nat.min_eq_left (le_trans hsz (Nat.mul_le_mul (Nat.le_add_right _ _)
      (Nat.le_add_right _ _))), Nat.mul_mod_right]

end field

end PydlVerif.C17
