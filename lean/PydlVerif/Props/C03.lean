/-
C03 - yanny: object and file never diverge over write/append histories, on the state machine of
Model/YannyHist.lean (file system + one yanny object).  Refusals, "earlier bytes are preserved" and the
coherence invariant `Inv` are read off the relation `Step` and carried over histories by induction.  The
content of the object after a history is stated twice: for any text, relative to hypotheses on every step
(`history_content_partial`), and on C01's document domain, where those hypotheses are theorems and only the
decidable `histOK` on the initial document and the operations is left (`history_content`).
-/
import PydlVerif.Lemmas.YannyHistDoc
namespace PydlVerif.C03
open PydlVerif.Yanny PydlVerif.YannyRT

variable {F : Type}

/-- write-over: `write(p)` with `p` an existing file, and `write()` on an object whose own file
exists, raise `PydlutilsException` and change nothing -/
theorem write_existing_refused (io : FloatIO F) (s : State F) (cm : Comments) :
    (∀ p, (s.fs p).isSome = true → step io s (.write (some p) cm) = (s, .error "PydlutilsException")) ∧
    (s.obj.filename ≠ [] → (s.fs s.obj.filename).isSome = true →
      step io s (.write none cm) = (s, .error "PydlutilsException")) := by
  refine ⟨fun p h => ?_, fun hne h => ?_⟩
  · simp [step, stepWrite, writeTarget, h]
  · simp [step, stepWrite, writeTarget, hne, h]

/-- append-missing: whatever is to be appended, if the object's file does not exist the request
changes nothing and does not succeed; with something to append it raises `PydlutilsException` -/
theorem append_missing_refused (io : FloatIO F) (s : State F) (d : List (Str × AVal F)) (st : Str)
    (h : s.fs s.obj.filename = none) :
    (step io s (.append d st)).1 = s ∧ (step io s (.append d st)).2 ≠ .ok ∧
    (∀ v body, s.obj.filename ≠ [] → s.obj.view = .ok v → appendChunk io v d = .ok body → body ≠ [] →
      step io s (.append d st) = (s, .error "PydlutilsException")) := by
  have hr : (step io s (.append d st)).1 = s ∧ (step io s (.append d st)).2 ≠ .ok := by
    have hs := step_spec io s (.append d st)
    generalize step io s (.append d st) = r at hs ⊢
    cases hs with
    | refused hno => exact ⟨rfl, hno⟩
    | append _ _ _ _ hold => rw [h] at hold; cases hold
  exact ⟨hr.1, hr.2, fun v body hne hv hc hb => by simp [step, stepAppend, hne, hv, hc, hb, h]⟩

/-- append-nothing: when no line results from the dictionary (no pair, no row), the request only
warns and changes nothing -/
theorem append_nothing_warns (io : FloatIO F) (s : State F) (d : List (Str × AVal F)) (st : Str)
    (v : View F) (hne : s.obj.filename ≠ []) (hv : s.obj.view = .ok v)
    (hc : appendChunk io v d = .ok []) : step io s (.append d st) = (s, .warn) := by
  simp [step, stepAppend, hne, hv, hc]

/-- the empty dictionary is such a case (so are tables without rows and the ignored keys: `appendChunk`
evaluates to nothing on them) -/
theorem append_empty_dict_warns (io : FloatIO F) (s : State F) (st : Str)
    (v : View F) (hne : s.obj.filename ≠ []) (hv : s.obj.view = .ok v) :
    step io s (.append [] st) = (s, .warn) :=
  append_nothing_warns io s [] st v hne hv (appendChunk_nil io v)

theorem noop_of_outOf (s : State F) (r : State F × Out) (h : r.1 = s ∨ r.2 = outOf r.1.obj.view) :
    (r.2 = .warn → r.1 = s) ∧ ∀ e, r.2 = .error e → r.1 = s ∨ r.1.obj.view = .error e := by
  rcases h with h | h
  · exact ⟨fun _ => h, fun _ _ => .inl h⟩
  · rw [h]
    cases r.1.obj.view with
    | ok w => exact ⟨nofun, nofun⟩
    | error e' => exact ⟨nofun, fun e he => .inr (by cases he; rfl)⟩

/-- every outcome other than `ok` leaves the state alone: a warning always; an error either leaves
everything as it was or is the error of the re-parse itself (outside the domain: the text written
does not parse), which is then what the object holds -/
theorem warn_or_refusal_noop (io : FloatIO F) (s : State F) (op : Op F) :
    ((step io s op).2 = .warn → (step io s op).1 = s) ∧
    (∀ e, (step io s op).2 = .error e →
      (step io s op).1 = s ∨ (step io s op).1.obj.view = .error e) := by
  have hs := step_spec io s op
  generalize step io s op = r at hs ⊢
  cases hs with
  | refused => exact noop_of_outOf s _ (.inl rfl)
  | write => exact noop_of_outOf s _ (.inr (by simp only [writeTo]))
  | append => exact noop_of_outOf s _ (.inr (by simp only [appendTo]))
  | reread => exact noop_of_outOf s _ (.inr rfl)
  | unlink => exact ⟨nofun, nofun⟩
  | rebind => exact ⟨nofun, nofun⟩

/-- a write never replaces an existing file: every file that existed before still holds the same text -/
theorem write_never_replaces (io : FloatIO F) (s : State F) (nf : Option Str) (cm : Comments)
    (p t : Str) (h : s.fs p = some t) : (step io s (.write nf cm)).1.fs p = some t := by
  have hs := step_spec io s (.write nf cm)
  generalize step io s (.write nf cm) = r at hs ⊢
  cases hs with
  | refused => exact h
  | @write _ _ q _ _ hq =>
    have hpq : p ≠ q := fun e => by rw [e, hq] at h; cases h
    simp [writeTo, update, hpq, h]

/-- an append never creates a file -/
theorem append_never_creates (io : FloatIO F) (s : State F) (d : List (Str × AVal F)) (st : Str)
    (p : Str) (h : s.fs p = none) : (step io s (.append d st)).1.fs p = none := by
  have hs := step_spec io s (.append d st)
  generalize step io s (.append d st) = r at hs ⊢
  cases hs with
  | refused => exact h
  | append _ _ _ _ hold =>
    have hpq : p ≠ s.obj.filename := fun e => by rw [e, hold] at h; cases h
    simp [appendTo, update, hpq, h]

/-- earlier bytes are preserved: under every operation of the object a file that exists keeps existing
and its earlier text is a prefix of its present text -/
theorem prefix_preserved (io : FloatIO F) (s : State F) (op : Op F) (hop : op.isObjOp = true)
    (p t : Str) (h : s.fs p = some t) :
    ∃ t', (step io s op).1.fs p = some t' ∧ t <+: t' := by
  have hs := step_spec io s op
  generalize hr : step io s op = r at hs ⊢
  cases hs with
  | refused => exact ⟨t, h, List.prefix_refl t⟩
  | write => exact ⟨t, hr ▸ write_never_replaces io s _ _ p t h, List.prefix_refl t⟩
  | append _ _ _ _ hold =>
    by_cases hp : p = s.obj.filename
    · subst hp
      rw [hold] at h
      cases h
      exact ⟨_, if_pos rfl, List.prefix_append _ _⟩
    · exact ⟨t, by simp [appendTo, update, hp, h], List.prefix_refl t⟩
  | reread => exact ⟨t, h, List.prefix_refl t⟩
  | unlink => cases hop
  | rebind => cases hop

/-- the same over every history of the object's operations -/
theorem prefix_preserved_run (io : FloatIO F) (ops : List (Op F)) (hops : ∀ op ∈ ops, op.isObjOp = true)
    (s : State F) (p t : Str) (h : s.fs p = some t) :
    ∃ t', (run io s ops).fs p = some t' ∧ t <+: t' := by
  induction ops generalizing s t with
  | nil => exact ⟨t, h, List.prefix_refl t⟩
  | cons op ops ih =>
    rw [List.forall_mem_cons] at hops
    obtain ⟨t1, h1, p1⟩ := prefix_preserved io s op hops.1 p t h
    obtain ⟨t2, h2, p2⟩ := ih hops.2 (step io s op).1 t1 h1
    exact ⟨t2, h2, p1.trans p2⟩

/-- the object holds what `_parse` makes of its text -/
def ViewOK (io : FloatIO F) (s : State F) : Prop :=
  s.obj.view = parseView io s.obj.raw s.obj.contents

/-- the coherence invariant: object and file agree, so a fresh `yanny(filename)` returns the same view
(`reread_same`) -/
def Inv (io : FloatIO F) (s : State F) : Prop :=
  ViewOK io s ∧ (s.obj.filename ≠ [] → s.fs s.obj.filename = some s.obj.contents)

/-- a freshly read object is coherent -/
theorem inv_load (io : FloatIO F) (fs : Str → Option Str) (p : Str) (raw : Bool) :
    Inv io ⟨fs, load io fs p raw⟩ := by
  unfold Inv ViewOK load
  by_cases hp : p.isEmpty = true
  · simp [hp]
  · simp only [hp]
    cases hf : fs p with
    | none => simp
    | some t => simp [hf]

theorem inv_writeTo (io : FloatIO F) (s : State F) (p : Str) (v : View F) (cm : Comments) :
    Inv io (writeTo io s p v cm).1 :=
  ⟨by simp only [ViewOK, writeTo], fun _ => by simp [writeTo, update]⟩

/-- `ViewOK` survives every step, including the actions of the environment -/
theorem view_always (io : FloatIO F) (s : State F) (op : Op F) (h : ViewOK io s) :
    ViewOK io (step io s op).1 := by
  have hs := step_spec io s op
  generalize step io s op = r at hs ⊢
  cases hs with
  | refused => exact h
  | write => exact (inv_writeTo io s _ _ _).1
  | append => simp only [ViewOK, appendTo]
  | reread => exact (inv_load io s.fs s.obj.filename s.obj.raw).1
  | unlink => exact h
  | rebind => exact h

theorem load_of_inv (io : FloatIO F) (s : State F) (h : Inv io s) (hb : s.obj.filename ≠ []) :
    load io s.fs s.obj.filename s.obj.raw = s.obj := by
  have hf := h.2 hb
  have hv := h.1
  obtain ⟨fs, fn, ct, raw, vw⟩ := s
  simp only [ViewOK] at hv
  simp only at hf
  simp only [load, List.isEmpty_eq_false_iff.mpr hb, Bool.false_eq_true, if_false, hf, hv]

/-- fresh `yanny(filename)` of a coherent bound state returns the view the object holds -/
theorem reread_same (io : FloatIO F) (s : State F) (h : Inv io s) (hb : s.obj.filename ≠ []) :
    (load io s.fs s.obj.filename s.obj.raw).view = s.obj.view := by
  rw [load_of_inv io s h hb]

theorem inv_step (io : FloatIO F) (s : State F) (op : Op F) (hop : op.isObjOp = true) (h : Inv io s) :
    Inv io (step io s op).1 := by
  have hs := step_spec io s op
  generalize step io s op = r at hs ⊢
  cases hs with
  | refused => exact h
  | write => exact inv_writeTo io s _ _ _
  | append _ hb _ _ hold =>
    refine ⟨by simp only [ViewOK, appendTo], fun _ => ?_⟩
    -- file and `_contents` held the same text and grow by the same chunk
    have := h.2 hb
    rw [hold] at this
    cases this
    simp [appendTo, update]
  | reread => exact inv_load io s.fs s.obj.filename s.obj.raw
  | unlink => cases hop
  | rebind => cases hop

/-- object and file agree after every history of the object's operations -/
theorem inv_run (io : FloatIO F) (ops : List (Op F)) (hops : ∀ op ∈ ops, op.isObjOp = true)
    (s : State F) (h : Inv io s) : Inv io (run io s ops) := by
  induction ops generalizing s with
  | nil => exact h
  | cons op ops ih =>
    rw [List.forall_mem_cons] at hops
    exact ih hops.2 (step io s op).1 (inv_step io s op hops.1 h)

/-- after the environment interfered (file removed, `filename` reassigned) a successful `write`
re-establishes the invariant.  (`h` is not used: an accepted write leaves `Inv` whatever the state was.) -/
theorem write_restores_inv (io : FloatIO F) (s : State F) (nf : Option Str) (cm : Comments)
    (h : ViewOK io s) (hok : (step io s (.write nf cm)).2 = .ok) : Inv io (step io s (.write nf cm)).1 := by
  have hs := step_spec io s (.write nf cm)
  generalize step io s (.write nf cm) = r at hs hok ⊢
  cases hs with
  | refused hno => exact absurd hok hno
  | write => exact inv_writeTo io s _ _ _

/-- `str.split('\n')` of a text cut at a newline is the lines of both parts -/
theorem splitNl_append (a c : Str) : splitNl (a ++ '\n' :: c) = splitNl a ++ splitNl c :=
  YannyRT.splitNl_cut a c

/-- the line loop of `_parse` is sequential -/
theorem lineLoop_append (io : FloatIO F) (specs : List (Str × Except String (List ColSpec)))
    (st : LoopSt F) (l1 l2 : List Str) :
    lineLoop io specs st (l1 ++ l2) =
      match lineLoop io specs st l1 with
      | .error e => .error e
      | .ok st' => lineLoop io specs st' l2 :=
  Yanny.lineLoop_append io specs st l1 l2

/-- if the chunk is whole lines that leave typedef extraction and continuation joining undisturbed
(`frontStable`, evaluated by the driver on every accepted append) and the text so far ends its last
line, then re-parsing from scratch = the old parse continued over the lines of the chunk -/
theorem parse_append (io : FloatIO F) (raw : Bool) (text chunk : Str)
    (hfs : frontStable text chunk = true) (hnl : RestNl text) :
    loopOf io raw (text ++ chunk) =
      match loopOf io raw text with
      | .error e => .error e
      | .ok st => lineLoop io (specsOf (front text) raw) st (splitNl chunk) :=
  Yanny.parse_append io raw text chunk hfs hnl

/-- the lines `append()` writes, read by the line loop from ANY state: the "Appended by" comment is
skipped, each pair line records `(key, strip value)`, each data line appends exactly its row to its
table, nothing else changes -/
theorem chunk_loop (io : FloatIO F) (h1 : H1 io) (h2 : H2 io)
    (specs : List (Str × Except String (List ColSpec))) (st : LoopSt F) (stamp : Str)
    (ps : List (Str × Str)) (groups : List (Str × List (List (Cell F))))
    (hst : '\n' ∉ stamp) (hp : ∀ kv ∈ ps, PairOK specs kv) (hg : ∀ g ∈ groups, GroupOK io specs g) :
    lineLoop io specs st (splitNl (appendHeader stamp ++ ((ps.map pairLine).flatten ++ rowLinesOf io groups))) =
      .ok (applyAppend st ps groups) :=
  Yanny.chunk_loop io h1 h2 specs st stamp ps groups hst hp hg

/-- domain of one accepted append in a given state: the chunk leaves the front half of `_parse`
(typedef extraction, continuation joining) undisturbed, and the pairs and rows taken from the
dictionary are in C01's domain with respect to the tables of the text so far -/
def AppendOK (io : FloatIO F) (s : State F) (stamp : Str) (ps : List (Str × Str))
    (gs : List (Str × List (List (Cell F)))) : Prop :=
  frontStable s.obj.contents (appendHeader stamp ++ ((ps.map pairLine).flatten ++ rowLinesOf io gs)) = true ∧
  RestNl s.obj.contents ∧ '\n' ∉ stamp ∧
  (∀ kv ∈ ps, PairOK (specsOf (front s.obj.contents) s.obj.raw) kv) ∧
  (∀ g ∈ gs, GroupOK io (specsOf (front s.obj.contents) s.obj.raw) g)

/-! ### the hypotheses of `chunk_loop` and `AppendOK` are satisfiable -/

def sampleSpecs : List (Str × Except String (List ColSpec)) :=
  [("T".toList, .ok [⟨.int, false⟩, ⟨.str, false⟩, ⟨.flt .f8, true⟩])]

example : PairOK sampleSpecs ("note".toList, " two words ".toList) := by
  unfold PairOK
  decide +kernel

example : GroupOK C01.intIO sampleSpecs
    ("T".toList, [[.one (.int (-5)), .one (.str "a #b".toList), .many [.flt .f8 1, .flt .f8 (-2)]]]) := by
  refine ⟨by decide, by decide, _, rfl, ?_⟩
  decide +kernel

example : frontStable "typedef struct {\n int a;\n} T;\n\nT 1\n".toList "# Appended by yanny.py at now.\nT 2\n".toList = true := by
  decide +kernel

theorem loop_appended (io : FloatIO F) (h1 : H1 io) (h2 : H2 io) (s : State F) (stamp : Str)
    (ps : List (Str × Str)) (gs : List (Str × List (List (Cell F)))) (doc : LoopSt F)
    (hok : AppendOK io s stamp ps gs) (hl : loopOf io s.obj.raw s.obj.contents = .ok doc) :
    loopOf io s.obj.raw
        (s.obj.contents ++ (appendHeader stamp ++ ((ps.map pairLine).flatten ++ rowLinesOf io gs))) =
      .ok (applyAppend doc ps gs) := by
  obtain ⟨k1, k2, k3, k4, k5⟩ := hok
  rw [Yanny.parse_append io s.obj.raw _ _ k1 k2, hl]
  exact Yanny.chunk_loop io h1 h2 _ doc stamp ps gs k3 k4 k5

/-- one accepted append: the file and `_contents` grow by the same chunk, and the document read
from the new text is the old document followed by exactly the appended pairs and rows, in order -/
theorem append_content (io : FloatIO F) (h1 : H1 io) (h2 : H2 io) (s : State F)
    (d : List (Str × AVal F)) (stamp : Str) (ps : List (Str × Str))
    (gs : List (Str × List (List (Cell F)))) (doc : LoopSt F)
    (hacc : acceptedAppend io s d = some (ps, gs)) (hok : AppendOK io s stamp ps gs)
    (hl : loopOf io s.obj.raw s.obj.contents = .ok doc) :
    ∃ chunk old, s.fs s.obj.filename = some old ∧
      (step io s (.append d stamp)).1.obj.contents = s.obj.contents ++ chunk ∧
      (step io s (.append d stamp)).1.fs s.obj.filename = some (old ++ chunk) ∧
      (step io s (.append d stamp)).1.obj.filename = s.obj.filename ∧
      (step io s (.append d stamp)).1.obj.raw = s.obj.raw ∧
      loopOf io s.obj.raw (step io s (.append d stamp)).1.obj.contents = .ok (applyAppend doc ps gs) := by
  have hs := step_spec io s (.append d stamp)
  generalize step io s (.append d stamp) = r at hs ⊢
  cases hs with
  | refused _ hn => rw [hn d stamp rfl] at hacc; cases hacc
  | append ha _ _ _ hold =>
    rw [hacc] at ha
    cases ha
    exact ⟨_, _, hold, rfl, if_pos rfl, rfl, rfl, loop_appended io h1 h2 s stamp ps gs doc hok hl⟩

/-- the document the statement expects after a history: every accepted append adds its pairs and
rows, nothing else changes it -/
def expectAfter (io : FloatIO F) : State F → LoopSt F → List (Op F) → LoopSt F
  | _, doc, [] => doc
  | s, doc, op :: ops =>
    let doc' := match op with
      | .append d _ =>
        match acceptedAppend io s d with
        | some (ps, gs) => applyAppend doc ps gs
        | none => doc
      | _ => doc
    expectAfter io (step io s op).1 doc' ops

/-- hypotheses on one step of a history.
append: `AppendOK` for what is accepted; its first two conjuncts are the hypotheses that the comments and
documents call FrontStable and `RestNl`;
write: the hypothesis called RenderLoop there (it has no declaration of its own: it is this clause) - the text
`write()` renders from the object reads back as the document the object's text read as;
the environment does not interfere. -/
def StepOK (io : FloatIO F) (s : State F) : Op F → Prop
  | .append d stamp => ∀ ps gs, acceptedAppend io s d = some (ps, gs) → AppendOK io s stamp ps gs
  | .write nf cm => ∀ p v, writeTarget s nf = some p → s.fs p = none → p ≠ [] → s.obj.view = .ok v →
      loopOf io s.obj.raw (renderView io v (commentBlock p cm)) = loopOf io s.obj.raw s.obj.contents
  | .appendNonDict => True
  | .reread => True
  | .unlink => False
  | .rebind _ => False

def Admissible (io : FloatIO F) : State F → List (Op F) → Prop
  | _, [] => True
  | s, op :: ops => StepOK io s op ∧ Admissible io (step io s op).1 ops

theorem content_step (io : FloatIO F) (h1 : H1 io) (h2 : H2 io) (s : State F) (op : Op F) (doc : LoopSt F)
    (hinv : Inv io s) (hb : s.obj.filename ≠ []) (hok : StepOK io s op)
    (hl : loopOf io s.obj.raw s.obj.contents = .ok doc) :
    Inv io (step io s op).1 ∧ (step io s op).1.obj.filename ≠ [] ∧ (step io s op).1.obj.raw = s.obj.raw ∧
    loopOf io s.obj.raw (step io s op).1.obj.contents = .ok (expectAfter io s doc [op]) := by
  have hinv' := fun hop => inv_step io s op hop hinv
  have hs := step_spec io s op
  generalize step io s op = r at hs hinv' ⊢
  cases hs with
  | refused _ hacc =>
    refine ⟨hinv, hb, rfl, ?_⟩
    -- nothing is expected of a refused operation
    cases op with
    | append d st => simpa only [expectAfter, hacc d st rfl] using hl
    | _ => exact hl
  | write k1 k2 k3 k4 => exact ⟨hinv' rfl, k3, rfl, (hok _ _ k1 k2 k3 k4).trans hl⟩
  | append ha =>
    refine ⟨hinv' rfl, hb, rfl, ?_⟩
    simp only [expectAfter, ha]
    exact loop_appended io h1 h2 s _ _ _ doc (hok _ _ ha) hl
  | reread =>
    rw [load_of_inv io s hinv hb]
    exact ⟨hinv, hb, rfl, hl⟩
  | unlink => exact hok.elim
  | rebind => exact hok.elim

/-- the statement of C03 for any text: after ANY history of the object's operations that starts in a
coherent bound state, the document read from the object's text is the initial document followed by
every accepted appended pair and row in order, and object and file agree.

Partial: relative to the hypotheses inside `Admissible` - FrontStable and `RestNl` (in `AppendOK`) and
RenderLoop (the clause of `StepOK` for `write`) - which the driver evaluates on every accepted step of every
generated history; and stated on the rows and pairs read by the line loop (what raw mode returns;
normal mode applies C01's `finishTables` to it).  Without these hypotheses, on C01's document domain:
`history_content`. -/
theorem history_content_partial (io : FloatIO F) (h1 : H1 io) (h2 : H2 io) (ops : List (Op F))
    (s : State F) (doc : LoopSt F) (hinv : Inv io s) (hb : s.obj.filename ≠ [])
    (hadm : Admissible io s ops) (hl : loopOf io s.obj.raw s.obj.contents = .ok doc) :
    loopOf io s.obj.raw (run io s ops).obj.contents = .ok (expectAfter io s doc ops) ∧
    Inv io (run io s ops) := by
  induction ops generalizing s doc with
  | nil => exact ⟨hl, hinv⟩
  | cons op ops ih =>
    obtain ⟨c0, c1, c2, c3⟩ := content_step io h1 h2 s op doc hinv hb hadm.1 hl
    rw [← c2] at c3 ⊢
    exact ih (step io s op).1 _ c0 c1 hadm.2 c3

/-! ## content over histories, on C01's document domain: the hypotheses of `Admissible` hold at every step -/

/-- FrontStable (the first conjunct of `AppendOK`) holds on the document domain: after a written
in-domain document followed by whole lines of C01's line domain (`LineOK`: no `typedef`, no newline, no
continuation mark - every line `append()` builds from in-domain cells is one, `chunk_domain`),
appending further such lines leaves continuation joining and typedef extraction alone -/
theorem front_stable (io : FloatIO F) (h2 : H2 io) (d : Doc F) (hd : docOK io d = true)
    (ls cl : List Str) (hls : ∀ l ∈ ls, LineOK l) (hcl : ∀ l ∈ cl, LineOK l) :
    frontStable (C01.textOf io d ++ linesText ls) (linesText cl) = true :=
  Yanny.front_stable io h2 d hd ls cl hls hcl

/-- the same as an equation for `front` -/
theorem front_appended (io : FloatIO F) (h2 : H2 io) (d : Doc F) (hd : docOK io d = true)
    (ls : List Str) (hls : ∀ l ∈ ls, LineOK l) :
    front (C01.textOf io d ++ linesText ls) =
      ⟨tdefsOf "struct".toList (structBlocks d), tdefsOf "enum".toList (enumBlocks d),
       d.tables.map (fun t => (upper t.name, t.cols.map (·.name))), C01.restOf io d ++ linesText ls⟩ :=
  Yanny.front_appended io h2 d hd ls hls

/-- RenderLoop (the clause of `StepOK` for `write`) holds on the document domain: the text `write()` renders
for an object whose view is the view of an in-domain document `D` is C01's `textOf` of `writeDoc D`
and - when that document is in the domain - reads back as exactly the document `D` read as -/
theorem render_loop (io : FloatIO F) (h1 : H1 io) (h2 : H2 io) (raw : Bool) (D : Doc F) (block : Str)
    (hD' : docOK io (writeDoc D block) = true) (hr : rawOK raw D = true) :
    renderView io (viewOfDoc raw D) block = C01.textOf io (writeDoc D block) ∧
    loopOf io raw (renderView io (viewOfDoc raw D) block) = .ok (docLoop D) := by
  have hv : viewOfDoc raw D = viewRT raw D :=
    viewOfDoc_eq raw D (C01.docOK_props io (writeDoc D block) hD').2.1
      (C01.docOK_supported io (writeDoc D block) hD')
  rw [hv]
  refine ⟨renderView_doc io raw D block, ?_⟩
  rw [renderView_doc, loop_of_doc io h1 h2 _ hD' raw hr, docLoop_writeDoc]

/-- what the induction over a history carries: the object's text is the text of an in-domain document
`d` followed by whole appended lines `ls`; its line loop reads the in-domain document `D` (same
declarations, tables and columns as `d`) -/
structure Track (io : FloatIO F) (s : State F) (d D : Doc F) (ls : List Str) : Prop where
  inv : Inv io s
  bound : s.obj.filename ≠ []
  base : docOK io d = true
  cur : docOK io D = true
  shape : shapeOf D = shapeOf d
  raw : rawOK s.obj.raw d = true
  text : s.obj.contents = C01.textOf io d ++ linesText ls
  lines : ∀ l ∈ ls, LineOK l
  loop : loopOf io s.obj.raw s.obj.contents = .ok (docLoop D)

theorem Track.view {io : FloatIO F} {s : State F} {d D : Doc F} {ls : List Str} (h2 : H2 io)
    (t : Track io s d D ls) : s.obj.view = .ok (viewOfDoc s.obj.raw D) := by
  rw [t.inv.1, t.text, viewOfDoc_eq _ D (C01.docOK_props io D t.cur).2.1 (C01.docOK_supported io D t.cur)]
  exact view_of_loop io h2 d D t.base t.cur t.shape _ ls t.lines (by rw [← t.text]; exact t.loop)

theorem Track.specs {io : FloatIO F} {s : State F} {d D : Doc F} {ls : List Str} (h2 : H2 io)
    (t : Track io s d D ls) : specsOf (front s.obj.contents) s.obj.raw = C01.docSpecs D := by
  rw [t.text, Yanny.front_appended io h2 d t.base ls t.lines, specs_doc io d t.base _ t.raw]
  exact (shape_facts d D t.shape).2.2.1.symm

theorem step_reread (io : FloatIO F) (s : State F) (h : Inv io s) (hb : s.obj.filename ≠ []) :
    (step io s .reread).1 = s := by
  show (⟨s.fs, load io s.fs s.obj.filename s.obj.raw⟩ : State F) = s
  rw [load_of_inv io s h hb]

theorem track_step (io : FloatIO F) (h1 : H1 io) (h2 : H2 io) (s : State F) (d D : Doc F) (ls : List Str)
    (ex : Str → Bool) (op : Op F) (ops : List (Op F)) (Dfin : Doc F) (t : Track io s d D ls)
    (hex : ∀ q, ex q = (s.fs q).isSome)
    (h : histDoc io s.obj.raw ex s.obj.filename D (op :: ops) = some Dfin) :
    StepOK io s op ∧ ∃ d' D' ls' ex', Track io (step io s op).1 d' D' ls' ∧
      (∀ q, ex' q = ((step io s op).1.fs q).isSome) ∧ (step io s op).1.obj.raw = s.obj.raw ∧
      shapeOf D' = shapeOf D ∧
      histDoc io (step io s op).1.obj.raw ex' (step io s op).1.obj.filename D' ops = some Dfin := by
  cases op with
  | append data stamp =>
    have hof := acceptedAppend_of_view io s data _ t.bound (t.view h2) (by rw [t.inv.2 t.bound]; rfl)
    simp only [histDoc, ← hof] at h
    have hinv' := inv_step io s (.append data stamp) rfl t.inv
    have hs := step_spec io s (.append data stamp)
    generalize step io s (.append data stamp) = r at hs hinv' ⊢
    cases hs with
    | refused _ hn =>
      have hn := hn data stamp rfl
      rw [hn] at h
      exact ⟨fun ps gs hpg => (by rw [hn] at hpg; cases hpg), d, D, ls, ex, t, hex, rfl, rfl, h⟩
    | @append _ _ v ps gs old hacc _ hv hg hold =>
      rw [hacc] at h
      rw [t.view h2] at hv
      cases hv
      by_cases hok : appendOK io D stamp ps gs = true
      · -- accepted, inside the domain: the chunk's lines join `ls`, the loop now reads `appendDoc D ps gs`,
        -- the set of existing files is the same
        simp only [hok, if_true] at h
        obtain ⟨c1, c2, c3, hl⟩ := chunk_domain io h2 _ D data stamp ps gs hg hok
        have hA : AppendOK io s stamp ps gs := by
          refine ⟨?_, ?_, c1, ?_⟩
          · rw [chunk_eq_lines, t.text]
            exact Yanny.front_stable io h2 d t.base ls _ t.lines hl
          · rw [t.text]
            exact restNl_appended io h2 d t.base ls t.lines
          · rw [t.specs h2]
            exact ⟨c2, c3⟩
        simp only [appendOK, Bool.and_eq_true] at hok
        refine ⟨fun ps' gs' hpg => (by rw [hacc] at hpg; cases hpg; exact hA), d, appendDoc D ps gs,
          ls ++ chunkLines io stamp ps gs, ex,
          ⟨hinv', t.bound, t.base, hok.2, (shape_appendDoc D ps gs).trans t.shape, t.raw, ?_,
            List.forall_mem_append.mpr ⟨t.lines, hl⟩, ?_⟩, ?_, rfl, shape_appendDoc D ps gs, h⟩
        · simp only [appendTo]
          rw [chunk_eq_lines, t.text, linesText_append, List.append_assoc]
        · simp only [appendTo]
          rw [docLoop_appendDoc]
          exact loop_appended io h1 h2 s stamp ps gs _ hA t.loop
        · intro q
          simp only [appendTo, update]
          split
          · next hq => rw [hq, hex, hold]; rfl
          · exact hex q
      · simp [hok] at h
  | write nf cm =>
    have hwt : writeTarget s nf = some (nf.getD s.obj.filename) := by
      cases nf with
      | some p => rfl
      | none => simp [writeTarget, t.bound]
    simp only [histDoc] at h
    generalize nf.getD s.obj.filename = P at h hwt
    by_cases hcond : (ex P || P.isEmpty) = true
    · -- the target exists or is the empty name: refused
      rw [if_pos hcond] at h
      have hno : ∀ p, writeTarget s nf = some p → s.fs p = none → p ≠ [] → False := by
        intro p k1 k2 k3
        rw [hwt] at k1
        cases k1
        rw [hex, k2] at hcond
        exact k3 (by simpa using hcond)
      have hs := step_spec io s (.write nf cm)
      generalize step io s (.write nf cm) = r at hs ⊢
      cases hs with
      | refused => exact ⟨fun p v k1 k2 k3 _ => (hno p k1 k2 k3).elim, d, D, ls, ex, t, hex, rfl, rfl, h⟩
      | write k1 k2 k3 => exact (hno _ k1 k2 k3).elim
    · rw [if_neg hcond] at h
      by_cases hD' : docOK io (writeDoc D (commentBlock P cm)) = true
      · -- accepted, inside the domain: the object is bound to `P`, which exists from now on, and holds the
        -- text of `writeDoc D _` without appended lines; by `render_loop` it still reads as `D`
        rw [if_pos hD'] at h
        simp only [Bool.or_eq_true, not_or, Bool.not_eq_true] at hcond
        have hfs : s.fs P = none := by simpa [hex] using hcond.1
        have hpne : P ≠ [] := List.isEmpty_eq_false_iff.mp hcond.2
        have hr : rawOK s.obj.raw D = true := (rawOK_shape _ d D t.shape).trans t.raw
        obtain ⟨e1, e2⟩ := render_loop io h1 h2 s.obj.raw D (commentBlock P cm) hD' hr
        have he : step io s (.write nf cm) = writeTo io s P (viewOfDoc s.obj.raw D) cm := by
          simp [step, stepWrite, hwt, hfs, hpne, t.view h2]
        have hinv' := inv_step io s (.write nf cm) rfl t.inv
        rw [he] at hinv' ⊢
        refine ⟨?_, _, _, [], fun q => q == P || ex q,
          ⟨hinv', hpne, hD', hD', rfl, hr, ?_, nofun, ?_⟩, ?_, rfl, rfl, h⟩
        · intro p v k1 k2 k3 k4
          rw [hwt] at k1
          cases k1
          rw [t.view h2] at k4
          cases k4
          exact e2.trans t.loop.symm
        · simp only [writeTo]
          exact e1.trans (List.append_nil _).symm
        · simp only [writeTo]
          rw [docLoop_writeDoc]
          exact e2
        · intro q
          simp only [writeTo, update]
          split
          · next hq => simp [hq]
          · next hq => simp [hq, hex]
      · simp [hD'] at h
  | appendNonDict => exact ⟨trivial, d, D, ls, ex, t, hex, rfl, rfl, h⟩
  | reread =>
    rw [step_reread io s t.inv t.bound]
    exact ⟨trivial, d, D, ls, ex, t, hex, rfl, rfl, h⟩
  | unlink => simp [histDoc] at h
  | rebind p => simp [histDoc] at h

/-- along a history inside the domain (`histDoc … = some`) every step meets the hypotheses of
`history_content_partial` (`Admissible`), and at the end the object's text is again "in-domain document +
appended lines" reading as the expected document -/
theorem track_run (io : FloatIO F) (h1 : H1 io) (h2 : H2 io) (ops : List (Op F)) :
    ∀ (s : State F) (d D : Doc F) (ls : List Str) (ex : Str → Bool) (Dfin : Doc F),
      Track io s d D ls → (∀ q, ex q = (s.fs q).isSome) →
      histDoc io s.obj.raw ex s.obj.filename D ops = some Dfin →
      Admissible io s ops ∧ (run io s ops).obj.raw = s.obj.raw ∧ shapeOf Dfin = shapeOf D ∧
      ∃ d' ls', Track io (run io s ops) d' Dfin ls' := by
  induction ops with
  | nil =>
    intro s d D ls ex Dfin t _ h
    cases h
    exact ⟨trivial, rfl, rfl, d, ls, t⟩
  | cons op ops ih =>
    intro s d D ls ex Dfin t hex h
    obtain ⟨hok, d', D', ls', ex', t', hex', hr, hsh, h'⟩ := track_step io h1 h2 s d D ls ex op ops Dfin t hex h
    obtain ⟨r1, r2, r3, r4⟩ := ih _ d' D' ls' ex' Dfin t' hex' h'
    exact ⟨⟨hok, r1⟩, r2.trans hr, r3.trans hsh, r4⟩

/-- the statement of C03 on C01's document domain; the hypotheses speak of the initial state, the initial
document and the operations only.  The object starts coherent, bound to a file, holding the text
`renderFile` writes for an in-domain document `d`.  For EVERY history of the object's operations -
write-new / write-copy / write-over, appends of rows and pairs, empty appends, appends refused,
non-dictionary appends, re-reads - that stays inside C01's domain (`histOK`, decidable: every accepted
append is `appendOK`, every accepted write renders a `docOK` document),

* the document read from the object's text by the line loop is the initial document followed by
  every accepted appended pair and row, in order (`expectAfter`);
* object and file agree at the end (`Inv`), so a fresh `yanny(filename)` returns the same view;
* record-array level: the object's view is `viewOfDoc` of a document `Dfin` with the declarations,
  tables and columns of `d` and exactly the expected pairs and rows (normal mode: record arrays with the
  canonical column types, every cell unchanged; raw mode: the bare lists).

Outside: raw mode with a float32 column (`rawOK`), and the per-line D4 exclusions that `docOK` carries. -/
theorem history_content (io : FloatIO F) (h1 : H1 io) (h2 : H2 io) (d : Doc F) (s : State F)
    (ops : List (Op F)) (hd : docOK io d = true) (hraw : rawOK s.obj.raw d = true) (hinv : Inv io s)
    (hb : s.obj.filename ≠ []) (hc : s.obj.contents = C01.textOf io d)
    (hops : histOK io s.obj.raw (fun q => (s.fs q).isSome) s.obj.filename d ops = true) :
    loopOf io s.obj.raw (run io s ops).obj.contents = .ok (expectAfter io s (docLoop d) ops) ∧
    Inv io (run io s ops) ∧
    ∃ Dfin, histDoc io s.obj.raw (fun q => (s.fs q).isSome) s.obj.filename d ops = some Dfin ∧
      (run io s ops).obj.view = .ok (viewOfDoc s.obj.raw Dfin) ∧
      docLoop Dfin = expectAfter io s (docLoop d) ops ∧ shapeOf Dfin = shapeOf d := by
  obtain ⟨Dfin, hD⟩ := Option.isSome_iff_exists.mp hops
  have t0 : Track io s d d [] :=
    ⟨hinv, hb, hd, hd, rfl, hraw, hc.trans (List.append_nil _).symm, nofun,
      by rw [hc]; exact loop_of_doc io h1 h2 d hd _ hraw⟩
  obtain ⟨hadm, hr, hsh, d', ls', t'⟩ := track_run io h1 h2 ops s d d [] _ Dfin t0 (fun _ => rfl) hD
  obtain ⟨p1, p2⟩ := history_content_partial io h1 h2 ops s (docLoop d) hinv hb hadm t0.loop
  refine ⟨p1, p2, Dfin, hD, ?_, ?_, hsh⟩
  · have := t'.view h2
    rw [hr] at this
    exact this
  · have := t'.loop
    rw [hr, p1] at this
    exact (Except.ok.inj this).symm

/-- the same from the file: a fresh `yanny(p, raw)` of a file holding what `write_ndarray_to_yanny`
(`renderFile`) wrote for an in-domain document.  (Less one clause: the document `Dfin` of the record-array level is
not said to be the one `histDoc` returns.) -/
theorem history_content_file (io : FloatIO F) (h1 : H1 io) (h2 : H2 io) (d : Doc F)
    (fs : Str → Option Str) (p text : Str) (raw : Bool) (ops : List (Op F))
    (hd : docOK io d = true) (hraw : rawOK raw d = true) (hp : p ≠ [])
    (hr : renderFile io d = .ok text) (hf : fs p = some text)
    (hops : histOK io raw (fun q => (fs q).isSome) p d ops = true) :
    let s : State F := ⟨fs, load io fs p raw⟩
    loopOf io raw (run io s ops).obj.contents = .ok (expectAfter io s (docLoop d) ops) ∧
    Inv io (run io s ops) ∧
    ∃ Dfin, (run io s ops).obj.view = .ok (viewOfDoc raw Dfin) ∧
      docLoop Dfin = expectAfter io s (docLoop d) ops ∧ shapeOf Dfin = shapeOf d := by
  intro s
  obtain rfl : C01.textOf io d = text := Except.ok.inj ((C01.render_text io d hd).symm.trans hr)
  have hs : s.obj = ⟨p, C01.textOf io d, raw, parseView io raw (C01.textOf io d)⟩ := by
    simp [s, load, hp, hf]
  obtain ⟨q1, q2, Dfin, _, q4, q5, q6⟩ := history_content io h1 h2 d s ops hd (by rw [hs]; exact hraw)
    (inv_load io fs p raw) (by rw [hs]; exact hp) (by rw [hs]) (by rw [hs]; exact hops)
  rw [hs] at q1 q4
  exact ⟨q1, q2, Dfin, q4, q5, q6⟩

def histSampleDoc : Doc Int :=
  { comments := "# made by hand\n".toList
    hdr := [("mjd".toList, " 54579 ".toList)]
    enums := []
    tables := [
      { name := "obs".toList
        cols := [⟨"n".toList, .i4, 0⟩, ⟨"s".toList, .S 8, 0⟩, ⟨"g".toList, .f8, 2⟩]
        rows := [[.one (.int (-5)), .one (.str "a #b".toList), .many [.flt .f8 1, .flt .f8 (-2)]]] }] }

/-- a history with every kind of operation of the object: rows (under the lower-case table name) and
a pair appended, write-copy with the default comment block, a pair appended that replaces an
existing key, write-over (refused), re-read, an empty append, a non-dictionary append, a second
append of rows under the upper-case name -/
def histSampleOps : List (Op Int) :=
  [ .append [("obs".toList, .table [("n".toList, [.one (.int 7), .one (.int 8)]),
                                     ("s".toList, [.one (.str "x y".toList), .one (.str "".toList)]),
                                     ("g".toList, [.many [.flt .f8 3, .flt .f8 4], .many [.flt .f8 0, .flt .f8 0]])]),
             ("note".toList, .text "  two words ".toList)] "2026-09-29 12:00:00".toList,
    .write (some "dir/b.par".toList) (.default "2026-09-29 12:00:01".toList),
    .append [("mjd".toList, .text "54580".toList)] "later".toList,
    .write none (.text "again".toList),
    .reread,
    .append [] "never".toList,
    .appendNonDict,
    .append [("OBS".toList, .table [("n".toList, [.one (.int 9)]), ("s".toList, [.one (.str "z{".toList)]),
                                     ("g".toList, [.many [.flt .f8 5, .flt .f8 6]])])] "last".toList ]

theorem histSample_docOK : docOK C01.intIO histSampleDoc = true := by decide +kernel

/-- one statement, because the three evaluations share most of their work and the kernel then does it once -/
theorem histSample_eval :
    (histOK C01.intIO false (fun q => q == "a.par".toList) "a.par".toList histSampleDoc histSampleOps = true ∧
      histOK C01.intIO true (fun q => q == "a.par".toList) "a.par".toList histSampleDoc histSampleOps = true ∧
      rawOK true histSampleDoc = true) ∧
    (histDoc C01.intIO false (fun q => q == "a.par".toList) "a.par".toList histSampleDoc histSampleOps).map
        (fun D => (docLoop D).pairs) =
      some [("mjd".toList, "54580".toList), ("note".toList, "two words".toList)] := by
  decide +kernel

set_option maxRecDepth 1000000 in
example : docOK C01.intIO histSampleDoc = true := histSample_docOK

set_option maxRecDepth 1000000 in
example : histOK C01.intIO false (fun q => q == "a.par".toList) "a.par".toList histSampleDoc histSampleOps = true ∧
    histOK C01.intIO true (fun q => q == "a.par".toList) "a.par".toList histSampleDoc histSampleOps = true ∧
    rawOK true histSampleDoc = true := histSample_eval.1

set_option maxRecDepth 1000000 in
/-- `mjd` has the value the third operation appended, `note` the stripped value of the first -/
example : (histDoc C01.intIO false (fun q => q == "a.par".toList) "a.par".toList histSampleDoc histSampleOps).map
      (fun D => (docLoop D).pairs) =
    some [("mjd".toList, "54580".toList), ("note".toList, "two words".toList)] := histSample_eval.2

/-- `history_content_file` applies to the sample -/
example (text : Str) (hr : renderFile C01.intIO histSampleDoc = .ok text) :
    let fs : Str → Option Str := fun q => if q = "a.par".toList then some text else none
    let s : State Int := ⟨fs, load C01.intIO fs "a.par".toList false⟩
    loopOf C01.intIO false (run C01.intIO s histSampleOps).obj.contents =
      .ok (expectAfter C01.intIO s (docLoop histSampleDoc) histSampleOps) ∧
    Inv C01.intIO (run C01.intIO s histSampleOps) := by
  intro fs s
  have hfs : (fun q => (fs q).isSome) = fun q => q == "a.par".toList := by
    funext q
    show (if q = "a.par".toList then some text else none).isSome = (q == "a.par".toList)
    by_cases hq : q = "a.par".toList
    · rw [if_pos hq, beq_iff_eq.mpr hq]; rfl
    · rw [if_neg hq, beq_eq_false_iff_ne.mpr hq]; rfl
  have hops : histOK C01.intIO false (fun q => (fs q).isSome) "a.par".toList histSampleDoc histSampleOps = true := by
    rw [hfs]; exact histSample_eval.1.1
  have := history_content_file C01.intIO C01.intIO_H1 C01.intIO_H2 histSampleDoc fs "a.par".toList text false
    histSampleOps histSample_docOK rfl (by decide) hr (if_pos rfl) hops
  exact ⟨this.1, this.2.1⟩

end PydlVerif.C03
