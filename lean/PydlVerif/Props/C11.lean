/-
C11 property theorems: `combine1fiber` (pydl/pydlspec2d/spec2d.py; `preprocess_spectra`: spec1d.py) - its inverse variance is conservative,
the grouping, lengths, the flux of scaled and of constant input through the whole function.  Model: Model/Combine.lean, Model/CombineFit.lean
(the `fit` parameter instantiated with the modelled `iterfit`).  Exact arithmetic in an arbitrary linearly ordered field `K` (`scrub_finite`
alone is for any scalar type).  `specs`: the spectra as the code forms them (`specsOf`), lists of samples (wavelength `x`, working inverse
variance `iv`, `keep` = `fullcombmask`); `lam`: an output wavelength, `nm`: its `newmask`.
-/
import PydlVerif.Lemmas.Combine
import PydlVerif.Lemmas.CombineGroups
import PydlVerif.Lemmas.CombineScale
import PydlVerif.Lemmas.CombineConst
import Mathlib.Data.Rat.Floor
namespace PydlVerif.C11
open PydlVerif PydlVerif.Interp PydlVerif.Combine

section ivar
variable {K : Type} [Field K] [LinearOrder K] [IsStrictOrderedRing K] [FloorRing K]
attribute [local instance] fieldScalar
attribute [-instance] Scalar.instOfNat Scalar.instOfScientific

theorem rawIvarAt_eq_sum (specs : List (List (Samp K))) (lam : K) (nm : Bool) :
    rawIvarAt specs lam nm = (specs.filterMap (contrib · lam nm)).sum := by
  have key : ∀ acc : K, specs.foldl (fun acc s => match contrib s lam nm with | some c => acc + c | none => acc) acc =
      acc + (specs.filterMap (contrib · lam nm)).sum := by
    induction specs with
    | nil => intro acc; exact (add_zero acc).symm
    | cons s specs ih =>
      intro acc
      rw [List.foldl_cons, ih, List.filterMap_cons]
      cases contrib s lam nm with
      | none => rfl
      | some c => exact (add_assoc acc c _).trans (congrArg _ List.sum_cons.symm)
  exact (key _).trans ((congrArg (· + _) (Nat.cast_zero (R := K))).trans (zero_add _))

/-- every spectrum adds a value ≥ 0 to an output pixel's inverse variance (`ivar ≥ 0`) -/
theorem contrib_nonneg (s : List (Samp K)) (lam : K) (nm : Bool) (c : K)
    (hiv : ∀ a ∈ s, 0 ≤ a.iv) (h : contrib s lam nm = some c) : 0 ≤ c := by
  obtain ⟨p0, rest, rfl, _, _, rfl⟩ := contrib_some s lam nm c h
  apply mul_nonneg (mul_nonneg _ (castB_nonneg _)) (castB_nonneg _)
  rcases interp2 p0 rest lam with ⟨a, b, hc, ha, hb, e1, _⟩ | ⟨a, hm, _, e1, _⟩
  · rw [e1]
    exact lerp_nonneg _ _ _ _ _ (le_of_lt ha) hb (vI_nonneg a (hiv a hc.mem.1)) (vI_nonneg b (hiv b hc.mem.2))
  · rw [e1]; exact vI_nonneg a (hiv a hm)

/-- `newivar ≥ 0` at every output pixel, for any number of spectra -/
theorem newivar_nonneg (specs : List (List (Samp K))) (lam : K) (nm : Bool)
    (hiv : ∀ s ∈ specs, ∀ a ∈ s, 0 ≤ a.iv) : 0 ≤ rawIvarAt specs lam nm := by
  rw [rawIvarAt_eq_sum]
  refine List.sum_nonneg fun c hc => ?_
  obtain ⟨s, hs, h⟩ := List.mem_filterMap.1 hc
  exact contrib_nonneg s lam nm c (hiv s hs) h

theorem rawIvarAt_zero (specs : List (List (Samp K))) (lam : K) (nm : Bool)
    (hz : ∀ s ∈ specs, ∀ c, contrib s lam nm = some c → c = 0) : rawIvarAt specs lam nm = 0 := by
  rw [rawIvarAt_eq_sum]
  refine List.sum_eq_zero fun c hc => ?_
  obtain ⟨s, hs, h⟩ := List.mem_filterMap.1 hc
  exact hz s hs c h

/-- an output pixel left of the smallest or right of the largest wavelength of every spectrum gets
inverse variance exactly 0 -/
theorem newivar_zero_outside (specs : List (List (Samp K))) (lam : K) (nm : Bool)
    (hout : ∀ p0 rest, p0 :: rest ∈ specs →
      lam < lmin p0.x (rest.map (·.x)) ∨ lmax p0.x (rest.map (·.x)) < lam) :
    rawIvarAt specs lam nm = 0 := by
  apply rawIvarAt_zero
  intro s hs c hc
  obtain ⟨p0, rest, rfl, h1, h2, _⟩ := contrib_some s lam nm c hc
  rcases hout p0 rest hs with h | h
  · exact absurd h1 (not_le.2 h)
  · exact absurd h2 (not_le.2 h)

/-- `newivar` is exactly 0 unless `lam` lies between two kept pixels or on one - up to the code's slack:
`hbr` keeps `lam` farther than the fraction `EPS = 2⁻²³` (`np.finfo(np.float32).eps`) of the gap from a kept neighbour -/
theorem newivar_zero_bad_bracket (specs : List (List (Samp K))) (lam : K) (nm : Bool)
    (hE : ∀ p0 rest, p0 :: rest ∈ specs → Ends p0 rest)
    (hnode : ∀ s ∈ specs, ∀ a ∈ s, a.x = lam → a.keep = false)
    (hbr : ∀ s ∈ specs, ∀ a b, Consec a b s → a.x < lam → lam < b.x →
      ¬ (a.keep = true ∧ b.keep = true) ∧
      (a.keep = true → eps < (lam - a.x) / (b.x - a.x)) ∧
      (b.keep = true → eps < (b.x - lam) / (b.x - a.x))) :
    rawIvarAt specs lam nm = 0 := by
  apply rawIvarAt_zero
  intro s hs c hc
  obtain ⟨p0, rest, rfl, _⟩ := contrib_some s lam nm c hc
  by_contra hne
  obtain ⟨_, h⟩ := contrib_nonzero p0 rest (hE p0 rest hs) lam nm c hc hne
  rcases h with ⟨a, b, hcs, ha, hb, h⟩ | ⟨a, hm, hx, hk, _⟩
  · obtain ⟨h1, h2, h3⟩ := hbr _ hs a b hcs ha hb
    rcases h with ⟨ka, kb, _⟩ | ⟨ka, _, hle, _⟩ | ⟨_, kb, hle, _⟩
    · exact h1 ⟨ka, kb⟩
    · exact absurd hle (not_le.2 (h2 ka))
    · exact absurd hle (not_le.2 (h3 kb))
  · rw [hnode _ hs a hm hx] at hk
    exact Bool.noConfusion hk

theorem contrib_zero_of_no_keep (s : List (Samp K)) (lam : K) (nm : Bool) (c : K)
    (hk : ∀ a ∈ s, a.keep = false) (h : contrib s lam nm = some c) : c = 0 := by
  obtain ⟨p0, rest, rfl, _, _, rfl⟩ := contrib_some s lam nm c h
  rcases interp2 p0 rest lam with ⟨a, b, hc, _, _, e1, _⟩ | ⟨a, hm, _, e1, _⟩
  · rw [e1]
    simp only [vI, hk a hc.mem.1, hk b hc.mem.2, castB_false, mul_zero, lerp_const, zero_mul]
  · rw [e1]
    simp only [vI, hk a hm, castB_false, mul_zero, zero_mul]

/-- when no sample of any spectrum is kept, or the output pixel's `newmask` is not set, `newivar` is 0 -/
theorem newivar_zero_no_good (specs : List (List (Samp K))) (lam : K) (nm : Bool)
    (h : (∀ s ∈ specs, ∀ a ∈ s, a.keep = false) ∨ nm = false) : rawIvarAt specs lam nm = 0 := by
  apply rawIvarAt_zero
  intro s hs c hc
  rcases h with h | h
  · exact contrib_zero_of_no_keep s lam nm c (h s hs) hc
  · obtain ⟨_, _, _, _, _, rfl⟩ := contrib_some s lam nm c hc
    rw [h, castB_false, mul_zero]

theorem rawIvarAt_single (s : List (Samp K)) (lam : K) (nm : Bool) :
    rawIvarAt [s] lam nm = match contrib s lam nm with | some c => c | none => 0 := by
  rw [rawIvarAt_eq_sum, List.filterMap_cons]
  cases contrib s lam nm with
  | none => rfl
  | some c => exact List.sum_singleton

/-- single spectrum: a non-zero `newivar` is the linear interpolation of the input inverse variance between the two neighbouring
samples, both kept (or the value of a kept sample exactly at `lam`); the only other non-zero values lie inside the code's `EPS`
slack next to a kept sample, where the interpolation runs towards 0 -/
theorem newivar_single_is_interp (p0 : Samp K) (rest : List (Samp K)) (hE : Ends p0 rest) (lam : K) (nm : Bool)
    (hne : rawIvarAt [p0 :: rest] lam nm ≠ 0) :
    nm = true ∧
    ((∃ a b, Consec a b (p0 :: rest) ∧ a.x < lam ∧ lam < b.x ∧
        ((a.keep = true ∧ b.keep = true ∧ rawIvarAt [p0 :: rest] lam nm = lerp a.x a.iv b.x b.iv lam) ∨
         (a.keep = true ∧ b.keep = false ∧ (lam - a.x) / (b.x - a.x) ≤ eps ∧
            rawIvarAt [p0 :: rest] lam nm = lerp a.x a.iv b.x 0 lam) ∨
         (a.keep = false ∧ b.keep = true ∧ (b.x - lam) / (b.x - a.x) ≤ eps ∧
            rawIvarAt [p0 :: rest] lam nm = lerp a.x 0 b.x b.iv lam))) ∨
     (∃ a, a ∈ p0 :: rest ∧ a.x = lam ∧ a.keep = true ∧ rawIvarAt [p0 :: rest] lam nm = a.iv)) := by
  rw [rawIvarAt_single] at hne ⊢
  cases hc : contrib (p0 :: rest) lam nm with
  | none => rw [hc] at hne; exact absurd rfl hne
  | some c =>
    rw [hc] at hne
    exact contrib_nonzero p0 rest hE lam nm c hc hne

/-- single spectrum: a non-zero output inverse variance is at most the larger of the two neighbouring
input values (`ivar ≥ 0`) -/
theorem newivar_le_local_max (p0 : Samp K) (rest : List (Samp K)) (hE : Ends p0 rest) (lam : K) (nm : Bool)
    (hiv : ∀ a ∈ p0 :: rest, 0 ≤ a.iv) (hne : rawIvarAt [p0 :: rest] lam nm ≠ 0) :
    (∃ a b, Consec a b (p0 :: rest) ∧ a.x < lam ∧ lam < b.x ∧ rawIvarAt [p0 :: rest] lam nm ≤ max a.iv b.iv) ∨
    (∃ a, a ∈ p0 :: rest ∧ a.x = lam ∧ rawIvarAt [p0 :: rest] lam nm = a.iv) := by
  obtain ⟨_, h⟩ := newivar_single_is_interp p0 rest hE lam nm hne
  rcases h with ⟨a, b, hcs, ha, hb, h⟩ | ⟨a, hm, hx, _, e⟩
  · left
    refine ⟨a, b, hcs, ha, hb, ?_⟩
    have h0a := hiv a hcs.mem.1
    have h0b := hiv b hcs.mem.2
    rcases h with ⟨_, _, e⟩ | ⟨_, _, _, e⟩ | ⟨_, _, _, e⟩
    · rw [e]; exact lerp_le_max _ _ _ _ _ (le_of_lt ha) hb
    · rw [e]
      exact le_trans (lerp_le_max _ _ _ _ _ (le_of_lt ha) hb) (max_le_max (le_refl _) h0b)
    · rw [e]
      exact le_trans (lerp_le_max _ _ _ _ _ (le_of_lt ha) hb) (max_le_max h0a (le_refl _))
  · right; exact ⟨a, hm, hx, e⟩

/-- the bad-region growth only sets values to 0 -/
theorem growBad_cases (a : List K) (p : Nat) (hp : p < a.length) :
    (growBad a)[p]'(by rw [growBad_length]; exact hp) = 0 ∨
    (growBad a)[p]'(by rw [growBad_length]; exact hp) = a[p] := by
  unfold growBad
  simp only [List.getElem_map, List.getElem_range]
  split
  · exact Or.inl Nat.cast_zero
  · exact Or.inr (List.getD_eq_getElem _ _ hp)

theorem finishPairs_length (classify : K → Val K) (oneD : Bool) (nspec ncol : Nat) (x newx : List K) (st : St K) :
    (finishPairs classify oneD nspec ncol x newx st).length = min st.flux.length newx.length := by
  simp [finishPairs, scrub_length, growBad_length, rawIvar]

/-- every returned inverse variance is 0 or the value `rawIvarAt` of its pixel -/
theorem final_ivar_cases (classify : K → Val K) (oneD : Bool) (nspec ncol : Nat) (x newx : List K) (st : St K)
    (p : Nat) (hp : p < ((finishPairs classify oneD nspec ncol x newx st).map (·.2)).length) :
    ((finishPairs classify oneD nspec ncol x newx st).map (·.2))[p] = 0 ∨
    ((finishPairs classify oneD nspec ncol x newx st).map (·.2))[p] =
      rawIvarAt (specsOf oneD nspec ncol x (workIvar oneD x.length st.ivar) st.fcm)
        (newx.getD p 0) (st.mask.getD p false) := by
  have h0 : ((0 : ℕ) : K) = 0 := Nat.cast_zero
  rw [List.length_map, finishPairs_length] at hp
  have hp3 : p < newx.length := lt_of_lt_of_le hp (min_le_right _ _)
  have hp2 : p < (rawIvar (specsOf oneD nspec ncol x (workIvar oneD x.length st.ivar) st.fcm) newx st.mask).length := by
    rw [rawIvar, List.length_map, List.length_range]; exact hp3
  simp only [finishPairs, scrub, List.getElem_map, List.getElem_zipWith]
  split
  · rcases growBad_cases _ p hp2 with h | h
    · left; exact h
    · right; rw [h]; simp [rawIvar, List.getElem_range]
  · left; exact h0

theorem finish_ok (mean : List K → K) (erf : K → K) (classify : K → Val K)
    (oneD : Bool) (nspec ncol : Nat) (x newx : List K) (m : Method) (st : St K) (f v : List K)
    (h : finish mean erf classify oneD nspec ncol x newx m st = .ok (f, v)) :
    v = (finishPairs classify oneD nspec ncol x newx st).map (·.2) ∧
    aesthIf mean erf ((finishPairs classify oneD nspec ncol x newx st).map (·.1))
      ((finishPairs classify oneD nspec ncol x newx st).map (·.2)) m = .ok f := by
  unfold finish at h
  obtain ⟨f', hA, h⟩ := bind_ok h
  cases h
  exact ⟨rfl, hA⟩

/-- the returned inverse variance is ≥ 0 (`finish`, any state of the group loop; 1-D input needs
its own `ivar ≥ 0`, stacked input is clipped by the code, missing `objivar` means unit weights) -/
theorem final_ivar_nonneg (mean : List K → K) (erf : K → K) (classify : K → Val K)
    (oneD : Bool) (nspec ncol : Nat) (x newx : List K) (m : Method) (st : St K) (f v : List K)
    (hiv : oneD = true → ∀ l, st.ivar = some l → ∀ a ∈ l, 0 ≤ a)
    (h : finish mean erf classify oneD nspec ncol x newx m st = .ok (f, v)) :
    ∀ a ∈ v, 0 ≤ a := by
  obtain ⟨rfl, _⟩ := finish_ok mean erf classify oneD nspec ncol x newx m st f v h
  intro a ha
  obtain ⟨p, hp, rfl⟩ := List.getElem_of_mem ha
  have hw : ∀ a ∈ workIvar oneD x.length st.ivar, 0 ≤ a := by
    intro a ha
    unfold workIvar at ha
    cases hs : st.ivar with
    | none =>
      rw [hs] at ha
      simp only [List.mem_replicate] at ha
      rw [ha.2]
      exact Nat.cast_nonneg (α := K) 1
    | some l =>
      rw [hs] at ha
      cases oneD with
      | true => exact hiv rfl l hs a (by simpa using ha)
      | false =>
        simp only [Bool.false_eq_true, if_false, List.mem_map] at ha
        obtain ⟨b, _, rfl⟩ := ha
        show 0 ≤ b * castB (decide (((0 : ℕ) : K) < b))
        rw [Nat.cast_zero]
        by_cases hb : 0 < b
        · simp only [hb, decide_true, castB_true, mul_one]; exact le_of_lt hb
        · simp only [hb, decide_false, castB_false, mul_zero]; exact le_refl _
  rcases final_ivar_cases classify oneD nspec ncol x newx st p hp with h | h
  · rw [h]
  · rw [h]
    apply newivar_nonneg
    intro s hs a ha
    unfold specsOf at hs
    simp only [List.mem_map, List.mem_filter] at hs
    obtain ⟨idx, _, rfl⟩ := hs
    simp only [List.mem_map] at ha
    obtain ⟨i, _, rfl⟩ := ha
    simp only
    by_cases hi : i < (workIvar oneD x.length st.ivar).length
    · rw [List.getD_eq_getElem _ _ hi]; exact hw _ (List.getElem_mem hi)
    · rw [List.getD_eq_default _ _ (not_lt.1 hi)]; exact (Nat.cast_zero (R := K)).ge

/-- the returned inverse variance is 0 wherever `rawIvarAt` is 0: the `newivar_zero_…` theorems give the zero pattern of the
function's second output -/
theorem final_ivar_zero (classify : K → Val K) (oneD : Bool) (nspec ncol : Nat) (x newx : List K) (st : St K)
    (p : Nat) (hp : p < ((finishPairs classify oneD nspec ncol x newx st).map (·.2)).length)
    (hz : rawIvarAt (specsOf oneD nspec ncol x (workIvar oneD x.length st.ivar) st.fcm)
        (newx.getD p 0) (st.mask.getD p false) = 0) :
    ((finishPairs classify oneD nspec ncol x newx st).map (·.2))[p] = 0 := by
  rcases final_ivar_cases classify oneD nspec ncol x newx st p hp with h | h
  · exact h
  · rw [h, hz]

/-- the inverse variance `finish` returns has the output grid's length when `newflux` has it -/
theorem finish_length (mean : List K → K) (erf : K → K) (classify : K → Val K)
    (oneD : Bool) (nspec ncol : Nat) (x newx : List K) (m : Method) (st : St K) (f v : List K)
    (hfl : st.flux.length = newx.length)
    (h : finish mean erf classify oneD nspec ncol x newx m st = .ok (f, v)) :
    v.length = newx.length := by
  rw [(finish_ok mean erf classify oneD nspec ncol x newx m st f v h).1, List.length_map, finishPairs_length, hfl, min_self]

end ivar

section scrub
variable {α : Type} [Scalar α]

/-- after the scrub every flux and inverse variance is finite, whatever the classifier (`np.isfinite` at IEEE,
"everything" in an exact field), as long as it calls 0 finite -/
theorem scrub_finite (classify : α → Val α) (h0 : isFin classify (0 : α) = true) (flux ivar : List α) :
    ∀ q ∈ scrub classify flux ivar, isFin classify q.1 = true ∧ isFin classify q.2 = true := by
  intro q hq
  unfold scrub at hq
  obtain ⟨i, hi, rfl⟩ := List.getElem_of_mem hq
  simp only [List.getElem_zipWith]
  split
  · rename_i h
    simpa using h
  · exact ⟨h0, h0⟩

end scrub

section field
variable {K : Type} [Field K] [LinearOrder K] [IsStrictOrderedRing K] [FloorRing K]
attribute [local instance] fieldScalar
attribute [-instance] Scalar.instOfNat Scalar.instOfScientific

theorem interpGo_shift (s lam : K) : ∀ (rest : List (K × K)) (x0 f0 : K),
    interpGo lam (x0 - s) f0 (rest.map fun q => (q.1 - s, q.2)) = interpGo (lam + s) x0 f0 rest := by
  intro rest
  induction rest with
  | nil => intro x0 f0; simp [interpGo]
  | cons q rest ih =>
    intro x0 f0
    obtain ⟨x1, f1⟩ := q
    simp only [List.map_cons, interpGo]
    have h1 : lam < x1 - s ↔ lam + s < x1 := lt_sub_iff_add_lt
    have h2 : Scalar.beq (x0 - s) lam = Scalar.beq x0 (lam + s) := by
      have : (x0 - s = lam) ↔ (x0 = lam + s) := sub_eq_iff_eq_add
      simp [Scalar.beq, this]
    by_cases h : lam + s < x1
    · simp only [h1.2 h, h, if_true, h2]
      split
      · rfl
      · have e1 : x1 - s - (x0 - s) = x1 - x0 := by ring
        have e2 : lam - (x0 - s) = lam + s - x0 := by ring
        rw [e1, e2]
    · have : ¬ lam < x1 - s := fun h' => h (h1.1 h')
      simp only [this, h, if_false]
      exact ih x1 f1

/-- `np.interp` commutes with a shift of the abscissae: a feature at log-wavelength `L` is found at `L - s` -/
theorem interp_shift (s lam x0 f0 : K) (rest : List (K × K)) :
    npInterp (x0 - s) f0 (rest.map fun q => (q.1 - s, q.2)) lam = npInterp x0 f0 rest (lam + s) := by
  unfold npInterp
  have h1 : lam < x0 - s ↔ lam + s < x0 := lt_sub_iff_add_lt
  by_cases h : lam + s < x0
  · simp [h1.2 h, h]
  · have : ¬ lam < x0 - s := fun h' => h (h1.1 h')
    simp only [this, h, if_false]
    exact interpGo_shift s lam rest x0 f0

/-- `preprocess_spectra` moves a feature at `L` to `L - s` (`s = log10(1+z)` as numpy computed it), for any
per-pixel quantity `f` interpolated linearly; all `loglam > 0` (the code drops the others) -/
theorem shiftRow_feature (loglam f : List K) (s L : K) (hpos : ∀ l ∈ loglam, 0 < l) :
    interpL ((shiftRow loglam s).zip f) (L - s) = interpL (loglam.zip f) L := by
  have hs : shiftRow loglam s = loglam.map (fun l => l - s) := by
    unfold shiftRow
    congr 1
    apply List.filter_eq_self.2
    intro l hl
    simp only [decide_eq_true_eq]
    show ((0 : ℕ) : K) < l
    rw [Nat.cast_zero]; exact hpos l hl
  rw [hs]
  cases loglam with
  | nil => simp [interpL]
  | cons l0 ls =>
    cases f with
    | nil => simp [interpL]
    | cons f0 fs =>
      simp only [List.map_cons, List.zip_cons_cons, interpL]
      have : (ls.map fun l => l - s).zip fs = (ls.zip fs).map fun q => (q.1 - s, q.2) := by
        rw [List.zip_map_left]
        rfl
      rw [this, interp_shift s (L - s) l0 f0 (ls.zip fs)]
      congr 1; ring


/-- wavelength of the `i`-th sorted good pixel -/
def wv (x : List K) (isort : List Nat) (i : Nat) : K := x.getD (isort.getD i 0) 0

/-- the groups are a partition of the sorted good pixels into maximal runs of gaps ≤ `maxsep`: `groupsOf` does not raise, the
groups concatenated are `isort` again, neighbours inside a group are at most `maxsep` apart, the gap between two groups is larger.
NO sortedness needed: the statement is about neighbours in the order `isort`. -/
theorem groups_partition (x : List K) (isort : List Nat) (maxsep : K) (hm : 0 < maxsep) (hne : isort ≠ []) :
    ∃ cuts : List (Nat × Nat),
      groupsOf x isort maxsep = .ok (cuts.map (piece isort)) ∧
      (cuts.map (piece isort)).flatten = isort ∧
      Tiles 0 cuts isort.length ∧
      ∀ p ∈ cuts, p.1 ≤ p.2 ∧ p.2 < isort.length ∧
        (∀ i, p.1 ≤ i → i < p.2 → wv x isort (i + 1) - wv x isort i ≤ maxsep) ∧
        (p.1 = 0 ∨ maxsep < wv x isort p.1 - wv x isort (p.1 - 1)) ∧
        (p.2 + 1 = isort.length ∨ maxsep < wv x isort (p.2 + 1) - wv x isort p.2) := by
  obtain ⟨i0, ir, rfl⟩ := List.exists_cons_of_ne_nil hne
  set ws := ir.map (fun i => x.getD i 0) with hws
  set pad := padwave (x.getD i0 0) ws maxsep with hpad
  have hlen : ws.length = ir.length := List.length_map _
  -- `g i`: the gap in front of position `i` of `pad` is flagged; `pad[i+1]` is the wavelength of the `i`-th sorted good pixel
  let g : Nat → Bool := fun i => decide (maxsep < pad.getD (i + 1) 0 - pad.getD i 0)
  have hgt : ∀ i, g i = true → maxsep < pad.getD (i + 1) 0 - pad.getD i 0 := fun i h => of_decide_eq_true h
  have hgf : ∀ i, g i = false → pad.getD (i + 1) 0 - pad.getD i 0 ≤ maxsep := fun i h => not_lt.1 (of_decide_eq_false h)
  have hmid : ∀ i, i < ir.length + 1 → pad.getD (i + 1) 0 = wv x (i0 :: ir) i := by
    intro i hi
    rw [hpad, pad_get_mid _ _ _ _ _ (by rw [hlen]; exact hi), wv, List.getD_eq_getElem (i0 :: ir) _ hi]
    exact (List.getD_eq_getElem _ _ (by rw [List.length_cons, hlen]; exact hi)).trans (List.getElem_map (fun i => x.getD i 0) (l := i0 :: ir))
  have hgn : g (ir.length + 1) = true := by
    have := pad_gap_last (x.getD i0 0) ws maxsep hm
    rw [hlen] at this
    exact decide_eq_true this
  obtain ⟨hl, ht, hc⟩ := cuts_tiles_range g ir.length (decide_eq_true (pad_gap_first _ _ _ hm)) hgn
  refine ⟨_, ?_, ?_, ht, fun p hp => ?_⟩
  · unfold groupsOf ig1 ig2
    simp only [List.map_cons, scalar_lit, Nat.cast_zero, List.length_cons]
    rw [if_neg (not_not.2 hl)]
    congr 1
    rw [List.zip, List.map_zipWith]
    rfl
  · rw [tiles_flatten (i0 :: ir) _ _ _ ht, Nat.sub_zero, List.drop_zero]
    exact List.take_of_length_le (le_refl _)
  · obtain ⟨_, _, a3, a4, a5⟩ := hc p hp
    have hp2 : p.2 < ir.length + 1 := List.mem_range.1 (List.mem_filter.1 (List.of_mem_zip hp).2).1
    have hp1 := tiles_fst_le _ _ _ ht p hp
    refine ⟨hp1, hp2, fun i h1 h2 => ?_, ?_, ?_⟩
    · have := hgf _ (a5 i h1 (Nat.zero_le _) h2)
      rwa [hmid (i + 1) (by omega), hmid i (by omega)] at this
    · rcases a4 with h | h
      · exact Or.inl h
      · rcases Nat.eq_zero_or_pos p.1 with h0 | h0
        · exact Or.inl h0
        · obtain ⟨j, hj⟩ := Nat.exists_eq_succ_of_ne_zero (Nat.ne_of_gt h0)
          rw [hj] at h ⊢
          have := hgt _ h
          rw [hmid (j + 1) (by omega), hmid j (by omega)] at this
          exact Or.inr this
    · by_cases hlast : p.2 + 1 = (i0 :: ir).length
      · exact Or.inl hlast
      · have := hgt _ a3
        rw [hmid (p.2 + 1) (by rw [List.length_cons] at hlast; omega), hmid p.2 hp2] at this
        exact Or.inr this


theorem preprocessInput_x (loglam logshift : List K) (flux ivar : List (List K)) (newx : List K) (m : Method) (k : Nat) :
    (preprocessInput loglam logshift flux ivar newx m k).x = shiftRow loglam (logshift.getD k 0) := by
  simp only [preprocessInput, scalar_lit, Nat.cast_zero]

/-- `preprocess_spectra` returns one (flux, ivar) row per object; row `k` is `combine1fiber`'s answer for wavelengths
`loglam[loglam > 0] - logshift[k]` and row `k` of flux and ivar: object `k` is shifted by ITS OWN `log10(1+z_k)`, whatever the other
objects are (dead fibres are ordinary calls) -/
theorem preprocess_object (c1f : Input K → Combine.R (List K × List K)) (loglam logshift : List K)
    (flux ivar : List (List K)) (newx : List K) (m : Method) (outs : List (List K × List K))
    (h : preprocessSpectra c1f loglam logshift flux ivar newx m = .ok outs) :
    outs.length = flux.length ∧
    ∀ k (hk : k < flux.length) (hk' : k < outs.length),
      c1f (preprocessInput loglam logshift flux ivar newx m k) = .ok outs[k] ∧
      (preprocessInput loglam logshift flux ivar newx m k).x = shiftRow loglam (logshift.getD k 0) ∧
      (preprocessInput loglam logshift flux ivar newx m k).flux = pickRow loglam (flux.getD k []) ∧
      (preprocessInput loglam logshift flux ivar newx m k).ivar = some (pickRow loglam (ivar.getD k [])) ∧
      (preprocessInput loglam logshift flux ivar newx m k).newx = newx := by
  unfold preprocessSpectra at h
  split at h
  · cases h
  · obtain ⟨hl, hk⟩ := mapM_ok _ _ _ h
    simp only [List.length_range] at hl hk
    refine ⟨hl, fun k hk1 hk2 => ⟨?_, preprocessInput_x _ _ _ _ _ _ _, rfl, rfl, rfl⟩⟩
    have := hk k hk1 hk2
    simpa using this

/-- de-redshift, every object: in the wavelengths handed to `combine1fiber` for object `k`, a feature observed at `L`
is presented at `L - log10(1+z_k)` -/
theorem preprocess_feature (loglam logshift : List K) (flux ivar : List (List K)) (newx : List K) (m : Method)
    (k : Nat) (f : List K) (L : K) (hpos : ∀ l ∈ loglam, 0 < l) :
    interpL ((preprocessInput loglam logshift flux ivar newx m k).x.zip f) (L - logshift.getD k 0) =
      interpL (loglam.zip f) L := by
  rw [preprocessInput_x]
  exact shiftRow_feature loglam f (logshift.getD k 0) L hpos


/-- the samples with every inverse variance multiplied by `k` -/
def scaleIv (k : K) (s : List (Samp K)) : List (Samp K) := s.map fun p => ⟨p.x, k * p.iv, p.keep⟩

/-- multiplying one spectrum's inverse variance by `k` (`k = 1/c²`) multiplies its contribution by `k`;
which pixels take part does not change -/
theorem contrib_scale (k : K) (s : List (Samp K)) (lam : K) (nm : Bool) :
    contrib (scaleIv k s) lam nm = (contrib s lam nm).map (k * ·) := by
  cases s with
  | nil => simp [scaleIv, contrib]
  | cons p0 rest =>
    have hx : (List.map (fun p => p.x) (List.map (fun p : Samp K => (⟨p.x, k * p.iv, p.keep⟩ : Samp K)) rest))
        = List.map (fun p => p.x) rest := by simp [List.map_map, Function.comp_def]
    have hm : mkPts (scaleIv k (p0 :: rest)) = mkPts (p0 :: rest) := by
      simp [mkPts, scaleIv, List.map_map, Function.comp_def]
    have hi : interpL (ivPts (scaleIv k (p0 :: rest))) lam = k * interpL (ivPts (p0 :: rest)) lam := by
      simp only [scaleIv, ivPts, List.map_cons, List.map_map, interpL]
      rw [← CombineScale.npInterp_mul, List.map_map]
      simp only [Function.comp_def, mul_assoc]
    unfold contrib
    simp only [scaleIv, List.map_cons, hx]
    split
    · simp only [Option.map_some, Option.some.injEq]
      have hi' := hi
      have hm' := hm
      simp only [scaleIv, List.map_cons] at hi' hm'
      rw [hi', hm']
      ring
    · rfl

/-- `(ivar·k) ↦ (newivar·k)`, before the bad-region growth -/
theorem newivar_scale (k : K) (specs : List (List (Samp K))) (lam : K) (nm : Bool) :
    rawIvarAt (specs.map (scaleIv k)) lam nm = k * rawIvarAt specs lam nm := by
  have hc : (contrib · lam nm) ∘ scaleIv k = fun s => (contrib s lam nm).map (k * ·) := funext fun s => contrib_scale k s lam nm
  rw [rawIvarAt_eq_sum, rawIvarAt_eq_sum, List.filterMap_map, hc, ← List.map_filterMap]
  exact (List.sum_map_mul_left _ id k).trans (by rw [List.map_id])


theorem scatter_length {β : Type} (arr : List β) (idx : List Nat) (vals : List β) :
    (scatter arr idx vals).length = arr.length :=
  foldl_set_length _ arr

theorem scatterConst_length {β : Type} (arr : List β) (idx : List Nat) (v : β) :
    (scatterConst arr idx v).length = arr.length := by
  unfold scatterConst
  exact List.foldlRecOn (motive := fun a : List β => a.length = arr.length) _ _ rfl fun a h i _ => by rw [List.length_set, h]

theorem scatter_getD_not_mem {β : Type} (arr : List β) (idx : List Nat) (vals : List β) (i : Nat) (d : β)
    (hi : i ∉ idx) : (scatter arr idx vals).getD i d = arr.getD i d := by
  rw [scatter, List.getD_eq_getElem?_getD, List.getD_eq_getElem?_getD, foldl_set_not_mem _ _ _ fun h => by
    obtain ⟨q, hq, rfl⟩ := List.mem_map.1 h
    exact hi (List.of_mem_zip hq).1]

theorem scatter_mem {β : Type} (arr : List β) (idx : List Nat) (vals : List β) :
    ∀ v ∈ scatter arr idx vals, v ∈ arr ∨ v ∈ vals := by
  unfold scatter
  refine List.foldlRecOn (motive := fun a : List β => ∀ v ∈ a, v ∈ arr ∨ v ∈ vals) _ _ (fun v hv => Or.inl hv) fun a h q hq v hv => ?_
  rcases List.mem_or_eq_of_mem_set hv with hv | rfl
  · exact h v hv
  · exact Or.inr (List.of_mem_zip hq).2

theorem scatter_getD_mem {β : Type} (arr : List β) (idx : List Nat) (vals : List β) (p : Nat) (d : β)
    (hp : p ∈ idx) (hlen : idx.length ≤ vals.length) (hpa : p < arr.length) : (scatter arr idx vals).getD p d ∈ vals := by
  have key : ∀ l : List (Nat × β), (∀ q ∈ l, q.2 ∈ vals) → (∃ q ∈ l, q.1 = p) →
      (l.foldl (fun a (iv : Nat × β) => a.set iv.1 iv.2) arr).getD p d ∈ vals := by
    intro l
    induction l using List.reverseRecOn with
    | nil => rintro _ ⟨q, hq, _⟩; cases hq
    | append_singleton l q ih =>
      intro hv hex
      rw [List.foldl_append, List.foldl_cons, List.foldl_nil, List.getD_eq_getElem?_getD]
      by_cases hqp : q.1 = p
      · rw [hqp, List.getElem?_set_self (by rw [foldl_set_length]; exact hpa)]
        exact hv q (by simp)
      · rw [List.getElem?_set_ne hqp, ← List.getD_eq_getElem?_getD]
        refine ih (fun q' hq' => hv q' (List.mem_append_left _ hq')) ?_
        obtain ⟨q', hq', e⟩ := hex
        rcases List.mem_append.1 hq' with hq' | hq'
        · exact ⟨q', hq', e⟩
        · rw [List.mem_singleton.1 hq'] at e; exact absurd e hqp
  refine key _ (fun q hq => (List.of_mem_zip hq).2) ?_
  obtain ⟨j, hj, rfl⟩ := List.getElem_of_mem hp
  exact ⟨(idx[j], vals[j]'(by omega)), by
    rw [List.mem_iff_getElem]
    exact ⟨j, by simp only [List.length_zip]; omega, by simp⟩, rfl⟩

theorem scatterConst_getD_true (m : List Bool) (idx : List Nat) (p : Nat)
    (h : (scatterConst m idx true).getD p false = true) : m.getD p false = true ∨ p ∈ idx := by
  revert h
  unfold scatterConst
  refine List.foldlRecOn (motive := fun a : List Bool => a.getD p false = true → m.getD p false = true ∨ p ∈ idx) _ _ Or.inl
    fun a h i hi ha => ?_
  by_cases hip : i = p
  · exact Or.inr (hip ▸ hi)
  · rw [List.getD_eq_getElem?_getD, List.getElem?_set_ne hip, ← List.getD_eq_getElem?_getD] at ha
    exact h ha

theorem select_subset {β : Type} (idx : List β) (sel : List Bool) : ∀ a ∈ select idx sel, a ∈ idx := by
  intro a ha
  unfold select at ha
  obtain ⟨q, hq, rfl⟩ := List.mem_map.1 ha
  exact (List.of_mem_zip (List.mem_filter.1 hq).1).1

theorem mem_insideOf (newx : List K) (lo hi : K) : ∀ p ∈ insideOf newx lo hi, p < newx.length := by
  intro p hp
  unfold insideOf at hp
  exact List.mem_range.1 (List.mem_filter.1 hp).1

theorem groupLoop_flux_length (fit : Nat → K → List K → List K → Option (List K) → Combine.R (Fit K)) (bk : K) (x y newx : List K)
    (st st' : St K) (groups : List (List Nat))
    (h : groupLoop fit bk x y newx st groups = .ok st') : st'.flux.length = st.flux.length := by
  refine groupLoop_inv fit bk x y newx groups (fun s => s.flux.length = st.flux.length) (fun s s' k g _ hs hp => ?_) st st' h rfl
  rcases (groupStep_ok fit bk x y newx s s' k g hs).2 with ⟨e, _⟩ | ⟨_, _, _, _, _, _, _, _, e, _⟩
  · rw [e]; exact hp
  · rw [e, scatter_length]; exact hp

/-- a pixel that is in no group keeps its `fullcombmask` through the group loop, for any fit -/
theorem groupLoop_fcm_outside (fit : Nat → K → List K → List K → Option (List K) → Combine.R (Fit K))
    (bk : K) (x y newx : List K) (st st' : St K) (groups : List (List Nat)) (i : Nat)
    (hi : ∀ g ∈ groups, i ∉ g)
    (h : groupLoop fit bk x y newx st groups = .ok st') : st'.fcm.getD i false = st.fcm.getD i false := by
  refine groupLoop_inv fit bk x y newx groups (fun s => s.fcm.getD i false = st.fcm.getD i false)
    (fun s s' k g hg hs hp => ?_) st st' h rfl
  obtain ⟨bm, e⟩ := (groupStep_ok fit bk x y newx s s' k g hs).1
  rw [e, scatter_getD_not_mem _ _ _ _ _ (hi g hg)]
  exact hp

/-- fit contract: whatever is fitted, the curve evaluates to `c` everywhere
(what C08 `bsplvn_sum_one` + the C09 normal equations give for a constant spectrum) -/
def FitConst (fit : Nat → K → List K → List K → Option (List K) → Combine.R (Fit K)) (c : K) : Prop :=
  ∀ k bk gx gy giv F, fit k bk gx gy giv = .ok F → ∀ xs vals vm, F.value xs = .ok (vals, vm) → ∀ v ∈ vals, v = c

/-- constant spectrum ⇒ every pixel of `newflux` is untouched (0) or holds the constant.  `_partial`: the contract
`FitConst` belongs to C08/C09 and is assumed here; `newflux` is taken as the group loop leaves it, before the scrub
and `aesthetics`. -/
theorem const_flux_const_partial (fit : Nat → K → List K → List K → Option (List K) → Combine.R (Fit K))
    (c : K) (hfit : FitConst fit c) (bk : K) (x y newx : List K) (st st' : St K) (groups : List (List Nat))
    (h0 : ∀ v ∈ st.flux, v = 0 ∨ v = c)
    (h : groupLoop fit bk x y newx st groups = .ok st') : ∀ v ∈ st'.flux, v = 0 ∨ v = c := by
  refine groupLoop_inv fit bk x y newx groups (fun s => ∀ v ∈ s.flux, v = 0 ∨ v = c) (fun s s' k g _ hs hp => ?_) st st' h h0
  rcases (groupStep_ok fit bk x y newx s s' k g hs).2 with ⟨e, _⟩ | ⟨_, _, f, vals, vm, hf, _, hval, e, _⟩
  · rw [e]; exact hp
  · rw [e]
    intro v hv
    rcases scatter_mem _ _ _ v hv with h1 | h1
    · exact hp v h1
    · exact Or.inr (hfit _ _ _ _ _ f hf _ vals vm hval v h1)

/-- the flux `finish` returns has the output grid's length when `newflux` has it (through the scrub and every
branch of `aesthetics`, including `'damp'`) -/
theorem finish_flux_length (mean : List K → K) (erf : K → K) (classify : K → Val K)
    (oneD : Bool) (nspec ncol : Nat) (x newx : List K) (m : Method) (st : St K) (f v : List K)
    (hfl : st.flux.length = newx.length)
    (h : finish mean erf classify oneD nspec ncol x newx m st = .ok (f, v)) :
    f.length = newx.length := by
  have h2 := (finish_ok mean erf classify oneD nspec ncol x newx m st f v h).2
  rw [aesthIf_length mean erf _ _ m f (by simp) h2, List.length_map, finishPairs_length, hfl, min_self]

/-- whenever `combine1fiber` returns, flux and inverse variance have the output grid's
length (any fit, any argsort, any kernels, every aesthetics method) -/
theorem combine_flux_length (fit : Nat → K → List K → List K → Option (List K) → Combine.R (Fit K))
    (argsort : List K → List Nat) (med mean : List K → K) (erf : K → K) (classify : K → Val K)
    (inp : Input K) (f v : List K)
    (h : combine1fiber fit argsort med mean erf classify inp = .ok (f, v)) :
    f.length = inp.newx.length ∧ v.length = inp.newx.length := by
  rcases combine1fiber_ok fit argsort med mean erf classify inp f v h with
    ⟨rfl, rfl⟩ | ⟨oneD, nspec, ncol, st, bk, maxsep, groups, iv0, _, hLoop, hfin⟩
  · exact ⟨List.length_replicate, List.length_replicate⟩
  · have hfl : st.flux.length = inp.newx.length := by
      rw [groupLoop_flux_length fit bk inp.x inp.flux inp.newx _ st groups hLoop]
      exact List.length_replicate
    exact ⟨finish_flux_length mean erf classify oneD nspec ncol inp.x inp.newx inp.method st f v hfl hfin,
      finish_length mean erf classify oneD nspec ncol inp.x inp.newx inp.method st f v hfl hfin⟩

/-- whenever `combine1fiber` returns, its inverse variance has the output grid's length -/
theorem combine_length (fit : Nat → K → List K → List K → Option (List K) → Combine.R (Fit K))
    (argsort : List K → List Nat) (med mean : List K → K) (erf : K → K) (classify : K → Val K)
    (inp : Input K) (f v : List K)
    (h : combine1fiber fit argsort med mean erf classify inp = .ok (f, v)) :
    v.length = inp.newx.length :=
  (combine_flux_length fit argsort med mean erf classify inp f v h).2

/-- the pixels of every group are pixels of `isort` (whatever `maxsep`) -/
theorem groupsOf_mem (x : List K) (isort : List Nat) (maxsep : K) (groups : List (List Nat))
    (h : groupsOf x isort maxsep = .ok groups) : ∀ g ∈ groups, ∀ i ∈ g, i ∈ isort := by
  unfold groupsOf at h
  split at h
  · cases h
  · simp only at h
    split at h
    · cases h
    · cases h
      intro g hg i hi
      rw [List.zipWith_eq_zipWith_take_min] at hg
      obtain ⟨k, hk, rfl⟩ := List.getElem_of_mem hg
      simp only [List.getElem_zipWith] at hi
      exact List.mem_of_mem_drop (List.mem_of_mem_take hi)

/-- a pixel whose inverse variance is not positive is never kept (`fullcombmask` stays False), for ANY fit -/
theorem fcm_false_nonpositive (fit : Nat → K → List K → List K → Option (List K) → Combine.R (Fit K))
    (bk : K) (x y newx iv : List K) (perm : List Nat) (maxsep : K) (groups : List (List Nat)) (st st' : St K)
    (npix : Nat)
    (hperm : ∀ p ∈ perm, p < ((List.range npix).filter fun i => decide (iv.getD i 0 > 0)).length)
    (hg : groupsOf x (perm.map fun p => ((List.range npix).filter fun i => decide (iv.getD i 0 > 0)).getD p 0) maxsep = .ok groups)
    (hloop : groupLoop fit bk x y newx st groups = .ok st')
    (i : Nat) (hi : ¬ iv.getD i 0 > 0) : st'.fcm.getD i false = st.fcm.getD i false := by
  apply groupLoop_fcm_outside fit bk x y newx st st' groups i _ hloop
  intro g hgm him
  have := groupsOf_mem x _ maxsep groups hg g hgm i him
  obtain ⟨p, hp, rfl⟩ := List.mem_map.1 this
  have hlt := hperm p hp
  rw [List.getD_eq_getElem _ _ hlt] at hi
  have hm := List.getElem_mem hlt
  simp only [List.mem_filter, decide_eq_true_eq] at hm
  exact hi hm.2

end field

section wls
open Finset
variable {K : Type} [Field K] [LinearOrder K] [IsStrictOrderedRing K]

/-- the weighted least-squares optimum is equivariant under `(y, w) ↦ (c·y, w/c²)`, stated on the normal equations -/
theorem wls_scale_normal {m n : ℕ} (A : Fin m → Fin n → K) (w y : Fin m → K) (s : Fin n → K) (c : K) (hc : c ≠ 0)
    (hN : Lsq.Normal A w y s) : Lsq.Normal A (fun i => w i / c ^ 2) (fun i => c * y i) (fun j => c * s j) := by
  intro k
  -- every term of the scaled equation is `c / c²` times the term of the original one
  have e : ∀ i, w i / c ^ 2 * A i k * (c * y i - ∑ j, A i j * (c * s j))
      = c / c ^ 2 * (w i * A i k * (y i - ∑ j, A i j * s j)) := by
    intro i
    have hs : ∑ j, A i j * (c * s j) = c * ∑ j, A i j * s j := by
      rw [Finset.mul_sum]; exact Finset.sum_congr rfl fun j _ => mul_left_comm _ _ _
    rw [hs]; ring
  simp only [e]
  rw [← Finset.mul_sum, hN k, mul_zero]

/-- `c·s` minimises the objective of the scaled data `(c·y, w/c²)` (weights ≥ 0); where the optimum is unique (positive
definite normal matrix, `wls_scale_unique`) the fit of the scaled data IS `c` times the fit of the original data -/
theorem wls_scale_optimum {m n : ℕ} (A : Fin m → Fin n → K) (w y : Fin m → K) (s z : Fin n → K) (c : K) (hc : c ≠ 0)
    (hw : ∀ i, 0 ≤ w i) (hN : Lsq.Normal A w y s) :
    Lsq.Q A (fun i => w i / c ^ 2) (fun i => c * y i) (fun j => c * s j) ≤
      Lsq.Q A (fun i => w i / c ^ 2) (fun i => c * y i) z :=
  Lsq.lsq_optimum A _ _ _ z (fun i => div_nonneg (hw i) (sq_nonneg c)) (wls_scale_normal A w y s c hc hN)

/-- with a positive definite normal matrix the fit of the scaled data `(c·y, w/c²)` IS `c` times the fit of the original data -/
theorem wls_scale_unique {m n : ℕ} (A : Fin m → Fin n → K) (w y : Fin m → K) (s s' : Fin n → K) (c : K) (hc : c ≠ 0)
    (hpd : ∀ d : Fin n → K, (∑ i, w i * (∑ j, A i j * d j) ^ 2 = 0) → d = 0)
    (hN : Lsq.Normal A w y s) (hN' : Lsq.Normal A (fun i => w i / c ^ 2) (fun i => c * y i) s') :
    s' = fun j => c * s j := by
  refine Lsq.lsq_unique A _ _ s' _ ?_ hN' (wls_scale_normal A w y s c hc hN)
  intro d hd
  apply hpd d
  have e : ∑ i, w i / c ^ 2 * (∑ j, A i j * d j) ^ 2 = (1 / c ^ 2) * ∑ i, w i * (∑ j, A i j * d j) ^ 2 := by
    rw [Finset.mul_sum]; apply Finset.sum_congr rfl; intros; ring
  rw [e] at hd
  rcases mul_eq_zero.1 hd with h | h
  · exact absurd h (one_div_ne_zero (pow_ne_zero 2 hc))
  · exact h

/-- constant data, unique optimum ⇒ all coefficients equal the constant, so the curve is the constant EVERYWHERE, not only
at the data points: `hrow` is C08 `bsplvn_sum_one`, `b` the B-spline values at ANY abscissa in the breakpoint range -/
theorem const_fit_everywhere {m n : ℕ} (A : Fin m → Fin n → K) (w y : Fin m → K) (s : Fin n → K) (c : K)
    (hrow : ∀ i, ∑ j, A i j = 1) (hy : ∀ i, w i ≠ 0 → y i = c)
    (hpd : ∀ d : Fin n → K, (∑ i, w i * (∑ j, A i j * d j) ^ 2 = 0) → d = 0)
    (hN : Lsq.Normal A w y s) :
    s = (fun _ => c) ∧ ∀ b : Fin n → K, ∑ j, b j = 1 → ∑ j, b j * s j = c := by
  have h1 : Lsq.Normal A w (fun i => ∑ j, A i j * (fun _ => c) j) (fun _ => c) := Lsq.normal_exact A w (fun _ => c)
  have h2 : Lsq.Normal A w (fun _ => c) (fun _ => c) := by
    have : (fun i => ∑ j, A i j * (fun _ : Fin n => c) j) = fun _ => c := by
      funext i; rw [← Finset.sum_mul, hrow i, one_mul]
    rw [this] at h1; exact h1
  have h3 : Lsq.Normal A w y (fun _ => c) :=
    Lsq.normal_zero_weight A w (fun _ => c) y _ (fun i hi => (hy i hi).symm) h2
  have hs := Lsq.lsq_unique A w y s _ hpd hN h3
  refine ⟨hs, fun b hb => ?_⟩
  rw [hs, ← Finset.sum_mul, hb, one_mul]

end wls

section c09
open Finset PydlVerif.BSpline PydlVerif.BSplineFit PydlVerif.BSplineFitLemmas PydlVerif.C09
variable {K : Type} [Field K] [LinearOrder K] [IsStrictOrderedRing K] [FloorRing K]
open PydlVerif.AtField
/-- the `Inhabited` instance the model's `arr[i]!` reads use (default `Scalar.ofNat 0`), as in Props/C09 -/
noncomputable local instance instInhabitedK11 : Inhabited K := @PydlVerif.instInhabitedOfScalar K (fieldScalar K)

/-- constant spectrum, status-0 fit: the fitted curve is the constant at every pixel of positive weight - about the object the model
function `fit` returns, no contract on the fit; hypotheses as C09 `fit_reproduces_poly` (`hsolve`: the LAPACK contract).  Says nothing
about abscissae that are not data points. -/
theorem const_fit_data (Kn : Kernels K) (b : BS K) (xs ys ws : List K) (perm : List ℕ) (out : FitOut K)
    (h : fitK Kn b xs ys ws perm = .ok out) (h0 : out.status = 0)
    (hk : 1 ≤ b.nord) (hsize : 2 * b.nord ≤ (gbK b).size)
    (hnn : (goodIdx (b.mask.toList.drop b.nord)).length = (gbK b).size - b.nord)
    (hcs : b.mask.size - b.nord ≤ b.coeff.size)
    (hne : xs ≠ []) (hsorted : xs.Pairwise (· ≤ ·)) (hyl : ys.length = xs.length) (hwl : ws.length = xs.length)
    (hw : ∀ v ∈ ws, 0 ≤ v)
    (hsolve : ∀ rows lower upper mininf a, (@BS.action _ (fieldScalar _) b xs) = .ok (some (rows, lower, upper)) →
      choleskyBandK Kn (normalSystemK rows ys ws lower upper xs.length b.nord ((gbK b).size - b.nord)).1 mininf
        = .ok (.factor a) →
      ∀ c, c < (gbK b).size - b.nord → ∑ c' ∈ range ((gbK b).size - b.nord),
        bandFull (assembleK (fun p a => ((rows.map List.toArray).toArray[p]!)[a]!) (fun p => ys.toArray[p]!)
            (fun p => ws.toArray[p]!) lower upper xs.length b.nord ((gbK b).size - b.nord - b.nord + 1)).1 b.nord c c'
          * (choleskySolveK Kn a (normalSystemK rows ys ws lower upper xs.length b.nord ((gbK b).size - b.nord)).2)[c']!
        = (assembleK (fun p a => ((rows.map List.toArray).toArray[p]!)[a]!) (fun p => ys.toArray[p]!)
            (fun p => ws.toArray[p]!) lower upper xs.length b.nord ((gbK b).size - b.nord - b.nord + 1)).2 c)
    (hmono : ∀ a c, a ≤ c → c ≤ (gbK b).size - 1 → knotAtK (gbK b) a ≤ knotAtK (gbK b) c)
    (hfirst : knotAtK (gbK b) (b.nord - 1) < knotAtK (gbK b) b.nord)
    (hrange : ∀ v ∈ xs, knotAtK (gbK b) (b.nord - 1) ≤ v ∧ v ≤ knotAtK (gbK b) ((gbK b).size - b.nord))
    (cst : K) (hy : ∀ p, p < xs.length → ys.getD p 0 = cst) :
    ∀ p, p < xs.length → 0 < ws.getD p 0 →
      splineAtK (knotAtK (gbK out.obj)) (coeffAtK out.obj) out.obj.nord ((gbK out.obj).size - out.obj.nord) (xs.getD p 0)
        = cst := by
  intro p hp hpos
  have := fit_reproduces_poly Kn b xs ys ws perm out h h0 hk hsize hnn hcs hne hsorted hyl hwl hw hsolve hmono hfirst hrange
    (Polynomial.C cst) (by rw [Polynomial.natDegree_C]; omega) (fun q hq => by rw [hy q hq, Polynomial.eval_C]) p hp hpos
  rw [this, Polynomial.eval_C]

end c09

section scaleFull
open PydlVerif.CombineScale
variable {K : Type} [Field K] [LinearOrder K] [IsStrictOrderedRing K] [FloorRing K]
attribute [local instance] fieldScalar
attribute [-instance] Scalar.instOfNat Scalar.instOfScientific

theorem specsOf_scale (c : K) (oneD : Bool) (nspec ncol : Nat) (x iv : List K) (fcm : List Bool) :
    specsOf oneD nspec ncol x (iv.map (· / c ^ 2)) fcm = (specsOf oneD nspec ncol x iv fcm).map (scaleIv (c ^ 2)⁻¹) := by
  unfold specsOf scaleIv
  simp only [List.map_map]
  apply List.map_congr_left
  intro idx _
  simp only [Function.comp, List.map_map]
  apply List.map_congr_left
  intro i _
  simp only [Function.comp]
  rw [getD_map0' (fun v => v / c ^ 2) (zero_div _), div_eq_inv_mul]

theorem rawIvar_scale (c : K) (specs : List (List (Samp K))) (newx : List K) (mask : List Bool) :
    rawIvar (specs.map (scaleIv (c ^ 2)⁻¹)) newx mask = (rawIvar specs newx mask).map (· / c ^ 2) := by
  unfold rawIvar
  rw [List.map_map]
  apply List.map_congr_left
  intro p _
  rw [Function.comp, newivar_scale, inv_mul_eq_div]

/-- `finish` (inverse variance, growth, scrub, aesthetics) is scale equivariant, provided the bad-region test
`|smooth(newivar,3)| < EPS` (an ABSOLUTE threshold in the code) answers alike (`GrowStable`), nothing is non-finite (`hcl`) and
numpy's `mean` is homogeneous -/
theorem finish_scale (c : K) (hc : 0 < c) (mean : List K → K) (hmean : ∀ l, mean (l.map (c * ·)) = c * mean l) (erf : K → K)
    (classify : K → Val K) (hcl : ∀ v, isFin classify v = true) (oneD : Bool) (nspec ncol : Nat) (x newx : List K) (m : Method)
    (st : St K) (hs : st.ivar.isSome) (hg : GrowStable c (rawOf oneD nspec ncol x newx st)) :
    finish mean erf classify oneD nspec ncol x newx m (scaleSt c st) =
      (finish mean erf classify oneD nspec ncol x newx m st).map (fun fv => (fv.1.map (c * ·), fv.2.map (· / c ^ 2))) := by
  obtain ⟨iv, hiv⟩ := Option.isSome_iff_exists.1 hs
  have hp : finishPairs classify oneD nspec ncol x newx (scaleSt c st) =
      (finishPairs classify oneD nspec ncol x newx st).map (fun q => (c * q.1, q.2 / c ^ 2)) := by
    unfold finishPairs
    have e1 : (scaleSt c st).ivar = some (iv.map (· / c ^ 2)) := by unfold scaleSt; rw [hiv]; rfl
    have e2 : (scaleSt c st).flux = st.flux.map (c * ·) := rfl
    have e3 : (scaleSt c st).mask = st.mask := rfl
    have e4 : (scaleSt c st).fcm = st.fcm := rfl
    unfold rawOf at hg
    rw [hiv] at hg
    simp only [e1, e2, e3, e4, hiv, workIvar_scale c hc, specsOf_scale, rawIvar_scale]
    rw [growBad_scale c _ hg, scrub_scale c classify hcl]
  unfold finish
  rw [hp]
  simp only [List.map_map, Function.comp_def]
  have h1 : (finishPairs classify oneD nspec ncol x newx st).map (fun q => c * q.1) =
      ((finishPairs classify oneD nspec ncol x newx st).map (·.1)).map (c * ·) := by rw [List.map_map]; rfl
  have h2 : (finishPairs classify oneD nspec ncol x newx st).map (fun q => q.2 / c ^ 2) =
      ((finishPairs classify oneD nspec ncol x newx st).map (·.2)).map (· / c ^ 2) := by rw [List.map_map]; rfl
  rw [h1, h2, aesthIf_scale c hc mean hmean]
  cases aesthIf mean erf _ _ m with
  | error e => rfl
  | ok f => rfl

/-- scaling law of `combine1fiber`, any scale-equivariant fit (`objivar` given): `(c·flux, ivar/c²) ↦ (c·newflux, newivar/c²)`, same
refusals.  Assumed: median and `mean` homogeneous, exact field, and `hgrow`: the code's ABSOLUTE bad-region threshold
`|smooth(newivar,3)| < EPS` answers alike before and after the scaling (`growStable_of_gap` gives a sufficient condition) - the code
is NOT scale invariant without it. -/
theorem combine1fiber_scale (fit : Nat → K → List K → List K → Option (List K) → Combine.R (Fit K)) (c : K) (hc : 0 < c)
    (hfit : FitScales fit c) (argsort : List K → List Nat) (med : List K → K)
    (hmed : ∀ l, med (l.map (· / c ^ 2)) = med l / c ^ 2) (mean : List K → K) (hmean : ∀ l, mean (l.map (c * ·)) = c * mean l)
    (erf : K → K) (classify : K → Val K) (hcl : ∀ v, isFin classify v = true)
    (inp : Input K) (iv : List K) (hiv : inp.ivar = some iv)
    (hgrow : ∀ oneD nspec ncol st, c1fLoop fit argsort med inp = .ok (some (oneD, nspec, ncol, st)) →
      GrowStable c (rawOf oneD nspec ncol inp.x inp.newx st)) :
    combine1fiber fit argsort med mean erf classify (scaleInput c inp) =
      (combine1fiber fit argsort med mean erf classify inp).map (fun fv => (fv.1.map (c * ·), fv.2.map (· / c ^ 2))) := by
  rw [combine1fiber_eq, combine1fiber_eq, c1fLoop_scale fit c hc hfit argsort med hmed inp iv hiv]
  cases hL : c1fLoop fit argsort med inp with
  | error e => rfl
  | ok o =>
    simp only [Except.map, bind, Except.bind]
    cases o with
    | none =>
      simp only [scaleLoopOut, Option.map_none, c1fFinish, pure, Except.pure, List.map_replicate, scalar_zero, mul_zero, zero_div]
      rfl
    | some t =>
      obtain ⟨oneD, nspec, ncol, st⟩ := t
      have hs := c1fLoop_ivar_some fit argsort med inp iv hiv oneD nspec ncol st hL
      simp only [scaleLoopOut, Option.map_some, c1fFinish]
      exact finish_scale c hc mean hmean erf classify hcl oneD nspec ncol inp.x inp.newx inp.method st hs
        (hgrow oneD nspec ncol st hL)

/-- `iterfit` with `requiren` and the degenerate branch, all passes of the rejection loop, is scale equivariant -/
theorem iterfit_scale (Kn : BSplineFit.Kernels K) (c : K) (hc : 0 < c) (hK : KernelScale Kn c) (r32 : K → K) (var : List K → K)
    (p : IterFit.Params K) (rq : Option Nat) (xs ys ivs : List K) (perm : List Nat) :
    iterfitRq Kn r32 var p rq xs (ys.map (c * ·)) (some (ivs.map (· / c ^ 2))) perm =
      (iterfitRq Kn r32 var p rq xs ys (some ivs) perm).map (scaleRqOut c) := by
  unfold iterfitRq
  simp only [List.length_map, pure_bind]
  refine ite_map rfl (ite_map rfl (ite_map rfl ?_))
  rw [map_getD_map _ (mul0 c), map_getD_map _ (div0 c), iterCoreRq_scale Kn c hc hK]
  refine bind_map_comm fun r => ?_
  obtain ⟨sset, cz, m⟩ := r
  cases m <;> rfl

/-- the modelled `iterfit` behind the `fit` parameter is scale equivariant -/
theorem fitFull_scales (Kn : BSplineFit.Kernels K) (c : K) (hc : 0 < c) (hK : KernelScale Kn c) (r32 : K → K) (var : List K → K)
    (argsortG : List K → List Nat) : FitScales (fitFull Kn r32 var argsortG) c := by
  intro k bk x y iv
  unfold fitFull
  rw [iterfit_scale Kn c hc hK]
  refine bind_map_comm fun o => ?_
  obtain ⟨sset, cz, om⟩ := o
  cases cz with
  | true => simp only [scaleRqOut, scaleFit, Except.map, pure, Except.pure, if_true, List.map_cons, List.map_nil, scalar_zero, mul_zero]
  | false =>
    simp only [scaleRqOut, scaleFit, Except.map, pure, Except.pure, Bool.false_eq_true, if_false, value_scale]
    unfold scaleBS
    rw [Array.toList_map]

/-- with the modelled `iterfit` as the fit (all passes of its rejection loop), `(flux, ivar) ↦ (c·flux, ivar/c²)` leads to the same
refusals and groups, and the group loop leaves `newflux` multiplied by `c`, the working inverse variance divided by `c²`, the SAME
`newmask` and `fullcombmask` - no condition on the data, only the kernel contract `KernelScale` -/
theorem newflux_scale (Kn : BSplineFit.Kernels K) (c : K) (hc : 0 < c) (hK : KernelScale Kn c) (r32 : K → K) (var : List K → K)
    (argsortG argsort : List K → List Nat) (med : List K → K) (hmed : ∀ l, med (l.map (· / c ^ 2)) = med l / c ^ 2)
    (inp : Input K) (iv : List K) (hiv : inp.ivar = some iv) :
    c1fLoop (fitFull Kn r32 var argsortG) argsort med (scaleInput c inp) =
      (c1fLoop (fitFull Kn r32 var argsortG) argsort med inp).map (scaleLoopOut c) :=
  c1fLoop_scale _ c hc (fitFull_scales Kn c hc hK r32 var argsortG) argsort med hmed inp iv hiv

/-- the scaling law for `combine1fiberFull` (the modelled `iterfit` as the fit), under `KernelScale` and the growth condition
`hgrow` of `combine1fiber_scale` -/
theorem combine1fiberFull_scale (Kn : BSplineFit.Kernels K) (c : K) (hc : 0 < c) (hK : KernelScale Kn c) (r32 : K → K) (var : List K → K)
    (argsortG argsort : List K → List Nat) (med : List K → K) (hmed : ∀ l, med (l.map (· / c ^ 2)) = med l / c ^ 2)
    (mean : List K → K) (hmean : ∀ l, mean (l.map (c * ·)) = c * mean l) (erf : K → K) (classify : K → Val K)
    (hcl : ∀ v, isFin classify v = true) (inp : Input K) (iv : List K) (hiv : inp.ivar = some iv)
    (hgrow : ∀ oneD nspec ncol st, c1fLoop (fitFull Kn r32 var argsortG) argsort med inp = .ok (some (oneD, nspec, ncol, st)) →
      GrowStable c (rawOf oneD nspec ncol inp.x inp.newx st)) :
    combine1fiberFull Kn r32 var argsortG argsort med mean erf classify (scaleInput c inp) =
      (combine1fiberFull Kn r32 var argsortG argsort med mean erf classify inp).map
        (fun fv => (fv.1.map (c * ·), fv.2.map (· / c ^ 2))) :=
  combine1fiber_scale _ c hc (fitFull_scales Kn c hc hK r32 var argsortG) argsort med hmed mean hmean erf classify hcl inp iv hiv hgrow

/-- in the words of the property: whenever the function returns `(newflux, newivar)` for `(flux, ivar)`, it returns
`(c·newflux, newivar/c²)` for `(c·flux, ivar/c²)` -/
theorem combine1fiberFull_scale_ok (Kn : BSplineFit.Kernels K) (c : K) (hc : 0 < c) (hK : KernelScale Kn c) (r32 : K → K) (var : List K → K)
    (argsortG argsort : List K → List Nat) (med : List K → K) (hmed : ∀ l, med (l.map (· / c ^ 2)) = med l / c ^ 2)
    (mean : List K → K) (hmean : ∀ l, mean (l.map (c * ·)) = c * mean l) (erf : K → K) (classify : K → Val K)
    (hcl : ∀ v, isFin classify v = true) (inp : Input K) (iv : List K) (hiv : inp.ivar = some iv)
    (hgrow : ∀ oneD nspec ncol st, c1fLoop (fitFull Kn r32 var argsortG) argsort med inp = .ok (some (oneD, nspec, ncol, st)) →
      GrowStable c (rawOf oneD nspec ncol inp.x inp.newx st))
    (newflux newivar : List K)
    (h : combine1fiberFull Kn r32 var argsortG argsort med mean erf classify inp = .ok (newflux, newivar)) :
    combine1fiberFull Kn r32 var argsortG argsort med mean erf classify (scaleInput c inp) =
      .ok (newflux.map (c * ·), newivar.map (· / c ^ 2)) := by
  rw [combine1fiberFull_scale Kn c hc hK r32 var argsortG argsort med hmed mean hmean erf classify hcl inp iv hiv hgrow, h]
  rfl

/-- the rejection test of `djs_reject` is scale invariant: with `sqrt(v/c²) = sqrt(v)/c`, `badness` of a pixel is the same for
`(c·data, c·model, invvar/c²)` as for `(data, model, invvar)` -/
theorem reject_scale_invariant (sqrt : K → K) (c : K) (hc : 0 < c) (hs : ∀ v, sqrt (v / c ^ 2) = sqrt v / c)
    (o : Reject.Opts K) (hu : o.useSigma = false) (hd : o.maxdev = none) (d m s : K) (i p : Bool) :
    Reject.badness sqrt o ⟨c * d, c * m, s / c ^ 2, i, p⟩ = Reject.badness sqrt o ⟨d, m, s, i, p⟩ :=
  badness_scale sqrt c hc hs o hu hd d m s i p

/-- `bspline.fit` is scale equivariant (same branch, status, breakpoint mask; `c` times the coefficients and fitted values) -/
theorem fit_scale_equivariant (Kn : BSplineFit.Kernels K) (c : K) (hc : 0 < c) (hK : KernelScale Kn c) (b : BSpline.BS K)
    (xs ys ws : List K) (perm : List Nat) :
    BSplineFit.fit Kn (scaleBS c b) xs (ys.map (c * ·)) (ws.map (· / c ^ 2)) perm =
      (BSplineFit.fit Kn b xs ys ws perm).map (scaleFitOut c) :=
  fit_scale Kn c hc hK b xs ys ws perm

end scaleFull

section constFull
open PydlVerif.CombineScale PydlVerif.CombineConst
variable {K : Type} [Field K] [LinearOrder K] [IsStrictOrderedRing K] [FloorRing K]
attribute [local instance] fieldScalar
attribute [-instance] Scalar.instOfNat Scalar.instOfScientific

/-- invariant of the group loop on a constant spectrum: every output pixel whose `newmask` is set holds the constant -/
def FluxInv (v : K) (n : Nat) (st : St K) : Prop :=
  st.flux.length = n ∧ ∀ p, st.mask.getD p false = true → st.flux.getD p 0 = v

theorem groupLoop_const (fit : Nat → K → List K → List K → Option (List K) → Combine.R (Fit K)) (v : K)
    (hfit : FitConstData fit v) (bk : K) (x y newx : List K) (groups : List (List Nat))
    (hy : ∀ g ∈ groups, ∀ i ∈ g, y.getD i 0 = v) (hx : ∀ g ∈ groups, (g.map (fun i => x.getD i 0)).Pairwise (· ≠ ·))
    (st st' : St K) (hinv : FluxInv v newx.length st)
    (h : groupLoop fit bk x y newx st groups = .ok st') : FluxInv v newx.length st' := by
  refine groupLoop_inv fit bk x y newx groups (FluxInv v newx.length) (fun s s' k g hg hs hinv => ?_) st st' h hinv
  obtain ⟨hl, hm⟩ := hinv
  rcases (groupStep_ok fit bk x y newx s s' k g hs).2 with ⟨e1, e2⟩ | ⟨lo, hi, f, vals, vm, hf, hz, hval, e1, e2⟩
  · rw [FluxInv, e1, e2]
    exact ⟨hl, hm⟩
  · -- the values written on `inside` are `v`; elsewhere flux and a set `newmask` are as before
    obtain ⟨hvl, hvv⟩ := hfit k bk _ _ _ f (hx g hg) (List.forall_mem_map.2 (hy g hg)) hf hz _ vals vm hval
    rw [List.length_map] at hvl
    refine ⟨by rw [e1, scatter_length]; exact hl, fun p hp => ?_⟩
    rw [e1]
    rw [e2] at hp
    by_cases hin : p ∈ insideOf newx lo hi
    · exact hvv _ (scatter_getD_mem s.flux _ vals p 0 hin (by omega) (by rw [hl]; exact mem_insideOf newx _ _ p hin))
    · rw [scatter_getD_not_mem _ _ _ _ _ hin]
      rcases scatterConst_getD_true _ _ p hp with h1 | h1
      · exact hm p h1
      · exact absurd (select_subset _ _ p h1) hin

/-- `aesthetics` (traditional, noconst, mean, nothing) leaves every pixel of positive inverse variance as it is -/
theorem aesthetics_keeps_pos (flux invvar : List K) (m : Method) (gm : K) (hlen : invvar.length = flux.length)
    (hm : m = .traditional ∨ m = .noconst ∨ m = .mean ∨ m = .nothing) (out : List K)
    (h : aesthetics flux invvar m gm = .ok out) (i : Nat) (hi : i < flux.length) (hpos : 0 < invvar.getD i 0) :
    out.getD i 0 = flux.getD i 0 := by
  have hi' : i < invvar.length := by omega
  rw [List.getD_eq_getElem _ _ hi'] at hpos
  obtain ⟨out', h', hv⟩ := C17.aesthetics_keeps flux invvar m gm hlen hm
  cases h.symm.trans h'
  rw [List.getD_eq_getElem?_getD, hv i hi (ne_of_gt hpos) fun _ => hpos, List.getD_eq_getElem _ _ hi]
  rfl

/-- a pixel to which `finish` gives a positive inverse variance has its `newmask` set and keeps the `newflux` the group loop left
(exact field; `aesthetics` other than `damp` changes only pixels of inverse variance 0) -/
theorem finish_keeps_pos (mean : List K → K) (erf : K → K) (classify : K → Val K) (hcl : ∀ u, isFin classify u = true)
    (oneD : Bool) (nspec ncol : Nat) (x newx : List K) (m : Method)
    (hm : m = .traditional ∨ m = .noconst ∨ m = .mean ∨ m = .nothing) (st : St K) (hfl : st.flux.length = newx.length)
    (f w : List K) (h : finish mean erf classify oneD nspec ncol x newx m st = .ok (f, w)) (p : Nat) (hpos : 0 < w.getD p 0) :
    st.mask.getD p false = true ∧ f.getD p 0 = st.flux.getD p 0 := by
  obtain ⟨rfl, hae⟩ := finish_ok mean erf classify oneD nspec ncol x newx m st f w h
  set pairs := finishPairs classify oneD nspec ncol x newx st with hpairs
  have hplen : pairs.length = newx.length := by rw [hpairs, finishPairs_length, hfl, min_self]
  have hp2 : p < (pairs.map (·.2)).length := by
    by_contra hlt
    rw [List.getD_eq_default _ _ (not_lt.1 hlt)] at hpos
    exact lt_irrefl _ hpos
  have hp1 : p < (pairs.map (·.1)).length := by rwa [List.length_map] at hp2 ⊢
  have hp : p < newx.length := by rwa [List.length_map, hplen] at hp2
  have hpos2 := hpos
  rw [List.getD_eq_getElem _ _ hp2] at hpos2
  have hmk : st.mask.getD p false = true := by
    rcases final_ivar_cases classify oneD nspec ncol x newx st p hp2 with h0 | h1
    · rw [h0] at hpos2; exact absurd hpos2 (lt_irrefl _)
    · by_contra hmf
      rw [h1, newivar_zero_no_good _ _ _ (Or.inr (Bool.eq_false_iff.2 hmf))] at hpos2
      exact absurd hpos2 (lt_irrefl _)
  -- the scrub keeps the pair
  have hpre : (pairs.map (·.1)).getD p 0 = st.flux.getD p 0 := by
    rw [List.getD_eq_getElem _ _ hp1, List.getD_eq_getElem _ _ (hfl.symm ▸ hp)]
    simp only [hpairs, finishPairs, scrub, List.getElem_map, List.getElem_zipWith, hcl, Bool.and_self, if_true]
  -- `aesthetics` is called (this pixel is good) and leaves pixels of positive inverse variance alone
  unfold aesthIf at hae
  rw [if_pos (List.any_eq_true.2 ⟨_, List.getElem_mem hp2, decide_eq_true (by rw [scalar_zero]; exact hpos2)⟩)] at hae
  unfold aesth at hae
  refine ⟨hmk, ?_⟩
  rcases hm with hm | hm | hm | hm <;> rw [hm] at hae <;> simp only [] at hae <;>
    rw [aesthetics_keeps_pos _ _ _ _ (by simp) (by simp) f hae p hp1 hpos, hpre]

/-- constant stays constant, the whole `combine1fiber` (any `fit` meeting `FitConstData`; 1-D or stacked, with or without `objivar`):
if every input pixel with `ivar > 0` carries the flux `v`, every output pixel with `newivar > 0` has `newflux = v`.  Not for aesthetics
`damp` (it multiplies good pixels too); exact field.  `hdistinct`: the wavelengths inside a group are pairwise different - true for
1-D input and dithered exposures, NOT for exposures on identical grids. -/
theorem const_flux_const (fit : Nat → K → List K → List K → Option (List K) → Combine.R (Fit K)) (v : K)
    (hfit : FitConstData fit v) (argsort : List K → List Nat) (hargsort : ∀ l, ∀ p ∈ argsort l, p < l.length)
    (med mean : List K → K) (erf : K → K) (classify : K → Val K) (hcl : ∀ u, isFin classify u = true) (inp : Input K)
    (hconst : ∀ i ∈ nonzeroOf inp, inp.flux.getD i 0 = v)
    (hdistinct : ∀ maxsep groups, groupsOf inp.x (isortOf argsort inp) maxsep = .ok groups →
      ∀ g ∈ groups, (g.map (fun i => inp.x.getD i 0)).Pairwise (· ≠ ·))
    (hm : inp.method = .traditional ∨ inp.method = .noconst ∨ inp.method = .mean ∨ inp.method = .nothing)
    (f w : List K) (h : combine1fiber fit argsort med mean erf classify inp = .ok (f, w)) :
    ∀ p, 0 < w.getD p 0 → f.getD p 0 = v := by
  intro p hpos
  rcases combine1fiber_ok fit argsort med mean erf classify inp f w h with
    ⟨_, rfl⟩ | ⟨oneD, nspec, ncol, st, bk, maxsep, groups, iv0, hG, hLoop, h⟩
  · rw [List.getD_eq_getElem?_getD, List.getElem?_replicate] at hpos
    split at hpos <;> exact absurd hpos (lt_irrefl _)
  · -- the pixels of every group are good pixels
    have hgrp : ∀ g ∈ groups, ∀ i ∈ g, inp.flux.getD i 0 = v := by
      intro g hg i hi
      have hmem := groupsOf_mem inp.x _ maxsep groups hG g hg i hi
      unfold isortOf at hmem
      obtain ⟨q, hq, rfl⟩ := List.mem_map.1 hmem
      have hql := hargsort _ q hq
      rw [List.length_map] at hql
      apply hconst
      rw [List.getD_eq_getElem _ _ hql]
      exact List.getElem_mem hql
    have hinv0 : FluxInv v inp.newx.length (⟨List.replicate inp.newx.length 0,
        List.replicate inp.newx.length false, List.replicate inp.x.length false, iv0⟩ : St K) := by
      refine ⟨List.length_replicate, fun q hq => ?_⟩
      rw [List.getD_eq_getElem?_getD, List.getElem?_replicate] at hq
      split at hq <;> cases hq
    obtain ⟨hfl, hmask⟩ := groupLoop_const fit v hfit bk inp.x inp.flux inp.newx groups hgrp (hdistinct maxsep groups hG) _ st hinv0 hLoop
    obtain ⟨hmk, e⟩ := finish_keeps_pos mean erf classify hcl oneD nspec ncol inp.x inp.newx inp.method hm st hfl f w h p hpos
    rw [e]
    exact hmask p hmk

/-- `djs_reject` as `iterfit` calls it (`invvar` given, no `maxdev`, `grow = 0`, not sticky, `inmask = outmask`) rejects nothing when
the model equals the data at every pixel the mask keeps, whatever `sqrt`, the weights and the limits -/
theorem reject_keeps_exact (sqrt : K → K) (o : Reject.Opts K) (hu : o.useSigma = false) (hd : o.maxdev = none)
    (hg : o.grow = 0) (hst : o.sticky = false) (data mdl sv : List K) (m : List Bool)
    (hl1 : mdl.length = data.length) (hl2 : m.length = data.length) (hl3 : sv.length = data.length)
    (hex : ∀ i, i < data.length → m.getD i true = true → mdl.getD i 0 = data.getD i 0) :
    Reject.djsReject sqrt o data (some mdl) (some m) (some m) sv = .ok (m, true) :=
  CombineConst.reject_keeps_exact sqrt o hu hd hg hst data mdl sv m hl1 hl2 hl3 hex

/-- the same for `combine1fiberFull`: no contract on the fit is left.  Assumed about the kernel parameters: `SolveUnique` (the LAPACK
pair returns THE solution of a system it factored), `argsort` returns a sorting permutation, the breakpoints placed for pairwise
different wavelengths are strictly increasing (`hknots`). -/
theorem const_flux_const_full (Kn : BSplineFit.Kernels K) (hU : SolveUnique Kn) (r32 : K → K) (var : List K → K)
    (argsortG argsort : List K → List Nat)
    (hargsortG : ∀ l : List K, (argsortG l).Perm (List.range l.length) ∧ ((argsortG l).map (fun i => l.getD i 0)).Pairwise (· ≤ ·))
    (hargsort : ∀ l, ∀ p ∈ argsort l, p < l.length)
    (hknots : ∀ (bk : K) goodx knots, goodx.Pairwise (· < ·) → 3 ≤ goodx.length →
      BSpline.mkKnots r32 goodx 3 (c1fParams bk).opts = .ok knots → knots.Pairwise (· < ·))
    (med mean : List K → K) (erf : K → K) (classify : K → Val K) (hcl : ∀ u, isFin classify u = true) (inp : Input K) (v : K)
    (hconst : ∀ i ∈ nonzeroOf inp, inp.flux.getD i 0 = v)
    (hdistinct : ∀ maxsep groups, groupsOf inp.x (isortOf argsort inp) maxsep = .ok groups →
      ∀ g ∈ groups, (g.map (fun i => inp.x.getD i 0)).Pairwise (· ≠ ·))
    (hm : inp.method = .traditional ∨ inp.method = .noconst ∨ inp.method = .mean ∨ inp.method = .nothing)
    (f w : List K) (h : combine1fiberFull Kn r32 var argsortG argsort med mean erf classify inp = .ok (f, w)) :
    ∀ p, 0 < w.getD p 0 → f.getD p 0 = v :=
  const_flux_const _ v (fitFull_const Kn hU r32 var argsortG hargsortG hknots v) argsort hargsort med mean erf classify hcl inp
    hconst hdistinct hm f w h

/-- in exact arithmetic (`r32 = id`) `hknots` is a theorem (`mkKnots_strict`); left assumed: `SolveUnique`, `argsort` = a sorting
permutation, pairwise different wavelengths inside every group -/
theorem const_flux_const_exact (Kn : BSplineFit.Kernels K) (hU : SolveUnique Kn) (var : List K → K)
    (argsortG argsort : List K → List Nat)
    (hargsortG : ∀ l : List K, (argsortG l).Perm (List.range l.length) ∧ ((argsortG l).map (fun i => l.getD i 0)).Pairwise (· ≤ ·))
    (hargsort : ∀ l, ∀ p ∈ argsort l, p < l.length)
    (med mean : List K → K) (erf : K → K) (classify : K → Val K) (hcl : ∀ u, isFin classify u = true) (inp : Input K) (v : K)
    (hconst : ∀ i ∈ nonzeroOf inp, inp.flux.getD i 0 = v)
    (hdistinct : ∀ maxsep groups, groupsOf inp.x (isortOf argsort inp) maxsep = .ok groups →
      ∀ g ∈ groups, (g.map (fun i => inp.x.getD i 0)).Pairwise (· ≠ ·))
    (hm : inp.method = .traditional ∨ inp.method = .noconst ∨ inp.method = .mean ∨ inp.method = .nothing)
    (f w : List K) (h : combine1fiberFull Kn id var argsortG argsort med mean erf classify inp = .ok (f, w)) :
    ∀ p, 0 < w.getD p 0 → f.getD p 0 = v :=
  const_flux_const_full Kn hU id var argsortG argsort hargsortG hargsort
    (fun bk goodx knots hs hl hk => mkKnots_strict bk goodx knots hs (by omega) hk)
    med mean erf classify hcl inp v hconst hdistinct hm f w h

end constFull

section examples
attribute [local instance] fieldScalar
attribute [-instance] Scalar.instOfNat Scalar.instOfScientific

/-- the hypotheses of the single-spectrum theorems are met by a concrete spectrum: three samples with
increasing wavelengths, the last one not kept -/
example : Ends (K := ℚ) ⟨0, 2, true⟩ [⟨1, 4, true⟩, ⟨2, 6, false⟩] ∧
    (∀ a ∈ ([⟨0, 2, true⟩, ⟨1, 4, true⟩, ⟨2, 6, false⟩] : List (Samp ℚ)), 0 ≤ a.iv) ∧
    Consec (⟨0, 2, true⟩ : Samp ℚ) ⟨1, 4, true⟩ [⟨0, 2, true⟩, ⟨1, 4, true⟩, ⟨2, 6, false⟩] ∧
    lerp (0 : ℚ) 2 1 4 (1 / 2) = 3 := by
  refine ⟨by unfold Ends; decide, by decide, ⟨[], [⟨2, 6, false⟩], rfl⟩, by norm_num [lerp]⟩

end examples

section examplesFit
open Finset
attribute [-instance] Scalar.instOfNat Scalar.instOfScientific
/-- the hypotheses of `const_fit_everywhere` / `wls_scale_unique` are satisfiable: one point, one coefficient, weight 1 -/
example : (∀ i : Fin 1, ∑ j : Fin 1, (fun _ _ => (1 : ℚ)) i j = 1) ∧
    (∀ d : Fin 1 → ℚ, (∑ i : Fin 1, (1 : ℚ) * (∑ j : Fin 1, (1 : ℚ) * d j) ^ 2 = 0) → d = 0) ∧
    Lsq.Normal (fun (_ : Fin 1) (_ : Fin 1) => (1 : ℚ)) (fun _ => 1) (fun _ => 7) (fun _ => 7) := by
  refine ⟨fun _ => by rw [Finset.univ_unique, Finset.sum_singleton], ?_, fun k => ?_⟩
  rotate_left
  · show ∑ i : Fin 1, (1 : ℚ) * 1 * (7 - ∑ j : Fin 1, (1 : ℚ) * 7) = 0
    rw [Finset.univ_unique, Finset.sum_singleton, Finset.sum_singleton]; norm_num
  intro d h
  simp only [Finset.univ_unique, Finset.sum_singleton, one_mul, pow_eq_zero_iff (two_ne_zero)] at h
  funext j
  rw [Subsingleton.elim j default]
  exact h

/-- the hypotheses of `groups_partition` (`0 < maxsep`, at least one good pixel) can be met -/
example : (0 : ℚ) < 2 ∧ ([0, 1, 2] : List Nat) ≠ [] := ⟨by norm_num, by simp⟩

end examplesFit

section examplesContracts
open PydlVerif.CombineScale PydlVerif.CombineConst
variable {K : Type} [Field K] [LinearOrder K] [IsStrictOrderedRing K] [FloorRing K]
attribute [local instance] fieldScalar
attribute [-instance] Scalar.instOfNat Scalar.instOfScientific

/-- the hypothesis of `growStable_of_gap` (hence `hgrow` of the scaling theorems) is met by a concrete raw inverse variance: all ones,
`c = 2` - every smoothed value is 1 ≥ EPS·4 -/
example : ∀ v ∈ smooth3 ([1, 1, 1] : List K), v = 0 ∨ (eps ≤ |v| ∧ eps * (2 : K) ^ 2 ≤ |v|) := by
  intro v hv
  have h : smooth3 ([1, 1, 1] : List K) = [1, 1, 1] := by
    simp only [smooth3, List.length_cons, List.length_nil, List.range_succ, List.range_zero, List.nil_append, List.cons_append,
      List.map_cons, List.map_nil, scalar_sci]
    norm_num
  rw [h] at hv
  simp only [List.mem_cons, List.mem_nil_iff, or_false, or_self] at hv
  subst hv
  right
  rw [eps_eq]
  norm_num

/-- the fit "the first data value everywhere" (one coefficient): a fit that is used and meets both contracts -/
noncomputable def firstValueFit (_k : Nat) (_bk : K) (_gx gy : List K) (_giv : Option (List K)) : Combine.R (Fit K) :=
  .ok ⟨[gy.getD 0 0], fun xs => .ok (xs.map (fun _ => gy.getD 0 0), xs.map (fun _ => true)), gy.map (fun _ => true)⟩

/-- `FitConstData` is satisfiable by a fit that is not trivial (its coefficient is the data value) -/
example (v : K) : FitConstData (firstValueFit (K := K)) v := by
  intro k bk gx gy giv F _ hgy hF hz xs vals vm hval
  simp only [firstValueFit, Except.ok.injEq] at hF
  subst hF
  simp only [Except.ok.injEq, Prod.mk.injEq] at hval
  obtain ⟨rfl, _⟩ := hval
  refine ⟨by rw [List.length_map], ?_⟩
  intro u hu
  obtain ⟨_, _, rfl⟩ := List.mem_map.1 hu
  cases gy with
  | nil =>
    exfalso
    have : coeffZero ([([] : List K).getD 0 0]) = true := by
      simp only [coeffZero, List.getD_nil, List.foldl_cons, List.foldl_nil, absS, scalar_zero, lt_irrefl, if_false, add_zero]
      exact (scalar_beq _ _).2 rfl
    rw [this] at hz
    cases hz
  | cons y0 ys =>
    rw [List.getD_cons_zero]
    exact hgy y0 List.mem_cons_self

/-- … and it is scale equivariant -/
example : FitScales (firstValueFit (K := K)) 2 := by
  intro k bk gx gy giv
  have h : (gy.map (fun x => (2 : K) * x)).getD 0 0 = 2 * gy.getD 0 0 := getD_map0 (fun x => (2 : K) * x) (mul_zero 2) gy 0
  simp only [firstValueFit, Except.map, scaleFit, List.map_cons, List.map_nil, List.map_map, Function.comp_def, h]

/-- `KernelScale` is satisfiable at `c = 2` over ℝ: the real square root, a LAPACK factorisation that always fails (so that the
modelled fallback loop of `cholesky_band` does the work) and a diagonal solve -/
example : KernelScale (K := ℝ) ⟨Real.sqrt, fun _ => true, fun _ _ _ => none,
    fun _ _ L b => b.mapIdx (fun i v => v / (BSplineFit.get2 L 0 i) ^ 2)⟩ 2 := by
  refine ⟨?_, fun _ _ _ => rfl, fun _ _ _ => rfl, ?_⟩
  · intro v
    show Real.sqrt (v / 2 ^ 2) = Real.sqrt v / 2
    rw [Real.sqrt_div' v (by norm_num), Real.sqrt_sq (by norm_num)]
  · intro bw n L b
    show (b.map ((2 : ℝ)⁻¹ * ·)).mapIdx (fun i v => v / (BSplineFit.get2 (sc2 (2 : ℝ)⁻¹ L) 0 i) ^ 2) =
      (b.mapIdx (fun i v => v / (BSplineFit.get2 L 0 i) ^ 2)).map ((2 : ℝ) * ·)
    apply Array.ext
    · rw [Array.size_mapIdx, Array.size_map, Array.size_map, Array.size_mapIdx]
    · intro i h1 h2
      rw [Array.getElem_mapIdx, Array.getElem_map, Array.getElem_map, Array.getElem_mapIdx, get2_sc2, mul_pow, mul_div_mul_comm]
      norm_num

/-- `SolveUnique` is a contract that kernels can meet - trivially by kernels for which `cholesky_band` never reports a factor (nothing is
finite); that LAPACK's `cholesky_banded`/`cho_solve_banded` meet it is assumed, like C09's `CholContract`, and sampled by C09's harness on the fits it records
(`|A x - b|`) -/
example : SolveUnique (K := K) ⟨fun v => v, fun _ => false, fun _ _ _ => none, fun _ _ _ b => b⟩ := by
  intro b xs ys ws rows lower upper mininf a _ hch
  exfalso
  unfold BSplineFit.choleskyBand at hch
  simp only [] at hch
  split at hch
  · cases hch
  split at hch
  · cases hch
  rename_i hbw _
  have hall : (BSplineFit.normalSystem rows ys ws lower upper xs.length b.nord (b.gb.size - b.nord)).1.all
      (fun row => row.all (fun _ => false)) = false := by
    rw [Array.all_eq_false']
    have hsz : 0 < (BSplineFit.normalSystem rows ys ws lower upper xs.length b.nord (b.gb.size - b.nord)).1.size := by omega
    refine ⟨_, Array.getElem_mem hsz, ?_⟩
    have hrow : 0 < ((BSplineFit.normalSystem rows ys ws lower upper xs.length b.nord (b.gb.size - b.nord)).1[0]).size := by
      have hn : 0 < b.nord := by
        simp only [BSplineFit.normalSystem, List.size_toArray, List.length_map, List.length_range] at hsz
        exact hsz
      simp only [BSplineFit.normalSystem, List.getElem_toArray, List.getElem_map, List.size_toArray, List.length_map, List.length_range]
      omega
    simp only [Bool.not_eq_true, Array.all_eq_false']
    exact ⟨_, Array.getElem_mem hrow, trivial⟩
  rw [hall] at hch
  simp only [Bool.not_false, Bool.or_true, if_true, pure, Except.pure, Except.ok.injEq] at hch
  cases hch

end examplesContracts

end PydlVerif.C11
