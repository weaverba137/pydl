/-
`bspline.fit` (pydl/pydlutils/bspline.py) returns the weighted least-squares optimum; failure is a status code.
Model: Model/BSplineFit.lean, read at an arbitrary linearly ordered field `K`.
The assembled band system is the normal system; optimality holds under `CholContract`, a hypothesis about LAPACK, and
without it for the kernels of Model/BandChol.lean.
Scope: x2 = None, npoly = 1; of the two-dimensional fit (Model/BSplineFit2.lean) only the assembled system is treated, the statement
about `fit2` itself is not proved.  The store `self.icoeff[goodbk] = a[0, 0:nfull]` of a status-0 answer
(bspline.py:229) is not modelled: `BS` has no `icoeff`.
-/
import PydlVerif.Lemmas.BSplineFit
import PydlVerif.Lemmas.BSplineEval
import PydlVerif.Lemmas.BSplineMarsden
import PydlVerif.Lemmas.BandChol
import PydlVerif.Lemmas.BSplineFit2
import Mathlib.Analysis.Real.Sqrt
import Mathlib.Algebra.BigOperators.Fin
namespace PydlVerif.C09
open PydlVerif PydlVerif.BSpline PydlVerif.BSplineFit PydlVerif.BSplineFitLemmas Finset

-- not every lemma under the `variable` line uses the order and the floor
set_option linter.unusedSectionVars false
variable {K : Type} [Field K] [LinearOrder K] [IsStrictOrderedRing K] [FloorRing K]

open PydlVerif.AtField PydlVerif.BSplineFit2Lemmas.AtField PydlVerif.BandCholLemmas.AtField

/-- `BSplineFitLemmas.assemble_is_normal` under the name the harness audits: the `bi/bo` flat-index scatter of `fit` (model `assemble`, returning `alpha.T.flat`
and `beta`) builds the lower band of `AᵀWA` and the vector `AᵀWy` of the matrix `A = design a1 iv bw`.
`Rows`: `lower/upper` delimit the points of each segment (`rows_action` proves it for sorted points).  npoly = 1 only. -/
theorem assemble_is_normal (a1 : ℕ → ℕ → K) (y w : ℕ → K) (lower upper : Array ℤ) (iv : ℕ → ℕ) (nx bw nseg : ℕ)
    (hrows : Rows lower upper iv nx nseg) :
    (∀ c r, r < bw → (assembleK a1 y w lower upper nx bw nseg).1 (c * bw + r) =
      ∑ p ∈ range nx, design a1 iv bw p c * (design a1 iv bw p (c + r) * w p)) ∧
    (∀ c, (assembleK a1 y w lower upper nx bw nseg).2 c = ∑ p ∈ range nx, y p * (design a1 iv bw p c * w p)) :=
  BSplineFitLemmas.assemble_is_normal a1 y w lower upper iv nx bw nseg hrows

/-- entry `(c, c')` of the symmetric matrix whose lower band is stored in `alpha.T.flat` -/
def bandFull (alphaT : ℕ → K) (bw c c' : ℕ) : K :=
  if c ≤ c' then (if c' - c < bw then alphaT (c * bw + (c' - c)) else 0)
  else (if c - c' < bw then alphaT (c' * bw + (c - c')) else 0)

theorem bandFull_eq_bandSym (alphaT : ℕ → K) (bw c c' : ℕ) :
    bandFull alphaT bw c c' = BandCholLemmas.bandSym (fun r c => alphaT (c * bw + r)) bw c c' := rfl

theorem design_band (a1 : ℕ → ℕ → K) (iv : ℕ → ℕ) (bw p c c' : ℕ) (h : c + bw ≤ c') :
    design a1 iv bw p c * design a1 iv bw p c' = 0 := by
  unfold design
  by_cases h1 : iv p ≤ c ∧ c < iv p + bw
  · rw [if_pos h1, if_neg (by omega)]; ring
  · rw [if_neg h1]; ring

theorem design_congr (a1 a1' : ℕ → ℕ → K) (iv : ℕ → ℕ) (bw p : ℕ) (h : ∀ a, a < bw → a1 p a = a1' p a) (c : ℕ) :
    design a1 iv bw p c = design a1' iv bw p c :=
  if_ctx_congr Iff.rfl (fun hc => h _ (by omega)) fun _ => rfl

theorem bandFull_gram (D : ℕ → ℕ → K) (w : ℕ → K) (m bw : ℕ) (alphaT : ℕ → K)
    (hband : ∀ p c c', c + bw ≤ c' → D p c * D p c' = 0)
    (hα : ∀ c r, r < bw → alphaT (c * bw + r) = ∑ p ∈ range m, D p c * (D p (c + r) * w p)) (c c' : ℕ) :
    bandFull alphaT bw c c' = ∑ p ∈ range m, w p * D p c * D p c' := by
  wlog h1 : c ≤ c' generalizing c c'
  · rw [bandFull_eq_bandSym, BandCholLemmas.bandSym_symm, ← bandFull_eq_bandSym, this c' c (by omega)]
    exact Finset.sum_congr rfl fun p _ => by ring
  unfold bandFull
  rw [if_pos h1]
  by_cases h2 : c' - c < bw
  · rw [if_pos h2, hα c (c' - c) h2, Nat.add_sub_cancel' h1]
    exact Finset.sum_congr rfl fun p _ => by ring
  · rw [if_neg h2]
    exact (Finset.sum_eq_zero fun p _ => by rw [mul_assoc, hband p c c' (by omega), mul_zero]).symm

/-- a solution of the banded system that `fit` assembles satisfies the normal equations `AᵀW(y - A s) = 0` -/
theorem normal_of_band (D : ℕ → ℕ → K) (w y : ℕ → K) (m n bw : ℕ) (alphaT beta s : ℕ → K)
    (hband : ∀ p c c', c + bw ≤ c' → D p c * D p c' = 0)
    (hα : ∀ c r, r < bw → alphaT (c * bw + r) = ∑ p ∈ range m, D p c * (D p (c + r) * w p))
    (hβ : ∀ c, beta c = ∑ p ∈ range m, y p * (D p c * w p))
    (hsol : ∀ c, c < n → ∑ c' ∈ range n, bandFull alphaT bw c c' * s c' = beta c) :
    Lsq.Normal (fun (p : Fin m) (c : Fin n) => D p c) (fun p => w p) (fun p => y p) (fun c => s c) :=
  Lsq.normal_of_solves (G := fun (k l : Fin n) => bandFull alphaT bw k l) (F := fun k : Fin n => beta k)
    (fun k l => by rw [bandFull_gram D w m bw alphaT hband hα, ← Fin.sum_univ_eq_sum_range])
    (fun k => by
      rw [hβ, ← Fin.sum_univ_eq_sum_range]
      exact Finset.sum_congr rfl fun p _ => by ring)
    (fun k => by rw [← hsol k k.2, ← Fin.sum_univ_eq_sum_range])

/-- `(alphaT, beta)` hold, in the flat band layout of `fit` (`col*bw + band`), the normal system `AᵀWA`, `AᵀWy` of the matrix
`D` (rows `< m`), whose rows have at most `bw` consecutive non-zero entries: what the assembly loop builds,
and all that the optimality theorems use of it -/
structure NormalBand (D : ℕ → ℕ → K) (w y : ℕ → K) (m bw : ℕ) (alphaT beta : ℕ → K) : Prop where
  band : ∀ p c c', c + bw ≤ c' → D p c * D p c' = 0
  alpha : ∀ c r, r < bw → alphaT (c * bw + r) = ∑ p ∈ range m, D p c * (D p (c + r) * w p)
  beta : ∀ c, beta c = ∑ p ∈ range m, y p * (D p c * w p)

namespace NormalBand
variable {D : ℕ → ℕ → K} {w y : ℕ → K} {m bw : ℕ} {alphaT beta : ℕ → K}

theorem normal (h : NormalBand D w y m bw alphaT beta) {n : ℕ} {s : ℕ → K}
    (hsol : ∀ c, c < n → ∑ c' ∈ range n, bandFull alphaT bw c c' * s c' = beta c) :
    Lsq.Normal (fun (p : Fin m) (c : Fin n) => D p c) (fun p => w p) (fun p => y p) (fun c => s c) :=
  normal_of_band D w y m n bw alphaT beta s h.band h.alpha h.beta hsol

theorem optimum (h : NormalBand D w y m bw alphaT beta) (hw : ∀ p, p < m → 0 ≤ w p) {n : ℕ} {s : ℕ → K}
    (hsol : ∀ c, c < n → ∑ c' ∈ range n, bandFull alphaT bw c c' * s c' = beta c) (z : ℕ → K) :
    ∑ p ∈ range m, w p * (y p - ∑ j ∈ range n, D p j * s j) ^ 2
      ≤ ∑ p ∈ range m, w p * (y p - ∑ j ∈ range n, D p j * z j) ^ 2 := by
  rw [← Lsq.Q_range, ← Lsq.Q_range]
  exact Lsq.lsq_optimum _ _ _ _ _ (fun p => hw p p.2) (h.normal hsol)

theorem congr {D' : ℕ → ℕ → K} {w' y' : ℕ → K} (h : NormalBand D w y m bw alphaT beta)
    (hband : ∀ p c c', c + bw ≤ c' → D' p c * D' p c' = 0)
    (hD : ∀ p, p < m → ∀ c, D p c = D' p c) (hw : ∀ p, p < m → w p = w' p) (hy : ∀ p, p < m → y p = y' p) :
    NormalBand D' w' y' m bw alphaT beta :=
  ⟨hband,
   fun c r hr => (h.alpha c r hr).trans (Finset.sum_congr rfl fun p hp => by
     rw [hD p (Finset.mem_range.1 hp), hD p (Finset.mem_range.1 hp), hw p (Finset.mem_range.1 hp)]),
   fun c => (h.beta c).trans (Finset.sum_congr rfl fun p hp => by
     rw [hD p (Finset.mem_range.1 hp), hw p (Finset.mem_range.1 hp), hy p (Finset.mem_range.1 hp)])⟩

end NormalBand

theorem assembleAt_normalBand (itop : ℕ → ℕ) (a1 : ℕ → ℕ → K) (y w : ℕ → K) (lower upper : Array ℤ) (iv : ℕ → ℕ)
    (nx bw nseg : ℕ) (hrows : Rows lower upper iv nx nseg) :
    NormalBand (design a1 (fun p => itop (iv p)) bw) w y nx bw
      (@assembleAt _ (fieldScalar _) itop a1 y w lower upper nx bw nseg).1
      (@assembleAt _ (fieldScalar _) itop a1 y w lower upper nx bw nseg).2 :=
  ⟨fun p c c' h => design_band a1 _ bw p c c' h, (assembleAt_is_normal itop a1 y w lower upper iv nx bw nseg hrows).1,
    (assembleAt_is_normal itop a1 y w lower upper iv nx bw nseg hrows).2⟩

/-- a HYPOTHESIS about the LAPACK kernels behind `cholesky_band` / `cholesky_solve`
(never proved here; sampled numerically by the harness). -/
structure CholContract (A : ℕ → ℕ → K) (b : ℕ → K) (n : ℕ) (L : ℕ → ℕ → K) (x : ℕ → K) : Prop where
  factor : ∀ i j, i < n → j < n → ∑ k ∈ range n, L i k * L j k = A i j
  solve : ∀ i, i < n → ∑ j ∈ range n, (∑ k ∈ range n, L i k * L j k) * x j = b i

/-- under the contract the vector `cholesky_solve` returned solves `A x = b` -/
theorem CholContract.solves {A : ℕ → ℕ → K} {b : ℕ → K} {n : ℕ} {L : ℕ → ℕ → K} {x : ℕ → K}
    (h : CholContract A b n L x) : ∀ i, i < n → ∑ j ∈ range n, A i j * x j = b i := fun i hi =>
  (Finset.sum_congr rfl fun j hj => by rw [h.factor i j hi (Finset.mem_range.1 hj)]).symm.trans (h.solve i hi)

/-- with non-negative weights, if the solver behind `cholesky_band` /
`cholesky_solve` meets `CholContract` on the assembled system, the returned coefficients minimise
`Σ_p w_p (y_p - Σ_c A[p][c] z_c)²` over all coefficient vectors `z`. -/
theorem fit_optimum_design (a1 : ℕ → ℕ → K) (y w : ℕ → K) (lower upper : Array ℤ) (iv : ℕ → ℕ) (nx bw nseg n : ℕ)
    (hrows : Rows lower upper iv nx nseg) (hw : ∀ p, 0 ≤ w p) (L : ℕ → ℕ → K) (sol : ℕ → K)
    (hchol : CholContract (bandFull (assembleK a1 y w lower upper nx bw nseg).1 bw)
      (assembleK a1 y w lower upper nx bw nseg).2 n L sol) (z : Fin n → K) :
    Lsq.Q (fun (p : Fin nx) (c : Fin n) => design a1 iv bw p c) (fun p => w p) (fun p => y p) (fun c => sol c)
      ≤ Lsq.Q (fun (p : Fin nx) (c : Fin n) => design a1 iv bw p c) (fun p => w p) (fun p => y p) z :=
  Lsq.lsq_optimum _ _ _ _ z (fun p => hw p)
    ((assembleAt_normalBand (fun k => k) a1 y w lower upper iv nx bw nseg hrows).normal hchol.solves)

theorem design_dot (a1 : ℕ → ℕ → K) (iv : ℕ → ℕ) (bw n p : ℕ) (z : ℕ → K) (hn : iv p + bw ≤ n) :
    ∑ j ∈ range n, design a1 iv bw p j * z j = ∑ a ∈ range bw, a1 p a * z (iv p + a) := by
  have hsub : Finset.Ico (iv p) (iv p + bw) ⊆ range n := by
    intro j hj; rw [Finset.mem_Ico] at hj; rw [Finset.mem_range]; omega
  rw [← Finset.sum_subset hsub]
  · rw [Finset.sum_Ico_eq_sum_range, show iv p + bw - iv p = bw by omega]
    apply Finset.sum_congr rfl
    intro a ha
    rw [Finset.mem_range] at ha
    unfold design
    rw [if_pos (by omega), show iv p + a - iv p = a by omega]
  · intro j _ hj
    rw [Finset.mem_Ico] at hj
    unfold design
    rw [if_neg hj]; ring

/-- the rows of the action matrix, as `fit` gets them from `action` (C08: `bsplvn` at the interval of each point) -/
noncomputable def basisRow (t : ℕ → K) (k n : ℕ) (x : ℕ → K) (p a : ℕ) : K :=
  (bsplvnK t k (x p) (intrvOfK t k n (x p))).getD a 0

/-- segment index of a point (`itop` of its interval) -/
noncomputable def segOf (t : ℕ → K) (k n : ℕ) (x : ℕ → K) (p : ℕ) : ℕ := intrvOfK t k n (x p) + 1 - k

/-- row `p` of the design matrix applied to a coefficient vector is the spline `value` returns at `x_p`
(C08 `value_spec`: `value` computes `splineAt`) -/
theorem design_row_is_spline (t : ℕ → K) (k n : ℕ) (hk : 1 ≤ k) (hkn : k ≤ n) (x : ℕ → K) (p : ℕ) (z : ℕ → K) :
    ∑ j ∈ range n, design (basisRow t k n x) (segOf t k n x) k p j * z j = splineAtK t z k n (x p) := by
  have hle := C08.intrvOf_le t k n (x p) hk hkn
  have hge := C08.intrvOf_ge t k n (x p)
  rw [design_dot _ _ _ _ _ _ (by unfold segOf; omega), C08.splineAt_eq_sum t z k n (x p) hk]
  rfl

/-- for non-negative `invvar`, any `sol` meeting `CholContract` on the assembled `alpha`, `beta` (what status 0 means: the
banded system was factored and solved) minimises `Σ_p invvar_p (y_p - spline(x_p))²` over ALL
coefficient vectors `z`, where `spline` is the function `value` evaluates (C08 `splineAt`). -/
theorem fit_optimum (t : ℕ → K) (k n : ℕ) (hk : 1 ≤ k) (hkn : k ≤ n) (x y w : ℕ → K) (nx nseg : ℕ)
    (lower upper : Array ℤ) (hrows : Rows lower upper (segOf t k n x) nx nseg) (hw : ∀ p, 0 ≤ w p)
    (L : ℕ → ℕ → K) (sol : ℕ → K)
    (hchol : CholContract (bandFull (assembleK (basisRow t k n x) y w lower upper nx k nseg).1 k)
      (assembleK (basisRow t k n x) y w lower upper nx k nseg).2 n L sol) (z : ℕ → K) :
    ∑ p ∈ range nx, w p * (y p - splineAtK t sol k n (x p)) ^ 2
      ≤ ∑ p ∈ range nx, w p * (y p - splineAtK t z k n (x p)) ^ 2 := by
  have := (assembleAt_normalBand (fun k => k) _ y w lower upper _ nx k nseg hrows).optimum (fun p _ => hw p) hchol.solves z
  simp only [design_row_is_spline t k n hk hkn x] at this
  exact this

/-- the normal equations, for any `sol` meeting `CholContract` on the assembled system -/
theorem fit_normal (t : ℕ → K) (k n : ℕ) (x y w : ℕ → K) (nx nseg : ℕ)
    (lower upper : Array ℤ) (hrows : Rows lower upper (segOf t k n x) nx nseg)
    (L : ℕ → ℕ → K) (sol : ℕ → K)
    (hchol : CholContract (bandFull (assembleK (basisRow t k n x) y w lower upper nx k nseg).1 k)
      (assembleK (basisRow t k n x) y w lower upper nx k nseg).2 n L sol) :
    Lsq.Normal (fun (p : Fin nx) (c : Fin n) => design (basisRow t k n x) (segOf t k n x) k p c) (fun p => w p) (fun p => y p)
      (fun c => sol c) :=
  (assembleAt_normalBand (fun k => k) _ y w lower upper _ nx k nseg hrows).normal hchol.solves

/-- the system that `fit` assembles (`alpha`, `beta`) - hence everything computed from it -
does not change when `y` is altered at points of zero weight -/
theorem fit_zero_weight (a1 : ℕ → ℕ → K) (y y' w : ℕ → K) (lower upper : Array ℤ) (iv : ℕ → ℕ) (nx bw nseg : ℕ)
    (hrows : Rows lower upper iv nx nseg) (h : ∀ p, p < nx → w p ≠ 0 → y p = y' p) :
    (∀ c r, r < bw → (assembleK a1 y w lower upper nx bw nseg).1 (c * bw + r) = (assembleK a1 y' w lower upper nx bw nseg).1 (c * bw + r)) ∧
    (∀ c, (assembleK a1 y w lower upper nx bw nseg).2 c = (assembleK a1 y' w lower upper nx bw nseg).2 c) := by
  obtain ⟨hα, hβ⟩ := assemble_is_normal a1 y w lower upper iv nx bw nseg hrows
  obtain ⟨hα', hβ'⟩ := assemble_is_normal a1 y' w lower upper iv nx bw nseg hrows
  refine ⟨fun c r hr => by rw [hα c r hr, hα' c r hr], fun c => ?_⟩
  rw [hβ c, hβ' c]
  apply Finset.sum_congr rfl
  intro p hp
  by_cases hw : w p = 0
  · rw [hw]; ring
  · rw [h p (Finset.mem_range.1 hp) hw]

/-- the fit is linear in `y`: if `s`, `s'` are the status-0 coefficients for data `y`, `y'` then
`a s + b s'` satisfies the normal equations for `a y + b y'` (and is THE solution when the matrix is positive
definite, `Lsq.lsq_unique`) -/
theorem fit_linear (t : ℕ → K) (k n : ℕ) (x y y' w : ℕ → K) (nx nseg : ℕ)
    (lower upper : Array ℤ) (hrows : Rows lower upper (segOf t k n x) nx nseg)
    (L L' : ℕ → ℕ → K) (s s' : ℕ → K) (a b : K)
    (hchol : CholContract (bandFull (assembleK (basisRow t k n x) y w lower upper nx k nseg).1 k)
      (assembleK (basisRow t k n x) y w lower upper nx k nseg).2 n L s)
    (hchol' : CholContract (bandFull (assembleK (basisRow t k n x) y' w lower upper nx k nseg).1 k)
      (assembleK (basisRow t k n x) y' w lower upper nx k nseg).2 n L' s') :
    Lsq.Normal (fun (p : Fin nx) (c : Fin n) => design (basisRow t k n x) (segOf t k n x) k p c) (fun p => w p)
      (fun p => a * y p + b * y' p) (fun c => a * s c + b * s' c) :=
  Lsq.normal_linear _ _ _ _ _ _ a b (fit_normal t k n x y w nx nseg lower upper hrows L s hchol)
    (fit_normal t k n x y' w nx nseg lower upper hrows L' s' hchol')

/-- a minimiser of the objective reproduces data that come from a spline of the same knots -/
theorem exact_of_optimum (t : ℕ → K) (k n nx : ℕ) (x y w : ℕ → K) (hw : ∀ p, p < nx → 0 ≤ w p) (sol c0 : ℕ → K)
    (hopt : ∑ p ∈ range nx, w p * (y p - splineAtK t sol k n (x p)) ^ 2 ≤ ∑ p ∈ range nx, w p * (y p - splineAtK t c0 k n (x p)) ^ 2)
    (hy : ∀ p, p < nx → y p = splineAtK t c0 k n (x p)) :
    ∀ p, p < nx → 0 < w p → splineAtK t sol k n (x p) = y p := by
  -- the objective vanishes at `c0`, so it vanishes at the minimiser, term by term
  have hzero : ∑ p ∈ range nx, w p * (y p - splineAtK t c0 k n (x p)) ^ 2 = 0 :=
    Finset.sum_eq_zero fun p hp => by rw [hy p (Finset.mem_range.1 hp), sub_self, zero_pow two_ne_zero, mul_zero]
  rw [hzero] at hopt
  have hnn : ∀ p ∈ range nx, 0 ≤ w p * (y p - splineAtK t sol k n (x p)) ^ 2 :=
    fun p hp => mul_nonneg (hw p (Finset.mem_range.1 hp)) (sq_nonneg _)
  have hall := (Finset.sum_eq_zero_iff_of_nonneg hnn).1 (le_antisymm hopt (Finset.sum_nonneg hnn))
  intro p hp hpos
  have h := (mul_eq_zero.1 (hall p (Finset.mem_range.2 hp))).resolve_left hpos.ne'
  exact (sub_eq_zero.1 (pow_eq_zero_iff two_ne_zero |>.1 h)).symm

/-- data taken from a spline of the same knots (`y_p = spline_{c0}(x_p)`) are reproduced at every
point of positive weight - without any uniqueness assumption -/
theorem fit_exact (t : ℕ → K) (k n : ℕ) (hk : 1 ≤ k) (hkn : k ≤ n) (x y w : ℕ → K) (nx nseg : ℕ)
    (lower upper : Array ℤ) (hrows : Rows lower upper (segOf t k n x) nx nseg) (hw : ∀ p, 0 ≤ w p)
    (L : ℕ → ℕ → K) (sol : ℕ → K)
    (hchol : CholContract (bandFull (assembleK (basisRow t k n x) y w lower upper nx k nseg).1 k)
      (assembleK (basisRow t k n x) y w lower upper nx k nseg).2 n L sol)
    (c0 : ℕ → K) (hy : ∀ p, p < nx → y p = splineAtK t c0 k n (x p)) :
    ∀ p, p < nx → 0 < w p → splineAtK t sol k n (x p) = y p :=
  exact_of_optimum t k n nx x y w (fun p _ => hw p) sol c0
    (fit_optimum t k n hk hkn x y w nx nseg lower upper hrows hw L sol hchol c0) hy

/-- degree 0: constant data `y ≡ a` are reproduced at every point of
positive weight that lies in a non-empty knot interval (`Bracket`, which `C08.intrv_isBracket` gives for all points of the
breakpoint range).  All degrees `< k`: `poly_reproduction_all`. -/
theorem poly_reproduction (t : ℕ → K) (k n : ℕ) (hk : 1 ≤ k) (hkn : k ≤ n) (x y w : ℕ → K) (nx nseg : ℕ)
    (lower upper : Array ℤ) (hrows : Rows lower upper (segOf t k n x) nx nseg) (hw : ∀ p, 0 ≤ w p)
    (L : ℕ → ℕ → K) (sol : ℕ → K)
    (hchol : CholContract (bandFull (assembleK (basisRow t k n x) y w lower upper nx k nseg).1 k)
      (assembleK (basisRow t k n x) y w lower upper nx k nseg).2 n L sol)
    (a : K) (hy : ∀ p, p < nx → y p = a)
    (hbr : ∀ p, p < nx → C08.Bracket t k (intrvOfK t k n (x p)) (x p)) :
    ∀ p, p < nx → 0 < w p → splineAtK t sol k n (x p) = a := by
  have hconst : ∀ p, p < nx → splineAtK t (fun _ => a) k n (x p) = a := fun p hp =>
    C08.splineAt_of_const t _ k n (x p) a hk hkn (fun _ _ => rfl) (C08.bsplvn_sum_one t k _ (x p) (hbr p hp))
  intro p hp hpos
  have := fit_exact t k n hk hkn x y w nx nseg lower upper hrows hw L sol hchol (fun _ => a)
    (fun q hq => by rw [hy q hq, hconst q hq]) p hp hpos
  rw [this, hy p hp]

/-! ## `Rows` holds for the `lower`/`upper` that `action` computes on sorted points (C08 `rowsOf_action`) -/

def ptAt (xs : List K) : ℕ → K := fun p => xs.getD p 0

/-- `lower` / `upper` exactly as the model's `action` computes them (C08 `action_eq`): the `uniq` bookkeeping of the
scanned interval indices of the points `xs` -/
noncomputable def actLower (t : ℕ → K) (k n : ℕ) (xs : List K) : Array ℤ := (lowerUpper k n (scanK t n xs (k-1)).toArray).1
noncomputable def actUpper (t : ℕ → K) (k n : ℕ) (xs : List K) : Array ℤ := (lowerUpper k n (scanK t n xs (k-1)).toArray).2

/-- for points sorted in non-decreasing order (ANY knots), the `lower`/`upper` of the model's `action`
satisfy `Rows`: the hypothesis of `assemble_is_normal`, `fit_optimum`, ... is a theorem -/
theorem rows_action (t : ℕ → K) (k n : ℕ) (hk : 1 ≤ k) (hkn : k ≤ n) (xs : List K) (hne : xs ≠ [])
    (hsorted : xs.Pairwise (· ≤ ·)) :
    Rows (actLower t k n xs) (actUpper t k n xs) (segOf t k n (ptAt xs)) xs.length (n - k + 1) := by
  have hR := C08.rowsOf_action t k n hk hkn xs hne hsorted
  unfold actLower actUpper
  rw [C08.intrv_pointwise t k n xs hsorted] at hR ⊢
  intro p hp
  have hle := C08.intrvOf_le t k n (xs.getD p 0) hk hkn
  have hge := C08.intrvOf_ge t k n (xs.getD p 0)
  refine ⟨by unfold segOf ptAt; omega, fun i hi => ?_⟩
  have := hR p (by rw [List.length_map]; exact hp) i hi
  rw [getD_map (intrvOfK t k n) xs 0 0 p hp] at this
  unfold rowIn segOf ptAt
  rw [Bool.and_eq_true, decide_eq_true_iff, decide_eq_true_iff]
  exact this

/-- `assemble_is_normal` for the `lower`/`upper` of `action` on sorted points - no
hypothesis about `lower`/`upper` -/
theorem assemble_is_normal_action (t : ℕ → K) (k n : ℕ) (hk : 1 ≤ k) (hkn : k ≤ n) (xs : List K) (hne : xs ≠ [])
    (hsorted : xs.Pairwise (· ≤ ·)) (a1 : ℕ → ℕ → K) (y w : ℕ → K) :
    (∀ c r, r < k → (assembleK a1 y w (actLower t k n xs) (actUpper t k n xs) xs.length k (n - k + 1)).1 (c * k + r) =
      ∑ p ∈ range xs.length, design a1 (segOf t k n (ptAt xs)) k p c * (design a1 (segOf t k n (ptAt xs)) k p (c + r) * w p)) ∧
    (∀ c, (assembleK a1 y w (actLower t k n xs) (actUpper t k n xs) xs.length k (n - k + 1)).2 c =
      ∑ p ∈ range xs.length, y p * (design a1 (segOf t k n (ptAt xs)) k p c * w p)) :=
  assemble_is_normal a1 y w _ _ _ _ k _ (rows_action t k n hk hkn xs hne hsorted)

/-- `fit_optimum` without the `Rows` hypothesis, for sorted points `xs` (as `fit` receives them from
`iterfit`) and the `lower`/`upper` of `action`; `spline` = C08 `splineAt` (`= Σ_j c_j·B_{j,k}` on
non-decreasing knots: C08 `splineAt_eq_coxDeBoorAt`).  What remains assumed: `CholContract` only. -/
theorem fit_optimum_sorted (t : ℕ → K) (k n : ℕ) (hk : 1 ≤ k) (hkn : k ≤ n) (xs : List K) (hne : xs ≠ [])
    (hsorted : xs.Pairwise (· ≤ ·)) (y w : ℕ → K) (hw : ∀ p, 0 ≤ w p) (L : ℕ → ℕ → K) (sol : ℕ → K)
    (hchol : CholContract (bandFull (assembleK (basisRow t k n (ptAt xs)) y w (actLower t k n xs) (actUpper t k n xs)
        xs.length k (n - k + 1)).1 k)
      (assembleK (basisRow t k n (ptAt xs)) y w (actLower t k n xs) (actUpper t k n xs) xs.length k (n - k + 1)).2 n L sol)
    (z : ℕ → K) :
    ∑ p ∈ range xs.length, w p * (y p - splineAtK t sol k n (xs.getD p 0)) ^ 2
      ≤ ∑ p ∈ range xs.length, w p * (y p - splineAtK t z k n (xs.getD p 0)) ^ 2 :=
  fit_optimum t k n hk hkn (ptAt xs) y w xs.length (n - k + 1) _ _ (rows_action t k n hk hkn xs hne hsorted) hw L sol hchol z

/-- `fit_normal` without the `Rows` hypothesis -/
theorem fit_normal_sorted (t : ℕ → K) (k n : ℕ) (hk : 1 ≤ k) (hkn : k ≤ n) (xs : List K) (hne : xs ≠ [])
    (hsorted : xs.Pairwise (· ≤ ·)) (y w : ℕ → K) (L : ℕ → ℕ → K) (sol : ℕ → K)
    (hchol : CholContract (bandFull (assembleK (basisRow t k n (ptAt xs)) y w (actLower t k n xs) (actUpper t k n xs)
        xs.length k (n - k + 1)).1 k)
      (assembleK (basisRow t k n (ptAt xs)) y w (actLower t k n xs) (actUpper t k n xs) xs.length k (n - k + 1)).2 n L sol) :
    Lsq.Normal (fun (p : Fin xs.length) (c : Fin n) => design (basisRow t k n (ptAt xs)) (segOf t k n (ptAt xs)) k p c)
      (fun p => w p) (fun p => y p) (fun c => sol c) :=
  fit_normal t k n (ptAt xs) y w xs.length (n - k + 1) _ _ (rows_action t k n hk hkn xs hne hsorted) L sol hchol

/-- `fit_zero_weight` without the `Rows` hypothesis -/
theorem fit_zero_weight_sorted (t : ℕ → K) (k n : ℕ) (hk : 1 ≤ k) (hkn : k ≤ n) (xs : List K) (hne : xs ≠ [])
    (hsorted : xs.Pairwise (· ≤ ·)) (a1 : ℕ → ℕ → K) (y y' w : ℕ → K) (h : ∀ p, p < xs.length → w p ≠ 0 → y p = y' p) :
    (∀ c r, r < k → (assembleK a1 y w (actLower t k n xs) (actUpper t k n xs) xs.length k (n - k + 1)).1 (c * k + r) =
      (assembleK a1 y' w (actLower t k n xs) (actUpper t k n xs) xs.length k (n - k + 1)).1 (c * k + r)) ∧
    (∀ c, (assembleK a1 y w (actLower t k n xs) (actUpper t k n xs) xs.length k (n - k + 1)).2 c =
      (assembleK a1 y' w (actLower t k n xs) (actUpper t k n xs) xs.length k (n - k + 1)).2 c) :=
  fit_zero_weight a1 y y' w _ _ _ _ k _ (rows_action t k n hk hkn xs hne hsorted) h

/-- `fit_linear` without the `Rows` hypothesis -/
theorem fit_linear_sorted (t : ℕ → K) (k n : ℕ) (hk : 1 ≤ k) (hkn : k ≤ n) (xs : List K) (hne : xs ≠ [])
    (hsorted : xs.Pairwise (· ≤ ·)) (y y' w : ℕ → K) (L L' : ℕ → ℕ → K) (s s' : ℕ → K) (a b : K)
    (hchol : CholContract (bandFull (assembleK (basisRow t k n (ptAt xs)) y w (actLower t k n xs) (actUpper t k n xs)
        xs.length k (n - k + 1)).1 k)
      (assembleK (basisRow t k n (ptAt xs)) y w (actLower t k n xs) (actUpper t k n xs) xs.length k (n - k + 1)).2 n L s)
    (hchol' : CholContract (bandFull (assembleK (basisRow t k n (ptAt xs)) y' w (actLower t k n xs) (actUpper t k n xs)
        xs.length k (n - k + 1)).1 k)
      (assembleK (basisRow t k n (ptAt xs)) y' w (actLower t k n xs) (actUpper t k n xs) xs.length k (n - k + 1)).2 n L' s') :
    Lsq.Normal (fun (p : Fin xs.length) (c : Fin n) => design (basisRow t k n (ptAt xs)) (segOf t k n (ptAt xs)) k p c)
      (fun p => w p) (fun p => a * y p + b * y' p) (fun c => a * s c + b * s' c) :=
  fit_linear t k n (ptAt xs) y y' w xs.length (n - k + 1) _ _ (rows_action t k n hk hkn xs hne hsorted) L L' s s' a b hchol hchol'

/-- `fit_exact` without the `Rows` hypothesis -/
theorem fit_exact_sorted (t : ℕ → K) (k n : ℕ) (hk : 1 ≤ k) (hkn : k ≤ n) (xs : List K) (hne : xs ≠ [])
    (hsorted : xs.Pairwise (· ≤ ·)) (y w : ℕ → K) (hw : ∀ p, 0 ≤ w p) (L : ℕ → ℕ → K) (sol : ℕ → K)
    (hchol : CholContract (bandFull (assembleK (basisRow t k n (ptAt xs)) y w (actLower t k n xs) (actUpper t k n xs)
        xs.length k (n - k + 1)).1 k)
      (assembleK (basisRow t k n (ptAt xs)) y w (actLower t k n xs) (actUpper t k n xs) xs.length k (n - k + 1)).2 n L sol)
    (c0 : ℕ → K) (hy : ∀ p, p < xs.length → y p = splineAtK t c0 k n (xs.getD p 0)) :
    ∀ p, p < xs.length → 0 < w p → splineAtK t sol k n (xs.getD p 0) = y p :=
  fit_exact t k n hk hkn (ptAt xs) y w xs.length (n - k + 1) _ _ (rows_action t k n hk hkn xs hne hsorted) hw L sol hchol c0 hy

/-- `fit_optimum_sorted` with "the vector solves the assembled banded system" in place of `CholContract`
(`CholContract.solves` gives it), for any action matrix `a1` that agrees with the `bsplvn` rows on the data -/
theorem fit_optimum_solves (t : ℕ → K) (k n : ℕ) (hk : 1 ≤ k) (hkn : k ≤ n) (xs : List K) (hne : xs ≠ [])
    (hsorted : xs.Pairwise (· ≤ ·)) (a1 : ℕ → ℕ → K)
    (ha1 : ∀ p, p < xs.length → ∀ a, a < k → a1 p a = basisRow t k n (ptAt xs) p a)
    (y w : ℕ → K) (hw : ∀ p, p < xs.length → 0 ≤ w p) (sol : ℕ → K)
    (hsol : ∀ c, c < n → ∑ c' ∈ range n,
        bandFull (assembleK a1 y w (actLower t k n xs) (actUpper t k n xs) xs.length k (n - k + 1)).1 k c c' * sol c'
      = (assembleK a1 y w (actLower t k n xs) (actUpper t k n xs) xs.length k (n - k + 1)).2 c) (z : ℕ → K) :
    ∑ p ∈ range xs.length, w p * (y p - splineAtK t sol k n (xs.getD p 0)) ^ 2
      ≤ ∑ p ∈ range xs.length, w p * (y p - splineAtK t z k n (xs.getD p 0)) ^ 2 := by
  -- on the data the rows of `a1` are the `bsplvn` rows, so row `p` of its design matrix applied to `s` is the spline at `x_p`
  have hrow : ∀ (s : ℕ → K), ∀ p ∈ range xs.length,
      w p * (y p - splineAtK t s k n (xs.getD p 0)) ^ 2
        = w p * (y p - ∑ j ∈ range n, design a1 (segOf t k n (ptAt xs)) k p j * s j) ^ 2 := fun s p hp => by
    rw [show splineAtK t s k n (xs.getD p 0) = _ from (design_row_is_spline t k n hk hkn (ptAt xs) p s).symm]
    simp only [design_congr a1 _ (segOf t k n (ptAt xs)) k p (ha1 p (Finset.mem_range.1 hp))]
  rw [Finset.sum_congr rfl (hrow sol), Finset.sum_congr rfl (hrow z)]
  exact (assembleAt_normalBand (fun k => k) a1 y w _ _ _ _ k _ (rows_action t k n hk hkn xs hne hsorted)).optimum hw hsol z

/-! ## polynomial reproduction for every degree below the order (Marsden's identity, Lemmas/BSplineMarsden.lean) -/

open Polynomial in
/-- data taken from ANY polynomial `q` of degree `< k` (the order) are reproduced at every point of positive weight, for non-decreasing knots with
`t[k-1] < t[k]` and points in the breakpoint range `[t[k-1], t[n]]`.  No support/uniqueness assumption: the polynomial is a
spline of these knots (`spline_of_poly`, Marsden), so `fit_exact` applies. -/
theorem poly_reproduction_all (t : ℕ → K) (k n : ℕ) (hk : 1 ≤ k) (hkn : k ≤ n)
    (hmono : ∀ a b, a ≤ b → b ≤ n + k - 1 → t a ≤ t b) (hfirst : t (k-1) < t k)
    (x y w : ℕ → K) (nx nseg : ℕ) (lower upper : Array ℤ) (hrows : Rows lower upper (segOf t k n x) nx nseg)
    (hw : ∀ p, 0 ≤ w p) (hrange : ∀ p, p < nx → t (k-1) ≤ x p ∧ x p ≤ t n)
    (L : ℕ → ℕ → K) (sol : ℕ → K)
    (hchol : CholContract (bandFull (assembleK (basisRow t k n x) y w lower upper nx k nseg).1 k)
      (assembleK (basisRow t k n x) y w lower upper nx k nseg).2 n L sol)
    (q : K[X]) (hq : q.natDegree < k) (hy : ∀ p, p < nx → y p = q.eval (x p)) :
    ∀ p, p < nx → 0 < w p → splineAtK t sol k n (x p) = q.eval (x p) := by
  intro p hp hpos
  have := fit_exact t k n hk hkn x y w nx nseg lower upper hrows hw L sol hchol (polyCoeff t (k-1) q)
    (fun r hr => by
      rw [hy r hr, spline_of_poly t k n hk hkn hmono hfirst q hq (x r) (hrange r hr).1 (hrange r hr).2]) p hp hpos
  rw [this, hy p hp]

open Polynomial in
/-- the same for the `lower`/`upper` of `action` on sorted points - only `CholContract`
is assumed -/
theorem poly_reproduction_sorted (t : ℕ → K) (k n : ℕ) (hk : 1 ≤ k) (hkn : k ≤ n)
    (hmono : ∀ a b, a ≤ b → b ≤ n + k - 1 → t a ≤ t b) (hfirst : t (k-1) < t k)
    (xs : List K) (hne : xs ≠ []) (hsorted : xs.Pairwise (· ≤ ·)) (hrange : ∀ v ∈ xs, t (k-1) ≤ v ∧ v ≤ t n)
    (y w : ℕ → K) (hw : ∀ p, 0 ≤ w p) (L : ℕ → ℕ → K) (sol : ℕ → K)
    (hchol : CholContract (bandFull (assembleK (basisRow t k n (ptAt xs)) y w (actLower t k n xs) (actUpper t k n xs)
        xs.length k (n - k + 1)).1 k)
      (assembleK (basisRow t k n (ptAt xs)) y w (actLower t k n xs) (actUpper t k n xs) xs.length k (n - k + 1)).2 n L sol)
    (q : K[X]) (hq : q.natDegree < k) (hy : ∀ p, p < xs.length → y p = q.eval (xs.getD p 0)) :
    ∀ p, p < xs.length → 0 < w p → splineAtK t sol k n (xs.getD p 0) = q.eval (xs.getD p 0) :=
  poly_reproduction_all t k n hk hkn hmono hfirst (ptAt xs) y w xs.length (n - k + 1) _ _
    (rows_action t k n hk hkn xs hne hsorted) hw
    (fun p hp => hrange _ (getD_mem xs 0 p hp))
    L sol hchol q hq hy

/-! ## status table (any scalar type: the status logic does not depend on the arithmetic) -/
section status
variable {α : Type} [Scalar α]

/-- `insideIdx` (the good-breakpoint positions that `maskpoints` masks) never addresses the first `nord` or the last
`nord` good breakpoints -/
theorem insideIdx_range (nord n h : ℕ) (jj : ℤ) (hn : nord < n) :
    nord ≤ insideIdx nord n h jj ∧ insideIdx nord n h jj ≤ n - 1 := by
  unfold insideIdx
  simp only []
  -- of the first `where` only `foo ≥ 0` matters
  have hfoo : (0 : ℤ) ≤ if (h : ℤ) + jj > 0 then (h : ℤ) + jj else 0 := by split <;> omega
  generalize (if (h : ℤ) + jj > 0 then (h : ℤ) + jj else 0) = foo at hfoo ⊢
  split <;> omega

theorem foldl_clear_le (l : List ℕ) (m : Array Bool) (i : ℕ) :
    (l.foldl (fun m i => m.setIfInBounds i false) m)[i]! = true → m[i]! = true := by
  induction l generalizing m with
  | nil => exact id
  | cons a l ih =>
    intro h
    -- the step writes `false` at `a` or nothing; elsewhere it reads what `m` holds
    have := ih _ h
    rw [getElem!_def, Array.getElem?_setIfInBounds] at this
    rw [getElem!_def]
    split_ifs at this
    · exact absurd this (by decide)
    · exact this

theorem maskpoints_eq (mask : Array Bool) (nord : ℕ) (err : List ℕ) :
    maskpoints mask nord err = (-2, mask) ∨
    ∃ l : List ℕ, maskpoints mask nord err = (-1, l.foldl (fun m i => m.setIfInBounds i false) mask) := by
  -- `maskpoints` is a cascade of exits with `(-2, mask)` in front of the one branch that clears positions
  let P : ℤ × Array Bool → Prop := fun x =>
    x = (-2, mask) ∨ ∃ l : List ℕ, x = (-1, l.foldl (fun m i => m.setIfInBounds i false) mask)
  have step : ∀ (c : Prop) [Decidable c] (x : ℤ × Array Bool), P x → P (if c then (-2, mask) else x) := by
    intro c _ x hx
    split
    · exact Or.inl rfl
    · exact hx
  show P _
  unfold maskpoints
  extract_lets goodbk nbkpt ea hmm n jjs test reality
  refine step _ _ (step _ _ (step _ _ (step _ _ ?_)))
  split
  · exact Or.inr ⟨_, rfl⟩
  · exact Or.inl rfl

/-- `maskpoints`: the answer is -1 or -2; with -2 the mask is unchanged; with -1 the mask has the same
length and only changes from True to False -/
theorem maskpoints_status (mask : Array Bool) (nord : ℕ) (err : List ℕ) :
    ((maskpoints mask nord err).1 = -2 ∧ (maskpoints mask nord err).2 = mask) ∨
    ((maskpoints mask nord err).1 = -1 ∧ (maskpoints mask nord err).2.size = mask.size ∧
      ∀ i : ℕ, (maskpoints mask nord err).2[i]! = true → mask[i]! = true) := by
  rcases maskpoints_eq mask nord err with h | ⟨l, h⟩ <;> rw [h]
  · exact Or.inl ⟨rfl, rfl⟩
  · exact Or.inr ⟨rfl, C08.foldl_set_size _ id (fun _ => false) _, fun i => foldl_clear_le _ _ i⟩

theorem maskpoints_ne_zero (mask : Array Bool) (nord : ℕ) (err : List ℕ) : (maskpoints mask nord err).1 ≠ 0 := by
  rcases maskpoints_status mask nord err with ⟨h1, _⟩ | ⟨h1, _⟩ <;> rw [h1] <;> decide

/-- `nn < nord`: fewer than `nord` good breakpoints beyond the first `nord` ⇒ status -2, `yfit = 0`,
object unchanged -/
theorem fit_too_few (Kn : Kernels α) (b : BS α) (xs ys ws : List α) (perm : List ℕ)
    (h : (goodIdx (b.mask.toList.drop b.nord)).length < b.nord) :
    fit Kn b xs ys ws perm = .ok { status := -2, yfit := List.replicate xs.length 0, obj := b } := by
  rw [fit_eq, if_pos h]
  rfl

/-- the screen of `cholesky_band`: a diagonal entry `≤ mininf` or a non-finite entry anywhere ⇒ the list of
the columns with diagonal `≤ mininf` is returned (not a factor, no exception) -/
theorem choleskyBand_screen (Kn : Kernels α) (l : Array (Array α)) (mininf : α) (hbw : l.size ≠ 0)
    (hnn : ¬ (l[0]!).size < l.size)
    (hbad : (!((List.range ((l[0]!).size - l.size)).filter (fun c => decide (get2 l 0 c ≤ mininf))).isEmpty
      || !(l.all (fun row => row.all Kn.isFinite))) = true) :
    choleskyBand Kn l mininf =
      .ok (.bad ((List.range ((l[0]!).size - l.size)).filter (fun c => decide (get2 l 0 c ≤ mininf))) false) := by
  unfold choleskyBand
  simp only [hbw, hnn, if_false]
  rw [if_pos hbad]
  rfl

theorem fallbackLoop_mem (Kn : Kernels α) (kn : ℕ) (js : List ℕ) (lower : Array (Array α)) (j : ℕ)
    (h : fallbackLoop Kn kn js lower = .inl j) : j ∈ js := by
  induction js generalizing lower with
  | nil => simp [fallbackLoop] at h
  | cons a l ih =>
    unfold fallbackLoop at h
    split at h
    · injection h with h; rw [← h]; exact List.mem_cons_self
    · exact List.mem_cons_of_mem _ (ih _ h)

/-- `cholesky_band` never fails: it returns a
factor, or the screened column list, or ONE column index `j < n` found by the fallback loop when the LAPACK kernel
reports `LinAlgError` -/
theorem choleskyBand_total (Kn : Kernels α) (l : Array (Array α)) (mininf : α) (hbw : l.size ≠ 0)
    (hnn : ¬ (l[0]!).size < l.size) :
    (∃ L, choleskyBand Kn l mininf = .ok (.factor L)) ∨
    (∃ idx, choleskyBand Kn l mininf = .ok (.bad idx false)) ∨
    (∃ j, j < (l[0]!).size - l.size ∧ choleskyBand Kn l mininf = .ok (.bad [j] true)) := by
  unfold choleskyBand
  simp only [hbw, hnn, if_false]
  split
  · exact Or.inr (Or.inl ⟨_, rfl⟩)
  · split
    · exact Or.inl ⟨_, rfl⟩
    · split
      · rename_i j hj
        exact Or.inr (Or.inr ⟨j, List.mem_range.1 (fallbackLoop_mem Kn _ _ _ j hj), rfl⟩)
      · exact Or.inl ⟨_, rfl⟩

/-- every way in which `fit` returns without an error; the curve is the `value` of the old
object when columns are masked, of the new one after a solve -/
theorem fit_cases (Kn : Kernels α) (b : BS α) (xs ys ws : List α) (perm : List ℕ) (out : FitOut α)
    (h : fit Kn b xs ys ws perm = .ok out) :
    out = { status := -2, yfit := List.replicate xs.length 0, obj := b } ∨
    b.nord ≠ 0 ∧ ∃ rows lower upper, b.action xs = .ok (some (rows, lower, upper)) ∧
      ((∃ idx s, choleskyBand Kn (normalSystem rows ys ws lower upper xs.length b.nord (goodIdx (b.mask.toList.drop b.nord)).length).1
          ((1.0e-10 : α) * sumL ws / (Scalar.ofNat (goodIdx (b.mask.toList.drop b.nord)).length : α)) = .ok (.bad idx s) ∧
        out.status = (maskpoints b.mask b.nord idx).1 ∧ out.obj = { b with mask := (maskpoints b.mask b.nord idx).2 } ∧
        yfitOf b rows lower upper xs.length perm = .ok out.yfit) ∨
       (∃ a, choleskyBand Kn (normalSystem rows ys ws lower upper xs.length b.nord (goodIdx (b.mask.toList.drop b.nord)).length).1
          ((1.0e-10 : α) * sumL ws / (Scalar.ofNat (goodIdx (b.mask.toList.drop b.nord)).length : α)) = .ok (.factor a) ∧
        out.status = 0 ∧ out.obj = { b with coeff := (putGood b.coeff (b.mask.toList.drop b.nord)
          (choleskySolve Kn a (normalSystem rows ys ws lower upper xs.length b.nord (goodIdx (b.mask.toList.drop b.nord)).length).2)) } ∧
        yfitOf out.obj rows lower upper xs.length perm = .ok out.yfit)) := by
  rw [fit_eq] at h
  -- the guards in the order of the code; those that raise contradict `h`
  split at h
  · cases h
    exact Or.inl rfl
  split at h
  · cases h
  obtain ⟨act, hact, h⟩ := bind_ok h
  obtain _ | ⟨rows, lower, upper⟩ := act
  · cases h
  dsimp only at h
  split at h
  · cases h
  exact Or.inr ⟨‹_›, rows, lower, upper, hact, fitFrom_cases Kn b _ perm rows lower upper _ _ out h⟩

/-- whenever `fit` returns (i.e. does not hit one of the model's error exits: `nord = 0`,
leading breakpoints masked, `value` on a degenerate object) the status is 0, -1 or -2; with -2 and -1 the coefficients
are the old ones, with 0 and -2 the breakpoint mask is the old one -/
theorem fit_status (Kn : Kernels α) (b : BS α) (xs ys ws : List α) (perm : List ℕ) (out : FitOut α)
    (h : fit Kn b xs ys ws perm = .ok out) :
    (out.status = 0 ∧ out.obj.mask = b.mask) ∨
    (out.status = -1 ∧ out.obj.coeff = b.coeff) ∨
    (out.status = -2 ∧ out.obj.coeff = b.coeff ∧ out.obj.mask = b.mask) := by
  rcases fit_cases Kn b xs ys ws perm out h with rfl | ⟨_, _, _, _, _, ⟨idx, _, _, hst, hobj, _⟩ | ⟨_, _, hst, hobj, _⟩⟩
  · exact Or.inr (Or.inr ⟨rfl, rfl, rfl⟩)
  · rw [hst, hobj]
    rcases maskpoints_status b.mask b.nord idx with ⟨h1, h2⟩ | ⟨h1, _⟩
    · exact Or.inr (Or.inr ⟨h1, rfl, h2⟩)
    · exact Or.inr (Or.inl ⟨h1, rfl⟩)
  · rw [hst, hobj]
    exact Or.inl ⟨rfl, rfl⟩

theorem fit_status0_obj (Kn : Kernels α) (b : BS α) (xs ys ws : List α) (perm : List ℕ) (out : FitOut α)
    (h : fit Kn b xs ys ws perm = .ok out) (h0 : out.status = 0) :
    ∃ rows lower upper a, b.action xs = .ok (some (rows, lower, upper)) ∧
      choleskyBand Kn (normalSystem rows ys ws lower upper xs.length b.nord (goodIdx (b.mask.toList.drop b.nord)).length).1
        ((1.0e-10 : α) * sumL ws / (Scalar.ofNat (goodIdx (b.mask.toList.drop b.nord)).length : α)) = .ok (.factor a) ∧
      out.obj = { b with coeff := (putGood b.coeff (b.mask.toList.drop b.nord)
        (choleskySolve Kn a (normalSystem rows ys ws lower upper xs.length b.nord (goodIdx (b.mask.toList.drop b.nord)).length).2)) } := by
  rcases fit_cases Kn b xs ys ws perm out h with rfl | ⟨_, rows, lower, upper, hact, ⟨idx, _, _, hst, _⟩ | ⟨a, hchol, _, hobj, _⟩⟩
  · cases h0
  · exact absurd (hst ▸ h0) (maskpoints_ne_zero _ _ _)
  · exact ⟨rows, lower, upper, a, hact, hchol, hobj⟩

/-- the new coefficients of a status-0 answer are the solution vector the theorems `fit_optimum`, `fit_exact`, ...
speak about (through `CholContract`), written to the positions of the good breakpoints (`self.coeff[goodbk] = sol`; the
parallel store into `self.icoeff` is not modelled) -/
theorem fit_status0 (Kn : Kernels α) (b : BS α) (xs ys ws : List α) (perm : List ℕ) (out : FitOut α)
    (h : fit Kn b xs ys ws perm = .ok out) (h0 : out.status = 0) :
    ∃ rows lower upper a, b.action xs = .ok (some (rows, lower, upper)) ∧
      choleskyBand Kn (normalSystem rows ys ws lower upper xs.length b.nord (goodIdx (b.mask.toList.drop b.nord)).length).1
        ((1.0e-10 : α) * sumL ws / (Scalar.ofNat (goodIdx (b.mask.toList.drop b.nord)).length : α)) = .ok (.factor a) ∧
      out.obj.coeff = putGood b.coeff (b.mask.toList.drop b.nord)
        (choleskySolve Kn a (normalSystem rows ys ws lower upper xs.length b.nord (goodIdx (b.mask.toList.drop b.nord)).length).2) := by
  obtain ⟨rows, lower, upper, a, hact, hchol, hobj⟩ := fit_status0_obj Kn b xs ys ws perm out h h0
  exact ⟨rows, lower, upper, a, hact, hchol, by rw [hobj]⟩

end status

/-- the `Inhabited` instance the model's `arr[i]!` reads use (default `Scalar.ofNat 0`) -/
noncomputable local instance instInhabitedK : Inhabited K := @PydlVerif.instInhabitedOfScalar K (fieldScalar K)

theorem toArray_getD (l : List K) (p : ℕ) (hp : p < l.length) : l.toArray[p]! = l.getD p 0 := by
  rw [toArray_getElem!, getD_lt l _ p hp, getD_lt l _ p hp]

theorem arr2_get (rows : List (List K)) (p a : ℕ) (hp : p < rows.length) (ha : a < rows[p].length) :
    ((rows.map List.toArray).toArray[p]!)[a]! = (rows[p]).getD a 0 := by
  have h1 : (rows.map List.toArray).toArray[p]! = rows[p].toArray := by
    rw [getElem!_pos _ p (by simpa using hp)]; simp
  rw [h1, getElem!_pos _ a (by simpa using ha), getD_lt _ _ a ha]
  simp

theorem action_rows (t : ℕ → K) (k n : ℕ) (hk : 1 ≤ k) (xs : List K) (hsorted : xs.Pairwise (· ≤ ·)) (p : ℕ)
    (hp : p < xs.length) (a : ℕ) (ha : a < k) :
    ((((List.zipWith (fun x i => bsplvnK t k x i) xs (scanK t n xs (k - 1))).map List.toArray).toArray[p]!)[a]! : K)
      = basisRow t k n (ptAt xs) p a := by
  have hrl : (List.zipWith (fun x i => bsplvnK t k x i) xs (scanK t n xs (k - 1))).length = xs.length := by
    rw [List.length_zipWith, @C08.scan_length K (fieldScalar K)]; omega
  have hrp : (List.zipWith (fun x i => bsplvnK t k x i) xs (scanK t n xs (k - 1)))[p]'(by omega)
      = bsplvnK t k xs[p] (intrvOfK t k n xs[p]) := by
    simp only [C08.intrv_pointwise _ _ _ xs hsorted, List.getElem_zipWith, List.getElem_map]
  have hx : xs.getD p 0 = xs[p] := getD_lt xs 0 p hp
  unfold basisRow ptAt
  rw [hx, arr2_get _ p a (by omega) (by rw [hrp, C08.bsplvn_length _ _ _ _ hk]; exact ha), hrp]

/-- the system of a status-0 fit (`hnn`: the first `nord` breakpoints are unmasked):
`cholesky_band` factored the materialised `assemble`, which is the band form of the
normal system of the B-spline design matrix of the points.  Everything a statement about a status-0 answer needs before the solver enters. -/
theorem fit_status0_system (Kn : Kernels K) (b : BS K) (xs ys ws : List K) (perm : List ℕ) (out : FitOut K)
    (h : fitK Kn b xs ys ws perm = .ok out) (h0 : out.status = 0) (hk : 1 ≤ b.nord)
    (hnn : (goodIdx (b.mask.toList.drop b.nord)).length = (gbK b).size - b.nord)
    (hsorted : xs.Pairwise (· ≤ ·)) (hyl : ys.length = xs.length) (hwl : ws.length = xs.length) :
    2 * b.nord ≤ (gbK b).size ∧ xs ≠ [] ∧
    ∃ rows lower upper mininf a, @BS.action _ (fieldScalar _) b xs = .ok (some (rows, lower, upper)) ∧
      choleskyBandK Kn (normalSystemK rows ys ws lower upper xs.length b.nord ((gbK b).size - b.nord)).1 mininf
        = .ok (.factor a) ∧
      out.obj = { b with coeff := (putGoodK b.coeff (b.mask.toList.drop b.nord)
        (choleskySolveK Kn a (normalSystemK rows ys ws lower upper xs.length b.nord ((gbK b).size - b.nord)).2)) } ∧
      NormalBand (design (basisRow (knotAtK (gbK b)) b.nord ((gbK b).size - b.nord) (ptAt xs))
          (segOf (knotAtK (gbK b)) b.nord ((gbK b).size - b.nord) (ptAt xs)) b.nord)
        (fun p => ws.getD p 0) (fun p => ys.getD p 0) xs.length b.nord
        (assembleK (fun p a => ((rows.map List.toArray).toArray[p]!)[a]!) (fun p => ys.toArray[p]!)
            (fun p => ws.toArray[p]!) lower upper xs.length b.nord ((gbK b).size - b.nord - b.nord + 1)).1
        (assembleK (fun p a => ((rows.map List.toArray).toArray[p]!)[a]!) (fun p => ys.toArray[p]!)
            (fun p => ws.toArray[p]!) lower upper xs.length b.nord ((gbK b).size - b.nord - b.nord + 1)).2 := by
  obtain ⟨rows, lower, upper, a, hact, hchol, hobj⟩ := @fit_status0_obj K (fieldScalar K) Kn b xs ys ws perm out h h0
  rw [hnn] at hchol hobj
  obtain ⟨hsize, hne, hrows, hl, hu⟩ := @C08.action_some K (fieldScalar K) b xs rows lower upper hk hact
  refine ⟨hsize, hne, rows, lower, upper, _, a, hact, hchol, hobj, ?_⟩
  subst hrows hl hu
  have hkn : b.nord ≤ (gbK b).size - b.nord := by omega
  exact (assembleAt_normalBand (fun k => k) _ _ _ _ _ _ _ b.nord _ (rows_action _ b.nord _ hk hkn xs hne hsorted)).congr
    (fun p c c' hc => design_band _ _ b.nord p c c' hc)
    (fun p hp => design_congr _ _ _ b.nord p (action_rows _ _ _ hk xs hsorted p hp))
    (fun p hp => toArray_getD ws p (by omega)) (fun p hp => toArray_getD ys p (by omega))

/-- about the model function `fit` itself, what the driver executes (`hnn`: the first `k` breakpoints are unmasked).  If `fit` answers status 0
and the vector that `cholesky_solve` returned solves the banded system that `fit` handed to it (`hsolve`:
the LAPACK contract on THIS call), then that vector minimises `Σ_p invvar_p (y_p - spline(x_p))²` over ALL coefficient vectors, `spline` = the function `value` evaluates on
the object's knots (C08 `splineAt`), and it is what `fit` stored in `coeff` (`putGood`).  Nothing is
assumed about `lower`/`upper`. -/
theorem fit_is_optimum (Kn : Kernels K) (b : BS K) (xs ys ws : List K) (perm : List ℕ) (out : FitOut K)
    (h : fitK Kn b xs ys ws perm = .ok out) (h0 : out.status = 0)
    (hk : 1 ≤ b.nord) (hsize : 2 * b.nord ≤ (gbK b).size)
    (hnn : (goodIdx (b.mask.toList.drop b.nord)).length = (gbK b).size - b.nord)
    (hne : xs ≠ []) (hsorted : xs.Pairwise (· ≤ ·)) (hyl : ys.length = xs.length) (hwl : ws.length = xs.length)
    (hw : ∀ v ∈ ws, 0 ≤ v)
    (hsolve : ∀ rows lower upper mininf a, (@BS.action _ (fieldScalar _) b xs) = .ok (some (rows, lower, upper)) →
      choleskyBandK Kn (normalSystemK rows ys ws lower upper xs.length b.nord ((gbK b).size - b.nord)).1 mininf
        = .ok (.factor a) →
      ∀ c, c < (gbK b).size - b.nord → ∑ c' ∈ range ((gbK b).size - b.nord),
        bandFull (assembleK (fun p a => ((rows.map List.toArray).toArray[p]!)[a]!) (fun p => ys.toArray[p]!)
            (fun p => ws.toArray[p]!) lower upper xs.length b.nord ((gbK b).size - b.nord - b.nord + 1)).1 b.nord c c'
          * (choleskySolveK Kn a (normalSystemK rows ys ws lower upper xs.length b.nord ((gbK b).size - b.nord)).2)[c']!
        = (assembleK (fun p a => ((rows.map List.toArray).toArray[p]!)[a]!) (fun p => ys.toArray[p]!)
            (fun p => ws.toArray[p]!) lower upper xs.length b.nord ((gbK b).size - b.nord - b.nord + 1)).2 c) :
    ∃ sol : Array K, out.obj.coeff = @putGood _ (fieldScalar _) b.coeff (b.mask.toList.drop b.nord) sol ∧
      ∀ z : ℕ → K,
        ∑ p ∈ range xs.length, ws.getD p 0 * (ys.getD p 0 -
            splineAtK (knotAtK (gbK b)) (fun j => sol[j]!) b.nord ((gbK b).size - b.nord) (xs.getD p 0)) ^ 2
          ≤ ∑ p ∈ range xs.length, ws.getD p 0 * (ys.getD p 0 -
            splineAtK (knotAtK (gbK b)) z b.nord ((gbK b).size - b.nord) (xs.getD p 0)) ^ 2 := by
  obtain ⟨_, _, rows, lower, upper, mininf, a, hact, hchol, hobj, hN⟩ :=
    fit_status0_system Kn b xs ys ws perm out h h0 hk hnn hsorted hyl hwl
  refine ⟨_, by rw [hobj], fun z => ?_⟩
  have := hN.optimum (fun p hp => hw _ (getD_mem ws 0 p (by omega))) (hsolve rows lower upper mininf a hact hchol) z
  simp only [design_row_is_spline _ _ _ hk (show b.nord ≤ (gbK b).size - b.nord by omega) (ptAt xs)] at this
  exact this

/-! ## reading the stored coefficients back: the optimum is the object `fit` returns -/

theorem foldl_setIf_size (l : List (ℕ × ℕ)) (f : ℕ → K) (c : Array K) :
    (l.foldl (fun c (ij : ℕ × ℕ) => c.setIfInBounds ij.1 (f ij.2)) c).size = c.size :=
  C08.foldl_set_size l Prod.fst (fun ij => f ij.2) c

theorem goodIdx_nodup (m : List Bool) : (goodIdx m).Nodup := List.Nodup.filter _ List.nodup_range

theorem goodIdx_lt (m : List Bool) (i : ℕ) (hi : i ∈ goodIdx m) : i < m.length := by
  unfold goodIdx at hi
  exact List.mem_range.1 (List.mem_filter.1 hi).1

theorem goodIdx_length (m : List Bool) : (goodIdx m).length = m.count true := by
  conv_rhs => rw [← map_range_getD m false]
  rw [List.count, List.countP_map, List.countP_eq_length_filter]
  unfold goodIdx
  congr 2
  funext i
  show m.getD i false = (m.getD i false == true)
  cases m.getD i false <;> rfl

/-- `self.coeff[goodbk] = sol`: the coefficient stored at the position of the `j`-th good breakpoint is `sol[j]` -/
theorem putGood_get (coeff : Array K) (goodbk : List Bool) (sol : Array K) (j : ℕ) (hj : j < (goodIdx goodbk).length)
    (hsz : goodbk.length ≤ coeff.size) :
    (putGoodK coeff goodbk sol)[(goodIdx goodbk)[j]]! = sol[j]! := by
  unfold putGood
  have hmem : ((goodIdx goodbk)[j], j) ∈ (goodIdx goodbk).zip (List.range (goodIdx goodbk).length) := by
    rw [List.mem_iff_getElem]
    exact ⟨j, by simpa using hj, by simp⟩
  have hnd : (((goodIdx goodbk).zip (List.range (goodIdx goodbk).length)).map Prod.fst).Nodup := by
    rw [List.map_fst_zip (by simp)]; exact goodIdx_nodup goodbk
  -- the indices are distinct, so the one assignment to this slot is the `j`-th
  exact C08.foldl_set_get _ Prod.fst (fun ij => sol[ij.2]!) coeff _ _
    (lt_of_lt_of_le (goodIdx_lt goodbk _ (List.getElem_mem hj)) hsz)
    (fun a ha e => by rw [List.inj_on_of_nodup_map hnd ha hmem e]) (Or.inr ⟨_, hmem, rfl⟩)

theorem splineAt_congr (t : ℕ → K) (k n : ℕ) (hk : 1 ≤ k) (hkn : k ≤ n) (c c' : ℕ → K) (h : ∀ j, j < n → c j = c' j) (x : K) :
    splineAtK t c k n x = splineAtK t c' k n x := by
  have hle := C08.intrvOf_le t k n x hk hkn
  rw [C08.splineAt_eq_sum t c k n x hk, C08.splineAt_eq_sum t c' k n x hk]
  apply Finset.sum_congr rfl
  intro a ha
  rw [Finset.mem_range] at ha
  rw [h _ (by omega)]

theorem coeffAt_putGood (b : BS K) (sol : Array K) (hcs : b.mask.size - b.nord ≤ b.coeff.size) (j : ℕ)
    (hj : j < (goodIdx (b.mask.toList.drop b.nord)).length) :
    coeffAtK { b with coeff := putGoodK b.coeff (b.mask.toList.drop b.nord) sol } j = sol[j]! := by
  unfold C08.coeffAt BS.goodcoeff
  rw [getElem!_pos _ j (by simpa using hj)]
  simp only [List.getElem_toArray, List.getElem_map]
  exact putGood_get b.coeff _ sol j hj (by simp; omega)

/-- `fit` never touches `nord` or the breakpoints -/
theorem fit_obj_fields {α : Type} [Scalar α] (Kn : Kernels α) (b : BS α) (xs ys ws : List α) (perm : List ℕ) (out : FitOut α)
    (h : fit Kn b xs ys ws perm = .ok out) : out.obj.nord = b.nord ∧ out.obj.breakpoints = b.breakpoints := by
  rcases fit_cases Kn b xs ys ws perm out h with rfl | ⟨_, _, _, _, _, ⟨_, _, _, _, hobj, _⟩ | ⟨_, _, _, hobj, _⟩⟩
  · exact ⟨rfl, rfl⟩
  · rw [hobj]
    exact ⟨rfl, rfl⟩
  · rw [hobj]
    exact ⟨rfl, rfl⟩

/-- `fit_is_optimum` read back from the returned object (`hcs`: `coeff` has a slot for every
breakpoint beyond the first `nord`): the OBJECT that `fit` returns with status 0 - same order, breakpoints and mask, new
`coeff` - minimises the objective, `spline` = what C08 `value_is_spline`
says `value` evaluates on it: `Σ_j coeffAt_j·B_{j,k}`. -/
theorem fit_is_optimum_obj (Kn : Kernels K) (b : BS K) (xs ys ws : List K) (perm : List ℕ) (out : FitOut K)
    (h : fitK Kn b xs ys ws perm = .ok out) (h0 : out.status = 0)
    (hk : 1 ≤ b.nord) (hsize : 2 * b.nord ≤ (gbK b).size)
    (hnn : (goodIdx (b.mask.toList.drop b.nord)).length = (gbK b).size - b.nord)
    (hcs : b.mask.size - b.nord ≤ b.coeff.size)
    (hne : xs ≠ []) (hsorted : xs.Pairwise (· ≤ ·)) (hyl : ys.length = xs.length) (hwl : ws.length = xs.length)
    (hw : ∀ v ∈ ws, 0 ≤ v)
    (hsolve : ∀ rows lower upper mininf a, (@BS.action _ (fieldScalar _) b xs) = .ok (some (rows, lower, upper)) →
      choleskyBandK Kn (normalSystemK rows ys ws lower upper xs.length b.nord ((gbK b).size - b.nord)).1 mininf
        = .ok (.factor a) →
      ∀ c, c < (gbK b).size - b.nord → ∑ c' ∈ range ((gbK b).size - b.nord),
        bandFull (assembleK (fun p a => ((rows.map List.toArray).toArray[p]!)[a]!) (fun p => ys.toArray[p]!)
            (fun p => ws.toArray[p]!) lower upper xs.length b.nord ((gbK b).size - b.nord - b.nord + 1)).1 b.nord c c'
          * (choleskySolveK Kn a (normalSystemK rows ys ws lower upper xs.length b.nord ((gbK b).size - b.nord)).2)[c']!
        = (assembleK (fun p a => ((rows.map List.toArray).toArray[p]!)[a]!) (fun p => ys.toArray[p]!)
            (fun p => ws.toArray[p]!) lower upper xs.length b.nord ((gbK b).size - b.nord - b.nord + 1)).2 c) :
    out.obj.nord = b.nord ∧ gbK out.obj = gbK b ∧
      ∀ z : ℕ → K,
        ∑ p ∈ range xs.length, ws.getD p 0 * (ys.getD p 0 -
            splineAtK (knotAtK (gbK out.obj)) (coeffAtK out.obj) out.obj.nord ((gbK out.obj).size - out.obj.nord) (xs.getD p 0)) ^ 2
          ≤ ∑ p ∈ range xs.length, ws.getD p 0 * (ys.getD p 0 -
            splineAtK (knotAtK (gbK out.obj)) z out.obj.nord ((gbK out.obj).size - out.obj.nord) (xs.getD p 0)) ^ 2 := by
  obtain ⟨sol, hcoeff, hopt⟩ := fit_is_optimum Kn b xs ys ws perm out h h0 hk hsize hnn hne hsorted hyl hwl hw hsolve
  -- the object is `b` with the new `coeff`: order, good knots are those of `b`, the good coefficients are `sol`
  obtain ⟨_, _, _, _, _, _, _, _, _, hobj, _⟩ := fit_status0_system Kn b xs ys ws perm out h h0 hk hnn hsorted hyl hwl
  have hobj' : out.obj = { b with coeff := putGoodK b.coeff (b.mask.toList.drop b.nord) sol } := by rw [← hcoeff, hobj]
  rw [hobj']
  refine ⟨rfl, rfl, fun z => ?_⟩
  have hkn : b.nord ≤ (gbK b).size - b.nord := by omega
  exact (Finset.sum_congr rfl fun p _ => congrArg (fun s => ws.getD p 0 * (ys.getD p 0 - s) ^ 2)
    (splineAt_congr (knotAtK (gbK b)) _ _ hk hkn _ _ (fun j hj => coeffAt_putGood b sol hcs j (hnn ▸ hj)) _)).trans_le (hopt z)

open Polynomial in
/-- about `fit` itself, in the situation of `fit_is_optimum_obj`: for data `y_p = q(x_p)` from a polynomial `q` of degree `< nord`
the spline of the object that `fit` returns with status 0 equals `q` at every point of positive weight -
no assumption that the system is non-singular. -/
theorem fit_reproduces_poly (Kn : Kernels K) (b : BS K) (xs ys ws : List K) (perm : List ℕ) (out : FitOut K)
    (h : fitK Kn b xs ys ws perm = .ok out) (h0 : out.status = 0)
    (hk : 1 ≤ b.nord) (hsize : 2 * b.nord ≤ (gbK b).size)
    (hnn : (goodIdx (b.mask.toList.drop b.nord)).length = (gbK b).size - b.nord)
    (hcs : b.mask.size - b.nord ≤ b.coeff.size)
    (hne : xs ≠ []) (hsorted : xs.Pairwise (· ≤ ·)) (hyl : ys.length = xs.length) (hwl : ws.length = xs.length)
    (hw : ∀ v ∈ ws, 0 ≤ v)
    (hsolve : ∀ rows lower upper mininf a, (@BS.action _ (fieldScalar _) b xs) = .ok (some (rows, lower, upper)) →
      choleskyBandK Kn (normalSystemK rows ys ws lower upper xs.length b.nord ((gbK b).size - b.nord)).1 mininf
        = .ok (.factor a) →
      ∀ c, c < (gbK b).size - b.nord → ∑ c' ∈ range ((gbK b).size - b.nord),
        bandFull (assembleK (fun p a => ((rows.map List.toArray).toArray[p]!)[a]!) (fun p => ys.toArray[p]!)
            (fun p => ws.toArray[p]!) lower upper xs.length b.nord ((gbK b).size - b.nord - b.nord + 1)).1 b.nord c c'
          * (choleskySolveK Kn a (normalSystemK rows ys ws lower upper xs.length b.nord ((gbK b).size - b.nord)).2)[c']!
        = (assembleK (fun p a => ((rows.map List.toArray).toArray[p]!)[a]!) (fun p => ys.toArray[p]!)
            (fun p => ws.toArray[p]!) lower upper xs.length b.nord ((gbK b).size - b.nord - b.nord + 1)).2 c)
    (hmono : ∀ a c, a ≤ c → c ≤ (gbK b).size - 1 → knotAtK (gbK b) a ≤ knotAtK (gbK b) c)
    (hfirst : knotAtK (gbK b) (b.nord - 1) < knotAtK (gbK b) b.nord)
    (hrange : ∀ v ∈ xs, knotAtK (gbK b) (b.nord - 1) ≤ v ∧ v ≤ knotAtK (gbK b) ((gbK b).size - b.nord))
    (q : K[X]) (hq : q.natDegree < b.nord) (hy : ∀ p, p < xs.length → ys.getD p 0 = q.eval (xs.getD p 0)) :
    ∀ p, p < xs.length → 0 < ws.getD p 0 →
      splineAtK (knotAtK (gbK out.obj)) (coeffAtK out.obj) out.obj.nord ((gbK out.obj).size - out.obj.nord) (xs.getD p 0)
        = q.eval (xs.getD p 0) := by
  obtain ⟨hnord, hgb, hopt⟩ := fit_is_optimum_obj Kn b xs ys ws perm out h h0 hk hsize hnn hcs hne hsorted hyl hwl hw hsolve
  rw [hgb, hnord] at hopt ⊢
  have hkn : b.nord ≤ (gbK b).size - b.nord := by omega
  have hmem : ∀ p, p < xs.length → xs.getD p 0 ∈ xs := getD_mem xs 0
  have hwp : ∀ p, p < xs.length → 0 ≤ ws.getD p 0 := fun p hp => hw _ (getD_mem ws 0 p (by omega))
  intro p hp hpos
  have := exact_of_optimum (knotAtK (gbK b)) b.nord ((gbK b).size - b.nord) xs.length (fun p => xs.getD p 0)
    (fun p => ys.getD p 0) (fun p => ws.getD p 0) hwp _ (polyCoeff (knotAtK (gbK b)) (b.nord - 1) q)
    (hopt _) (fun r hr => by
      rw [hy r hr, spline_of_poly _ _ _ hk hkn (fun a c hac hc => hmono a c hac (by omega)) hfirst q hq _
        (hrange _ (hmem r hr)).1 (hrange _ (hmem r hr)).2]) p hp hpos
  rw [this, hy p hp]

/-! ## the factor + solve contract PROVED for the textbook banded kernels of Model/BandChol.lean

`CholContract` / `hsolve` above are hypotheses about LAPACK.  The kernels that the Lean driver actually runs as the
`Kernels` parameter of `fit` (`bandFactor` / `bandSolve`: `L D Lᵀ` at `Rat`, Cholesky at `Float`) are ordinary Lean
definitions; for them the contract is a theorem over every linearly ordered field. -/
section kernels
open PydlVerif.BandChol PydlVerif.BandCholLemmas

/-- the unit lower triangular banded factor `L` stored in rows `1..bw-1` of an `ldltV` factor (`L[i][i] = 1`,
`L[i][j] = F[i-j][j]` for `0 < i-j < bw`, zero elsewhere) -/
noncomputable def ldltL (F : Array (Array K)) (bw i j : ℕ) : K := lowM (fun r c => get2K F r c) (fun _ => 1) bw i j
/-- the diagonal `D` stored in row 0 of an `ldltV` factor -/
noncomputable def ldltD (F : Array (Array K)) (c : ℕ) : K := get2K F 0 c
/-- the lower triangular banded Cholesky factor stored in a `cholV` factor (`L[i][j] = F[i-j][j]`, `0 ≤ i-j < bw`) -/
noncomputable def cholL (F : Array (Array K)) (bw i j : ℕ) : K := lowM (fun r c => get2K F r c) (fun c => get2K F 0 c) bw i j

theorem ldlt_facProd_eq (F : Array (Array K)) (bw n i j : ℕ) :
    facProd (fun r c => get2K F r c) (fun c => (ldltVK).md (get2K F 0 c)) (fun c => (ldltVK).ew (get2K F 0 c)) bw n i j
      = ∑ k ∈ range n, ldltL F bw i k * ldltD F k * ldltL F bw j k :=
  facProd_congr _ (fun r c => get2K F r c) _ (fun _ => 1) _ (ldltD F) bw n (fun _ _ _ _ => rfl) (fun _ _ => scalar_one)
    (fun _ _ => rfl) i j

theorem chol_facProd_eq (sqrt : K → K) (F : Array (Array K)) (bw n i j : ℕ) :
    facProd (fun r c => get2K F r c) (fun c => (cholVK sqrt).md (get2K F 0 c)) (fun c => (cholVK sqrt).ew (get2K F 0 c)) bw n i j
      = ∑ k ∈ range n, cholL F bw i k * cholL F bw j k :=
  (facProd_congr _ (fun r c => get2K F r c) _ (fun c => get2K F 0 c) _ (fun _ => 1) bw n (fun _ _ _ _ => rfl) (fun _ _ => rfl)
    (fun _ _ => scalar_one) i j).trans (Finset.sum_congr rfl fun k _ => by rw [mul_one]; rfl)

/-- `A` in lower band storage (`A[r][c] = A_full[c+r][c]`).  When the
square-root-free banded factorisation `bandFactor ldltV` answers a factor `F`,
then `D > 0` and `L D Lᵀ = A` ENTRYWISE, `A` being the symmetric
matrix with that band and zero outside it; `L` is unit lower triangular and banded. -/
theorem ldlt_factor_spec (bw n : ℕ) (hbw : 0 < bw) (A F : Array (Array K)) (h : bandFactorK ldltVK bw n A = some F) :
    (∀ c, c < n → 0 < ldltD F c) ∧
    (∀ i j, i < n → j < n →
      ∑ k ∈ range n, ldltL F bw i k * ldltD F k * ldltL F bw j k = bandSym (fun r c => get2K A r c) bw i j) ∧
    (∀ i, ldltL F bw i i = 1) ∧ (∀ i j, i < j ∨ j + bw ≤ i → ldltL F bw i j = 0) := by
  obtain ⟨hg, hmem⟩ := bandFactor_facProd ldltVK ldltV_ok bw n hbw A F h
  refine ⟨fun c hc => ?_, fun i j hi hj => ?_, fun i => lowM_diag _ _ bw i, fun i j hij => ?_⟩
  · obtain ⟨p, hp, e⟩ := hg c hc
    unfold ldltD
    rw [e]
    exact hp
  · rw [← ldlt_facProd_eq, hmem i j hi hj]
  · unfold ldltL
    rcases hij with hij | hij
    · exact lowM_upper _ _ bw i j hij
    · rw [lowM_lower _ _ bw i j (by omega), if_neg (by omega)]

/-- `bandFactor ldltV` answers a factor exactly when every pivot `d_c = A[c][c] - Σ_{k<c} L[c][k]² d_k` it computes is
positive; `none` (a pivot `≤ 0`) is the `LinAlgError` of `cholesky_banded` in the model -/
theorem ldlt_factor_iff_pivots (bw n : ℕ) (A : Array (Array K)) :
    (∃ F, bandFactorK ldltVK bw n A = some F) ↔ ∀ c, c < n → 0 < pivotK ldltVK bw n A c :=
  bandFactor_isSome ldltVK bw n A

/-- the banded `L D Lᵀ` factorisation answers a factor (all pivots positive) EXACTLY when the
symmetric banded matrix is positive definite (`xᵀ A x > 0` for every `x ≠ 0`) -/
theorem ldlt_factor_iff_pos_def (bw n : ℕ) (hbw : 0 < bw) (A : Array (Array K)) :
    (∃ F, bandFactorK ldltVK bw n A = some F) ↔ PosDef (bandSym (fun r c => get2K A r c) bw) n :=
  ⟨fun ⟨F, h⟩ => bandFactor_pos_def ldltVK ldltV_ok bw n hbw A F h, pos_def_bandFactor ldltVK ldltV_ok bw n hbw A⟩

/-- the same for the Cholesky form over a field with `sqrt` -/
theorem chol_factor_iff_pos_def (sqrt : K → K) (hs : ∀ p, 0 < p → sqrt p * sqrt p = p) (bw n : ℕ) (hbw : 0 < bw)
    (A : Array (Array K)) :
    (∃ F, bandFactorK (cholVK sqrt) bw n A = some F) ↔ PosDef (bandSym (fun r c => get2K A r c) bw) n :=
  ⟨fun ⟨F, h⟩ => bandFactor_pos_def (cholVK sqrt) (cholV_ok sqrt hs) bw n hbw A F h,
    pos_def_bandFactor (cholVK sqrt) (cholV_ok sqrt hs) bw n hbw A⟩

/-- for a factor with non-zero `D`, forward substitution (`L z = b`), diagonal scaling (`D w = z`) and
back substitution (`Lᵀ x = w`) - `bandSolve ldltV` - return `x` with `(L D Lᵀ) x = b` -/
theorem ldlt_solve_spec (bw n : ℕ) (hbw : 0 < bw) (F : Array (Array K)) (b : Array K) (hD : ∀ c, c < n → ldltD F c ≠ 0)
    (i : ℕ) (hi : i < n) :
    ∑ j ∈ range n, (∑ k ∈ range n, ldltL F bw i k * ldltD F k * ldltL F bw j k) * (bandSolveK ldltVK bw n F b)[j]! = b[i]! := by
  simp only [← ldlt_facProd_eq]
  exact bandSolve_facProd ldltVK bw n hbw F b (fun _ _ => ne_of_eq_of_ne scalar_one one_ne_zero) hD i hi

/-- the banded `L D Lᵀ` factorisation followed by its solve returns `x` with `A x = b` -/
theorem ldlt_solves (bw n : ℕ) (hbw : 0 < bw) (A F : Array (Array K)) (b : Array K)
    (h : bandFactorK ldltVK bw n A = some F) (i : ℕ) (hi : i < n) :
    ∑ j ∈ range n, bandSym (fun r c => get2K A r c) bw i j * (bandSolveK ldltVK bw n F b)[j]! = b[i]! :=
  band_solves ldltVK ldltV_ok bw n hbw A F F b h (fun _ _ _ _ => rfl) i hi

/-- the `L D Lᵀ` form of `CholContract` (no square root exists in a general ordered field) -/
structure LdltContract (A : ℕ → ℕ → K) (b : ℕ → K) (n : ℕ) (L : ℕ → ℕ → K) (d : ℕ → K) (x : ℕ → K) : Prop where
  pos : ∀ k, k < n → 0 < d k
  factor : ∀ i j, i < n → j < n → ∑ k ∈ range n, L i k * d k * L j k = A i j
  solve : ∀ i, i < n → ∑ j ∈ range n, (∑ k ∈ range n, L i k * d k * L j k) * x j = b i

/-- under the `L D Lᵀ` contract the returned vector solves `A x = b` -/
theorem LdltContract.solves {A : ℕ → ℕ → K} {b : ℕ → K} {n : ℕ} {L : ℕ → ℕ → K} {d x : ℕ → K}
    (h : LdltContract A b n L d x) : ∀ i, i < n → ∑ j ∈ range n, A i j * x j = b i := fun i hi =>
  (Finset.sum_congr rfl fun j hj => by rw [h.factor i j hi (Finset.mem_range.1 hj)]).symm.trans (h.solve i hi)

/-- the contract is a THEOREM for the kernel pair `bandFactor ldltV` / `bandSolve ldltV` -/
theorem ldlt_contract_kernel (bw n : ℕ) (hbw : 0 < bw) (A F : Array (Array K)) (b : Array K)
    (h : bandFactorK ldltVK bw n A = some F) :
    LdltContract (bandSym (fun r c => get2K A r c) bw) (fun i => b[i]!) n (ldltL F bw) (ldltD F)
      (fun j => (bandSolveK ldltVK bw n F b)[j]!) := by
  obtain ⟨hpos, hfac, _, _⟩ := ldlt_factor_spec bw n hbw A F h
  exact ⟨hpos, hfac, fun i hi => ldlt_solve_spec bw n hbw F b (fun c hc => ne_of_gt (hpos c hc)) i hi⟩

/-- `CholContract` itself is a THEOREM for the Cholesky pair
`bandFactor (cholV sqrt)` / `bandSolve (cholV sqrt)` - the pair the driver runs at `Float` - over any ordered field with a `sqrt` -/
theorem chol_contract_kernel (sqrt : K → K) (hs : ∀ p, 0 < p → sqrt p * sqrt p = p) (bw n : ℕ) (hbw : 0 < bw)
    (A F : Array (Array K)) (b : Array K) (h : bandFactorK (cholVK sqrt) bw n A = some F) :
    CholContract (bandSym (fun r c => get2K A r c) bw) (fun i => b[i]!) n (cholL F bw)
      (fun j => (bandSolveK (cholVK sqrt) bw n F b)[j]!) := by
  have hV := cholV_ok sqrt hs
  obtain ⟨hg, hmem⟩ := bandFactor_facProd (cholVK sqrt) hV bw n hbw A F h
  have hok := bandFactor_diag_ok (cholVK sqrt) hV bw n hbw A F h
  constructor
  · intro i j hi hj
    rw [← chol_facProd_eq sqrt, hmem i j hi hj]
  · intro i hi
    simp only [← chol_facProd_eq sqrt]
    exact bandSolve_facProd (cholVK sqrt) bw n hbw F b (fun c hc => (hok c hc).1) (fun c hc => (hok c hc).2.ne') i hi

/-- the accumulators `ab = (alpha.T.flat, beta)` as the `bw × N` array and the vector of length `N` that `fit` hands to
`cholesky_band` / `cholesky_solve`: `normalSystem` is this table of `assemble`, `normalSystemP` of
`assembleP`, both by unfolding -/
def bandTable (ab : (ℕ → K) × (ℕ → K)) (bw N : ℕ) : Array (Array K) × Array K :=
  (((List.range bw).map fun r => ((List.range N).map fun c => ab.1 (c * bw + r)).toArray).toArray, ((List.range N).map ab.2).toArray)

theorem normalSystem_eq_bandTable (rows : List (List K)) (ys ws : List K) (lower upper : Array ℤ) (nx nord nn : ℕ) :
    normalSystemK rows ys ws lower upper nx nord nn =
      bandTable (assembleK (fun p a => ((rows.map List.toArray).toArray[p]!)[a]!) (fun p => ys.toArray[p]!)
        (fun p => ws.toArray[p]!) lower upper nx nord (nn - nord + 1)) nord (nn + nord) := rfl

theorem bandTable_get (ab : (ℕ → K) × (ℕ → K)) (bw n r c : ℕ) (hr : r < bw) (hc : c < n) :
    get2K ((bandTable ab bw (n + bw)).1.map (fun row => row.extract 0 n)) r c = ab.1 (c * bw + r) :=
  (get2_map_extract _ _ r c hc).trans (get2_table _ bw (n + bw) r c hr (by omega))

theorem bandTable_solves_of (ab : (ℕ → K) × (ℕ → K)) (bw n : ℕ) (x : ℕ → K)
    (key : ∀ c, c < n → ∑ c' ∈ range n, bandSym (fun r c => get2K (bandTable ab bw (n + bw)).1 r c) bw c c' * x c'
      = (bandTable ab bw (n + bw)).2[c]!) :
    ∀ c, c < n → ∑ c' ∈ range n, bandFull ab.1 bw c c' * x c' = ab.2 c := by
  intro c hc
  refine Eq.trans (Finset.sum_congr rfl fun c' hc' => ?_) ((key c hc).trans (getElem!_mapRange ab.2 (n + bw) c (by omega)))
  exact congrArg (· * x c') ((bandFull_eq_bandSym ab.1 bw c c').trans (bandSym_congr _ _ bw n
    (fun r c hr hc => (get2_table (fun r c => ab.1 (c * bw + r)) bw (n + bw) r c hr (by omega)).symm) c c' hc (Finset.mem_range.1 hc')))

theorem bandTable_posDef (ab : (ℕ → K) × (ℕ → K)) (bw n : ℕ) :
    PosDef (bandSym (fun r c => get2K ((bandTable ab bw (n + bw)).1.map (fun row => row.extract 0 n)) r c) bw) n ↔
      PosDef (bandFull ab.1 bw) n :=
  PosDef_congr _ _ n fun i j hi hj => by
    rw [bandFull_eq_bandSym, bandSym_congr _ _ bw n (fun r c hr hc => bandTable_get ab bw n r c hr hc) i j hi hj]

/-- how "pivot ≤ 0" maps to the answer of `cholesky_band` on a band matrix that passes the screen: with the `L D Lᵀ`
kernels it answers the padded factor when the kernel factored; when a pivot is `≤ 0` (`bandFactor = none` =
`LinAlgError` of scipy) the code enters its fallback loop - whose square root does not exist in the exact interpretation
(`sqrt := 0`), so that it stops at column 0 and `cholesky_band` answers the scalar column `0`, NOT a factor: `fit` then
calls `maskpoints` and returns status -1 / -2, never 0 -/
theorem cholesky_band_ldlt (l : Array (Array K)) (mininf : K) (bw n : ℕ) (hbw : 0 < bw) (hn : 0 < n)
    (hl : l.size = bw) (hl0 : (l[0]!).size = n + bw)
    (hscreen : (!((List.range ((l[0]!).size - l.size)).filter (fun c => decide (get2K l 0 c ≤ mininf))).isEmpty
      || !(l.all (fun row => row.all (kernelsLdltK).isFinite))) = false) :
    choleskyBandK kernelsLdltK l mininf =
      match bandFactorK ldltVK bw n (l.map (fun row => row.extract 0 n)) with
      | some L => .ok (.factor (@padBand _ (fieldScalar _) bw n (n + bw) L))
      | none => .ok (.bad [0] true) := by
  unfold choleskyBand
  simp only []
  rw [if_neg (by omega), if_neg (by omega), if_neg (by rw [hscreen]; decide)]
  rw [hl0, hl, Nat.add_sub_cancel]
  show (match bandFactorK ldltVK bw n (l.map (fun row => row.extract 0 n)) with
    | some L => pure (CholRes.factor (@padBand _ (fieldScalar _) bw n (n + bw) L))
    | none => _) = _
  cases bandFactorK ldltVK bw n (l.map (fun row => row.extract 0 n)) with
  | some L => rfl
  | none =>
    simp only []
    rw [range_pos_cons n hn, fallbackLoop_ldlt]
    rfl

/-- on a `bw × (n+bw)` band matrix that passes the screen, the model's `cholesky_band` with the
`L D Lᵀ` kernels answers a factor EXACTLY when the matrix is positive definite -/
theorem cholesky_band_ldlt_iff_pos_def (l : Array (Array K)) (mininf : K) (bw n : ℕ) (hbw : 0 < bw) (hn : 0 < n)
    (hl : l.size = bw) (hl0 : (l[0]!).size = n + bw)
    (hscreen : (!((List.range ((l[0]!).size - l.size)).filter (fun c => decide (get2K l 0 c ≤ mininf))).isEmpty
      || !(l.all (fun row => row.all (kernelsLdltK).isFinite))) = false) :
    (∃ a, choleskyBandK kernelsLdltK l mininf = .ok (.factor a)) ↔ PosDef (bandSym (fun r c => get2K l r c) bw) n := by
  rw [cholesky_band_ldlt l mininf bw n hbw hn hl hl0 hscreen,
    ← PosDef_congr _ _ n (bandSym_congr _ _ bw n (fun r c _ hc => get2_map_extract l n r c hc)),
    ← ldlt_factor_iff_pos_def bw n hbw]
  cases bandFactorK ldltVK bw n (l.map (fun row => row.extract 0 n)) with
  | some L => exact ⟨fun _ => ⟨L, rfl⟩, fun _ => ⟨_, rfl⟩⟩
  | none =>
    constructor
    · rintro ⟨a, ha⟩
      cases ha
    · rintro ⟨F, hF⟩
      cases hF

/-- whenever the model's `cholesky_band` (with the `L D Lᵀ` kernels) answers a factor for a
band matrix `l`, the model's `cholesky_solve` with that factor returns `x` with `A x = b` for the symmetric
banded matrix `A` of `l` - NO hypothesis about the solver -/
theorem cholesky_solves_ldlt (l : Array (Array K)) (bb : Array K) (mininf : K) (bw n : ℕ) (hbw : 0 < bw) (hn : 0 < n)
    (hl : l.size = bw) (hl0 : (l[0]!).size = n + bw) (hbb : bb.size = n + bw) (a : Array (Array K))
    (h : choleskyBandK kernelsLdltK l mininf = .ok (.factor a)) (i : ℕ) (hi : i < n) :
    ∑ j ∈ range n, bandSym (fun r c => get2K l r c) bw i j * (choleskySolveK kernelsLdltK a bb)[j]! = bb[i]! := by
  obtain ⟨L, hL, rfl⟩ := choleskyBand_ldlt_factor l mininf bw n hbw hn hl hl0 a h
  exact choleskySolve_solves kernelsLdltK ldltVK ldltV_ok rfl l bb bw n hbw hbb L hL i hi

theorem bandTable_solves_ldlt (ab : (ℕ → K) × (ℕ → K)) (bw n : ℕ) (hbw : 0 < bw) (hn : 0 < n) (mininf : K) (a : Array (Array K))
    (h : choleskyBandK kernelsLdltK (bandTable ab bw (n + bw)).1 mininf = .ok (.factor a)) :
    ∀ c, c < n → ∑ c' ∈ range n, bandFull ab.1 bw c c' * (choleskySolveK kernelsLdltK a (bandTable ab bw (n + bw)).2)[c']!
      = ab.2 c :=
  bandTable_solves_of ab bw n _ (cholesky_solves_ldlt _ _ mininf bw n hbw hn (size_mapRange _ _) (table_row_size _ _ _ hbw)
    (size_mapRange _ _) a h)

/-- the hypothesis `hsolve` of `fit_is_optimum`, PROVED for the `L D Lᵀ` kernels -/
theorem hsolve_ldlt (b : BS K) (xs ys ws : List K) (hk : 1 ≤ b.nord) (hsize : 2 * b.nord ≤ (gbK b).size) :
    ∀ rows lower upper mininf a, (@BS.action _ (fieldScalar _) b xs) = .ok (some (rows, lower, upper)) →
      choleskyBandK kernelsLdltK (normalSystemK rows ys ws lower upper xs.length b.nord ((gbK b).size - b.nord)).1 mininf
        = .ok (.factor a) →
      ∀ c, c < (gbK b).size - b.nord → ∑ c' ∈ range ((gbK b).size - b.nord),
        bandFull (assembleK (fun p a => ((rows.map List.toArray).toArray[p]!)[a]!) (fun p => ys.toArray[p]!)
            (fun p => ws.toArray[p]!) lower upper xs.length b.nord ((gbK b).size - b.nord - b.nord + 1)).1 b.nord c c'
          * (choleskySolveK kernelsLdltK a (normalSystemK rows ys ws lower upper xs.length b.nord ((gbK b).size - b.nord)).2)[c']!
        = (assembleK (fun p a => ((rows.map List.toArray).toArray[p]!)[a]!) (fun p => ys.toArray[p]!)
            (fun p => ws.toArray[p]!) lower upper xs.length b.nord ((gbK b).size - b.nord - b.nord + 1)).2 c :=
  fun rows lower upper mininf a _ hchol => bandTable_solves_ldlt _ b.nord _ hk (by omega) mininf a
    (normalSystem_eq_bandTable rows ys ws lower upper xs.length b.nord _ ▸ hchol)

/-- `fit_is_optimum` with NO solver hypothesis: the model function `fit` run with the textbook banded `L D Lᵀ` kernels
(`kernelsLdlt` - literally what the driver executes in the exact run `fitq`) stores the minimiser WHENEVER the status is 0 -/
theorem fit_is_optimum_ldlt (b : BS K) (xs ys ws : List K) (perm : List ℕ) (out : FitOut K)
    (h : fitK kernelsLdltK b xs ys ws perm = .ok out) (h0 : out.status = 0)
    (hk : 1 ≤ b.nord) (hsize : 2 * b.nord ≤ (gbK b).size)
    (hnn : (goodIdx (b.mask.toList.drop b.nord)).length = (gbK b).size - b.nord)
    (hne : xs ≠ []) (hsorted : xs.Pairwise (· ≤ ·)) (hyl : ys.length = xs.length) (hwl : ws.length = xs.length)
    (hw : ∀ v ∈ ws, 0 ≤ v) :
    ∃ sol : Array K, out.obj.coeff = @putGood _ (fieldScalar _) b.coeff (b.mask.toList.drop b.nord) sol ∧
      ∀ z : ℕ → K,
        ∑ p ∈ range xs.length, ws.getD p 0 * (ys.getD p 0 -
            splineAtK (knotAtK (gbK b)) (fun j => sol[j]!) b.nord ((gbK b).size - b.nord) (xs.getD p 0)) ^ 2
          ≤ ∑ p ∈ range xs.length, ws.getD p 0 * (ys.getD p 0 -
            splineAtK (knotAtK (gbK b)) z b.nord ((gbK b).size - b.nord) (xs.getD p 0)) ^ 2 :=
  fit_is_optimum kernelsLdltK b xs ys ws perm out h h0 hk hsize hnn hne hsorted hyl hwl hw (hsolve_ldlt b xs ys ws hk hsize)

/-- `fit_is_optimum_obj` with NO solver hypothesis (`L D Lᵀ` kernels) -/
theorem fit_is_optimum_obj_ldlt (b : BS K) (xs ys ws : List K) (perm : List ℕ) (out : FitOut K)
    (h : fitK kernelsLdltK b xs ys ws perm = .ok out) (h0 : out.status = 0)
    (hk : 1 ≤ b.nord) (hsize : 2 * b.nord ≤ (gbK b).size)
    (hnn : (goodIdx (b.mask.toList.drop b.nord)).length = (gbK b).size - b.nord)
    (hcs : b.mask.size - b.nord ≤ b.coeff.size)
    (hne : xs ≠ []) (hsorted : xs.Pairwise (· ≤ ·)) (hyl : ys.length = xs.length) (hwl : ws.length = xs.length)
    (hw : ∀ v ∈ ws, 0 ≤ v) :
    out.obj.nord = b.nord ∧ gbK out.obj = gbK b ∧
      ∀ z : ℕ → K,
        ∑ p ∈ range xs.length, ws.getD p 0 * (ys.getD p 0 -
            splineAtK (knotAtK (gbK out.obj)) (coeffAtK out.obj) out.obj.nord ((gbK out.obj).size - out.obj.nord) (xs.getD p 0)) ^ 2
          ≤ ∑ p ∈ range xs.length, ws.getD p 0 * (ys.getD p 0 -
            splineAtK (knotAtK (gbK out.obj)) z out.obj.nord ((gbK out.obj).size - out.obj.nord) (xs.getD p 0)) ^ 2 :=
  fit_is_optimum_obj kernelsLdltK b xs ys ws perm out h h0 hk hsize hnn hcs hne hsorted hyl hwl hw (hsolve_ldlt b xs ys ws hk hsize)

open Polynomial in
/-- `fit_reproduces_poly` with NO solver hypothesis (`L D Lᵀ` kernels) -/
theorem fit_reproduces_poly_ldlt (b : BS K) (xs ys ws : List K) (perm : List ℕ) (out : FitOut K)
    (h : fitK kernelsLdltK b xs ys ws perm = .ok out) (h0 : out.status = 0)
    (hk : 1 ≤ b.nord) (hsize : 2 * b.nord ≤ (gbK b).size)
    (hnn : (goodIdx (b.mask.toList.drop b.nord)).length = (gbK b).size - b.nord)
    (hcs : b.mask.size - b.nord ≤ b.coeff.size)
    (hne : xs ≠ []) (hsorted : xs.Pairwise (· ≤ ·)) (hyl : ys.length = xs.length) (hwl : ws.length = xs.length)
    (hw : ∀ v ∈ ws, 0 ≤ v)
    (hmono : ∀ a c, a ≤ c → c ≤ (gbK b).size - 1 → knotAtK (gbK b) a ≤ knotAtK (gbK b) c)
    (hfirst : knotAtK (gbK b) (b.nord - 1) < knotAtK (gbK b) b.nord)
    (hrange : ∀ v ∈ xs, knotAtK (gbK b) (b.nord - 1) ≤ v ∧ v ≤ knotAtK (gbK b) ((gbK b).size - b.nord))
    (q : K[X]) (hq : q.natDegree < b.nord) (hy : ∀ p, p < xs.length → ys.getD p 0 = q.eval (xs.getD p 0)) :
    ∀ p, p < xs.length → 0 < ws.getD p 0 →
      splineAtK (knotAtK (gbK out.obj)) (coeffAtK out.obj) out.obj.nord ((gbK out.obj).size - out.obj.nord) (xs.getD p 0)
        = q.eval (xs.getD p 0) :=
  fit_reproduces_poly kernelsLdltK b xs ys ws perm out h h0 hk hsize hnn hcs hne hsorted hyl hwl hw
    (hsolve_ldlt b xs ys ws hk hsize) hmono hfirst hrange q hq hy

/-- the kernels of the floating-point run, read over a field with `sqrt`: `fit` run
with the banded Cholesky kernels `kernelsChol sqrt isFinite`.  If the normal
matrix `AᵀWA` that `fit` assembles is positive definite (`hpd`; equivalently the Cholesky kernel factors it,
so that a status 0 does not come from the code's fallback loop) then a status-0 answer stores the
minimiser of `Σ_p invvar_p (y_p - spline(x_p))²`.  No hypothesis about the solver. -/
theorem fit_is_optimum_chol (sqrt : K → K) (hs : ∀ p, 0 < p → sqrt p * sqrt p = p) (isFinite : K → Bool)
    (b : BS K) (xs ys ws : List K) (perm : List ℕ) (out : FitOut K)
    (h : fitK (@kernelsChol _ (fieldScalar _) sqrt isFinite) b xs ys ws perm = .ok out) (h0 : out.status = 0)
    (hk : 1 ≤ b.nord) (hsize : 2 * b.nord ≤ (gbK b).size)
    (hnn : (goodIdx (b.mask.toList.drop b.nord)).length = (gbK b).size - b.nord)
    (hne : xs ≠ []) (hsorted : xs.Pairwise (· ≤ ·)) (hyl : ys.length = xs.length) (hwl : ws.length = xs.length)
    (hw : ∀ v ∈ ws, 0 ≤ v)
    (hpd : ∀ rows lower upper, (@BS.action _ (fieldScalar _) b xs) = .ok (some (rows, lower, upper)) →
      PosDef (bandFull (assembleK (fun p a => ((rows.map List.toArray).toArray[p]!)[a]!) (fun p => ys.toArray[p]!)
        (fun p => ws.toArray[p]!) lower upper xs.length b.nord ((gbK b).size - b.nord - b.nord + 1)).1 b.nord)
        ((gbK b).size - b.nord)) :
    ∃ sol : Array K, out.obj.coeff = @putGood _ (fieldScalar _) b.coeff (b.mask.toList.drop b.nord) sol ∧
      ∀ z : ℕ → K,
        ∑ p ∈ range xs.length, ws.getD p 0 * (ys.getD p 0 -
            splineAtK (knotAtK (gbK b)) (fun j => sol[j]!) b.nord ((gbK b).size - b.nord) (xs.getD p 0)) ^ 2
          ≤ ∑ p ∈ range xs.length, ws.getD p 0 * (ys.getD p 0 -
            splineAtK (knotAtK (gbK b)) z b.nord ((gbK b).size - b.nord) (xs.getD p 0)) ^ 2 := by
  apply fit_is_optimum _ b xs ys ws perm out h h0 hk hsize hnn hne hsorted hyl hwl hw
  intro rows lower upper mininf a hact hchol
  have hsome := (chol_factor_iff_pos_def sqrt hs b.nord ((gbK b).size - b.nord) hk _).2
    ((bandTable_posDef _ b.nord _).2 (hpd rows lower upper hact))
  exact bandTable_solves_of _ b.nord _ _
    (choleskyBand_band_solves _ (cholVK sqrt) (cholV_ok sqrt hs) rfl rfl _ _ mininf b.nord ((gbK b).size - b.nord) hk
      (size_mapRange _ _) (table_row_size _ _ _ hk) (size_mapRange _ _) hsome a hchol)

/-- `fit` with the `L D Lᵀ` kernels answers status 0 ONLY IF the kernel
factored the assembled system, i.e. every pivot of the banded elimination of the normal matrix was positive (a pivot `≤ 0`
can only lead to status -1 / -2) -/
theorem fit_ldlt_status0_pivots (b : BS K) (xs ys ws : List K) (perm : List ℕ) (out : FitOut K)
    (h : fitK kernelsLdltK b xs ys ws perm = .ok out) (h0 : out.status = 0)
    (hk : 1 ≤ b.nord) (hsize : 2 * b.nord ≤ (gbK b).size)
    (hnn : (goodIdx (b.mask.toList.drop b.nord)).length = (gbK b).size - b.nord) :
    ∃ rows lower upper, (@BS.action _ (fieldScalar _) b xs) = .ok (some (rows, lower, upper)) ∧
      ∀ c, c < (gbK b).size - b.nord →
        0 < pivotK ldltVK b.nord ((gbK b).size - b.nord)
          ((normalSystemK rows ys ws lower upper xs.length b.nord ((gbK b).size - b.nord)).1.map
            (fun row => row.extract 0 ((gbK b).size - b.nord))) c := by
  obtain ⟨rows, lower, upper, a, hact, hchol, _⟩ := @fit_status0 K (fieldScalar K) kernelsLdltK b xs ys ws perm out h h0
  rw [hnn] at hchol
  obtain ⟨L, hL, _⟩ := choleskyBand_ldlt_factor _ _ b.nord ((gbK b).size - b.nord) hk (by omega) (size_mapRange _ _)
    (table_row_size _ _ _ hk) a hchol
  exact ⟨rows, lower, upper, hact, (bandFactor_isSome ldltVK _ _ _).1 ⟨L, hL⟩⟩

/-- `fit` with the `L D Lᵀ` kernels answers status 0 ONLY IF the normal matrix `AᵀWA` it
assembled (symmetric matrix of the band `alpha`) is positive definite (with `Lsq.lsq_unique` the
minimiser of `fit_is_optimum_ldlt` is then the only one; that corollary is not stated) -/
theorem fit_ldlt_status0_pos_def (b : BS K) (xs ys ws : List K) (perm : List ℕ) (out : FitOut K)
    (h : fitK kernelsLdltK b xs ys ws perm = .ok out) (h0 : out.status = 0)
    (hk : 1 ≤ b.nord) (hsize : 2 * b.nord ≤ (gbK b).size)
    (hnn : (goodIdx (b.mask.toList.drop b.nord)).length = (gbK b).size - b.nord) :
    ∃ rows lower upper, (@BS.action _ (fieldScalar _) b xs) = .ok (some (rows, lower, upper)) ∧
      PosDef (bandFull (assembleK (fun p a => ((rows.map List.toArray).toArray[p]!)[a]!) (fun p => ys.toArray[p]!)
        (fun p => ws.toArray[p]!) lower upper xs.length b.nord ((gbK b).size - b.nord - b.nord + 1)).1 b.nord)
        ((gbK b).size - b.nord) := by
  obtain ⟨rows, lower, upper, hact, hpiv⟩ := fit_ldlt_status0_pivots b xs ys ws perm out h h0 hk hsize hnn
  obtain ⟨L, hL⟩ := (bandFactor_isSome ldltVK _ _ _).2 hpiv
  exact ⟨rows, lower, upper, hact, (bandTable_posDef _ b.nord _).1 (bandFactor_pos_def ldltVK ldltV_ok b.nord _ hk _ L hL)⟩

end kernels

/-! ## the two-dimensional fit (x2 given, npoly ≥ 1; Model/BSplineFit2.lean) -/

section twod
open PydlVerif.BSplineFit2 PydlVerif.BSplineFit2Lemmas PydlVerif.BandChol PydlVerif.BandCholLemmas

/-- `BSplineFit2Lemmas.assembleP_one` under the name the harness audits -/
theorem assembleP_one (a1 : ℕ → ℕ → K) (y w : ℕ → K) (lower upper : Array ℤ) (nx bw nseg : ℕ) :
    assemblePK 1 a1 y w lower upper nx bw nseg = assembleK a1 y w lower upper nx bw nseg :=
  BSplineFit2Lemmas.assembleP_one a1 y w lower upper nx bw nseg

/-- `BSplineFit2Lemmas.assembleP_is_normal` under the name the harness audits; the `npoly`-general `assemble_is_normal`: the blocked
`bi/bo` scatter of `fit` (`itop = k*npoly`; model `assembleP`) builds the lower band of `AᵀWA` and the vector `AᵀWy` of
`A = designP npoly a1 iv bw`.  `Rows` as in `assemble_is_normal` (`action(x, x2=...)` returns the `lower/upper` of the 1-D `action`). -/
theorem assembleP_is_normal (np : ℕ) (a1 : ℕ → ℕ → K) (y w : ℕ → K) (lower upper : Array ℤ) (iv : ℕ → ℕ) (nx bw nseg : ℕ)
    (hrows : Rows lower upper iv nx nseg) :
    (∀ c r, r < bw → (assemblePK np a1 y w lower upper nx bw nseg).1 (c * bw + r) =
      ∑ p ∈ range nx, designP np a1 iv bw p c * (designP np a1 iv bw p (c + r) * w p)) ∧
    (∀ c, (assemblePK np a1 y w lower upper nx bw nseg).2 c = ∑ p ∈ range nx, y p * (designP np a1 iv bw p c * w p)) :=
  BSplineFit2Lemmas.assembleP_is_normal np a1 y w lower upper iv nx bw nseg hrows

/-- `BSplineFit2Lemmas.tensor_design` under the name the harness audits: when the action matrix is the one `action(x, x2=...)` builds (`action[p][ii*npoly+jj] = bf1[p][ii] *
temppoly[p][jj]`, `tensorAct`), column `j*npoly + l` of the blocked design matrix is `B_j(x_p) · P_l(x2_p)` -/
theorem tensor_design (np nord : ℕ) (bf P : ℕ → ℕ → K) (iv : ℕ → ℕ) (p j l : ℕ) (hl : l < np) :
    designP np (tensorAct np bf P) iv (nord * np) p (j * np + l) = design bf iv nord p j * P p l :=
  BSplineFit2Lemmas.tensor_design np nord bf P iv p j l hl

/-- the system `fit(..., x2=...)` assembles is the normal system of the tensor basis `B_j(x_p) P_l(x2_p)` (column `j*npoly+l`) -/
theorem assembleP_is_normal_tensor (np nord : ℕ) (bf P : ℕ → ℕ → K) (y w : ℕ → K) (lower upper : Array ℤ) (iv : ℕ → ℕ)
    (nx nseg : ℕ) (hrows : Rows lower upper iv nx nseg) :
    (∀ j l j' l', l < np → l' < np → j * np + l ≤ j' * np + l' → (j' * np + l') - (j * np + l) < nord * np →
      (assemblePK np (tensorAct np bf P) y w lower upper nx (nord * np) nseg).1
          ((j * np + l) * (nord * np) + ((j' * np + l') - (j * np + l)))
        = ∑ p ∈ range nx, (design bf iv nord p j * P p l) * ((design bf iv nord p j' * P p l') * w p)) ∧
    (∀ j l, l < np → (assemblePK np (tensorAct np bf P) y w lower upper nx (nord * np) nseg).2 (j * np + l)
        = ∑ p ∈ range nx, y p * ((design bf iv nord p j * P p l) * w p)) := by
  obtain ⟨h1, h2⟩ := assembleP_is_normal np (tensorAct np bf P) y w lower upper iv nx (nord * np) nseg hrows
  refine ⟨fun j l j' l' hl hl' hle hlt => ?_, fun j l hl => ?_⟩
  · rw [h1 _ _ hlt]
    apply Finset.sum_congr rfl
    intro p _
    rw [show j * np + l + (j' * np + l' - (j * np + l)) = j' * np + l' by omega, tensor_design np nord bf P iv p j l hl,
      tensor_design np nord bf P iv p j' l' hl']
  · rw [h2]
    apply Finset.sum_congr rfl
    intro p _
    rw [tensor_design np nord bf P iv p j l hl]

/-- optimality in matrix form for the blocked system (any action matrix `a1`): a vector that solves the banded system
`assembleP` built minimises `Σ_p w_p (y_p - Σ_c A[p][c] z_c)²`, `A = designP` -/
theorem fit2_optimum_design (np : ℕ) (a1 : ℕ → ℕ → K) (y w : ℕ → K) (lower upper : Array ℤ) (iv : ℕ → ℕ) (nx bw nseg n : ℕ)
    (hrows : Rows lower upper iv nx nseg) (hw : ∀ p, 0 ≤ w p) (sol : ℕ → K)
    (hsol : ∀ c, c < n → ∑ c' ∈ range n, bandFull (assemblePK np a1 y w lower upper nx bw nseg).1 bw c c' * sol c'
      = (assemblePK np a1 y w lower upper nx bw nseg).2 c) (z : Fin n → K) :
    Lsq.Q (fun (p : Fin nx) (c : Fin n) => designP np a1 iv bw p c) (fun p => w p) (fun p => y p) (fun c => sol c)
      ≤ Lsq.Q (fun (p : Fin nx) (c : Fin n) => designP np a1 iv bw p c) (fun p => w p) (fun p => y p) z :=
  Lsq.lsq_optimum _ _ _ _ z (fun p => hw p)
    ((assembleAt_normalBand (fun k => k * np) a1 y w lower upper iv nx bw nseg hrows).normal hsol)

theorem tensor_row (np nord m : ℕ) (bf P : ℕ → ℕ → K) (iv : ℕ → ℕ) (p : ℕ) (z : ℕ → K) :
    ∑ c ∈ range (m * np), designP np (tensorAct np bf P) iv (nord * np) p c * z c
      = ∑ j ∈ range m, ∑ l ∈ range np, z (j * np + l) * (design bf iv nord p j * P p l) := by
  rw [sum_blocks]
  exact Finset.sum_congr rfl fun j _ => Finset.sum_congr rfl fun l hl => by
    rw [tensor_design np nord bf P iv p j l (Finset.mem_range.1 hl), mul_comm]

/-- the `npoly`-general `fit_optimum_solves` (`bf` = the B-spline rows of the points, `P` = the
basis values in the second variable): a vector that solves the banded system which `fit(..., x2=...)` assembles from the tensor action matrix minimises
`Σ_p invvar_p (y_p - Σ_j Σ_l c_{j,l} B_j(x_p) P_l(x2_p))²` over ALL coefficient vectors (`c_{j,l} = z (j*npoly + l)`,
the order in which `fit` stores and `value` reads the coefficients) -/
theorem fit2_optimum_solves (np nord m : ℕ) (bf P : ℕ → ℕ → K) (y w : ℕ → K) (lower upper : Array ℤ) (iv : ℕ → ℕ)
    (nx nseg : ℕ) (hrows : Rows lower upper iv nx nseg) (hw : ∀ p, 0 ≤ w p) (sol : ℕ → K)
    (hsol : ∀ c, c < m * np → ∑ c' ∈ range (m * np),
      bandFull (assemblePK np (tensorAct np bf P) y w lower upper nx (nord * np) nseg).1 (nord * np) c c' * sol c'
      = (assemblePK np (tensorAct np bf P) y w lower upper nx (nord * np) nseg).2 c) (z : ℕ → K) :
    ∑ p ∈ range nx, w p * (y p - ∑ j ∈ range m, ∑ l ∈ range np, sol (j * np + l) * (design bf iv nord p j * P p l)) ^ 2
      ≤ ∑ p ∈ range nx, w p * (y p - ∑ j ∈ range m, ∑ l ∈ range np, z (j * np + l) * (design bf iv nord p j * P p l)) ^ 2 := by
  have := (assembleAt_normalBand (fun k => k * np) (tensorAct np bf P) y w lower upper iv nx (nord * np) nseg hrows).optimum
    (fun p _ => hw p) hsol z
  simp only [← tensor_row]
  exact this

/-- in terms of the evaluated spline (C08 `splineAt`, what `value` computes per polynomial term): the model value
`Σ_j Σ_l c_{j,l} B_j(x_p) P_l(x2_p)` is `Σ_l P_l(x2_p) · spline_{c_{·,l}}(x_p)` -/
theorem tensor_row_is_spline (t : ℕ → K) (k n np : ℕ) (hk : 1 ≤ k) (hkn : k ≤ n) (x : ℕ → K) (P : ℕ → ℕ → K) (p : ℕ) (z : ℕ → K) :
    ∑ j ∈ range n, ∑ l ∈ range np, z (j * np + l) * (design (basisRow t k n x) (segOf t k n x) k p j * P p l)
      = ∑ l ∈ range np, P p l * splineAtK t (fun j => z (j * np + l)) k n (x p) := by
  rw [Finset.sum_comm]
  apply Finset.sum_congr rfl
  intro l _
  rw [← design_row_is_spline t k n hk hkn x p (fun j => z (j * np + l)), Finset.mul_sum]
  apply Finset.sum_congr rfl
  intro j _
  ring

theorem normalSystemP_eq_bandTable (np : ℕ) (rows : List (List K)) (ys ws : List K) (lower upper : Array ℤ) (nx nord nn : ℕ) :
    normalSystemPK np rows ys ws lower upper nx nord nn =
      bandTable (assemblePK np (fun p a => ((rows.map List.toArray).toArray[p]!)[a]!) (fun p => ys.toArray[p]!)
        (fun p => ws.toArray[p]!) lower upper nx (np * nord) (nn - nord + 1)) (np * nord) (nn * np + np * nord) := rfl

/-- whenever `cholesky_band` with the proved `L D Lᵀ` kernels answers a factor for the system
`fit(..., x2=...)` hands it (`normalSystemP`), the vector `cholesky_solve` returns SOLVES the banded system `assembleP` built - no solver hypothesis -/
theorem fit2_system_solved_ldlt (np : ℕ) (rows : List (List K)) (ys ws : List K) (lower upper : Array ℤ) (nx nord nn : ℕ)
    (hbw : 0 < np * nord) (hn : 0 < nn * np) (mininf : K) (a : Array (Array K))
    (hchol : choleskyBandK kernelsLdltK (normalSystemPK np rows ys ws lower upper nx nord nn).1 mininf = .ok (.factor a)) :
    ∀ c, c < nn * np → ∑ c' ∈ range (nn * np),
        bandFull (assemblePK np (fun p a => ((rows.map List.toArray).toArray[p]!)[a]!) (fun p => ys.toArray[p]!)
            (fun p => ws.toArray[p]!) lower upper nx (np * nord) (nn - nord + 1)).1 (np * nord) c c'
          * (choleskySolveK kernelsLdltK a (normalSystemPK np rows ys ws lower upper nx nord nn).2)[c']!
        = (assemblePK np (fun p a => ((rows.map List.toArray).toArray[p]!)[a]!) (fun p => ys.toArray[p]!)
            (fun p => ws.toArray[p]!) lower upper nx (np * nord) (nn - nord + 1)).2 c :=
  bandTable_solves_ldlt _ (np * nord) (nn * np) hbw hn mininf a
    (normalSystemP_eq_bandTable np rows ys ws lower upper nx nord nn ▸ hchol)

/-- FULL statement aimed at (the `npoly`-general `fit_is_optimum_ldlt`), NOT proved:
     fit2 kernelsLdlt b xs x2s ys ws perm = .ok out → out.status = 0 → (order ≥ 1, npoly ≥ 1, ≥ 2·nord good breakpoints, the
     first nord unmasked, xs sorted, weights ≥ 0) →
     ∃ sol, out.obj.coeff2 = putGood2 b.coeff2 goodbk sol npoly ∧ ∀ z,
       Σ_p w_p (y_p - Σ_l P_l(x2norm x2_p)·splineAt gb (fun j => sol[j*npoly+l]) (x_p))² ≤ the same with z.
   Proved below: `fit2_solved_is_optimum_partial` - the kernel call of `fit2` on the system `fit2` materialises
   (`normalSystemP` of the rows `action` returned) yields a vector that minimises the objective of the blocked design matrix
   of THOSE rows.  Missing: (i) unfolding `fit2` to its status-0 branch and `putGood2`/`BS2.goodcoeff` read-back in the order
   `j*npoly+l`; (ii) that the rows `BS2.action` returns are `tensorAct` of the `bsplvn` rows and `polyBasis` (list-level
   `flatMap/zipWith` indexing), which turns `designP` into `B_j·P_l` by `tensor_design`; (iii) `Rows` from `rows_action`
   (the `lower/upper` are those of the 1-D `action`).  (ii)-(iii) are compared on every run (streams fit2d / fit2q). -/
theorem fit2_solved_is_optimum_partial (np : ℕ) (rows : List (List K)) (ys ws : List K) (lower upper : Array ℤ) (iv : ℕ → ℕ)
    (nx nord nn : ℕ) (hbw : 0 < np * nord) (hn : 0 < nn * np) (hrows : Rows lower upper iv nx (nn - nord + 1))
    (hw : ∀ p : ℕ, 0 ≤ ws.toArray[p]!) (mininf : K) (a : Array (Array K))
    (hchol : choleskyBandK kernelsLdltK (normalSystemPK np rows ys ws lower upper nx nord nn).1 mininf = .ok (.factor a))
    (z : Fin (nn * np) → K) :
    Lsq.Q (fun (p : Fin nx) (c : Fin (nn * np)) =>
        designP np (fun p a => ((rows.map List.toArray).toArray[p]!)[a]!) iv (np * nord) p c)
        (fun p => ws.toArray[p]!) (fun p => ys.toArray[p]!)
        (fun c => (choleskySolveK kernelsLdltK a (normalSystemPK np rows ys ws lower upper nx nord nn).2)[(c : ℕ)]!)
      ≤ Lsq.Q (fun (p : Fin nx) (c : Fin (nn * np)) =>
        designP np (fun p a => ((rows.map List.toArray).toArray[p]!)[a]!) iv (np * nord) p c)
        (fun p => ws.toArray[p]!) (fun p => ys.toArray[p]!) z :=
  fit2_optimum_design np _ (fun p => ys.toArray[p]!) (fun p => ws.toArray[p]!) lower upper iv nx (np * nord) (nn - nord + 1) (nn * np)
    hrows hw (fun c => (choleskySolveK kernelsLdltK a (normalSystemPK np rows ys ws lower upper nx nord nn).2)[c]!)
    (fit2_system_solved_ldlt np rows ys ws lower upper nx nord nn hbw hn mininf a hchol) z

/-- `maskpoints` of the 2-D fit (`err // npoly`) obeys the same status table as in 1-D -/
theorem maskpointsP_status (mask : Array Bool) (nord np : ℕ) (err : List ℕ) :
    ((maskpointsP mask nord np err).1 = -2 ∧ (maskpointsP mask nord np err).2 = mask) ∨
    ((maskpointsP mask nord np err).1 = -1 ∧ (maskpointsP mask nord np err).2.size = mask.size ∧
      ∀ i : ℕ, (maskpointsP mask nord np err).2[i]! = true → mask[i]! = true) :=
  maskpoints_status mask nord (err.map (fun e => e / np))

end twod

/-- `Rows`: three sorted points, the first in segment 0, the others in segment 1 (slices 0..0 and 1..2) -/
example : Rows #[0, 1] #[0, 2] (fun p => if p = 0 then 0 else 1) 3 2 := by
  unfold Rows rowIn; decide

/-- `CholContract` on the 2×2 system A = [[4,2],[2,5]] = L Lᵀ with L = [[2,0],[1,2]], b = (8, 9), x = (11/8, 5/4) -/
example : CholContract (fun i j => if i = j then (if i = 0 then (4:ℚ) else 5) else 2) (fun i => if i = 0 then 8 else 9) 2
    (fun i k => if i = 0 then (if k = 0 then 2 else 0) else (if k = 0 then 1 else 2)) (fun j => if j = 0 then 11/8 else 5/4) := by
  constructor
  · intro i j hi hj
    have : i = 0 ∨ i = 1 := by omega
    have : j = 0 ∨ j = 1 := by omega
    rcases ‹i = 0 ∨ i = 1› with rfl | rfl <;> rcases ‹j = 0 ∨ j = 1› with rfl | rfl <;>
      simp only [Finset.sum_range, Fin.sum_univ_two] <;> norm_num
  · intro i hi
    have : i = 0 ∨ i = 1 := by omega
    rcases this with rfl | rfl <;> simp only [Finset.sum_range, Fin.sum_univ_two] <;> norm_num

/-- the structural hypotheses of `fit_is_optimum` (`hk`, `hsize`, `hnn`) on the object of C08's example: order 2,
breakpoints 0,1,2,3, nothing masked (its `hsolve` is the LAPACK contract on the call, sampled by the harness through
`|A x - b|`) -/
example : 1 ≤ C08.bEx.nord ∧ 2 * C08.bEx.nord ≤ (@BS.gb ℚ (fieldScalar ℚ) C08.bEx).size ∧
    (goodIdx (C08.bEx.mask.toList.drop C08.bEx.nord)).length = (@BS.gb ℚ (fieldScalar ℚ) C08.bEx).size - C08.bEx.nord := by
  rw [C08.bEx_gb]
  refine ⟨by decide, by decide, by decide⟩

/-- `A = [[4,2],[2,5]]` in band storage (bandwidth 2: rows `[4,5]`, `[2,·]`) -/
def exF (r c : ℕ) : ℚ := if r = 0 then (if c = 0 then 4 else 5) else (if c = 0 then 2 else 0)
def exBand : Array (Array ℚ) := ((List.range 2).map fun r => ((List.range 2).map fun c => exF r c).toArray).toArray

section
open PydlVerif.BandChol PydlVerif.BandCholLemmas

theorem exBand_get (r c : ℕ) (hr : r < 2) (hc : c < 2) : get2K exBand r c = exF r c := by
  unfold get2 exBand
  rw [getElem!_mapRange _ 2 r hr, getElem!_mapRange _ 2 c hc]

/-- the hypothesis of `ldlt_factor_spec` / `ldlt_solves` / `ldlt_contract_kernel` on it: pivots `4` and `5 - (2/4)·4·(2/4) = 4` -/
example : ∃ F, @bandFactor _ (fieldScalar _) ldltVK 2 2 exBand = some F := by
  rw [bandFactor_isSome]
  intro c hc
  have hc : c = 0 ∨ c = 1 := by omega
  have e00 : colEntryK ldltVK 2 (fun r c => get2K exBand r c) (factorColsK ldltVK 2 2 (fun r c => get2K exBand r c) 2) 0 0 = 4 := by
    rw [colEntry_eq, Finset.range_zero, Finset.sum_empty, sub_zero, exBand_get 0 0 (by omega) (by omega)]; rfl
  have e01 : colEntryK ldltVK 2 (fun r c => get2K exBand r c) (factorColsK ldltVK 2 2 (fun r c => get2K exBand r c) 2) 0 1 = 2 := by
    rw [colEntry_eq, Finset.range_zero, Finset.sum_empty, sub_zero, exBand_get 1 0 (by omega) (by omega)]; rfl
  rcases hc with rfl | rfl
  · unfold pivotK
    rw [e00]; norm_num
  · unfold pivotK
    rw [colEntry_eq, Finset.sum_range_one, if_pos (by omega), factorCols_entry _ 2 2 _ 0 0 (by omega) (by omega),
      factorCols_entry _ 2 2 _ 0 (1 - 0) (by omega) (by omega), if_pos rfl, if_neg (by omega), if_pos (by omega), e00, e01,
      exBand_get 0 1 (by omega) (by omega)]
    show (0:ℚ) < exF 0 1 - 2 / 4 * 4 * (2 / 4)
    unfold exF
    norm_num
end

/-- the hypothesis `hs` of `chol_contract_kernel` (a square root on an ordered field): `Real.sqrt` on ℝ -/
example : ∀ p : ℝ, 0 < p → Real.sqrt p * Real.sqrt p = p := fun _ hp => Real.mul_self_sqrt hp.le

/-- `poly_reproduction_all`: a polynomial of degree 2 < 3 = order -/
example : (Polynomial.X ^ 2 + Polynomial.C (3 : ℚ) : Polynomial ℚ).natDegree < 3 := by
  have : (Polynomial.X ^ 2 + Polynomial.C (3 : ℚ) : Polynomial ℚ).natDegree = 2 := by
    rw [Polynomial.natDegree_add_C, Polynomial.natDegree_X_pow]
  omega

/-- `maskpoints` on 12 good breakpoints, order 4, unsupported coefficient 3: breakpoints 5..7 are masked, status -1 -/
example : maskpoints (Array.replicate 12 true) 4 [3] =
    (-1, #[true, true, true, true, true, false, false, false, true, true, true, true]) := by decide

end PydlVerif.C09
