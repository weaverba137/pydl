/-
C15: the least-squares / factorisation solvers return the optimum they claim, over an arbitrary linearly ordered field
`K`; LAPACK / libm kernels are parameters whose contracts appear as hypotheses (`MulEqOne`, `SpectralSvd`, `Solves`, `EighOK` are met over ℚ by the examples
at the end).
The theorems audited by harness/props/c15.py are marked "PROPERTY".
-/
import PydlVerif.Lemmas.SolversLemmas
import PydlVerif.Lemmas.MultUpdate
import PydlVerif.Lemmas.Runs
import PydlVerif.Lemmas.Spectral
import Mathlib.Data.Rat.Floor
open Finset
namespace PydlVerif.C15
open PydlVerif PydlVerif.Solvers PydlVerif.Lsq

section
variable {K : Type} [Field K] [LinearOrder K] [IsStrictOrderedRing K] [FloorRing K]
attribute [local instance] fieldScalar
-- numerals in the statements below are the field's own (the model's numerals keep `Scalar.instOfNat`)
attribute [-instance] Scalar.instOfNat Scalar.instOfScientific

def MulEqOne (m : ℕ) (A B : Mat K) : Prop :=
  ∀ k l : Fin m, ∑ j : Fin m, mget A k j * mget B j l = if k = l then 1 else 0

/-- the contract of `numpy.linalg.solve`: `G x = F` -/
def Solves (m : ℕ) (G : Mat K) (F x : Vec K) : Prop :=
  ∀ k : Fin m, ∑ l : Fin m, mget G k l * vget x l = vget F k

theorem chi2_mm (svd : Mat K → Svd K) (n m : ℕ) (b sq : ℕ → K) (A : ℕ → ℕ → K) (k l : Fin m) :
    mget (computechi2 svd n m b sq A).mm k l = ∑ i : Fin n, (A i k * sq i) * (A i l * sq i) := by
  simp only [computechi2, sumN_fin, mget_mtab_fin, vget_vtab_fin]

theorem chi2_acoeff (svd : Mat K → Svd K) (n m : ℕ) (b sq : ℕ → K) (A : ℕ → ℕ → K) (k : Fin m) :
    vget (computechi2 svd n m b sq A).acoeff k =
      ∑ c : Fin m, mget (computechi2 svd n m b sq A).mmi k c * ∑ i : Fin n, (A i c * sq i) * (b i * sq i) := by
  simp only [computechi2, sumN_fin, mget_mtab_fin, vget_vtab_fin]

theorem chi2_yfit (svd : Mat K → Svd K) (n m : ℕ) (b sq : ℕ → K) (A : ℕ → ℕ → K) (i : Fin n) :
    vget (computechi2 svd n m b sq A).yfit i = ∑ k : Fin m, A i k * vget (computechi2 svd n m b sq A).acoeff k := by
  simp only [computechi2, sumN_fin, mget_mtab_fin, vget_vtab_fin]

theorem chi2_eq_Q (svd : Mat K → Svd K) (n m : ℕ) (b sq : ℕ → K) (A : ℕ → ℕ → K) :
    (computechi2 svd n m b sq A).chi2 =
      Q (fun (i : Fin n) (k : Fin m) => A i k) (fun i => sq i * sq i) (fun i => b i)
        (fun k => vget (computechi2 svd n m b sq A).acoeff k) := by
  simp only [computechi2, sumN_fin, mget_mtab_fin, vget_vtab_fin, Q]
  refine Finset.sum_congr rfl fun i _ => ?_
  simp only [mul_right_comm _ (sq i), ← Finset.sum_mul]
  ring

/-- PROPERTY. computechi2: when the pseudo-inverse computed from the SVD inverts the weighted normal matrix
(`mm · mmi = 1`, the full-rank contract), the returned coefficients satisfy the normal equations with
`W = sqivar²` and minimise the weighted chi-square over ALL coefficient vectors; `chi2` is that minimum
and `yfit = A x`. -/
theorem chi2_optimum (svd : Mat K → Svd K) (n m : ℕ) (b sq : ℕ → K) (A : ℕ → ℕ → K)
    (hinv : MulEqOne m (computechi2 svd n m b sq A).mm (computechi2 svd n m b sq A).mmi) :
    Normal (fun (i : Fin n) (k : Fin m) => A i k) (fun i => sq i * sq i) (fun i => b i)
        (fun k => vget (computechi2 svd n m b sq A).acoeff k) ∧
    (∀ z : Fin m → K,
      Q (fun (i : Fin n) (k : Fin m) => A i k) (fun i => sq i * sq i) (fun i => b i)
        (fun k => vget (computechi2 svd n m b sq A).acoeff k)
      ≤ Q (fun (i : Fin n) (k : Fin m) => A i k) (fun i => sq i * sq i) (fun i => b i) z) ∧
    (computechi2 svd n m b sq A).chi2 =
      Q (fun (i : Fin n) (k : Fin m) => A i k) (fun i => sq i * sq i) (fun i => b i)
        (fun k => vget (computechi2 svd n m b sq A).acoeff k) ∧
    ∀ i : Fin n, vget (computechi2 svd n m b sq A).yfit i
      = ∑ k : Fin m, A i k * vget (computechi2 svd n m b sq A).acoeff k := by
  have hN : Normal (fun (i : Fin n) (k : Fin m) => A i k) (fun i => sq i * sq i) (fun i => b i) _ :=
    normal_of_solves (G := fun k l => mget (computechi2 svd n m b sq A).mm k l)
      (F := fun k => ∑ i : Fin n, (A i k * sq i) * (b i * sq i))
      (fun k l => by rw [chi2_mm]; exact Finset.sum_congr rfl fun i _ => by ring)
      (fun k => Finset.sum_congr rfl fun i _ => by ring)
      (solves_of_inverse (chi2_acoeff svd n m b sq A) hinv)
  exact ⟨hN, fun z => lsq_optimum _ _ _ _ z (fun i => mul_self_nonneg _) hN, chi2_eq_Q svd n m b sq A,
    chi2_yfit svd n m b sq A⟩

/-- the contract on `svd` used for the covariance: on the symmetric positive definite normal matrix
the decomposition is the spectral one, `mm = vvᵀ · diag ww · vv` with orthogonal `vv` and `ww > 0` -/
structure SpectralSvd (m : ℕ) (mm : Mat K) (s : Svd K) : Prop where
  pos : ∀ t : Fin m, 0 < vget s.ww t
  rows : ∀ t u : Fin m, ∑ j : Fin m, mget s.vv t j * mget s.vv u j = if t = u then 1 else 0
  cols : ∀ i l : Fin m, ∑ t : Fin m, mget s.vv t i * mget s.vv t l = if i = l then 1 else 0
  fact : ∀ j l : Fin m, mget mm j l = ∑ d : Fin m, mget s.vv d j * vget s.ww d * mget s.vv d l

theorem covar_entry (m : ℕ) (s : Svd K) (hpos : ∀ t : Fin m, 0 < vget s.ww t) (i j : Fin m) :
    mget (covarOfSvd m s) i j = ∑ c : Fin m, (1 / vget s.ww c) * mget s.vv c i * mget s.vv c j := by
  simp only [covarOfSvd, sumN_fin, mget_mtab_fin, vget_vtab_fin, scalar_lit, Nat.cast_zero, Nat.cast_one]
  -- the model computes the lower triangle and mirrors it; the product is symmetric in `i`, `j`
  exact Finset.sum_congr rfl fun c _ => by rw [if_pos (hpos c)]; split_ifs <;> ring

theorem chi2_covar (svd : Mat K → Svd K) (n m : ℕ) (b sq : ℕ → K) (A : ℕ → ℕ → K) :
    (computechi2 svd n m b sq A).covar = covarOfSvd m (svd (computechi2 svd n m b sq A).mm) := by
  simp only [computechi2]

theorem chi2_mmi (svd : Mat K → Svd K) (n m : ℕ) (b sq : ℕ → K) (A : ℕ → ℕ → K) :
    (computechi2 svd n m b sq A).mmi = pinvOfSvd m (svd (computechi2 svd n m b sq A).mm) := by
  simp only [computechi2]

/-- PROPERTY. computechi2: under the spectral SVD contract `covar · (AᵀWA) = 1`, i.e. the covariance is
the inverse of the weighted normal matrix. -/
theorem covar_is_inverse (svd : Mat K → Svd K) (n m : ℕ) (b sq : ℕ → K) (A : ℕ → ℕ → K)
    (h : SpectralSvd m (computechi2 svd n m b sq A).mm (svd (computechi2 svd n m b sq A).mm)) :
    MulEqOne m (computechi2 svd n m b sq A).covar (computechi2 svd n m b sq A).mm := by
  intro i l
  rw [chi2_covar]
  simp_rw [covar_entry m _ h.pos, h.fact]
  exact spectral_inverse (fun t => ne_of_gt (h.pos t)) h.rows h.cols i l

/-- PROPERTY. computechi2: `var` is the diagonal of `covar`. -/
theorem var_diag (svd : Mat K → Svd K) (n m : ℕ) (b sq : ℕ → K) (A : ℕ → ℕ → K) (i : Fin m) :
    vget (computechi2 svd n m b sq A).var i = mget (computechi2 svd n m b sq A).covar i i := by
  simp only [computechi2, vget_vtab_fin]

/-- PROPERTY. computechi2: `dof` = number of points with `sqivar > 0` minus the number of parameters. -/
theorem dof_count (svd : Mat K → Svd K) (n m : ℕ) (b sq : ℕ → K) (A : ℕ → ℕ → K) :
    (computechi2 svd n m b sq A).dof = (((range n).filter (fun i => 0 < sq i)).card : ℤ) - (m : ℤ) := by
  simp only [computechi2, countN_eq, decide_eq_true_eq, scalar_lit, Nat.cast_zero]

/-- PROPERTY. computechi2: `chi2` IS the weighted chi-square at the returned coefficients and `yfit = A · acoeff`,
both unconditionally; under the full-rank contract `chi2` is the minimum over all coefficient vectors. -/
theorem chi2_is_min_value (svd : Mat K → Svd K) (n m : ℕ) (b sq : ℕ → K) (A : ℕ → ℕ → K) :
    (computechi2 svd n m b sq A).chi2 =
      Q (fun (i : Fin n) (k : Fin m) => A i k) (fun i => sq i * sq i) (fun i => b i)
        (fun k => vget (computechi2 svd n m b sq A).acoeff k) ∧
    (∀ i : Fin n, vget (computechi2 svd n m b sq A).yfit i
      = ∑ k : Fin m, A i k * vget (computechi2 svd n m b sq A).acoeff k) ∧
    (MulEqOne m (computechi2 svd n m b sq A).mm (computechi2 svd n m b sq A).mmi →
      ∀ z : Fin m → K, (computechi2 svd n m b sq A).chi2
        ≤ Q (fun (i : Fin n) (k : Fin m) => A i k) (fun i => sq i * sq i) (fun i => b i) z) :=
  ⟨chi2_eq_Q svd n m b sq A, chi2_yfit svd n m b sq A, fun hinv z =>
    (chi2_eq_Q svd n m b sq A).trans_le ((chi2_optimum svd n m b sq A hinv).2.1 z)⟩

/-- PROPERTY. computechi2 with a one-dimensional `amatrix` (one template `a`): under the same contract the single
coefficient minimises `Σ w (b - a x)²` over all `x`, `chi2` is that minimum, `yfit = a · x` and
`dof = #{sqivar > 0} - 1`. -/
theorem chi2_vec_optimum (svd : Mat K → Svd K) (n : ℕ) (b sq a : ℕ → K)
    (hinv : MulEqOne 1 (computechi2Vec svd n b sq a).mm (computechi2Vec svd n b sq a).mmi) :
    (∑ i : Fin n, sq i * sq i * a i * (b i - a i * vget (computechi2Vec svd n b sq a).acoeff 0) = 0) ∧
    (∀ x : K, (computechi2Vec svd n b sq a).chi2 ≤ ∑ i : Fin n, sq i * sq i * (b i - a i * x) ^ 2) ∧
    ((computechi2Vec svd n b sq a).chi2
      = ∑ i : Fin n, sq i * sq i * (b i - a i * vget (computechi2Vec svd n b sq a).acoeff 0) ^ 2) ∧
    (∀ i : Fin n, vget (computechi2Vec svd n b sq a).yfit i = a i * vget (computechi2Vec svd n b sq a).acoeff 0) ∧
    (computechi2Vec svd n b sq a).dof = (((range n).filter (fun i => 0 < sq i)).card : ℤ) - 1 := by
  unfold computechi2Vec at hinv ⊢
  obtain ⟨hN, hopt, hchi, hy⟩ := chi2_optimum svd n 1 b sq (fun i _ => a i) hinv
  refine ⟨?_, ?_, ?_, ?_, ?_⟩
  · simpa only [Fin.sum_univ_one, Fin.val_zero] using hN 0
  · intro x
    rw [hchi]
    simpa only [Q, Fin.sum_univ_one, Fin.val_zero] using hopt (fun _ => x)
  · rw [hchi]; simp only [Q, Fin.sum_univ_one, Fin.val_zero]
  · intro i; rw [hy i, Fin.sum_univ_one, Fin.val_zero]
  · rw [dof_count, Nat.cast_one]

/-- the view through which every statement about an a-step goes: one weighted least-squares objective per spectrum in
the coefficients `a i ·` (design matrix `gᵀ`), plus a penalty that does not depend on `a` -/
theorem badness_rows {sqrt : K → K} {N M Kc : ℕ} {s w a g : ℕ → ℕ → K} {eps : Option K}
    (hsq : ∀ i j, sqrt (w i j) * sqrt (w i j) = w i j) :
    badness sqrt N M Kc s w a g eps =
      (∑ i : Fin N, Q (fun (j : Fin M) (k : Fin Kc) => g k j) (fun j => w i j) (fun j => s i j) (fun k => a i k))
        + penalty Kc M g eps := by
  simp only [badness, hmfModel, sumN_fin]
  congr 1
  apply Finset.sum_congr rfl; intro i _
  unfold Q
  apply Finset.sum_congr rfl; intro j _
  rw [Finset.sum_congr rfl fun (k : Fin Kc) _ => mul_comm (a i k) (g k j)]
  linear_combination (s i j - ∑ k : Fin Kc, g k j * a i k) ^ 2 * hsq i j

/-- the same sum read pixel by pixel, one objective per column `g · j` (design matrix `a`): the view for the g-steps -/
theorem badness_cols {sqrt : K → K} {N M Kc : ℕ} {s w a g : ℕ → ℕ → K} {eps : Option K}
    (hsq : ∀ i j, sqrt (w i j) * sqrt (w i j) = w i j) :
    badness sqrt N M Kc s w a g eps =
      (∑ j : Fin M, Q (fun (i : Fin N) (k : Fin Kc) => a i k) (fun i => w i j) (fun i => s i j) (fun k => g k j))
        + penalty Kc M g eps := by
  simp only [badness, hmfModel, sumN_fin]
  congr 1
  rw [Finset.sum_comm]
  apply Finset.sum_congr rfl; intro j _
  unfold Q
  apply Finset.sum_congr rfl; intro i _
  linear_combination (s i j - ∑ k : Fin Kc, a i k * g k j) ^ 2 * hsq i j

theorem astep_entry (solve : Mat K → Vec K → Vec K) (N M Kc : ℕ) (s w g : ℕ → ℕ → K) (i : Fin N) (k : ℕ) :
    mget (astep solve N M Kc s w g) i k = vget (solve (astepMat M Kc w g i) (astepRhs M Kc s w g i)) k := by
  simp [mget, astep, vget]

theorem astepMat_entry (M Kc : ℕ) (w g : ℕ → ℕ → K) (i : ℕ) (k l : Fin Kc) :
    mget (astepMat M Kc w g i) k l = ∑ j : Fin M, w i j * g k j * g l j := by
  simp only [astepMat, mget_mtab_fin, sumN_fin]
  -- the model fills the matrix from its upper triangle; the product is symmetric in `k`, `l`
  exact Finset.sum_congr rfl fun j _ => by split_ifs <;> ring

theorem astepRhs_entry (M Kc : ℕ) (s w g : ℕ → ℕ → K) (i : ℕ) (k : Fin Kc) :
    vget (astepRhs M Kc s w g i) k = ∑ j : Fin M, w i j * g k j * s i j := by
  simp only [astepRhs, vget_vtab_fin, sumN_fin]
  apply Finset.sum_congr rfl; intros; ring

/-- PROPERTY. HMF.astep: when every per-spectrum linear solve returns a solution of its system
(`numpy.linalg.solve` contract), every row of the new coefficient matrix is the global minimiser of
"spectrum i ≈ Σ_k a_ik g_k with weights invvar_i", so `badness(astep, g) ≤ badness(a, g)` for EVERY coefficient
matrix `a`, in particular the previous one. -/
theorem astep_optimum (sqrt : K → K) (solve : Mat K → Vec K → Vec K) (N M Kc : ℕ) (s w g : ℕ → ℕ → K)
    (eps : Option K) (hw : ∀ i j, 0 ≤ w i j) (hsq : ∀ i j, sqrt (w i j) * sqrt (w i j) = w i j)
    (hsolve : ∀ i : Fin N, Solves Kc (astepMat M Kc w g i) (astepRhs M Kc s w g i)
      (solve (astepMat M Kc w g i) (astepRhs M Kc s w g i))) :
    (∀ i : Fin N, Normal (fun (j : Fin M) (k : Fin Kc) => g k j) (fun j => w i j) (fun j => s i j)
        (fun k => mget (astep solve N M Kc s w g) i k)) ∧
    (∀ (i : Fin N) (z : Fin Kc → K),
      Q (fun (j : Fin M) (k : Fin Kc) => g k j) (fun j => w i j) (fun j => s i j)
          (fun k => mget (astep solve N M Kc s w g) i k)
        ≤ Q (fun (j : Fin M) (k : Fin Kc) => g k j) (fun j => w i j) (fun j => s i j) z) ∧
    ∀ a : ℕ → ℕ → K,
      badness sqrt N M Kc s w (mget (astep solve N M Kc s w g)) g eps ≤ badness sqrt N M Kc s w a g eps := by
  have hN : ∀ i : Fin N, Normal _ _ _ _ := fun i =>
    normal_of_solves (c := fun k => mget (astep solve N M Kc s w g) i k) (astepMat_entry M Kc w g i)
      (astepRhs_entry M Kc s w g i) (fun k => by simp_rw [astep_entry]; exact hsolve i k)
  refine ⟨hN, fun i z => lsq_optimum _ _ _ _ z (fun j => hw i j) (hN i), fun a => ?_⟩
  simp only [badness_rows hsq]
  exact add_le_add (Finset.sum_le_sum fun (i : Fin N) _ =>
    lsq_optimum _ _ _ _ (fun k => a i k) (fun j => hw i j) (hN i)) le_rfl

theorem gstep_entry (solve : Mat K → Vec K → Vec K) (N M Kc : ℕ) (s w a g : ℕ → ℕ → K) (eps : Option K)
    (k : Fin Kc) (j : Fin M) :
    mget (gstep solve N M Kc s w a g eps) k j
      = vget (solve (gstepMat N M Kc w a eps j) (gstepRhs N M Kc s w a g eps j)) k := by
  simp only [gstep, mget_mtab_fin]
  simp [gstepCols, mget, vget]

theorem gstepMat_entry (N M Kc : ℕ) (w a : ℕ → ℕ → K) (eps : Option K) (j : ℕ) (k l : Fin Kc) :
    mget (gstepMat N M Kc w a eps j) k l
      = (∑ i : Fin N, w i j * a i k * a i l) + (if k = l then epsDiag M eps j else 0) := by
  simp only [gstepMat, mget_mtab_fin, sumN_fin, scalar_lit, Nat.cast_zero, Fin.val_inj]
  congr 1
  exact Finset.sum_congr rfl fun i _ => by split_ifs <;> ring

theorem gstepRhs_entry (N M Kc : ℕ) (s w a g : ℕ → ℕ → K) (eps : Option K) (j : ℕ) (k : Fin Kc) :
    vget (gstepRhs N M Kc s w a g eps j) k = (∑ i : Fin N, w i j * a i k * s i j) + epsRhs M g eps k j := by
  simp only [gstepRhs, vget_vtab_fin, sumN_fin]
  congr 1
  apply Finset.sum_congr rfl; intros; ring

/-- every column of `gstep`: the chi-square gradient at the NEW column balances the smoothness terms, which are
built from the OLD neighbours -/
theorem gstep_column_equation (solve : Mat K → Vec K → Vec K) (N M Kc : ℕ) (s w a g : ℕ → ℕ → K)
    (eps : Option K)
    (hsolve : ∀ j : Fin M, Solves Kc (gstepMat N M Kc w a eps j) (gstepRhs N M Kc s w a g eps j)
      (solve (gstepMat N M Kc w a eps j) (gstepRhs N M Kc s w a g eps j))) (j : Fin M) (k : Fin Kc) :
    ∑ i : Fin N, w i j * a i k * (s i j - ∑ l : Fin Kc, a i l * mget (gstep solve N M Kc s w a g eps) l j)
      + (epsRhs M g eps k j - epsDiag M eps j * mget (gstep solve N M Kc s w a g eps) k j) = 0 := by
  have h := hsolve j k
  simp_rw [gstepMat_entry, gstepRhs_entry, ← gstep_entry solve N M Kc s w a g eps _ j] at h
  rw [normal_residual (fun (i : Fin N) (k : Fin Kc) => a i k)]
  simp_rw [add_mul, Finset.sum_add_distrib, ite_mul, zero_mul] at h
  rw [Finset.sum_ite_eq Finset.univ k] at h
  simp only [Finset.mem_univ, if_true] at h
  linear_combination -h

theorem epsOn_false_of {eps : Option K} (h : eps = none ∨ eps = some 0) : epsOn eps = false := by
  rcases h with h | h <;> subst h <;> simp [epsOn, scalar_lit]

theorem epsOn_some_pos {e : K} (he : 0 < e) : epsOn (some e) = true := by
  simp only [epsOn, scalar_lit, Nat.cast_zero, he, decide_true]

theorem epsRhs_off (M : ℕ) (g : ℕ → ℕ → K) (eps : Option K) (h : epsOn eps = false) (k j : ℕ) :
    epsRhs M g eps k j = 0 := by
  simp only [epsRhs, h, Bool.false_eq_true, if_false, scalar_lit, Nat.cast_zero]

theorem epsDiag_off (M : ℕ) (eps : Option K) (h : epsOn eps = false) (j : ℕ) : epsDiag M eps j = 0 := by
  simp only [epsDiag, h, Bool.false_eq_true, if_false, scalar_lit, Nat.cast_zero]

theorem penalty_zero {Kc M : ℕ} {g : ℕ → ℕ → K} {eps : Option K} (h : eps = none ∨ eps = some 0) :
    penalty Kc M g eps = 0 := by
  rcases h with h | h <;> subst h <;> simp [penalty, scalar_lit]

/-- PROPERTY. HMF.gstep without smoothing (epsilon None or 0): when every per-pixel solve returns a solution
of its system, every column of the new component matrix is the global minimiser of "pixel j of all spectra ≈
Σ_k a_ik g_kj with weights invvar_·j", so `badness(a, gstep) ≤ badness(a, g')` for EVERY component matrix `g'`. -/
theorem gstep_optimum (sqrt : K → K) (solve : Mat K → Vec K → Vec K) (N M Kc : ℕ) (s w a g : ℕ → ℕ → K)
    (eps : Option K) (heps : eps = none ∨ eps = some 0)
    (hw : ∀ i j, 0 ≤ w i j) (hsq : ∀ i j, sqrt (w i j) * sqrt (w i j) = w i j)
    (hsolve : ∀ j : Fin M, Solves Kc (gstepMat N M Kc w a eps j) (gstepRhs N M Kc s w a g eps j)
      (solve (gstepMat N M Kc w a eps j) (gstepRhs N M Kc s w a g eps j))) :
    (∀ j : Fin M, Normal (fun (i : Fin N) (k : Fin Kc) => a i k) (fun i => w i j) (fun i => s i j)
        (fun k => mget (gstep solve N M Kc s w a g eps) k j)) ∧
    (∀ (j : Fin M) (z : Fin Kc → K),
      Q (fun (i : Fin N) (k : Fin Kc) => a i k) (fun i => w i j) (fun i => s i j)
          (fun k => mget (gstep solve N M Kc s w a g eps) k j)
        ≤ Q (fun (i : Fin N) (k : Fin Kc) => a i k) (fun i => w i j) (fun i => s i j) z) ∧
    ∀ g' : ℕ → ℕ → K,
      badness sqrt N M Kc s w a (mget (gstep solve N M Kc s w a g eps)) eps ≤ badness sqrt N M Kc s w a g' eps := by
  have hoff := epsOn_false_of heps
  have hN : ∀ j : Fin M, Normal (fun (i : Fin N) (k : Fin Kc) => a i k) (fun i => w i j) (fun i => s i j)
      (fun k => mget (gstep solve N M Kc s w a g eps) k j) := by
    intro j k
    have h := gstep_column_equation solve N M Kc s w a g eps hsolve j k
    rw [epsRhs_off M g eps hoff, epsDiag_off M eps hoff, zero_mul, sub_zero, add_zero] at h
    exact h
  refine ⟨hN, fun j z => lsq_optimum _ _ _ _ z (fun i => hw i j) (hN j), fun g' => ?_⟩
  simp only [badness_cols hsq, penalty_zero heps]
  exact add_le_add (Finset.sum_le_sum fun (j : Fin M) _ =>
    lsq_optimum _ _ _ _ (fun k => g' k j) (fun i => hw i j) (hN j)) le_rfl

/-- PROPERTY (partial). HMF.gstep with smoothing (epsilon = e > 0) is a simultaneous (Jacobi-type) update:
every new column is stationary for  chi²_j(x) + e·Σ_k[(x_k - g_k,j-1)² + (x_k - g_k,j+1)²]  with the
neighbours frozen at their OLD values (one neighbour at both ends).  Stationarity only: nothing here says that
badness does not increase. -/
theorem gstep_eps_stationary_partial (solve : Mat K → Vec K → Vec K) (N M Kc : ℕ) (s w a g : ℕ → ℕ → K)
    (e : K) (he : 0 < e)
    (hsolve : ∀ j : Fin M, Solves Kc (gstepMat N M Kc w a (some e) j) (gstepRhs N M Kc s w a g (some e) j)
      (solve (gstepMat N M Kc w a (some e) j) (gstepRhs N M Kc s w a g (some e) j)))
    (j : Fin M) (k : Fin Kc) :
    ∑ i : Fin N, w i j * a i k * (s i j - ∑ l : Fin Kc, a i l * mget (gstep solve N M Kc s w a g (some e)) l j)
      + ((if (j : ℕ) + 1 = M then e * g k (M - 2) else if (j : ℕ) = 0 then e * g k 1
            else e * (g k (j - 1) + g k (j + 1)))
          - (if 0 < (j : ℕ) ∧ (j : ℕ) + 1 < M then e * 2 else e) * mget (gstep solve N M Kc s w a g (some e)) k j) = 0 := by
  have h := gstep_column_equation solve N M Kc s w a g (some e) hsolve j k
  simp only [epsRhs, epsDiag, epsOn_some_pos he, epsVal, if_true, scalar_lit] at h
  push_cast at h
  exact h

theorem normbase_entry (sqrt : K → K) (Kc M : ℕ) (g : ℕ → ℕ → K) (k : Fin Kc) :
    vget (normbase sqrt Kc M g) k = sqrt ((∑ j : Fin M, g k j * g k j) / (M : K)) := by
  simp only [normbase, vget_vtab_fin, sumN_fin, scalar_ofNat]

/-- PROPERTY. Normalisation at the end of every HMF iteration (`g /= normbase`, `a *= normbase`): every
component then has mean square 1 (unit rms), given `sqrt x · sqrt x = x` on the mean squares and no
all-zero component. -/
theorem normbase_unit_rms (sqrt : K → K) (N M Kc : ℕ) (a g : ℕ → ℕ → K) (k : Fin Kc)
    (hs : sqrt ((∑ j : Fin M, g k j * g k j) / (M : K)) * sqrt ((∑ j : Fin M, g k j * g k j) / (M : K))
      = (∑ j : Fin M, g k j * g k j) / (M : K))
    (hne : ∑ j : Fin M, g k j * g k j ≠ 0) (hM : M ≠ 0) :
    (∑ j : Fin M, mget (renorm sqrt N M Kc a g).2 k j * mget (renorm sqrt N M Kc a g).2 k j) / (M : K) = 1 := by
  simp only [renorm, mget_mtab_fin, normbase_entry]
  have hM' : (M : K) ≠ 0 := Nat.cast_ne_zero.mpr hM
  simp_rw [div_mul_div_comm, hs, div_eq_mul_inv]
  rw [← Finset.sum_mul]
  generalize ∑ j : Fin M, g k j * g k j = S at hne
  field_simp

/-- PROPERTY. HMF.reorder: rotating with an orthogonal matrix (`U Uᵀ = 1`, the `eigh` contract) leaves the
model `a · g` unchanged. -/
theorem reorder_preserves_model (eigh : Mat K → Eig K) (N M Kc : ℕ) (a g : ℕ → ℕ → K)
    (hU : ∀ l l' : Fin Kc, ∑ k : Fin Kc, mget (eigh (ataMat N Kc a)).evecs l k * mget (eigh (ataMat N Kc a)).evecs l' k
      = if l = l' then 1 else 0) (i : Fin N) (j : Fin M) :
    hmfModel Kc (mget (reorder eigh N M Kc a g).1) (mget (reorder eigh N M Kc a g).2) i j = hmfModel Kc a g i j := by
  simp only [reorder, hmfModel, sumN_fin, mget_mtab_fin]
  exact rot_invariant (fun l k => mget (eigh (ataMat N Kc a)).evecs l k) (fun l => a i l) (fun l => g l j) hU

/-- PROPERTY. `iterate` is its start state followed by `nIter` sweeps (`sweepSigned` in the default, `sweepNN` in
non-negative mode), so a statement about one sweep is a statement about the body of the loop. -/
theorem iterate_is_sweeps {α : Type} [Scalar α] (sqrt : α → α) (solve : Mat α → Vec α → Vec α) (eigh : Mat α → Eig α)
    (N M Kc nIter nnPre : ℕ) (s0 w g0 : ℕ → ℕ → α) (nonneg : Bool) (eps : Option α) :
    iterate sqrt solve eigh N M Kc nIter nnPre s0 w g0 nonneg eps
      = iterN nIter (if nonneg then sweepNN sqrt N M Kc (mget (iterateSpectra N M s0 nonneg)) w eps
                     else sweepSigned sqrt solve eigh N M Kc (mget (iterateSpectra N M s0 nonneg)) w eps)
          (iterateStart sqrt N M Kc nnPre s0 w g0 nonneg) := by
  cases nonneg <;> rfl

theorem badness_congr_model {sqrt : K → K} {N M Kc : ℕ} {s w a g a' g' : ℕ → ℕ → K} {eps : Option K}
    (heps : eps = none ∨ eps = some 0)
    (h : ∀ (i : Fin N) (j : Fin M), hmfModel Kc a' g' i j = hmfModel Kc a g i j) :
    badness sqrt N M Kc s w a' g' eps = badness sqrt N M Kc s w a g eps := by
  unfold badness
  rw [penalty_zero heps, penalty_zero heps, sumN_fin, sumN_fin]
  congr 1
  refine Finset.sum_congr rfl fun i _ => ?_
  rw [sumN_fin, sumN_fin]
  exact Finset.sum_congr rfl fun j _ => by rw [h i j]

theorem renorm_preserves_model (sqrt : K → K) (N M Kc : ℕ) (a g : ℕ → ℕ → K)
    (hnz : ∀ k : Fin Kc, vget (normbase sqrt Kc M g) k ≠ 0) (i : Fin N) (j : Fin M) :
    hmfModel Kc (mget (renorm sqrt N M Kc a g).1) (mget (renorm sqrt N M Kc a g).2) i j = hmfModel Kc a g i j := by
  simp only [renorm, hmfModel, sumN_fin, mget_mtab_fin]
  apply Finset.sum_congr rfl; intro k _
  have := hnz k
  field_simp

/-- the contracts one sweep needs at the state `(a, g)`: every linear solve of the a-step (systems built from `g`)
and of the g-step (systems built from the new `a`) returns a solution, `eigh` returns an orthogonal matrix,
no rotated component has zero rms -/
structure SweepOK (sqrt : K → K) (solve : Mat K → Vec K → Vec K) (eigh : Mat K → Eig K) (N M Kc : ℕ)
    (s w : ℕ → ℕ → K) (eps : Option K) (ag : Mat K × Mat K) : Prop where
  asolve : ∀ i : Fin N, Solves Kc (astepMat M Kc w (mget ag.2) i) (astepRhs M Kc s w (mget ag.2) i)
    (solve (astepMat M Kc w (mget ag.2) i) (astepRhs M Kc s w (mget ag.2) i))
  gsolve : ∀ j : Fin M, Solves Kc (gstepMat N M Kc w (mget (astep solve N M Kc s w (mget ag.2))) eps j)
    (gstepRhs N M Kc s w (mget (astep solve N M Kc s w (mget ag.2))) (mget ag.2) eps j)
    (solve (gstepMat N M Kc w (mget (astep solve N M Kc s w (mget ag.2))) eps j)
      (gstepRhs N M Kc s w (mget (astep solve N M Kc s w (mget ag.2))) (mget ag.2) eps j))
  orth : ∀ l l' : Fin Kc,
    ∑ k : Fin Kc, mget (eigh (ataMat N Kc (mget (astep solve N M Kc s w (mget ag.2))))).evecs l k *
      mget (eigh (ataMat N Kc (mget (astep solve N M Kc s w (mget ag.2))))).evecs l' k = if l = l' then 1 else 0
  rms : ∀ k : Fin Kc, vget (normbase sqrt Kc M (mget (reorder eigh N M Kc
      (mget (astep solve N M Kc s w (mget ag.2)))
      (mget (gstep solve N M Kc s w (mget (astep solve N M Kc s w (mget ag.2))) (mget ag.2) eps))).2)) k ≠ 0

/-- PROPERTY. HMF, "chi-square never increases", for a whole sweep of `iterate` in the default mode with epsilon None
or 0 (`astep; gstep; reorder; renormalise`): `badness(sweep(a, g)) ≤ badness(a, g)` at EVERY state `(a, g)` at which
the kernel contracts hold. -/
theorem sweep_badness_le (sqrt : K → K) (solve : Mat K → Vec K → Vec K) (eigh : Mat K → Eig K) (N M Kc : ℕ)
    (s w : ℕ → ℕ → K) (eps : Option K) (heps : eps = none ∨ eps = some 0)
    (hw : ∀ i j, 0 ≤ w i j) (hsq : ∀ i j, sqrt (w i j) * sqrt (w i j) = w i j)
    (ag : Mat K × Mat K) (ok : SweepOK sqrt solve eigh N M Kc s w eps ag) :
    badness sqrt N M Kc s w (mget (sweepSigned sqrt solve eigh N M Kc s w eps ag).1)
        (mget (sweepSigned sqrt solve eigh N M Kc s w eps ag).2) eps
      ≤ badness sqrt N M Kc s w (mget ag.1) (mget ag.2) eps := by
  have h1 := (astep_optimum sqrt solve N M Kc s w (mget ag.2) eps hw hsq ok.asolve).2.2 (mget ag.1)
  have h2 := (gstep_optimum sqrt solve N M Kc s w (mget (astep solve N M Kc s w (mget ag.2))) (mget ag.2) eps heps
    hw hsq ok.gsolve).2.2 (mget ag.2)
  refine (badness_congr_model heps fun i j => ?_).trans_le (h2.trans h1)
  simp only [sweepSigned]
  rw [renorm_preserves_model sqrt N M Kc _ _ ok.rms i j]
  exact reorder_preserves_model eigh N M Kc _ _ ok.orth i j

/-- PROPERTY. HMF: along the whole loop of `iterate` (default mode, epsilon None/0) badness is non-increasing from
sweep to sweep, hence never above its value at the start, as long as the kernel contracts hold at the visited states. -/
theorem iterate_badness_antitone (sqrt : K → K) (solve : Mat K → Vec K → Vec K) (eigh : Mat K → Eig K) (N M Kc : ℕ)
    (s w : ℕ → ℕ → K) (eps : Option K) (heps : eps = none ∨ eps = some 0)
    (hw : ∀ i j, 0 ≤ w i j) (hsq : ∀ i j, sqrt (w i j) * sqrt (w i j) = w i j)
    (start : Mat K × Mat K) (nIter : ℕ)
    (ok : ∀ t < nIter, SweepOK sqrt solve eigh N M Kc s w eps
      (iterN t (sweepSigned sqrt solve eigh N M Kc s w eps) start)) :
    (∀ t < nIter,
      badness sqrt N M Kc s w (mget (iterN (t + 1) (sweepSigned sqrt solve eigh N M Kc s w eps) start).1)
          (mget (iterN (t + 1) (sweepSigned sqrt solve eigh N M Kc s w eps) start).2) eps
        ≤ badness sqrt N M Kc s w (mget (iterN t (sweepSigned sqrt solve eigh N M Kc s w eps) start).1)
          (mget (iterN t (sweepSigned sqrt solve eigh N M Kc s w eps) start).2) eps) ∧
    badness sqrt N M Kc s w (mget (iterN nIter (sweepSigned sqrt solve eigh N M Kc s w eps) start).1)
        (mget (iterN nIter (sweepSigned sqrt solve eigh N M Kc s w eps) start).2) eps
      ≤ badness sqrt N M Kc s w (mget start.1) (mget start.2) eps :=
  iterN_antitone (sweepSigned sqrt solve eigh N M Kc s w eps)
    (fun ag => badness sqrt N M Kc s w (mget ag.1) (mget ag.2) eps) (SweepOK sqrt solve eigh N M Kc s w eps)
    (fun ag ok => sweep_badness_le sqrt solve eigh N M Kc s w eps heps hw hsq ag ok) start nIter ok

/-- the partial derivative of badness with respect to the coefficient `a[i,k]` -/
def gradA (M Kc : ℕ) (s w a g : ℕ → ℕ → K) (i k : ℕ) : K :=
  -2 * ∑ j : Fin M, w i j * g k j * (s i j - ∑ l : Fin Kc, g l j * a i l)

/-- the partial derivative of the chi-square part of badness with respect to the component value `g[k,j]` -/
def gradG (N Kc : ℕ) (s w a g : ℕ → ℕ → K) (k j : ℕ) : K :=
  -2 * ∑ i : Fin N, w i j * a i k * (s i j - ∑ l : Fin Kc, a i l * g l j)

/-- PROPERTY. HMF "gradient vanishes" after an a-step: `gradA` is the partial derivative of badness in `a[i,k]`
(badness along the line `a[i,k] + t` is `badness + t·gradA + t²·Σ_j w_ij g_kj²`, for every state and epsilon), and at
the coefficients returned by `astep` every partial derivative is 0, given that every per-spectrum solve returns a
solution of its system. -/
theorem astep_gradient_vanishes (sqrt : K → K) (solve : Mat K → Vec K → Vec K) (N M Kc : ℕ) (s w g : ℕ → ℕ → K)
    (eps : Option K) (hw : ∀ i j, 0 ≤ w i j) (hsq : ∀ i j, sqrt (w i j) * sqrt (w i j) = w i j)
    (hsolve : ∀ i : Fin N, Solves Kc (astepMat M Kc w g i) (astepRhs M Kc s w g i)
      (solve (astepMat M Kc w g i) (astepRhs M Kc s w g i))) :
    (∀ (a : ℕ → ℕ → K) (i : Fin N) (k : Fin Kc) (t : K),
      badness sqrt N M Kc s w (fun i' k' => if i' = (i : ℕ) ∧ k' = (k : ℕ) then a i' k' + t else a i' k') g eps
        = badness sqrt N M Kc s w a g eps + t * gradA M Kc s w a g i k + t ^ 2 * ∑ j : Fin M, w i j * g k j ^ 2) ∧
    (∀ (i : Fin N) (k : Fin Kc), gradA M Kc s w (mget (astep solve N M Kc s w g)) g i k = 0) ∧
    (∀ (i : Fin N) (k : Fin Kc) (t : K),
      badness sqrt N M Kc s w (fun i' k' => if i' = (i : ℕ) ∧ k' = (k : ℕ)
          then mget (astep solve N M Kc s w g) i' k' + t else mget (astep solve N M Kc s w g) i' k') g eps
        = badness sqrt N M Kc s w (mget (astep solve N M Kc s w g)) g eps + t ^ 2 * ∑ j : Fin M, w i j * g k j ^ 2) := by
  have hline := fun (a : ℕ → ℕ → K) => Q_sum_line (fun _ (j : Fin M) (k : Fin Kc) => g k j) (fun (i' : Fin N) j => w i' j)
    (fun i' j => s i' j) (fun i' k => a i' k)
  have hgrad := fun i k => (astep_optimum sqrt solve N M Kc s w g eps hw hsq hsolve).1 i k
  simp only [badness_rows hsq, Fin.val_inj, gradA]
  exact ⟨fun a i k t => by linear_combination hline a i k t, fun i k => by rw [hgrad i k, mul_zero],
    fun i k t => by linear_combination hline _ i k t - 2 * t * hgrad i k⟩

/-- PROPERTY. HMF "gradient vanishes" after a g-step (epsilon None or 0): `gradG` is the partial derivative of badness
in `g[k,j]`, and at the components returned by `gstep` every partial derivative is 0, given that every per-pixel solve
returns a solution of its system. -/
theorem gstep_gradient_vanishes (sqrt : K → K) (solve : Mat K → Vec K → Vec K) (N M Kc : ℕ) (s w a g : ℕ → ℕ → K)
    (eps : Option K) (heps : eps = none ∨ eps = some 0)
    (hw : ∀ i j, 0 ≤ w i j) (hsq : ∀ i j, sqrt (w i j) * sqrt (w i j) = w i j)
    (hsolve : ∀ j : Fin M, Solves Kc (gstepMat N M Kc w a eps j) (gstepRhs N M Kc s w a g eps j)
      (solve (gstepMat N M Kc w a eps j) (gstepRhs N M Kc s w a g eps j))) :
    (∀ (g' : ℕ → ℕ → K) (k : Fin Kc) (j : Fin M) (t : K),
      badness sqrt N M Kc s w a (fun k' j' => if k' = (k : ℕ) ∧ j' = (j : ℕ) then g' k' j' + t else g' k' j') eps
        = badness sqrt N M Kc s w a g' eps + t * gradG N Kc s w a g' k j + t ^ 2 * ∑ i : Fin N, w i j * a i k ^ 2) ∧
    (∀ (k : Fin Kc) (j : Fin M), gradG N Kc s w a (mget (gstep solve N M Kc s w a g eps)) k j = 0) ∧
    (∀ (k : Fin Kc) (j : Fin M) (t : K),
      badness sqrt N M Kc s w a (fun k' j' => if k' = (k : ℕ) ∧ j' = (j : ℕ)
          then mget (gstep solve N M Kc s w a g eps) k' j' + t else mget (gstep solve N M Kc s w a g eps) k' j') eps
        = badness sqrt N M Kc s w a (mget (gstep solve N M Kc s w a g eps)) eps
          + t ^ 2 * ∑ i : Fin N, w i j * a i k ^ 2) := by
  have hline := fun (g' : ℕ → ℕ → K) => Q_sum_line (fun _ (i : Fin N) (k : Fin Kc) => a i k) (fun (j' : Fin M) i => w i j')
    (fun j' i => s i j') (fun j' k => g' k j')
  have hgrad := fun k j => (gstep_optimum sqrt solve N M Kc s w a g eps heps hw hsq hsolve).1 j k
  simp only [badness_cols hsq, penalty_zero heps, Fin.val_inj, gradG, and_comm (a := (_ : Fin Kc) = _)]
  exact ⟨fun g' k j t => by linear_combination hline g' j k t, fun k j => by rw [hgrad k j, mul_zero],
    fun k j t => by linear_combination hline _ j k t - 2 * t * hgrad k j⟩

theorem epsVal_nonneg (eps : Option K) (h : ∀ e, eps = some e → 0 ≤ e) : 0 ≤ epsVal eps := by
  cases eps with
  | none => simp [epsVal, scalar_lit]
  | some e => exact h e rfl

theorem epsRhs_nonneg (M : ℕ) (g : ℕ → ℕ → K) (eps : Option K) (hg : ∀ k j, 0 ≤ g k j)
    (h : ∀ e, eps = some e → 0 ≤ e) (k j : ℕ) : 0 ≤ epsRhs M g eps k j := by
  have he := epsVal_nonneg eps h
  unfold epsRhs
  split_ifs
  · exact mul_nonneg he (hg _ _)
  · exact mul_nonneg he (hg _ _)
  · exact mul_nonneg he (add_nonneg (hg _ _) (hg _ _))
  · simp [scalar_lit]

theorem epsDiag_nonneg (M : ℕ) (eps : Option K) (h : ∀ e, eps = some e → 0 ≤ e) (j : ℕ) : 0 ≤ epsDiag M eps j := by
  have he := epsVal_nonneg eps h
  unfold epsDiag
  split_ifs
  · exact mul_nonneg he (by rw [scalar_lit]; exact Nat.cast_nonneg 2)
  · exact he
  · simp [scalar_lit]

theorem astepnn_entry (N M Kc : ℕ) (s w a g : ℕ → ℕ → K) (i : Fin N) (k : Fin Kc) :
    mget (astepnn N M Kc s w a g) i k
      = a i k * ((∑ j : Fin M, s i j * w i j * g k j)
          / ∑ j : Fin M, (∑ l : Fin Kc, a i l * g l j) * w i j * g k j) := by
  simp only [astepnn, mget_mtab_fin, sumN_fin, hmfModel]

/-- the smoothing enters the denominator through the same diagonal `epsDiag` that `gstepMat` adds in the signed step -/
theorem gstepnn_entry (N M Kc : ℕ) (s w a g : ℕ → ℕ → K) (eps : Option K) (k : Fin Kc) (j : Fin M) :
    mget (gstepnn N M Kc s w a g eps) k j
      = g k j * (((∑ i : Fin N, a i k * (s i j * w i j)) + epsRhs M g eps k j)
          / ((∑ i : Fin N, a i k * ((∑ l : Fin Kc, a i l * g l j) * w i j)) + epsDiag M eps j * g k j)) := by
  simp only [gstepnn, mget_mtab_fin, sumN_fin, hmfModel, epsDiag]
  congr 2
  split_ifs <;> simp only [scalar_lit, Nat.cast_zero, zero_mul, add_zero] <;> ring

/-- PROPERTY. Non-negative mode: for non-negative spectra, weights, coefficients, components (and epsilon)
the multiplicative updates `astepnn` and `gstepnn` return non-negative factors. -/
theorem nn_steps_nonneg (N M Kc : ℕ) (s w a g : ℕ → ℕ → K) (eps : Option K)
    (hs : ∀ i j, 0 ≤ s i j) (hw : ∀ i j, 0 ≤ w i j) (ha : ∀ i k, 0 ≤ a i k) (hg : ∀ k j, 0 ≤ g k j)
    (he : ∀ e, eps = some e → 0 ≤ e) :
    (∀ (i : Fin N) (k : Fin Kc), 0 ≤ mget (astepnn N M Kc s w a g) i k) ∧
    (∀ (k : Fin Kc) (j : Fin M), 0 ≤ mget (gstepnn N M Kc s w a g eps) k j) := by
  have hmw : ∀ i j, 0 ≤ (∑ l : Fin Kc, a i l * g l j) * w i j := fun i j =>
    mul_nonneg (Finset.sum_nonneg fun l _ => mul_nonneg (ha i l) (hg l j)) (hw i j)
  constructor
  · intro i k
    rw [astepnn_entry]
    apply mul_nonneg (ha i k)
    apply div_nonneg
    · exact Finset.sum_nonneg (fun j _ => mul_nonneg (mul_nonneg (hs i j) (hw i j)) (hg k j))
    · exact Finset.sum_nonneg (fun j _ => mul_nonneg (hmw i j) (hg k j))
  · intro k j
    rw [gstepnn_entry]
    apply mul_nonneg (hg k j)
    apply div_nonneg
    · exact add_nonneg (Finset.sum_nonneg (fun i _ => mul_nonneg (ha i k) (mul_nonneg (hs i j) (hw i j))))
        (epsRhs_nonneg M g eps hg he k j)
    · exact add_nonneg (Finset.sum_nonneg fun i _ => mul_nonneg (ha i k) (hmw i j))
        (mul_nonneg (epsDiag_nonneg M eps he j) (hg k j))

/-- PROPERTY. Non-negative mode: the multiplicative updates leave exact zeros as zeros. -/
theorem nn_zero_stays_zero (N M Kc : ℕ) (s w a g : ℕ → ℕ → K) (eps : Option K) :
    (∀ (i : Fin N) (k : Fin Kc), a i k = 0 → mget (astepnn N M Kc s w a g) i k = 0) ∧
    (∀ (k : Fin Kc) (j : Fin M), g k j = 0 → mget (gstepnn N M Kc s w a g eps) k j = 0) := by
  constructor
  · intro i k h
    rw [astepnn_entry, h, zero_mul]
  · intro k j h
    rw [gstepnn_entry, h, zero_mul]

/-- no hypothesis `d ≠ 0`: division by zero gives 0, which would make `x = 0` -/
theorem eq_of_mul_div_fixed {x n d : K} (h : x * (n / d) = x) (hx : x ≠ 0) : n = d := by
  have h1 : n / d = 1 := mul_left_cancel₀ hx (h.trans (mul_one x).symm)
  have hd : d ≠ 0 := fun h0 => by rw [h0, div_zero] at h1; exact zero_ne_one h1
  exact (div_eq_one_iff_eq hd).mp h1

/-- PROPERTY. Non-negative mode: at a fixed point of the multiplicative a-update every coefficient that is not
zero has `gradA = 0` (KKT stationarity of the non-negative weighted least-squares problem, multiplier zero). -/
theorem astepnn_fixed_point_kkt (N M Kc : ℕ) (s w a g : ℕ → ℕ → K) (i : Fin N) (k : Fin Kc)
    (hfix : mget (astepnn N M Kc s w a g) i k = a i k) (hpos : a i k ≠ 0) :
    gradA M Kc s w a g i k = 0 := by
  rw [astepnn_entry] at hfix
  have heq := eq_of_mul_div_fixed hfix hpos
  -- numerator = denominator, and the gradient is `-2 (numerator - denominator)`
  unfold gradA
  refine mul_eq_zero_of_right _ (Eq.trans ?_ (sub_eq_zero.mpr heq))
  rw [← Finset.sum_sub_distrib]
  exact Finset.sum_congr rfl fun j _ => by
    rw [Finset.sum_congr rfl fun (l : Fin Kc) _ => mul_comm (g l j) (a i l)]; ring

/-- PROPERTY. Non-negative mode, epsilon None or 0: the same for the g-update and `gradG`. -/
theorem gstepnn_fixed_point_kkt (N M Kc : ℕ) (s w a g : ℕ → ℕ → K) (eps : Option K)
    (heps : eps = none ∨ eps = some 0) (k : Fin Kc) (j : Fin M)
    (hfix : mget (gstepnn N M Kc s w a g eps) k j = g k j) (hpos : g k j ≠ 0) :
    gradG N Kc s w a g k j = 0 := by
  have hoff := epsOn_false_of heps
  rw [gstepnn_entry, epsRhs_off M g eps hoff, epsDiag_off M eps hoff, zero_mul, add_zero, add_zero] at hfix
  have heq := eq_of_mul_div_fixed hfix hpos
  unfold gradG
  refine mul_eq_zero_of_right _ (Eq.trans ?_ (sub_eq_zero.mpr heq))
  rw [← Finset.sum_sub_distrib]
  exact Finset.sum_congr rfl fun i _ => by ring

/-- PROPERTY. HMF non-negative mode, `astepnn` (any epsilon): on a non-negative state `(a, g)` at which the code does
not divide by zero ONE multiplicative a-update does not increase badness (Lee-Seung majorisation, row by row); the
spectra may have any sign. -/
theorem astepnn_badness_le (sqrt : K → K) (N M Kc : ℕ) (s w a g : ℕ → ℕ → K) (eps : Option K)
    (hw : ∀ i j, 0 ≤ w i j) (hsq : ∀ i j, sqrt (w i j) * sqrt (w i j) = w i j)
    (ha : ∀ (i : Fin N) (k : Fin Kc), 0 ≤ a i k) (hg : ∀ (k : Fin Kc) (j : Fin M), 0 ≤ g k j)
    (hden : ∀ (i : Fin N) (k : Fin Kc), (∑ j : Fin M, (∑ l : Fin Kc, a i l * g l j) * w i j * g k j) ≠ 0) :
    badness sqrt N M Kc s w (mget (astepnn N M Kc s w a g)) g eps ≤ badness sqrt N M Kc s w a g eps := by
  simp only [badness_rows hsq, astepnn_entry]
  refine add_le_add (Finset.sum_le_sum fun i _ =>
    mult_update_noninc (fun j k => hg k j) (fun j => hw i j) (ha i) ?_ ?_ (hden i)) le_rfl
  · exact fun k => Finset.sum_congr rfl fun j _ => by ring
  · exact fun k => Finset.sum_congr rfl fun j _ => by
      rw [Finset.sum_congr rfl fun (l : Fin Kc) _ => mul_comm (g l j) (a i l)]; ring

/-- PROPERTY. HMF non-negative mode, `gstepnn` without smoothing (epsilon None or 0): the same for ONE multiplicative
g-update, pixel by pixel. -/
theorem gstepnn_badness_le (sqrt : K → K) (N M Kc : ℕ) (s w a g : ℕ → ℕ → K) (eps : Option K)
    (heps : eps = none ∨ eps = some 0)
    (hw : ∀ i j, 0 ≤ w i j) (hsq : ∀ i j, sqrt (w i j) * sqrt (w i j) = w i j)
    (ha : ∀ (i : Fin N) (k : Fin Kc), 0 ≤ a i k) (hg : ∀ (k : Fin Kc) (j : Fin M), 0 ≤ g k j)
    (hden : ∀ (k : Fin Kc) (j : Fin M), (∑ i : Fin N, a i k * ((∑ l : Fin Kc, a i l * g l j) * w i j)) ≠ 0) :
    badness sqrt N M Kc s w a (mget (gstepnn N M Kc s w a g eps)) eps ≤ badness sqrt N M Kc s w a g eps := by
  simp only [badness_cols hsq, penalty_zero heps, gstepnn_entry, epsRhs_off M g eps (epsOn_false_of heps),
    epsDiag_off M eps (epsOn_false_of heps), zero_mul, add_zero]
  refine Finset.sum_le_sum fun j _ =>
    mult_update_noninc ha (fun i => hw i j) (fun k => hg k j) ?_ ?_ (fun k => hden k j)
  · exact fun k => Finset.sum_congr rfl fun i _ => by ring
  · exact fun k => Finset.sum_congr rfl fun i _ => by ring

/-- PROPERTY. HMF non-negative mode, epsilon None or 0: a WHOLE sweep `astepnn; gstepnn; renormalise` of `iterate` does not
increase badness, for non-negative spectra and weights and every non-negative state `(a, g)` at which the code does not
divide by zero. -/
theorem sweepNN_badness_le (sqrt : K → K) (N M Kc : ℕ) (s w : ℕ → ℕ → K) (eps : Option K)
    (heps : eps = none ∨ eps = some 0)
    (hs : ∀ i j, 0 ≤ s i j) (hw : ∀ i j, 0 ≤ w i j) (hsq : ∀ i j, sqrt (w i j) * sqrt (w i j) = w i j)
    (ag : Mat K × Mat K) (ha : ∀ i k, 0 ≤ mget ag.1 i k) (hg : ∀ k j, 0 ≤ mget ag.2 k j)
    (hdenA : ∀ (i : Fin N) (k : Fin Kc),
      (∑ j : Fin M, (∑ l : Fin Kc, mget ag.1 i l * mget ag.2 l j) * w i j * mget ag.2 k j) ≠ 0)
    (hdenG : ∀ (k : Fin Kc) (j : Fin M),
      (∑ i : Fin N, mget (astepnn N M Kc s w (mget ag.1) (mget ag.2)) i k *
        ((∑ l : Fin Kc, mget (astepnn N M Kc s w (mget ag.1) (mget ag.2)) i l * mget ag.2 l j) * w i j)) ≠ 0)
    (hrms : ∀ k : Fin Kc, vget (normbase sqrt Kc M (mget (gstepnn N M Kc s w
      (mget (astepnn N M Kc s w (mget ag.1) (mget ag.2))) (mget ag.2) eps))) k ≠ 0) :
    badness sqrt N M Kc s w (mget (sweepNN sqrt N M Kc s w eps ag).1) (mget (sweepNN sqrt N M Kc s w eps ag).2) eps
      ≤ badness sqrt N M Kc s w (mget ag.1) (mget ag.2) eps := by
  have h1 := astepnn_badness_le sqrt N M Kc s w (mget ag.1) (mget ag.2) eps hw hsq (fun i k => ha i k)
    (fun k j => hg k j) hdenA
  have hnn := (nn_steps_nonneg N M Kc s w (mget ag.1) (mget ag.2) eps hs hw ha hg (by
    rintro e rfl
    rcases heps with h | h
    · cases h
    · exact (Option.some.inj h).ge)).1
  have h2 := gstepnn_badness_le sqrt N M Kc s w (mget (astepnn N M Kc s w (mget ag.1) (mget ag.2))) (mget ag.2) eps heps
    hw hsq hnn (fun k j => hg k j) hdenG
  refine (badness_congr_model heps fun i j => ?_).trans_le (h2.trans h1)
  simp only [sweepNN]
  exact renorm_preserves_model sqrt N M Kc _ _ hrms i j

/-- what one non-negative sweep needs at the state `(a, g)`: the state is non-negative and the code does not divide by
zero (denominators of both multiplicative updates, rms of the new components) -/
structure SweepNNOK (sqrt : K → K) (N M Kc : ℕ) (s w : ℕ → ℕ → K) (eps : Option K) (ag : Mat K × Mat K) : Prop where
  anonneg : ∀ i k, 0 ≤ mget ag.1 i k
  gnonneg : ∀ k j, 0 ≤ mget ag.2 k j
  denA : ∀ (i : Fin N) (k : Fin Kc),
    (∑ j : Fin M, (∑ l : Fin Kc, mget ag.1 i l * mget ag.2 l j) * w i j * mget ag.2 k j) ≠ 0
  denG : ∀ (k : Fin Kc) (j : Fin M),
    (∑ i : Fin N, mget (astepnn N M Kc s w (mget ag.1) (mget ag.2)) i k *
      ((∑ l : Fin Kc, mget (astepnn N M Kc s w (mget ag.1) (mget ag.2)) i l * mget ag.2 l j) * w i j)) ≠ 0
  rms : ∀ k : Fin Kc, vget (normbase sqrt Kc M (mget (gstepnn N M Kc s w
    (mget (astepnn N M Kc s w (mget ag.1) (mget ag.2))) (mget ag.2) eps))) k ≠ 0

/-- PROPERTY. HMF non-negative mode, epsilon None/0: along the whole loop of `iterate` badness is non-increasing from
sweep to sweep and never above its start value, as long as the visited states are non-negative and the code does not
divide by zero. -/
theorem iterateNN_badness_antitone (sqrt : K → K) (N M Kc : ℕ) (s w : ℕ → ℕ → K) (eps : Option K)
    (heps : eps = none ∨ eps = some 0)
    (hs : ∀ i j, 0 ≤ s i j) (hw : ∀ i j, 0 ≤ w i j) (hsq : ∀ i j, sqrt (w i j) * sqrt (w i j) = w i j)
    (start : Mat K × Mat K) (nIter : ℕ)
    (ok : ∀ t < nIter, SweepNNOK sqrt N M Kc s w eps (iterN t (sweepNN sqrt N M Kc s w eps) start)) :
    (∀ t < nIter,
      badness sqrt N M Kc s w (mget (iterN (t + 1) (sweepNN sqrt N M Kc s w eps) start).1)
          (mget (iterN (t + 1) (sweepNN sqrt N M Kc s w eps) start).2) eps
        ≤ badness sqrt N M Kc s w (mget (iterN t (sweepNN sqrt N M Kc s w eps) start).1)
          (mget (iterN t (sweepNN sqrt N M Kc s w eps) start).2) eps) ∧
    badness sqrt N M Kc s w (mget (iterN nIter (sweepNN sqrt N M Kc s w eps) start).1)
        (mget (iterN nIter (sweepNN sqrt N M Kc s w eps) start).2) eps
      ≤ badness sqrt N M Kc s w (mget start.1) (mget start.2) eps :=
  iterN_antitone (sweepNN sqrt N M Kc s w eps)
    (fun ag => badness sqrt N M Kc s w (mget ag.1) (mget ag.2) eps) (SweepNNOK sqrt N M Kc s w eps)
    (fun ag o => sweepNN_badness_le sqrt N M Kc s w eps heps hs hw hsq ag o.anonneg o.gnonneg o.denA o.denG o.rms)
    start nIter ok

theorem penalty_some (Kc M : ℕ) (g : ℕ → ℕ → K) (e : K) :
    penalty Kc M g (some e) = e * ∑ k : Fin Kc, ∑ j ∈ range (M - 1), (g k (j + 1) - g k j) ^ 2 := by
  simp only [penalty]
  rw [sumN_fin]
  congr 1
  apply Finset.sum_congr rfl; intro k _
  rw [sumN_range]
  apply Finset.sum_congr rfl; intro j _; ring

/-- PROPERTY. HMF.gstep WITH smoothing (epsilon = e > 0, at least two pixels): the simultaneous (Jacobi-type) update from
the OLD neighbours never increases badness = chi-square + e·Σ(g_{k,j+1} - g_{k,j})², for all non-negative weights and
all states, given that every per-pixel solve returns a solution of its system: `badness(a, g) - badness(a, gstep)` is a sum of squares in
`δ = gstep - g` (the splitting `P = A + e·D` of the Hessian `H = A + e·(D - Adj)` has `2P - H = A + e·(D + Adj)`, the
signless Laplacian, positive semi-definite). -/
theorem gstep_eps_badness_le (sqrt : K → K) (solve : Mat K → Vec K → Vec K) (N M Kc : ℕ) (s w a g : ℕ → ℕ → K)
    (e : K) (he : 0 < e) (hM : 2 ≤ M)
    (hw : ∀ i j, 0 ≤ w i j) (hsq : ∀ i j, sqrt (w i j) * sqrt (w i j) = w i j)
    (hsolve : ∀ j : Fin M, Solves Kc (gstepMat N M Kc w a (some e) j) (gstepRhs N M Kc s w a g (some e) j)
      (solve (gstepMat N M Kc w a (some e) j) (gstepRhs N M Kc s w a g (some e) j))) :
    badness sqrt N M Kc s w a g (some e)
      = badness sqrt N M Kc s w a (mget (gstep solve N M Kc s w a g (some e))) (some e)
        + (∑ j : Fin M, ∑ i : Fin N, w i j *
            (∑ k : Fin Kc, a i k * (mget (gstep solve N M Kc s w a g (some e)) k j - g k j)) ^ 2)
        + e * ∑ k : Fin Kc, ∑ j ∈ range (M - 1),
            ((mget (gstep solve N M Kc s w a g (some e)) k j - g k j)
              + (mget (gstep solve N M Kc s w a g (some e)) k (j + 1) - g k (j + 1))) ^ 2 ∧
    badness sqrt N M Kc s w a (mget (gstep solve N M Kc s w a g (some e))) (some e)
      ≤ badness sqrt N M Kc s w a g (some e) := by
  obtain ⟨m, rfl⟩ : ∃ m, M = m + 1 := ⟨M - 1, by omega⟩
  have hstat := gstep_eps_stationary_partial solve N (m + 1) Kc s w a g e he hsolve
  generalize mget (gstep solve N (m + 1) Kc s w a g (some e)) = x at hstat ⊢
  -- the inequality follows from the identity, whose two extra terms are not negative
  refine (and_iff_left_of_imp fun key => ?_).mpr ?_
  · rw [key]
    exact le_add_of_le_of_nonneg
      (le_add_of_nonneg_right (Finset.sum_nonneg fun j _ => Finset.sum_nonneg fun i _ => mul_nonneg (hw i j) (sq_nonneg _)))
      (mul_nonneg he.le (Finset.sum_nonneg fun k _ => Finset.sum_nonneg fun j _ => sq_nonneg _))
  -- every column's chi-square expanded around the NEW column; the linear term by the column equation `hstat`
  have hE := fun j : Fin (m + 1) => Q_expand (fun (i : Fin N) (k : Fin Kc) => a i k) (fun i => w i j) (fun i => s i j)
    (fun k => x k j) (fun k => g k j)
  simp only [fun j k => eq_neg_of_add_eq_zero_left (hstat j k), neg_sub] at hE
  have hsum := Finset.sum_congr (s₁ := (Finset.univ : Finset (Fin (m + 1)))) rfl fun j _ => hE j
  simp only [Finset.sum_add_distrib] at hsum
  simp only [badness_cols hsq, penalty_some, Nat.add_sub_cancel]
  linear_combination hsum + path_edge_rows m Kc (by omega) e g x

/-- PROPERTY. HMF non-negative mode, `gstepnn` WITH smoothing (epsilon = e > 0, at least two pixels): on a non-negative
state at which the code does not divide by zero ONE multiplicative g-update (all pixels simultaneously, from the old
neighbours) does not increase badness = chi-square + e·Σ(g_{k,j+1} - g_{k,j})². -/
theorem gstepnn_eps_badness_le (sqrt : K → K) (N M Kc : ℕ) (s w a g : ℕ → ℕ → K) (e : K) (he : 0 < e) (hM : 2 ≤ M)
    (hw : ∀ i j, 0 ≤ w i j) (hsq : ∀ i j, sqrt (w i j) * sqrt (w i j) = w i j)
    (ha : ∀ (i : Fin N) (k : Fin Kc), 0 ≤ a i k) (hg : ∀ (k : Fin Kc) j, 0 ≤ g k j)
    (hden : ∀ (k : Fin Kc) (j : Fin M), (∑ i : Fin N, a i k * ((∑ l : Fin Kc, a i l * g l j) * w i j))
        + (if 0 < (j : ℕ) ∧ (j : ℕ) + 1 < M then e * g k j * 2 else e * g k j) ≠ 0) :
    badness sqrt N M Kc s w a (mget (gstepnn N M Kc s w a g (some e))) (some e)
      ≤ badness sqrt N M Kc s w a g (some e) := by
  obtain ⟨m, rfl⟩ : ∃ m, M = m + 1 := ⟨M - 1, by omega⟩
  simp only [badness_cols hsq, penalty_some, Nat.add_sub_cancel]
  refine nn_smooth_step_le N m Kc (by omega) s w a g e he.le ha hw hg _ (fun k j hj => ?_)
    (fun k j hj => hden k ⟨j, hj⟩)
  have h := gstepnn_entry N (m + 1) Kc s w a g (some e) k ⟨j, hj⟩
  simpa only [epsRhs, epsDiag, epsOn_some_pos he, epsVal, if_true, ite_mul, mul_right_comm e 2 (g k j)] using h

/-- PROPERTY. pca_solve: the coefficients of one spectrum are its inverse-variance weighted projection on
the current eigenspectra: they minimise the chi-square weighted with `ivar` (contracts of `chi2_optimum`, plus
`sqrt x · sqrt x = x` on the inverse variances). -/
theorem pca_coeff_is_projection (sqrt : K → K) (svd : Mat K → Svd K) (npix nkeep : ℕ) (flux ivar : ℕ → K)
    (pres : ℕ → ℕ → K) (hsq : ∀ p, sqrt (ivar p) * sqrt (ivar p) = ivar p)
    (hinv : MulEqOne nkeep (pcaProject sqrt svd npix nkeep flux ivar pres).mm
      (pcaProject sqrt svd npix nkeep flux ivar pres).mmi) :
    Normal (fun (p : Fin npix) (k : Fin nkeep) => pres p k) (fun p => ivar p) (fun p => flux p)
        (fun k => vget (pcaProject sqrt svd npix nkeep flux ivar pres).acoeff k) ∧
    ∀ z : Fin nkeep → K,
      Q (fun (p : Fin npix) (k : Fin nkeep) => pres p k) (fun p => ivar p) (fun p => flux p)
          (fun k => vget (pcaProject sqrt svd npix nkeep flux ivar pres).acoeff k)
        ≤ Q (fun (p : Fin npix) (k : Fin nkeep) => pres p k) (fun p => ivar p) (fun p => flux p) z := by
  unfold pcaProject at hinv ⊢
  have h := chi2_optimum svd npix nkeep flux (fun p => sqrt (ivar p)) pres hinv
  simp only [hsq] at h
  exact ⟨h.1, h.2.1⟩

/-- PROPERTY. pca_solve: `usemask[p]` is the number of spectra whose inverse variance at pixel p is non-zero. -/
theorem usemask_counts (nobj npix : ℕ) (ivar : ℕ → ℕ → K) (p : Fin npix) :
    (usemask nobj npix ivar)[p.val]! = ((range nobj).filter (fun i => ivar i p ≠ 0)).card := by
  simp [usemask, countN_eq]

/-- `djs_reject` as `pca_solve` calls it (no rejection limits) returns the input mask, with or without a model -/
theorem pcaReject_mask (nobj npix : ℕ) (hm : Bool) (inmask : ℕ → ℕ → Bool) (om : Option Mask) (i p : ℕ)
    (hi : i < nobj) (hp : p < npix) :
    bget (pcaReject (α := K) nobj npix hm inmask om).1 i p = inmask i p := by
  unfold pcaReject
  cases hm
  · simp [bget_btab _ _ _ _ _ hi hp]
  · simp only [Bool.not_true, Bool.false_eq_true, if_false]
    rw [bget_btab _ _ _ _ _ hi hp]
    cases inmask i p <;> simp [scalar_lit]

theorem pcaPassG_proj (sqrt : K → K) (svd : Mat K → Svd K) (eigh : Mat K → Eig K) (argsort : Vec K → Array ℕ)
    (nobj npix nkeep : ℕ) (flux ivar mivar : ℕ → ℕ → K) (syn : Vec K) (filt : Mat K) (i : Fin nobj) (k : Fin nkeep) :
    mget (pcaPassG sqrt svd eigh argsort nobj npix nkeep flux ivar mivar syn filt).acoeff i k
      = vget (pcaProject sqrt svd npix nkeep (flux i) (mivar i)
          (mget (pcaPassG sqrt svd eigh argsort nobj npix nkeep flux ivar mivar syn filt).pres)).acoeff k := by
  simp only [pcaPassG, mget_mtab_fin]
  simp

/-- an outer iteration overwrites the mask and the solution, so whatever is read off a result is read off ONE iteration -/
theorem pcaOuter_cases (sqrt : K → K) (svd : Mat K → Svd K) (eigh : Mat K → Eig K) (argsort : Vec K → Array ℕ)
    (nobj npix niter nkeep maxiter : ℕ) (flux ivar : ℕ → ℕ → K) (syn : Vec K) (fuel : ℕ) (L : PcaLoop K) :
    pcaOuter sqrt svd eigh argsort nobj npix niter nkeep maxiter flux ivar syn fuel L = L ∨
    ∃ L', pcaOuter sqrt svd eigh argsort nobj npix niter nkeep maxiter flux ivar syn fuel L
      = pcaOuterStep sqrt svd eigh argsort nobj npix niter nkeep flux ivar syn L' := by
  induction fuel generalizing L with
  | zero => exact Or.inl rfl
  | succ fuel ih =>
    rw [pcaOuter]
    split
    · exact Or.inr ((ih _).elim (fun h => ⟨_, h⟩) id)
    · exact Or.inl rfl

theorem pcaStepMask_spec (nobj npix : ℕ) (ivar : ℕ → ℕ → K) (L : PcaLoop K) (i p : ℕ) (hi : i < nobj) (hp : p < npix) :
    bget (pcaStepMask nobj npix ivar L).1 i p = decide (ivar i p ≠ 0) ∧
    maskIvar ivar (pcaStepMask nobj npix ivar L).1 i p = ivar i p := by
  have hmask : bget (pcaStepMask nobj npix ivar L).1 i p = decide (ivar i p ≠ 0) := by
    unfold pcaStepMask
    rw [pcaReject_mask (K := K) nobj npix _ _ _ i p hi hp]
    by_cases h0 : ivar i p = 0 <;> simp [h0, scalar_lit]
  refine ⟨hmask, ?_⟩
  unfold maskIvar
  rw [hmask]
  by_cases h0 : ivar i p = 0
  · simp [h0]
  · simp [h0, scalar_lit]

/-- a `.full` result is read off ONE outer iteration: the three early exits do not return `.full`, and a solution is
present only when the loop has run -/
theorem pcaSolveMax_full (sqrt : K → K) (svd : Mat K → Svd K) (eigh : Mat K → Eig K) (argsort : Vec K → Array ℕ)
    (nobj npix niter nkeep maxiter : ℕ) (flux ivar : ℕ → ℕ → K) (r : PcaFull K)
    (hres : pcaSolveMax sqrt svd eigh argsort nobj npix niter nkeep maxiter flux ivar = .ok (.full r)) :
    ∃ L' f, r.outmask = (pcaStepMask nobj npix ivar L').1 ∧
      r.usemask = Array.ofFn (n := npix) (fun p => countN nobj fun i => bget r.outmask i p.val) ∧
      r.acoeff = (pcaPassG sqrt svd eigh argsort nobj npix nkeep flux ivar (maskIvar ivar r.outmask)
        (synwvec nobj npix ivar) f).acoeff ∧
      r.pres = (pcaPassG sqrt svd eigh argsort nobj npix nkeep flux ivar (maskIvar ivar r.outmask)
        (synwvec nobj npix ivar) f).pres := by
  unfold pcaSolveMax at hres
  split_ifs at hres with _ _ hn
  · cases hres
  dsimp only at hres
  split at hres
  · rename_i om st hom hst
    rcases pcaOuter_cases sqrt svd eigh argsort nobj npix niter nkeep maxiter flux ivar (synwvec nobj npix ivar)
      (maxiter + 1) { outmask := none, qdone := false, iiter := 0, last := none } with h | ⟨L', h⟩
    · rw [h] at hst; cases hst
    rw [h] at hom hst
    obtain rfl : (pcaStepMask nobj npix ivar L').1 = om := Option.some.inj hom
    obtain ⟨n', rfl⟩ := Nat.exists_eq_succ_of_ne_zero hn
    obtain ⟨f, hf⟩ := pcaInner_last
      (pcaPassG sqrt svd eigh argsort nobj npix nkeep flux ivar (maskIvar ivar (pcaStepMask nobj npix ivar L').1)
        (synwvec nobj npix ivar)) n' (pcaInit nobj npix nkeep flux)
    obtain rfl := (Option.some.inj hst).symm.trans hf
    simp only [Except.ok.injEq, PcaOut.full.injEq] at hres
    subst hres
    exact ⟨L', f, rfl, rfl, rfl, rfl⟩
  · cases hres

/-- PROPERTY. pca_solve with `maxiter ≥ 0` (the PCA + reject loop, all `goodobj` branches): `outmask = (newivar != 0)`
(no rejection limit is passed to `djs_reject`), `usemask[p]` counts the spectra that are good at pixel p, the weights
`newivar * outmask` of the LAST outer iteration equal `newivar`, and the returned coefficients of every spectrum are its
`computechi2` projection on the RETURNED eigenspectra `pres[:, 0:nkeep]` with those weights. -/
theorem pca_final_state (sqrt : K → K) (svd : Mat K → Svd K) (eigh : Mat K → Eig K) (argsort : Vec K → Array ℕ)
    (nobj npix niter nkeep maxiter : ℕ) (flux ivar : ℕ → ℕ → K) (r : PcaFull K)
    (hres : pcaSolveMax sqrt svd eigh argsort nobj npix niter nkeep maxiter flux ivar = .ok (.full r)) :
    (∀ i p, i < nobj → p < npix → bget r.outmask i p = decide (ivar i p ≠ 0)) ∧
    (∀ p : Fin npix, r.usemask[p.val]! = ((range nobj).filter (fun i => ivar i p ≠ 0)).card) ∧
    (∀ i p, i < nobj → p < npix → maskIvar ivar r.outmask i p = ivar i p) ∧
    (∀ (i : Fin nobj) (k : Fin nkeep), mget r.acoeff i k
      = vget (pcaProject sqrt svd npix nkeep (flux i) (maskIvar ivar r.outmask i) (mget r.pres)).acoeff k) := by
  obtain ⟨L', f, hom, hum, hac, hpr⟩ :=
    pcaSolveMax_full sqrt svd eigh argsort nobj npix niter nkeep maxiter flux ivar r hres
  have hspec := fun i p hi hp => hom ▸ pcaStepMask_spec nobj npix ivar L' i p hi hp
  refine ⟨fun i p hi hp => (hspec i p hi hp).1, fun p => ?_, fun i p hi hp => (hspec i p hi hp).2, fun i k => ?_⟩
  · rw [hum]
    simp only [Fin.is_lt, Array.getElem!_eq_getD, Array.getD_eq_getD_getElem?, Array.getElem?_ofFn, dite_true,
      Option.getD_some, countN_eq]
    congr 1
    apply Finset.filter_congr
    intro i hi
    rw [(hspec i p (Finset.mem_range.mp hi) p.isLt).1]
    simp
  · rw [hac, hpr]
    exact pcaPassG_proj sqrt svd eigh argsort nobj npix nkeep flux ivar _ _ f i k

/-- PROPERTY. pca_solve with `maxiter ≥ 0`: the returned coefficients satisfy the normal equations and minimise the
chi-square weighted with `newivar` on the returned eigenspectra (contracts as in `pca_coeff_is_projection`, at the
final state). -/
theorem pca_final_coeff_is_projection (sqrt : K → K) (svd : Mat K → Svd K) (eigh : Mat K → Eig K)
    (argsort : Vec K → Array ℕ) (nobj npix niter nkeep maxiter : ℕ) (flux ivar : ℕ → ℕ → K) (r : PcaFull K)
    (hres : pcaSolveMax sqrt svd eigh argsort nobj npix niter nkeep maxiter flux ivar = .ok (.full r))
    (i : Fin nobj)
    (hsq : ∀ p, sqrt (maskIvar ivar r.outmask i p) * sqrt (maskIvar ivar r.outmask i p) = maskIvar ivar r.outmask i p)
    (hinv : MulEqOne nkeep (pcaProject sqrt svd npix nkeep (flux i) (maskIvar ivar r.outmask i) (mget r.pres)).mm
      (pcaProject sqrt svd npix nkeep (flux i) (maskIvar ivar r.outmask i) (mget r.pres)).mmi) :
    Normal (fun (p : Fin npix) (k : Fin nkeep) => mget r.pres p k) (fun p => ivar i p) (fun p => flux i p)
        (fun k => mget r.acoeff i k) ∧
    ∀ z : Fin nkeep → K,
      Q (fun (p : Fin npix) (k : Fin nkeep) => mget r.pres p k) (fun p => ivar i p) (fun p => flux i p)
          (fun k => mget r.acoeff i k)
        ≤ Q (fun (p : Fin npix) (k : Fin nkeep) => mget r.pres p k) (fun p => ivar i p) (fun p => flux i p) z := by
  obtain ⟨_, _, hw, hproj⟩ := pca_final_state sqrt svd eigh argsort nobj npix niter nkeep maxiter flux ivar r hres
  simpa only [hw i _ i.isLt (Fin.isLt _), ← hproj] using
    pca_coeff_is_projection sqrt svd npix nkeep (flux i) (maskIvar ivar r.outmask i) (mget r.pres) hsq hinv

/-- contract of `scipy.linalg.eigh` on the symmetric matrix `C`: columns of `evecs` are orthonormal
eigenvectors (`V Vᵀ = VᵀV = 1`, `C V = V diag(evals)`) -/
structure EighOK (nv : ℕ) (C : Mat K) (e : Eig K) : Prop where
  rows : ∀ i l : Fin nv, ∑ j : Fin nv, mget e.evecs i j * mget e.evecs l j = if i = l then 1 else 0
  cols : ∀ j j' : Fin nv, ∑ i : Fin nv, mget e.evecs i j * mget e.evecs i j' = if j = j' then 1 else 0
  eig : ∀ i j : Fin nv, ∑ l : Fin nv, mget C i l * mget e.evecs l j = vget e.evals j * mget e.evecs i j

theorem pcomp_entries {sqrt : K → K} {eigh : Mat K → Eig K} {argsort : Vec K → Array ℕ} {no nv : ℕ}
    {x : ℕ → ℕ → K} {st cv : Bool} {σ : Fin nv → Fin nv}
    (hσ : ∀ j : Fin nv,
      (argsort (eigh (pcomp sqrt eigh argsort no nv x st cv).c).evals)[nv - 1 - (j : ℕ)]! = ((σ j : Fin nv) : ℕ)) :
    (∀ j : Fin nv, vget (pcomp sqrt eigh argsort no nv x st cv).evals j
      = vget (eigh (pcomp sqrt eigh argsort no nv x st cv).c).evals (σ j)) ∧
    (∀ i j : Fin nv, mget (pcomp sqrt eigh argsort no nv x st cv).coefficients i j
      = mget (eigh (pcomp sqrt eigh argsort no nv x st cv).c).evecs i (σ j) *
          sqrt (vget (eigh (pcomp sqrt eigh argsort no nv x st cv).c).evals (σ j))) ∧
    ∀ j : Fin nv, vget (pcomp sqrt eigh argsort no nv x st cv).variance j
      = vget (eigh (pcomp sqrt eigh argsort no nv x st cv).c).evals (σ j) /
          ∑ i : Fin nv, mget (pcomp sqrt eigh argsort no nv x st cv).c i i := by
  simp only [pcomp] at hσ ⊢
  refine ⟨fun j => ?_, fun i j => ?_, fun j => ?_⟩
  · simp only [vget_vtab_fin, hσ]
  · simp only [mget_mtab_fin, vget_vtab_fin, hσ]
  · simp only [vget_vtab_fin, hσ]
    unfold traceM
    rw [sumN_fin]

theorem pcomp_derived (sqrt : K → K) (eigh : Mat K → Eig K) (argsort : Vec K → Array ℕ) (no nv : ℕ)
    (x : ℕ → ℕ → K) (st cv : Bool) (i : Fin no) (j : Fin nv) :
    mget (pcomp sqrt eigh argsort no nv x st cv).derived i j
      = ∑ k : Fin nv, mget (pcomp sqrt eigh argsort no nv x st cv).array i k *
          mget (pcomp sqrt eigh argsort no nv x st cv).coefficients k j := by
  simp only [pcomp, mget_mtab_fin, sumN_fin]

/-- PROPERTY. pcomp, given the `eigh` contract on the matrix `c` that is decomposed (correlation or
covariance matrix of the - optionally standardised - data), `argsort` returning a sorting permutation
(`σ` = reversed argsort), `sqrt x · sqrt x = x` on the eigenvalues and a non-zero trace:
eigenvalues are non-increasing; `coefficients · coefficientsᵀ = c`; the variance fractions sum to one;
`derived = array · coefficients`. -/
theorem pcomp_reconstructs (sqrt : K → K) (eigh : Mat K → Eig K) (argsort : Vec K → Array ℕ) (no nv : ℕ)
    (x : ℕ → ℕ → K) (st cv : Bool) (σ : Equiv.Perm (Fin nv))
    (hE : EighOK nv (pcomp sqrt eigh argsort no nv x st cv).c (eigh (pcomp sqrt eigh argsort no nv x st cv).c))
    (hσ : ∀ j : Fin nv,
      (argsort (eigh (pcomp sqrt eigh argsort no nv x st cv).c).evals)[nv - 1 - (j : ℕ)]! = ((σ j : Fin nv) : ℕ))
    (hsort : ∀ j j' : Fin nv, j ≤ j' →
      vget (eigh (pcomp sqrt eigh argsort no nv x st cv).c).evals (σ j')
        ≤ vget (eigh (pcomp sqrt eigh argsort no nv x st cv).c).evals (σ j))
    (hsq : ∀ j : Fin nv, sqrt (vget (eigh (pcomp sqrt eigh argsort no nv x st cv).c).evals j) *
      sqrt (vget (eigh (pcomp sqrt eigh argsort no nv x st cv).c).evals j)
        = vget (eigh (pcomp sqrt eigh argsort no nv x st cv).c).evals j)
    (htr : ∑ i : Fin nv, mget (pcomp sqrt eigh argsort no nv x st cv).c i i ≠ 0) :
    (∀ j j' : Fin nv, j ≤ j' →
      vget (pcomp sqrt eigh argsort no nv x st cv).evals j' ≤ vget (pcomp sqrt eigh argsort no nv x st cv).evals j) ∧
    (∀ i l : Fin nv, ∑ j : Fin nv, mget (pcomp sqrt eigh argsort no nv x st cv).coefficients i j *
        mget (pcomp sqrt eigh argsort no nv x st cv).coefficients l j
      = mget (pcomp sqrt eigh argsort no nv x st cv).c i l) ∧
    (∑ j : Fin nv, vget (pcomp sqrt eigh argsort no nv x st cv).variance j = 1) ∧
    (∀ (i : Fin no) (j : Fin nv), mget (pcomp sqrt eigh argsort no nv x st cv).derived i j
      = ∑ k : Fin nv, mget (pcomp sqrt eigh argsort no nv x st cv).array i k *
          mget (pcomp sqrt eigh argsort no nv x st cv).coefficients k j) := by
  obtain ⟨hev, hco, hvar⟩ := pcomp_entries hσ
  refine ⟨fun j j' h => ?_, fun i l => ?_, ?_, pcomp_derived sqrt eigh argsort no nv x st cv⟩
  · rw [hev, hev]
    exact hsort j j' h
  · -- `V diag(λ) Vᵀ = c`, summed in the order `σ`, with `λ = sqrt λ · sqrt λ`
    refine (Finset.sum_congr rfl fun j _ => ?_).trans ((Equiv.sum_comp σ _).trans
      (spectral_reconstruct hE.rows hE.eig i l))
    rw [hco, hco, mul_mul_mul_comm, hsq]
  · simp_rw [hvar, div_eq_mul_inv]
    rw [← Finset.sum_mul, Equiv.sum_comp σ (fun j => vget (eigh (pcomp sqrt eigh argsort no nv x st cv).c).evals j),
      ← spectral_trace hE.rows hE.cols hE.eig]
    exact mul_inv_cancel₀ htr

theorem covMat_entry (no nv : ℕ) (x : ℕ → ℕ → K) (j l : Fin nv) :
    mget (covMat no nv x) j l
      = (∑ i : Fin no, (x i j - (∑ i' : Fin no, x i' j) / (no : K)) * (x i l - (∑ i' : Fin no, x i' l) / (no : K)))
        / ((no - 1 : ℕ) : K) := by
  simp only [covMat, colMean, mget_mtab_fin, vget_vtab_fin, sumN_fin, scalar_ofNat]

theorem cov_linear (no nv : ℕ) (x B d : ℕ → ℕ → K)
    (hd : ∀ (i : Fin no) (j : Fin nv), d i j = ∑ k : Fin nv, x i k * B k j) (j l : Fin nv) :
    mget (covMat no nv d) j l
      = ∑ k : Fin nv, ∑ k' : Fin nv, B k j * mget (covMat no nv x) k k' * B k' l := by
  -- centring commutes with the linear map `B`
  have hc : ∀ (i : Fin no) (j : Fin nv), d i j - (∑ i' : Fin no, d i' j) / (no : K)
      = ∑ k : Fin nv, (x i k - (∑ i' : Fin no, x i' k) / (no : K)) * B k j := by
    intro i j
    simp_rw [hd, div_eq_mul_inv, sub_mul, Finset.sum_sub_distrib]
    congr 1
    rw [Finset.sum_comm, Finset.sum_mul]
    exact Finset.sum_congr rfl fun k _ => by rw [← Finset.sum_mul, mul_right_comm]
  rw [covMat_entry]
  simp_rw [hc, covMat_entry, div_eq_mul_inv, Finset.sum_mul_sum]
  simp only [Finset.sum_mul, Finset.mul_sum]
  rw [Finset.sum_comm]
  refine Finset.sum_congr rfl fun k _ => ?_
  rw [Finset.sum_comm]
  exact Finset.sum_congr rfl fun k' _ => Finset.sum_congr rfl fun i _ => by ring

/-- PROPERTY. pcomp in covariance mode, under the `eigh`, `argsort` and `sqrt` contracts of `pcomp_reconstructs`: the
derived variables are UNCORRELATED - their covariance matrix (`numpy.cov`, same estimator as the decomposed matrix) is
diagonal, with `eigenvalue_j²` on the diagonal (the components carry a factor `sqrt(eigenvalue_j)`). -/
theorem pcomp_derived_uncorrelated (sqrt : K → K) (eigh : Mat K → Eig K) (argsort : Vec K → Array ℕ) (no nv : ℕ)
    (x : ℕ → ℕ → K) (st : Bool) (σ : Equiv.Perm (Fin nv))
    (hE : EighOK nv (pcomp sqrt eigh argsort no nv x st true).c (eigh (pcomp sqrt eigh argsort no nv x st true).c))
    (hσ : ∀ j : Fin nv,
      (argsort (eigh (pcomp sqrt eigh argsort no nv x st true).c).evals)[nv - 1 - (j : ℕ)]! = ((σ j : Fin nv) : ℕ))
    (hsq : ∀ j : Fin nv, sqrt (vget (eigh (pcomp sqrt eigh argsort no nv x st true).c).evals j) *
      sqrt (vget (eigh (pcomp sqrt eigh argsort no nv x st true).c).evals j)
        = vget (eigh (pcomp sqrt eigh argsort no nv x st true).c).evals j) (j l : Fin nv) :
    mget (covMat no nv (mget (pcomp sqrt eigh argsort no nv x st true).derived)) j l
      = if j = l then vget (pcomp sqrt eigh argsort no nv x st true).evals j *
          vget (pcomp sqrt eigh argsort no nv x st true).evals j else 0 := by
  obtain ⟨hev, hco, -⟩ := pcomp_entries hσ
  have hc : (pcomp sqrt eigh argsort no nv x st true).c
      = covMat no nv (mget (pcomp sqrt eigh argsort no nv x st true).array) := by
    simp only [pcomp, if_true]
  -- `cov(array · coefficients) = coefficientsᵀ · c · coefficients`, and `coefficients = V[:, σ] · diag(sqrt λ_σ)`
  rw [cov_linear no nv (mget (pcomp sqrt eigh argsort no nv x st true).array)
    (mget (pcomp sqrt eigh argsort no nv x st true).coefficients) _
    (pcomp_derived sqrt eigh argsort no nv x st true) j l, ← hc]
  have hscale : ∀ v r c v' r' : K, v * r * c * (v' * r') = r * r' * (v * c * v') := fun _ _ _ _ _ => by ring
  simp_rw [hco, hscale, ← Finset.mul_sum]
  rw [spectral_diag hE.cols hE.eig (σ j) (σ l), hev]
  by_cases h : j = l
  · subst h
    rw [if_pos rfl, if_pos rfl, hsq]
  · rw [if_neg fun e => h (σ.injective e), if_neg h, mul_zero]

end

/-- PROPERTY. `find_contiguous` (zero-column removal of `HMF.iterate`): the block it returns is non-empty, lies inside
the range, consists of good columns only, and no run of consecutive good columns recorded by the scan is longer. -/
theorem findContiguous_block (M : ℕ) (good : ℕ → Bool) (c0 len : ℕ) (h : findContiguous M good = some (c0, len)) :
    1 ≤ len ∧ c0 + len ≤ M ∧ (∀ j < len, good (c0 + j) = true) ∧ ∀ r ∈ runsOf M good, r.2 ≤ len := by
  obtain ⟨hmem, hmax, -⟩ := findContiguous_some M good c0 len h
  have := (runsOf_inv M good).1 _ hmem
  exact ⟨this.1, this.2.1, this.2.2.1, hmax⟩

/-- PROPERTY. `find_contiguous` returns A LONGEST run of consecutive good columns, and among the longest the FIRST one
(`lengths.index(max(lengths))` = first maximum): EVERY block of good columns inside the range is at most as long as the
returned one, and one of the same length does not start before it. -/
theorem findContiguous_longest_first (M : ℕ) (good : ℕ → Bool) (c0 len : ℕ) (h : findContiguous M good = some (c0, len)) :
    1 ≤ len ∧ c0 + len ≤ M ∧ (∀ j < len, good (c0 + j) = true) ∧
    ∀ st l, st + l ≤ M → (∀ j < l, good (st + j) = true) → l ≤ len ∧ (l = len → c0 ≤ st) := by
  have hb := findContiguous_block M good c0 len h
  obtain ⟨-, hmax, hfirst⟩ := findContiguous_some M good c0 len h
  refine ⟨hb.1, hb.2.1, hb.2.2.1, fun st l hM hg => ?_⟩
  by_cases hl : l = 0
  · subst hl; exact ⟨Nat.zero_le _, fun h0 => by omega⟩
  -- the block lies inside one recorded run; if it is as long as the answer, it is that run
  obtain ⟨r, hr, h1, h2⟩ := runsOf_cover M good st l (by omega) hM hg
  have hrl := hmax r hr
  exact ⟨by omega, fun hll => by have := hfirst r hr (by omega); omega⟩

/-- PROPERTY. `find_contiguous` raises (no block) exactly when no column is good. -/
theorem findContiguous_none_iff (M : ℕ) (good : ℕ → Bool) :
    findContiguous M good = none ↔ ∀ j < M, good j = false := by
  rw [findContiguous_eq_none]
  constructor
  · intro hnil j hj
    by_contra hgj
    obtain ⟨r, hr, -⟩ := (runsOf_inv M good).2.2 j hj (by simpa using hgj)
    rw [hnil] at hr
    cases hr
  · intro h
    by_contra hne
    obtain ⟨r, hr⟩ := List.exists_mem_of_ne_nil _ hne
    have hok := (runsOf_inv M good).1 r hr
    have := hok.2.2.1 0 (by have := hok.1; omega)
    rw [h (r.1 + 0) (by have := hok.1; have := hok.2.1; omega)] at this
    cases this

/-- PROPERTY. `HMF.iterate` with zero-column removal: when it returns, the block of columns it worked on is non-empty,
lies inside the input range and contains no zero column (no column whose spectra / invvar / spectra·invvar sum is
exactly zero, after the clamp of the non-negative mode); the factors are those of `iterate` on that block.  The clamp is
typed out as the model's `iterateCols` has it inline; `iterate` applies it once more to the block, which changes nothing. -/
theorem iterateCols_block {α : Type} [Scalar α] (sqrt : α → α) (solve : Mat α → Vec α → Vec α) (eigh : Mat α → Eig α)
    (N M Kc nIter nnPre : ℕ) (s0 w g0 : ℕ → ℕ → α) (nonneg : Bool) (eps : Option α) (r : HmfOut α)
    (h : iterateCols sqrt solve eigh N M Kc nIter nnPre s0 w g0 nonneg eps = .ok r) :
    1 ≤ r.ncol ∧ r.col0 + r.ncol ≤ M ∧
    (∀ j < r.ncol, zeroCol N (fun i j => if nonneg then (if s0 i j < 0 then 0 else s0 i j) else s0 i j) w (r.col0 + j) = false) ∧
    (r.a, r.g) = iterate sqrt solve eigh N r.ncol Kc nIter nnPre
      (fun i j => (if nonneg then (if s0 i (r.col0 + j) < 0 then 0 else s0 i (r.col0 + j)) else s0 i (r.col0 + j)))
      (fun i j => w i (r.col0 + j)) g0 nonneg eps := by
  unfold iterateCols at h
  dsimp only at h
  split at h
  · cases h
  · rename_i c0 M' hfc
    simp only [Except.ok.injEq] at h
    subst h
    have hb := findContiguous_block M _ c0 M' hfc
    refine ⟨hb.1, hb.2.1, fun j hj => ?_, rfl⟩
    have := hb.2.2.1 j hj
    simpa using this

/-- PROPERTY. `HMF.iterate` with zero-column removal keeps the FIRST LONGEST block of columns that are not zero columns
(as `findContiguous_longest_first`), and raises ValueError exactly when every column is a zero column. -/
theorem iterateCols_block_longest {α : Type} [Scalar α] (sqrt : α → α) (solve : Mat α → Vec α → Vec α) (eigh : Mat α → Eig α)
    (N M Kc nIter nnPre : ℕ) (s0 w g0 : ℕ → ℕ → α) (nonneg : Bool) (eps : Option α) :
    (∀ r, iterateCols sqrt solve eigh N M Kc nIter nnPre s0 w g0 nonneg eps = .ok r →
      ∀ st l, st + l ≤ M →
        (∀ j < l, zeroCol N (fun i j => if nonneg then (if s0 i j < 0 then 0 else s0 i j) else s0 i j) w (st + j) = false) →
        l ≤ r.ncol ∧ (l = r.ncol → r.col0 ≤ st)) ∧
    ((∃ e, iterateCols sqrt solve eigh N M Kc nIter nnPre s0 w g0 nonneg eps = .error e) ↔
      ∀ j < M, zeroCol N (fun i j => if nonneg then (if s0 i j < 0 then 0 else s0 i j) else s0 i j) w j = true) := by
  constructor
  · intro r h st l hM hz
    unfold iterateCols at h
    dsimp only at h
    split at h
    · cases h
    · rename_i c0 M' hfc
      simp only [Except.ok.injEq] at h
      subst h
      exact (findContiguous_longest_first M _ c0 M' hfc).2.2.2 st l hM (fun j hj => by simp [hz j hj])
  · have hn := findContiguous_none_iff M
      (fun j => !(zeroCol N (fun i j => if nonneg then (if s0 i j < 0 then 0 else s0 i j) else s0 i j) w j))
    constructor
    · rintro ⟨e, h⟩
      unfold iterateCols at h
      dsimp only at h
      split at h
      · rename_i hfc
        intro j hj
        have := hn.mp hfc j hj
        simpa using this
      · cases h
    · intro hall
      have hfc := hn.mpr (fun j hj => by simp [hall j hj])
      refine ⟨"ValueError", ?_⟩
      unfold iterateCols
      dsimp only
      rw [hfc]

/-- PROPERTY. pca_solve with a one-dimensional `newflux` (single spectrum): it returns exactly when `newivar` is
two-dimensional and its row 0 has a non-zero entry, and then the result is the flux itself, pixel by pixel; a
one-dimensional `newivar` is refused with IndexError, a row 0 without good pixel with ValueError. -/
theorem pcaSolveVec_spec {α : Type} [Scalar α] (npix ivarDim : ℕ) (flux : ℕ → α) (ivar : ℕ → ℕ → α) :
    (ivarDim = 1 → pcaSolveVec npix ivarDim flux ivar = .error "IndexError") ∧
    (ivarDim ≠ 1 → firstNonzero npix (ivar 0) = npix → pcaSolveVec npix ivarDim flux ivar = .error "ValueError") ∧
    (ivarDim ≠ 1 → firstNonzero npix (ivar 0) ≠ npix →
      ∃ f, pcaSolveVec npix ivarDim flux ivar = .ok (.single f) ∧ ∀ p < npix, vget f p = flux p) := by
  refine ⟨fun h => by simp [pcaSolveVec, h], fun h h2 => by simp [pcaSolveVec, h, h2], fun h h2 => ?_⟩
  exact ⟨vtab npix flux, by simp [pcaSolveVec, h, h2], fun p hp => vget_vtab npix flux p hp⟩

/-- PROPERTY. HMF.iterate when k-means returned `Kg` centroids: with `Kg = K` it is `iterate` (all theorems about
`iterate` apply); with `Kg ≠ K` it returns ONLY when no update is ever run (`n_iter = 0` and no non-negative
pre-iteration), and then `a` has `N` rows and `g` is the `Kg` centroids, each divided by its `normbase`; otherwise
ValueError. -/
theorem iterateKg_spec {α : Type} [Scalar α] (sqrt : α → α) (solve : Mat α → Vec α → Vec α) (eigh : Mat α → Eig α)
    (N M Kc Kg nIter nnPre : ℕ) (s0 w g0 : ℕ → ℕ → α) (nonneg : Bool) (eps : Option α) :
    (Kg = Kc → iterateKg sqrt solve eigh N M Kc Kg nIter nnPre s0 w g0 nonneg eps
      = .ok (iterate sqrt solve eigh N M Kc nIter nnPre s0 w g0 nonneg eps)) ∧
    (Kg ≠ Kc → ((nonneg = true ∧ 0 < nnPre) ∨ 0 < nIter) →
      iterateKg sqrt solve eigh N M Kc Kg nIter nnPre s0 w g0 nonneg eps = .error "ValueError") ∧
    (Kg ≠ Kc → ¬ (nonneg = true ∧ 0 < nnPre) → nIter = 0 →
      ∃ r, iterateKg sqrt solve eigh N M Kc Kg nIter nnPre s0 w g0 nonneg eps = .ok r ∧
        r.1.size = N ∧ r.2.size = Kg ∧
        (∀ k < Kg, ∀ j < M, mget r.2 k j = g0 k j / vget (normbase sqrt Kg M g0) k)) := by
  refine ⟨fun h => by simp [iterateKg, h], fun h h2 => ?_, fun h h2 h3 => ?_⟩
  · unfold iterateKg
    rw [if_neg h]
    rcases h2 with h2 | h2
    · simp [h2.1, h2.2]
    · by_cases h4 : (nonneg && decide (0 < nnPre)) = true
      · rw [if_pos h4]
      · rw [if_neg h4, if_pos h2]
  · have h4 : ¬ ((nonneg && decide (0 < nnPre)) = true) := by
      simpa using h2
    unfold iterateKg
    rw [if_neg h, if_neg h4, if_neg (by omega)]
    refine ⟨_, rfl, by simp [mtab], by simp [mtab], fun k hk j hj => ?_⟩
    exact mget_mtab Kg M _ k j hk hj

section Examples
attribute [local instance] fieldScalar
-- ℚ has its own executable `Scalar` instance (`instScalarRat`, Model/Scalar.lean); it is erased so that the examples are
-- stated at `fieldScalar ℚ`, the instance of the theorems
attribute [-instance] Scalar.instOfNat Scalar.instOfScientific PydlVerif.instScalarRat

/-- two points, one parameter: `A = (1,1)ᵀ`, `b = (1,3)`, unit weights; `mm = (2)`, its SVD is `1·2·1` -/
def exSvd : Mat ℚ → Svd ℚ := fun _ => ⟨#[#[1]], #[2], #[#[1]]⟩
def exB : ℕ → ℚ := fun i => if i = 0 then 1 else 3

example : MulEqOne 1 (computechi2 exSvd 2 1 exB (fun _ => 1) (fun _ _ => 1)).mm
    (computechi2 exSvd 2 1 exB (fun _ => 1) (fun _ _ => 1)).mmi := by
  intro k l
  rw [Subsingleton.elim k 0, Subsingleton.elim l 0, Fin.sum_univ_one, chi2_mm, chi2_mmi]
  simp [-scalar_lit, pinvOfSvd, exSvd, sumN_fin, mget, vget, mtab, vtab]

example : SpectralSvd 1 (computechi2 exSvd 2 1 exB (fun _ => 1) (fun _ _ => 1)).mm
    (exSvd (computechi2 exSvd 2 1 exB (fun _ => 1) (fun _ _ => 1)).mm) := by
  constructor
  · simp [-scalar_lit, exSvd, vget]
  · simp [-scalar_lit, Fin.forall_fin_one, exSvd, mget]
  · simp [-scalar_lit, Fin.forall_fin_one, exSvd, mget]
  · intro t u
    rw [Subsingleton.elim t 0, Subsingleton.elim u 0, chi2_mm]
    simp [-scalar_lit, exSvd, mget, vget]

/-- one component, one spectrum with two pixels `s = (1, 3)`, `g = (1, 1)`, unit weights: the 1×1 solve `x = F/G` -/
noncomputable def exSolve : Mat ℚ → Vec ℚ → Vec ℚ := fun G F => #[vget F 0 / mget G 0 0]

theorem exSolve_solves (G : Mat ℚ) (F : Vec ℚ) (h : mget G 0 0 ≠ 0) : Solves 1 G F (exSolve G F) := by
  intro k
  rw [Subsingleton.elim k 0, Fin.sum_univ_one]
  exact mul_div_cancel₀ (vget F 0) h

example : ∀ i : Fin 1, Solves 1 (astepMat 2 1 (fun _ _ => (1 : ℚ)) (fun _ _ => 1) i)
    (astepRhs 2 1 (fun _ j => exB j) (fun _ _ => 1) (fun _ _ => 1) i)
    (exSolve (astepMat 2 1 (fun _ _ => (1 : ℚ)) (fun _ _ => 1) i)
      (astepRhs 2 1 (fun _ j => exB j) (fun _ _ => 1) (fun _ _ => 1) i)) := by
  intro i
  exact exSolve_solves _ _ ((astepMat_entry 2 1 _ _ i 0 0).trans_ne (by norm_num))

example : ∀ j : Fin 2, Solves 1 (gstepMat 1 2 1 (fun _ _ => (1 : ℚ)) (fun _ _ => 1) none j)
    (gstepRhs 1 2 1 (fun _ j => exB j) (fun _ _ => 1) (fun _ _ => 1) (fun _ _ => 1) none j)
    (exSolve (gstepMat 1 2 1 (fun _ _ => (1 : ℚ)) (fun _ _ => 1) none j)
      (gstepRhs 1 2 1 (fun _ j => exB j) (fun _ _ => 1) (fun _ _ => 1) (fun _ _ => 1) none j)) := by
  intro j
  refine exSolve_solves _ _ ((gstepMat_entry 1 2 1 _ _ none j 0 0).trans_ne ?_)
  rw [epsDiag_off 2 none rfl]
  norm_num

/-- the solve hypothesis of `gstep_eps_badness_le` (epsilon = 1) -/
example : ∀ j : Fin 2, Solves 1 (gstepMat 1 2 1 (fun _ _ => (1 : ℚ)) (fun _ _ => 1) (some 1) j)
    (gstepRhs 1 2 1 (fun _ j => exB j) (fun _ _ => 1) (fun _ _ => 1) (fun _ _ => 1) (some 1) j)
    (exSolve (gstepMat 1 2 1 (fun _ _ => (1 : ℚ)) (fun _ _ => 1) (some 1) j)
      (gstepRhs 1 2 1 (fun _ j => exB j) (fun _ _ => 1) (fun _ _ => 1) (fun _ _ => 1) (some 1) j)) := by
  intro j
  refine exSolve_solves _ _ ((gstepMat_entry 1 2 1 _ _ (some 1) j 0 0).trans_ne ?_)
  have hd : 0 ≤ epsDiag 2 (some (1 : ℚ)) j := by
    simp only [epsDiag, epsOn_some_pos one_pos, epsVal, if_true]
    split_ifs <;> norm_num
  norm_num
  positivity

example : EighOK 2 (#[#[3, 0], #[0, 1]] : Mat ℚ) ⟨#[3, 1], #[#[1, 0], #[0, 1]]⟩ := by
  constructor <;> simp [-scalar_lit, Fin.forall_fin_two, mget, vget, Fin.sum_univ_two]

/-- the docstring example of `find_contiguous` -/
example : findContiguous 9 (fun k => #[false, true, true, true, false, true, true, false, true][k]!) = some (1, 3) := by
  decide
example : findContiguous 5 (fun k => #[true, true, false, true, true][k]!) = some (0, 2) := by decide
example : findContiguous 3 (fun _ => false) = none := by decide

/-- the denominator hypothesis of `astepnn_badness_le` on the all-ones state, N = 1, M = 2, K = 1 -/
example : ∀ (i : Fin 1) (k : Fin 1), (∑ j : Fin 2, (∑ l : Fin 1, ((fun _ _ => (1 : ℚ)) : ℕ → ℕ → ℚ) i l * ((fun _ _ => (1 : ℚ)) : ℕ → ℕ → ℚ) l j)
    * ((fun _ _ => (1 : ℚ)) : ℕ → ℕ → ℚ) i j * ((fun _ _ => (1 : ℚ)) : ℕ → ℕ → ℚ) k j) ≠ 0 := by
  intro i k; norm_num

end Examples

end PydlVerif.C15
