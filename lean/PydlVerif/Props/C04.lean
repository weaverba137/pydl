/-
C04: `spherematch` returns exactly the pairs closer than the match length.
-/
import PydlVerif.Lemmas.SphereComb
import PydlVerif.Lemmas.SphereAssign
import PydlVerif.Lemmas.SphereInit
import PydlVerif.Lemmas.SphereRoom
namespace PydlVerif.C04
open PydlVerif.Sphere

/-- assign: whatever ranges getbounds returns (also ranges that wrap onto the same cell
twice), no index occurs twice in any cell list -/
theorem assign_nodup {α : Type} [Trig α] (g : Grid α) (ra dec : Array α) (m : α) (cl : Tab CellSt)
    (h : assign g ra dec m = .ok cl) (c : Nat × Nat) :
    (cl.get c).1.Nodup ∧ ∀ k ∈ (cl.get c).1, k < ra.size := by
  rw [(assign_ok g ra dec m cl h).2]
  exact assignAll_nodup _ _ _ _ (init_empty g.nRa) c

/-- assign: every point whose getbounds succeeds is stored in every cell of its ranges
(the append loop, `appendPass`), thanks to the reset loop over the wider range (`resetPass`) -/
theorem assign_mem {α : Type} [Trig α] (g : Grid α) (ra dec : Array α) (m : α) (cl : Tab CellSt)
    (h : assign g ra dec m = .ok cl) (k : Nat) (hk : k < ra.size) (c : Nat × Nat)
    (hc : c ∈ cellsOfPoint g ra dec m 0 k) (h1 : c.1 < g.nRa.size) (h2 : c.2 < g.nRa.getD c.1 0) :
    k ∈ (cl.get c).1 := by
  rw [(assign_ok g ra dec m cl h).2]
  exact assignAll_mem _ _ _ _ (fun i _ => cellsOfPoint_subset g ra dec m i) k hk c hc (init_inb g.nRa c h1 h2)

/-- the pair loop: if every close pair's second index is stored in the first point's cell (`hcover`) and the cell lists
are duplicate-free, each pair closer than the match length is returned exactly once, with its separation, and nothing else -/
theorem matchRaw_complete_sound {α Cell : Type} [LT α] [DecidableLT α] (n1 n2 : Nat) (cellOf : Nat → Cell)
    (chunkList : Cell → List Nat) (sep : Nat → Nat → α) (ml : α)
    (hnd : ∀ i < n1, (chunkList (cellOf i)).Nodup)
    (hrange : ∀ i < n1, ∀ k ∈ chunkList (cellOf i), k < n2)
    (hcover : ∀ i < n1, ∀ k < n2, sep i k < ml → k ∈ chunkList (cellOf i)) :
    (matchRaw n1 cellOf chunkList sep ml).Perm (closePairs n1 n2 sep ml) ∧
    ((closePairs n1 n2 sep ml).map fun p => (p.1, p.2.1)).Nodup ∧
    (∀ p, p ∈ closePairs n1 n2 sep ml ↔
      p.1 < n1 ∧ p.2.1 < n2 ∧ sep p.1 p.2.1 < ml ∧ p.2.2 = sep p.1 p.2.1) :=
  ⟨matchRaw_perm n1 n2 cellOf chunkList sep ml hnd hrange hcover, closePairs_nodup n1 n2 sep ml,
   closePairs_mem n1 n2 sep ml⟩

/-- maxmatch = 0: for ANY sorting permutation `s` returned by argsort, the output `x[s]` is a
permutation of the raw list in non-decreasing order of separation -/
theorem sorted_output {α : Type} [Inhabited α] [LE α] (raw : List (Pair α)) (s : List Nat)
    (hs : s.Perm (List.range raw.length))
    (hsorted : (s.map fun i => (raw.map (·.2.2)).getD i default).Pairwise (· ≤ ·)) :
    (applyPerm raw s).Perm raw ∧ ((applyPerm raw s).map (·.2.2)).Pairwise (· ≤ ·) := by
  refine ⟨applyPerm_perm raw s hs, ?_⟩
  have : (applyPerm raw s).map (·.2.2) = s.map fun i => (raw.map (·.2.2)).getD i default := by
    simp only [applyPerm, List.map_map]
    apply List.map_congr_left
    intro i _
    simp only [Function.comp, List.getD_eq_getElem?_getD, List.getElem?_map]
    cases raw[i]? <;> rfl
  rw [this]; exact hsorted

/-- the two passes of the maxmatch bookkeeping agree: the arrays allocated from the count of
the first pass are filled exactly by the second pass -/
theorem greedy_passes_agree {α : Type} [Inhabited α] (k : Nat) (l : List (Pair α)) :
    greedy k l = greedyFill k l (fun _ => 0) (fun _ => 0) := by
  simp [greedy, greedyCount_eq_length]

/-- maxmatch = k: the result is a sublist of the sorted pair list; no index of either side occurs more than k times; and a
pair is selected iff neither endpoint is already used k times by the pairs selected before it (`greedy k pre`: no farther apart) -/
theorem greedy_spec {α : Type} [Inhabited α] (k : Nat) (l : List (Pair α)) :
    (greedy k l).Sublist l ∧
    (∀ x, ((greedy k l).map (·.1)).count x ≤ k) ∧ (∀ x, ((greedy k l).map (·.2.1)).count x ≤ k) ∧
    (∀ pre p post, l = pre ++ p :: post → ∃ B, B.Sublist post ∧
      greedy k l = greedy k pre ++
        (if ((greedy k pre).map (·.1)).count p.1 < k ∧ ((greedy k pre).map (·.2.1)).count p.2.1 < k
         then [p] else []) ++ B) := by
  simp only [greedy_passes_agree]
  refine ⟨greedyFill_sublist _ _ _ _, ?_, ?_, ?_⟩
  · intro x; simpa using (greedyFill_count k l (fun _ => 0) (fun _ => 0) x).1
  · intro x; simpa using (greedyFill_count k l (fun _ => 0) (fun _ => 0) x).2
  · intro pre p post hl
    subst hl
    obtain ⟨i, j, d⟩ := p
    rw [greedyFill_append]
    simp only [greedyFill, addCounts, Nat.zero_add]
    split
    · refine ⟨_, ?_, by rw [List.append_assoc]; rfl⟩
      exact greedyFill_sublist _ _ _ _
    · refine ⟨_, ?_, by rw [List.append_assoc]; rfl⟩
      exact greedyFill_sublist _ _ _ _

/-- RA wrap: for nRa > 0 the cells visited for `range(raChunkMin, raChunkMax+1)` are exactly
the residues `r mod nRa`, raChunkMin ≤ r ≤ raChunkMax -/
theorem ra_wrap_index (n : Nat) (hn : 0 < n) (lo hi : Int) (c : Nat) :
    c ∈ (irange lo hi).filterMap (wrapIdx n) ↔ ∃ r : Int, lo ≤ r ∧ r ≤ hi ∧ c = (r % (n : Int)).toNat :=
  Sphere.ra_wrap_index n hn lo hi c

section field
variable {K : Type} [Field K] [LinearOrder K] [IsStrictOrderedRing K] [FloorRing K]
attribute [local instance] fieldScalar
-- `Scalar.instOfNat` is not erased here as it is in the lemma files: the default `0` of `getD` in the two statements below
-- is the model's numeral; `scalar_zero` turns it into the field's

/-- declination margin: the dec loops of getbounds for q, started at any band d0 (q's own band in the code), return a range
that contains the band of every p with |dec_q - dec_p| < margin; monotone band edges suffice -/
theorem dec_cover (b : Array K) (nDec : Nat) (decq decp m : K) (d0 bp : Nat)
    (hmono : ∀ i j, i ≤ j → j ≤ nDec → b.getD i 0 ≤ b.getD j 0)
    (hd0 : d0 < nDec) (hbp : bp < nDec)
    (hp : b.getD bp 0 ≤ decp ∧ decp < b.getD (bp+1) 0)
    (hclose : |decq - decp| < m) :
    decDown b decq m d0 ≤ bp ∧ bp ≤ decUp b decq m d0 (nDec - 1 - d0) :=
  dec_cover_mono b nDec decq decp m d0 bp (by simpa only [scalar_zero] using hmono) hd0 hbp _ (by omega)
    (by simpa only [scalar_zero] using And.intro hp.1 hp.2.le) hclose

/-- RA margin, linear part (no seam): the RA loops of getbounds for q, started at any cell r0 (q's own cell in the code),
return a range that contains the cell of every p whose RA difference is below the margin used by the loops -/
theorem ra_cover_linear (b : Array K) (n : Nat) (raq rap M : K) (r0 j : Nat)
    (hmono : ∀ i k, i ≤ k → k ≤ n → b.getD i 0 ≤ b.getD k 0)
    (hr0 : r0 < n) (hj : j < n)
    (hp : b.getD j 0 ≤ rap ∧ rap < b.getD (j+1) 0)
    (hclose : |raq - rap| < M) :
    raDown b raq M r0 ≤ (j : Int) ∧ j ≤ raUp b raq M r0 (n - r0) := by
  obtain ⟨h1, h2⟩ := dec_cover_mono b n raq rap M r0 j (by simpa only [scalar_zero] using hmono) hr0 hj (n - r0)
    (by omega) (by simpa only [scalar_zero] using And.intro hp.1 hp.2.le) hclose
  rw [raUp_eq_decUp]
  -- the downward RA loop stops where the downward dec loop does, or runs off to -1
  exact ⟨(raDown_le_iff b raq M r0 j (by omega)).2 fun i hi hi' =>
    (decDown_le_iff b raq M r0 j).1 h1 i (by omega) hi', h2⟩

end field

section real
open Real

/-- the model's `gcircDeg` at Mathlib's real functions (degrees in, degrees out): the separation d it returns satisfies the
haversine identity (so the argument of arcsin is in [0,1]), 0 ≤ d ≤ 180, and the spherical law of cosines: d IS the angle
between the two unit vectors. -/
theorem hav_identity (a1 d1 a2 d2 : ℝ) :
    sin (@gcircDeg ℝ realTrig a1 d1 a2 d2 / 2 * (π / 180)) ^ 2 =
      sin ((d2 * (π / 180) - d1 * (π / 180)) / 2) ^ 2 +
        cos (d1 * (π / 180)) * cos (d2 * (π / 180)) * sin ((a2 * (π / 180) - a1 * (π / 180)) / 2) ^ 2 ∧
    (0 ≤ @gcircDeg ℝ realTrig a1 d1 a2 d2 ∧ @gcircDeg ℝ realTrig a1 d1 a2 d2 ≤ 180) ∧
    cos (@gcircDeg ℝ realTrig a1 d1 a2 d2 * (π / 180)) =
      sin (d1 * (π / 180)) * sin (d2 * (π / 180)) +
        cos (d1 * (π / 180)) * cos (d2 * (π / 180)) * cos (a2 * (π / 180) - a1 * (π / 180)) ∧
    cos (d1 * (π / 180)) * cos (d2 * (π / 180)) * sin ((a2 * (π / 180) - a1 * (π / 180)) / 2) ^ 2 ≤
      sin (@gcircDeg ℝ realTrig a1 d1 a2 d2 / 2 * (π / 180)) ^ 2 := by
  refine ⟨?_, gcirc_range a1 d1 a2 d2, ?_, ?_⟩
  · rw [gcirc_half, sin_sq_half_havAngle]; rfl
  · rw [gcircDeg_real, rad_mul_cancel, cos_havAngle]
  · rw [gcirc_half]; exact cos_cos_hav_le _ _ _

end real

/-- completeness and soundness under a cover hypothesis, stated for the model's own loop over points (`assignAll`): if
every close pair (i,k) has the cell of i among the cells visited for k (`RACover`), then the raw match list is a
permutation of the list of all close pairs -/
theorem spherematch_complete_partial {α : Type} [LT α] [DecidableLT α] (n1 n2 : Nat)
    (cellOf : Nat → Nat × Nat) (R V : Nat → List (Nat × Nat)) (nRa : Array Nat)
    (sep : Nat → Nat → α) (ml : α)
    (hsub : ∀ k < n2, ∀ c ∈ V k, c ∈ R k)
    (hcell : ∀ i < n1, (cellOf i).1 < nRa.size ∧ (cellOf i).2 < nRa.getD (cellOf i).1 0)
    (RACover : ∀ i < n1, ∀ k < n2, sep i k < ml → cellOf i ∈ V k) :
    (matchRaw n1 cellOf
      (fun c => ((assignAll n2 R V (nRa.map fun n => Array.replicate n (([], false) : CellSt))).get c).1)
      sep ml).Perm (closePairs n1 n2 sep ml) := by
  apply matchRaw_perm
  · intro i _; exact (assignAll_nodup n2 R V _ (init_empty nRa) (cellOf i)).1
  · intro i _; exact (assignAll_nodup n2 R V _ (init_empty nRa) (cellOf i)).2
  · intro i hi k hk hs
    exact assignAll_mem n2 R V _ hsub k hk (cellOf i) (RACover i hi k hk hs)
      (init_inb nRa _ (hcell i hi).1 (hcell i hi).2)

section complete
open Real
attribute [local instance] realFns fieldScalar fieldTrig
attribute [-instance] Scalar.instOfNat Scalar.instOfScientific

/-- `chunks.get` / the floor formula against the tabulated edges (at ℝ; `Sphere.get_bracket` holds over any ordered field
with floor): the returned (band, cell) exists and its edges bracket the point, `b[i] ≤ x < b[i+1]`; in declination `≤` on
the right for a point ON the last edge (the upper-boundary rule) -/
theorem get_bracket (g : Grid ℝ) (ra dec : ℝ) (d r : Nat)
    (hdec : EdgesOK g.decBounds g.nDec)
    (hra : ∀ d, d < g.nDec → EdgesOK (g.raBounds.getD d #[]) (g.nRa.getD d 0))
    (h : get g ra dec = .ok (d, r)) :
    d < g.nDec ∧ r < g.nRa.getD d 0 ∧
    (g.decBounds.getD d 0 ≤ dec ∧ dec ≤ g.decBounds.getD (d + 1) 0 ∧
      (dec < g.decBounds.getD (d + 1) 0 ∨ (d + 1 = g.nDec ∧ dec = g.decBounds.getD g.nDec 0))) ∧
    ((g.raBounds.getD d #[]).getD r 0 ≤ ra ∧ ra < (g.raBounds.getD d #[]).getD (r + 1) 0) :=
  Sphere.get_bracket g ra dec d r hdec hra h

/-- `chunks.__init__` at ℝ (`Sphere.chunksInit_facts` holds over any ordered field with floor and for ARBITRARY
cos/sin/sqrt): when it returns a grid for declinations in [-90, 90], the grid has nDec ≥ 3 equally high bands from a first
edge (-90 by the polar rule, else at least one minSize below every point) to a last edge (likewise); raOffset is one of
0,60,…,300; every band has positive cosDecMin and nRa ≥ 1 equally wide cells that either run from 0 to 360 or stay more than
minSize/cosDecMin inside -/
theorem init_shape (ra dec : Array ℝ) (ms : ℝ) (g : Grid ℝ)
    (hdec : ∀ i, i < dec.size → -90 ≤ dec.getD i 0 ∧ dec.getD i 0 ≤ 90)
    (h : chunksInit ra dec ms = .ok g) : GridFacts ra dec ms g :=
  chunksInit_facts ra dec ms g hdec h

/-- one band including the seam: if the difference on the circle is below the margin M and the band has room at the seam
(`hseam`), the RA loops of getbounds started at q's own cell return a range one of whose indices wraps onto p's cell: ONE
wrap cell (-1 or nRa) suffices -/
theorem ra_cover_seam {b : Array ℝ} {n : Nat} (he : EdgesOK b n) (q p M : ℝ) (r0 jp : Nat)
    (hr0 : r0 < n) (hjp : jp < n)
    (hq : b.getD r0 0 ≤ q ∧ q < b.getD (r0+1) 0) (hp : b.getD jp 0 ≤ p ∧ p < b.getD (jp+1) 0)
    (hp0 : 0 ≤ p) (hq0 : 0 ≤ q) (hp360 : p < 360) (hq360 : q < 360)
    (hclose : |q - p| < M ∨ 360 - |q - p| < M)
    (hseam : (b.getD 0 0 = 0 ∧ b.getD n 0 = 360 ∧ M ≤ b.getD 1 0 - b.getD 0 0) ∨
      M ≤ b.getD 0 0 + 360 - b.getD n 0) :
    ∃ r : Int, raDown b q M r0 ≤ r ∧ r ≤ ((raUp b q M r0 (n - r0) : Nat) : Int) ∧
      (r % (n : Int)).toNat = jp :=
  ra_cover_band he q p M r0 jp hr0 hjp hq hp hp0 hq0 hp360 hq360 hclose hseam

/-- END-TO-END completeness on the grid, hypotheses about the inputs plus ONE residual geometric condition (`hroom`): every
second-list point that has a close partner lies, in every band it visits, inside the RA extent of the band, and the RA
margin it uses there leaves room at the seam (`BandRoom`).  `g` is the grid of `chunks.__init__(ra1, dec1, ms)`, `cl` the
table of `assign(ra2, dec2, ml)`, `cellOf i` the cell `get` returns for first-list point i.  Then the raw match list is a
permutation of the list of ALL pairs closer than ml. -/
theorem spherematch_complete_grid (g : Grid ℝ) (ra1 dec1 ra2 dec2 : Array ℝ) (ms ml : ℝ)
    (cl : Tab CellSt) (cellOf : Nat → Nat × Nat)
    (hF : GridFacts ra1 dec1 ms g) (hsz : ra1.size = dec1.size)
    (hcl : assign g ra2 dec2 ml = .ok cl)
    (hcells : ∀ i, i < ra1.size →
      get g (fmod360 (ra1.getD i 0 + g.raOffset)) (dec1.getD i 0) = .ok (cellOf i))
    (hra1 : ∀ i, i < ra1.size → 0 ≤ ra1.getD i 0 ∧ ra1.getD i 0 < 360)
    (hdec1 : ∀ i, i < ra1.size → |dec1.getD i 0| < 90)
    (hra2 : ∀ k, k < ra2.size → 0 ≤ ra2.getD k 0 ∧ ra2.getD k 0 < 360)
    (hdec2 : ∀ k, k < ra2.size → |dec2.getD k 0| < 90)
    (hml : ml ≤ 180)
    (hroom : ∀ k, k < ra2.size →
      (∃ i, i < ra1.size ∧
        gcircDeg (ra1.getD i 0) (dec1.getD i 0) (ra2.getD k 0) (dec2.getD k 0) < ml) →
      ∀ d, d < g.nDec → visitedBand g (dec2.getD k 0) ml d →
        BandRoom g d (fmod360 (ra2.getD k 0 + g.raOffset)) (dec2.getD k 0) ml) :
    (matchRaw ra1.size cellOf (fun c => (cl.get c).1)
      (fun i k => gcircDeg (ra1.getD i 0) (dec1.getD i 0) (ra2.getD k 0) (dec2.getD k 0)) ml).Perm
    (closePairs ra1.size ra2.size
      (fun i k => gcircDeg (ra1.getD i 0) (dec1.getD i 0) (ra2.getD k 0) (dec2.getD k 0)) ml) := by
  have hget := fun i hi => Sphere.get_bracket g _ _ (cellOf i).1 (cellOf i).2 hF.dec_edges
    (fun d hd => (hF.band d hd).edges) (hcells i hi)
  obtain ⟨hlt, rfl⟩ := assign_ok g ra2 dec2 ml cl hcl
  rw [hF.minSize_eq] at hlt
  apply spherematch_complete_partial
  · exact fun k _ => cellsOfPoint_subset g ra2 dec2 ml k
  · intro i hi
    rw [hF.nRa_size]; exact ⟨(hget i hi).1, (hget i hi).2.1⟩
  · intro i hi k hk hclose
    obtain ⟨B, hB, hmem⟩ := close_visited g ra1 dec1 ms ml hF hsz hlt hml i hi (hra1 i hi).1 (hra1 i hi).2 (hdec1 i hi)
      _ _ (hra2 k hk).1 (hra2 k hk).2 (hdec2 k hk) hclose (hroom k hk ⟨i, hi, hclose⟩) _ _ (hcells i hi)
    rw [cellsOfPoint_ok 0 hB]
    exact hmem

/-- the room at the seam from the grid facts: on the grid of `chunks.__init__(ra1, dec1, ms)` with 4·ml ≤ ms, every
second-list point that has a partner closer than ml has `BandRoom` in every band it visits - the RA margin is at most HALF a
minimal cell minSize/cosDecMin, hence at most one cell of a band that embraces [0,360] and at most the gap any other band
leaves around the seam, and the point lies inside the RA extent of every band it visits (`getbounds` does not drop it) -/
theorem seam_room (g : Grid ℝ) (ra1 dec1 : Array ℝ) (ms ml : ℝ)
    (hF : GridFacts ra1 dec1 ms g) (hR : GridRoom ra1 dec1 ms g) (hsz : ra1.size = dec1.size)
    (hml : 0 < ml) (hms : 4 * ml ≤ ms)
    (i : Nat) (hi : i < ra1.size) (h10 : 0 ≤ ra1.getD i 0) (h1 : ra1.getD i 0 < 360)
    (hp : |dec1.getD i 0| < 90)
    (a2 δq : ℝ) (h20 : 0 ≤ a2) (h2 : a2 < 360) (hq : |δq| < 90)
    (hclose : gcircDeg (ra1.getD i 0) (dec1.getD i 0) a2 δq < ml)
    (d : Nat) (hd : d < g.nDec) (hv : visitedBand g δq ml d) :
    BandRoom g d (fmod360 (a2 + g.raOffset)) δq ml :=
  bandRoom_holds g ra1 dec1 ms ml hF hR hsz hml hms i hi h10 h1 hp a2 δq h20 h2 hq hclose d hd hv

/-- END-TO-END completeness of the model's `spherematch` at ℝ, hypotheses ONLY about the inputs (any argsort, any chunksize,
any maxmatch): whenever it returns, the raw match list (before argsort / maxmatch) is a permutation of the list of ALL
pairs whose separation is below ml, each with its separation.  The first list's RA range and the sizes are guards of the
model's constructor; `chunksize ≥ 4·matchlength` is enforced inside `spherematch`, `marginSize < minSize` by `assign`.
Over ℝ `chunks.__init__` raises when a declination edge is clipped to ±90 (cos 90° = 0 exactly; the binary64 code relies on
cos(π/2) = 6e-17 > 0), so polar-cap grids are outside this theorem. -/
theorem spherematch_complete (inst : Inhabited ℝ) (argsort : List ℝ → List Nat)
    (ra1 dec1 ra2 dec2 : Array ℝ) (ml : ℝ) (chunksize : Option ℝ) (maxmatch : Int) (res : Result ℝ)
    (h : @spherematch ℝ (fieldTrig ℝ) inst argsort ra1 dec1 ra2 dec2 ml chunksize maxmatch = .ok res)
    (hdec1 : ∀ i, i < dec1.size → |dec1.getD i 0| < 90)
    (hra2 : ∀ k, k < ra2.size → 0 ≤ ra2.getD k 0 ∧ ra2.getD k 0 < 360)
    (hdec2 : ∀ k, k < ra2.size → |dec2.getD k 0| < 90)
    (hml : ml ≤ 180) :
    res.raw.Perm (closePairs ra1.size ra2.size
      (fun i k => gcircDeg (ra1.getD i 0) (dec1.getD i 0) (ra2.getD k 0) (dec2.getD k 0)) ml) := by
  unfold spherematch at h
  -- `jp` is the continuation of the `do` block after the guard `ra1.size = 1`
  extract_lets four cs jp at h
  have hcs : 4 * ml ≤ cs := by
    simp only [cs, four, scalar_lit, scalar_sci]
    push_cast
    split
    · split
      · exact le_refl _
      · rename_i hc; exact not_lt.1 hc
    · split
      · rename_i hc; exact hc.le
      · exact le_refl _
  simp -zeta only [bind, Except.bind] at h
  split at h
  · cases h
  · simp only [jp] at h
    obtain ⟨g, hg, h⟩ := bind_ok h
    obtain ⟨cl, hcl, h⟩ := bind_ok h
    obtain ⟨cells, hcells, h⟩ := bind_ok h
    simp only [pure, Except.pure, Except.ok.injEq] at h
    subst h
    obtain ⟨_, hsz, hra1⟩ := chunksInit_guards ra1 dec1 cs g hg
    have hF := chunksInit_facts ra1 dec1 cs g
      (fun i hi => by have := abs_lt.1 (hdec1 i hi); exact ⟨this.1.le, this.2.le⟩) hg
    have hR := chunksInit_room ra1 dec1 cs g hg
    obtain ⟨hlen, hall⟩ := mapM_ok _ _ _ hcells
    simp only [scalar_zero]
    apply spherematch_complete_grid g ra1 dec1 ra2 dec2 cs ml cl _ hF hsz hcl _ hra1
      (fun i hi => hdec1 i (by omega)) hra2 hdec2 hml
    · intro k hk ⟨i, hi, hclose⟩ d hd hv
      have hml0 : 0 < ml := lt_of_le_of_lt (gcirc_range _ _ _ _).1 hclose
      exact seam_room g ra1 dec1 cs ml hF hR hsz hml0 hcs i hi (hra1 i hi).1 (hra1 i hi).2
        (hdec1 i (by omega)) _ _ (hra2 k hk).1 (hra2 k hk).2 (hdec2 k hk) hclose d hd hv
    · intro i hi
      have hi' : i < cells.length := by rw [hlen, List.length_range]; exact hi
      have hr1 := hall i (hlen ▸ hi') hi'
      simp only [List.getElem_range, scalar_zero] at hr1
      rw [hr1]
      congr 1
      simp [Array.getD_eq_getD_getElem?, hi']

/-- the output of `spherematch` in terms of its raw match list: `x[s]` for s = argsort of the distances, then the maxmatch
bookkeeping when maxmatch > 0 -/
theorem spherematch_out_eq {α : Type} [Trig α] [Inhabited α] (argsort : List α → List Nat)
    (ra1 dec1 ra2 dec2 : Array α) (ml : α) (chunksize : Option α) (maxmatch : Int) (res : Result α)
    (h : spherematch argsort ra1 dec1 ra2 dec2 ml chunksize maxmatch = .ok res) :
    res.out = if maxmatch > 0
      then greedy maxmatch.toNat (applyPerm res.raw (argsort (res.raw.map fun p => p.2.2)))
      else applyPerm res.raw (argsort (res.raw.map fun p => p.2.2)) := by
  unfold spherematch at h
  extract_lets four cs jp at h
  simp -zeta only [bind, Except.bind] at h
  split at h
  · cases h
  · simp only [jp] at h
    obtain ⟨g, _, h⟩ := bind_ok h
    obtain ⟨cl, _, h⟩ := bind_ok h
    obtain ⟨cells, _, h⟩ := bind_ok h
    simp only [pure, Except.pure, Except.ok.injEq] at h
    subst h
    rfl

/-- THE STATEMENT OF C04 for the model's `spherematch` at ℝ, hypotheses only about the inputs and
the argsort contract (it returns a permutation of the positions that sorts the distances).
maxmatch ≤ 0: the output is a permutation of the list of ALL pairs closer than ml (each exactly
once, with its separation: `matchRaw_complete_sound`), in non-decreasing order of separation.
maxmatch = k > 0: the output is `greedy k sorted` for such a sorted permutation `sorted` of all
close pairs, i.e. the distance-ordered greedy selection characterised by `greedy_spec`. -/
theorem spherematch_statement (inst : Inhabited ℝ) (argsort : List ℝ → List Nat)
    (ra1 dec1 ra2 dec2 : Array ℝ) (ml : ℝ) (chunksize : Option ℝ) (maxmatch : Int) (res : Result ℝ)
    (h : @spherematch ℝ (fieldTrig ℝ) inst argsort ra1 dec1 ra2 dec2 ml chunksize maxmatch = .ok res)
    (hdec1 : ∀ i, i < dec1.size → |dec1.getD i 0| < 90)
    (hra2 : ∀ k, k < ra2.size → 0 ≤ ra2.getD k 0 ∧ ra2.getD k 0 < 360)
    (hdec2 : ∀ k, k < ra2.size → |dec2.getD k 0| < 90)
    (hml : ml ≤ 180)
    (hargsort : ∀ l : List ℝ, (argsort l).Perm (List.range l.length) ∧
      ((argsort l).map fun i => l.getD i default).Pairwise (· ≤ ·)) :
    ∃ sorted : List (Pair ℝ),
      sorted.Perm (closePairs ra1.size ra2.size
        (fun i k => gcircDeg (ra1.getD i 0) (dec1.getD i 0) (ra2.getD k 0) (dec2.getD k 0)) ml) ∧
      (sorted.map (·.2.2)).Pairwise (· ≤ ·) ∧
      res.out = if maxmatch > 0 then greedy maxmatch.toNat sorted else sorted := by
  have hraw := spherematch_complete inst argsort ra1 dec1 ra2 dec2 ml chunksize maxmatch res h hdec1 hra2 hdec2 hml
  have hout := @spherematch_out_eq ℝ (fieldTrig ℝ) inst argsort ra1 dec1 ra2 dec2 ml chunksize maxmatch res h
  obtain ⟨hs1, hs2⟩ := hargsort (res.raw.map fun p => p.2.2)
  rw [List.length_map] at hs1
  obtain ⟨hp, hsorted⟩ := @sorted_output ℝ inst _ res.raw _ hs1 hs2
  exact ⟨_, hp.trans hraw, hsorted, hout⟩

end complete

example : (closePairs 2 2 (fun i k => if i = k then (0 : Nat) else 5) 1) = [(0, 0, 0), (1, 1, 0)] := by decide
example : (0 : ℝ) < @raMarginOf ℝ realTrig 1 0 1 :=
  ra_cover_fixed_of_hav 1 0 0 1 0 0 (by norm_num) (by rw [zero_mul, Real.cos_zero])
    (by rw [zero_mul, Real.cos_zero]; exact one_pos) le_rfl (by norm_num) le_rfl (by norm_num) (by norm_num)
    (by rw [zero_mul, Real.cos_zero, one_mul, one_mul])
example : greedy 1 [(0, 0, (1 : Nat)), (0, 1, 2), (1, 1, 3)] = [(0, 0, 1), (1, 1, 3)] := by decide

section
open Real
attribute [local instance] realFns fieldScalar fieldTrig
attribute [-instance] Scalar.instOfNat Scalar.instOfScientific

theorem edges3 : EdgesOK (#[0, 120, 240, 360] : Array ℝ) 3 := by
  refine ⟨by norm_num, rfl, by norm_num [Array.getD], ?_⟩
  intro k hk
  obtain rfl | rfl | rfl | rfl : k = 0 ∨ k = 1 ∨ k = 2 ∨ k = 3 := by omega
  all_goals norm_num [Array.getD]

/-- the hypotheses of `ra_cover_seam` are met by q = 350 (cell 2), p = 10 (cell 0), margin 100:
the difference on the circle is 20 and the returned range contains an index that wraps onto 0 -/
example : ∃ r : Int, raDown (#[0, 120, 240, 360] : Array ℝ) 350 100 2 ≤ r ∧
    r ≤ ((raUp (#[0, 120, 240, 360] : Array ℝ) 350 100 2 (3 - 2) : Nat) : Int) ∧ (r % (3 : Int)).toNat = 0 := by
  have h := ra_cover_seam edges3 350 10 100 2 0 (by norm_num) (by norm_num)
    (by norm_num [Array.getD]) (by norm_num [Array.getD]) (by norm_num) (by norm_num) (by norm_num) (by norm_num)
    (Or.inr (by rw [abs_of_nonneg (by norm_num)]; norm_num))
    (Or.inl (by norm_num [Array.getD]))
  exact_mod_cast h

/-- the RA margin never exceeds 360, so a band that is one cell [0, 360] (a polar cap) always
has room at the seam: `SeamOK` is satisfiable whatever the declinations are -/
theorem raMarginOf_le_360 (c δq m : ℝ) : raMarginOf c δq m ≤ 360 := by
  erw [raMarginOf_real]
  split
  · have h := mul_le_mul_of_nonneg_right
      (Real.arcsin_le_pi_div_two (sin (0.5 * m * (π / 180)) / sqrt (c * cos (δq * (π / 180)))))
      (div_pos (by norm_num) Real.pi_pos : 0 < 180 / π).le
    rw [show π / 2 = 90 * (π / 180) by ring, deg_mul_cancel] at h
    linarith only [h]
  · exact le_refl _

example (δq m : ℝ) :
    SeamOK ({ minSize := 1, nDec := 1, decBounds := #[0, 1], raOffset := 0, raMin := 0, raMax := 0, raRange := 0,
              nRa := #[1], raBounds := #[#[0, 360]] } : Grid ℝ) 0 δq m := by
  left
  refine ⟨by norm_num [Array.getD], by norm_num [Array.getD], ?_⟩
  have := raMarginOf_le_360 (cosDecMinOf (#[0, 1] : Array ℝ) 0) δq m
  norm_num [Array.getD] at this ⊢
  exact this

end

end PydlVerif.C04
