/-
C19: airtovac / vactoair, sdssflux2ab, filter_thru (abstract weights, the weight image the code computes, end to end with
the trace-set fit of C13), over any linearly ordered field.  Audited theorems: harness/props/c19.py.
-/
import PydlVerif.Lemmas.Wave
import PydlVerif.Lemmas.WaveMaskInterp
import PydlVerif.Lemmas.WaveFit
import Mathlib.Analysis.SpecialFunctions.Log.Basic

namespace PydlVerif.C19
open PydlVerif PydlVerif.Wave PydlVerif.WaveFit PydlVerif.Trace

section
variable {K : Type} [Field K] [LinearOrder K] [IsStrictOrderedRing K] [FloorRing K]
attribute [local instance] fieldScalar
-- numerals of K are the field's own; the Scalar literal instances are only met inside unfolded model terms
attribute [local instance 5] Scalar.instOfNat Scalar.instOfScientific

/-- airtovac and vactoair return wavelengths below 2000 Å unchanged -/
theorem below_2000_identity (a : K) (h : a < 2000) : airtovac1 a = a ∧ vactoair1 a = a := by
  rw [airtovac1_eq, vactoair1_eq, if_pos h, if_pos h]
  exact ⟨rfl, rfl⟩

/-- above the guard: vacuum wavelength > air wavelength, in both directions -/
theorem vac_gt_air (x : K) (h : 2000 ≤ x) : x < airtovac1 x ∧ vactoair1 x < x := by
  have hx0 := guard_pos h
  have hn : ¬ x < 2000 := not_lt.mpr h
  rw [airtovac1_eq, vactoair1_eq, if_neg hn, if_neg hn]
  exact ⟨lt_mul_of_one_lt_right hx0 (fact_bounds (h.trans (le_mul_fact hx0.le h))).1,
    div_lt_self hx0 (fact_bounds h).1⟩

/-- round trip air → vacuum → air, sharp form: the difference is `a·(F1 - F2)/F2` with `F1 = fact (a·fact a)`,
`F2 = fact (a·F1) > 1`, and `two_steps` bounds `a·(F2 - F1)` -/
theorem roundtrip_air_sharp (a : K) (h : 2000 ≤ a) :
    |vactoair1 (airtovac1 a) - a| ≤ 109 / (a * a * a) := by
  have ha0 := guard_pos h
  have h1 : a ≤ a * fact a := le_mul_fact ha0.le h
  have h2 : a ≤ a * fact (a * fact a) := le_mul_fact ha0.le (h.trans h1)
  have f2 := one_pos.trans (fact_bounds (h.trans h2)).1
  obtain ⟨m, key⟩ := two_steps h le_rfl h1 (mul_fact_sub_le ha0.le h)
  rw [airtovac1_eq, if_neg (not_lt.2 h), vactoair1_eq, if_neg (not_lt.2 (h.trans h2)), abs_sub_comm,
    abs_of_nonneg (sub_nonneg.2 ((div_le_iff₀ f2).2 (mul_le_mul_of_nonneg_left m ha0.le))),
    sub_div' f2.ne', ← mul_sub]
  exact (div_le_self (mul_nonneg ha0.le (sub_nonneg.2 m)) (fact_bounds (h.trans h2)).1.le).trans key

/-- the other direction, with `a = vactoair v`: here `v = a·fact v`, so the difference is
`a·(fact v - fact (a·fact a))` -/
theorem roundtrip_vac_sharp (v : K) (h : 2000 ≤ vactoair1 v) :
    |airtovac1 (vactoair1 v) - v| ≤ 109 / (vactoair1 v * vactoair1 v * vactoair1 v) := by
  have hv : 2000 ≤ v := by
    by_contra hc
    rw [(below_2000_identity v (not_le.1 hc)).2] at h
    exact hc h
  have fv := fact_bounds hv
  have hdef : vactoair1 v = v / fact v := by rw [vactoair1_eq, if_neg (not_lt.2 hv)]
  set a := vactoair1 v with ha
  have ha0 := guard_pos h
  have hva : v = a * fact v := by rw [hdef, div_mul_cancel₀ _ (ne_of_gt (one_pos.trans fv.1))]
  obtain ⟨m, key⟩ := two_steps h le_rfl (le_mul_fact ha0.le hv) (mul_fact_sub_le ha0.le hv)
  rw [← hva, ← hva] at key m
  have e : v - a * fact (a * fact a) = a * (fact v - fact (a * fact a)) := by rw [mul_sub, ← hva]
  rw [airtovac1_eq, if_neg (not_lt.2 h), abs_sub_comm,
    abs_of_nonneg (sub_nonneg.2 ((mul_le_mul_of_nonneg_left m ha0.le).trans_eq hva.symm)), e]
  exact key

/-- both round trips return to the input to better than `2·10⁻⁸ Å` (the property asks for `10⁻⁶ Å`) -/
theorem roundtrip_bound (x : K) :
    (2000 ≤ x → |vactoair1 (airtovac1 x) - x| ≤ 2 / 100000000) ∧
    (2000 ≤ vactoair1 x → |airtovac1 (vactoair1 x) - x| ≤ 2 / 100000000) := by
  -- `109/a³ ≤ 109/2000³ < 2·10⁻⁸`
  have c : ∀ {a : K}, 2000 ≤ a → 109 / (a * a * a) ≤ 2 / 100000000 := fun {a} ha => by
    have ha0 := guard_pos ha
    have h2 := mul_le_mul ha ha (by norm_num) ha0.le
    rw [div_le_iff₀ (mul_pos (mul_pos ha0 ha0) ha0)]
    exact le_trans (by norm_num)
      (mul_le_mul_of_nonneg_left (mul_le_mul h2 ha (by norm_num) (mul_pos ha0 ha0).le) (by norm_num))
  exact ⟨fun h => (roundtrip_air_sharp x h).trans (c h), fun h => (roundtrip_vac_sharp x h).trans (c h)⟩

theorem map_of_below (f1 : K → K) (hf : ∀ a, a < 2000 → f1 a = a) (l : List K)
    (h : l.all (fun a => decide (a < 2000)) = true) : l.map f1 = l := by
  rw [List.all_eq_true] at h
  conv_rhs => rw [← List.map_id l]
  exact List.map_congr_left fun a ha => hf a (of_decide_eq_true (h a ha))

/-- the array / numpy-scalar path without unit is the scalar conversion mapped over the elements
(float, numpy scalar, 0-d array and array input give the same numbers) -/
theorem array_is_map (f1 : K → K) (hf : ∀ a, a < 2000 → f1 a = a) (xs : List K) :
    convArr f1 none xs = xs.map f1 := by
  simp only [convArr, val_guard]
  split
  · rename_i hall
    exact (map_of_below f1 hf xs hall).symm
  · rfl

/-- a Quantity in a unit of `k` Å (nm: 10, µm: 10⁴) is answered in the caller's unit and denotes the same
physical wavelengths as converting the Å values, also on the early return when everything is below 2000 Å -/
theorem unit_invariance (f1 : K → K) (hf : ∀ a, a < 2000 → f1 a = a) (k : K) (hk : k ≠ 0) (xs : List K) :
    (convArr f1 (some (k, 1 / k)) xs).map (· * k) = (xs.map (· * k)).map f1 := by
  simp only [convArr, val_guard]
  split
  · rename_i hall
    exact (map_of_below f1 hf _ hall).symm
  · simp only [List.map_map]
    apply List.map_congr_left
    intro a _
    simp only [Function.comp]
    field_simp

/-- `unit_invariance` at the two conversions: a Quantity in a unit of `k` Å is answered in that unit -/
theorem airtovac_units (k : K) (hk : k ≠ 0) (xs : List K) :
    (airtovacArr (some (k, 1 / k)) xs).map (· * k) = (xs.map (· * k)).map airtovac1 :=
  unit_invariance airtovac1 (fun a h => (below_2000_identity a h).1) k hk xs

/-- `unit_invariance` for vactoair -/
theorem vactoair_units (k : K) (hk : k ≠ 0) (xs : List K) :
    (vactoairArr (some (k, 1 / k)) xs).map (· * k) = (xs.map (· * k)).map vactoair1 :=
  unit_invariance vactoair1 (fun a h => (below_2000_identity a h).2) k hk xs

/-- a Quantity array entirely below 2000 Å is returned as it is (no unit round trip) -/
theorem below_2000_quantity (f1 : K → K) (k kinv : K) (xs : List K) (h : ∀ x ∈ xs, x * k < 2000) :
    convArr f1 (some (k, kinv)) xs = xs := by
  simp only [convArr, val_guard]
  rw [if_pos]
  rw [List.all_eq_true]
  intro a ha
  obtain ⟨x, hx, rfl⟩ := List.mem_map.mp ha
  exact decide_eq_true (h x hx)

theorem airtovacArr_none (xs : List K) : airtovacArr none xs = xs.map airtovac1 :=
  array_is_map airtovac1 (fun a h => (below_2000_identity a h).1) xs

theorem vactoairArr_none (xs : List K) : vactoairArr none xs = xs.map vactoair1 :=
  array_is_map vactoair1 (fun a h => (below_2000_identity a h).2) xs

/-- an array with elements on both sides of 2000 Å is converted element by element -/
theorem array_mixed (xs : List K) :
    airtovacArr none xs = xs.map (fun a => if a < 2000 then a else a * fact (a * fact a)) ∧
    vactoairArr none xs = xs.map (fun v => if v < 2000 then v else v / fact v) := by
  rw [airtovacArr_none, vactoairArr_none]
  exact ⟨List.map_congr_left fun a _ => airtovac1_eq a, List.map_congr_left fun a _ => vactoair1_eq a⟩

/-- the round trip `vactoair(airtovac a)` is within `2·10⁻⁸ Å` of `a` for EVERY `a`, below the 2000 Å guard too (there it is exact) -/
theorem roundtrip_air_all (a : K) : |vactoair1 (airtovac1 a) - a| ≤ 2 / 100000000 := by
  by_cases h : a < 2000
  · rw [(below_2000_identity a h).1, (below_2000_identity a h).2, sub_self, abs_zero]; norm_num
  · exact (roundtrip_bound a).1 (not_lt.mp h)

/-- the round trip of an array is the scalar round trip elementwise, whatever the mixture of elements below
and above 2000 Å -/
theorem roundtrip_array (xs : List K) :
    vactoairArr none (airtovacArr none xs) = xs.map (fun a => vactoair1 (airtovac1 a)) ∧
    airtovacArr none (vactoairArr none xs) = xs.map (fun v => airtovac1 (vactoair1 v)) ∧
    (∀ a ∈ xs, |vactoair1 (airtovac1 a) - a| ≤ 2 / 100000000) ∧
    (∀ v ∈ xs, (v < 2000 ∨ 2000 ≤ vactoair1 v) → |airtovac1 (vactoair1 v) - v| ≤ 2 / 100000000) := by
  refine ⟨?_, ?_, fun a _ => roundtrip_air_all a, ?_⟩
  · rw [airtovacArr_none, vactoairArr_none, List.map_map]; rfl
  · rw [vactoairArr_none, airtovacArr_none, List.map_map]; rfl
  · intro v _ h
    rcases h with h | h
    · rw [(below_2000_identity v h).2, (below_2000_identity v h).1, sub_self, abs_zero]; norm_num
    · exact (roundtrip_bound v).2 h

/-- airtovac is strictly increasing on the whole line (it jumps upwards at the guard) -/
theorem airtovac_strict_mono (x y : K) (hxy : x < y) : airtovac1 x < airtovac1 y := by
  by_cases hy : y < 2000
  · rw [(below_2000_identity y hy).1, (below_2000_identity x (lt_trans hxy hy)).1]; exact hxy
  · have hy' : 2000 ≤ y := not_lt.mp hy
    by_cases hx : x < 2000
    · rw [(below_2000_identity x hx).1]
      exact lt_trans (lt_of_lt_of_le hx hy') (vac_gt_air y hy').1
    · rw [airtovac1_eq, airtovac1_eq, if_neg hx, if_neg hy]
      exact airtovac_mono_aux (not_lt.mp hx) hxy

/-- vactoair is strictly increasing on `[2000, ∞)` and, being the identity, below 2000 Å.  It is NOT
increasing across the guard: `vactoair 2000 ≈ 1999.35 < 1999.9 = vactoair 1999.9`. -/
theorem vactoair_strict_mono_above (x y : K) (hx : 2000 ≤ x) (hxy : x < y) : vactoair1 x < vactoair1 y := by
  rw [vactoair1_eq, vactoair1_eq, if_neg (not_lt.mpr hx), if_neg (not_lt.mpr (le_trans hx hxy.le))]
  exact vactoair_mono_aux hx hxy

theorem vactoair_strict_mono_below (x y : K) (hy : y < 2000) (hxy : x < y) : vactoair1 x < vactoair1 y := by
  rw [(below_2000_identity y hy).2, (below_2000_identity x (lt_trans hxy hy)).2]; exact hxy

/-- answering in the caller's unit of `k > 0` Å preserves the order (`f (x·k) · (1/k)` is what `convArr` does to
an element when it converts) -/
theorem units_order_preserving (k : K) (hk : 0 < k) (x y : K) (hxy : x < y) :
    airtovac1 (x * k) * (1 / k) < airtovac1 (y * k) * (1 / k) ∧
    (2000 ≤ x * k → vactoair1 (x * k) * (1 / k) < vactoair1 (y * k) * (1 / k)) := by
  have hk' : 0 < 1 / k := by positivity
  have hxy' : x * k < y * k := mul_lt_mul_of_pos_right hxy hk
  exact ⟨mul_lt_mul_of_pos_right (airtovac_strict_mono _ _ hxy') hk',
         fun h => mul_lt_mul_of_pos_right (vactoair_strict_mono_above _ _ h hxy') hk'⟩

/-- sdssflux2ab, one offset per band: a five-column row is corrected column by column with the same vector
in every mode; any other row length is refused (`ab_row_refused`) -/
theorem ab_row_bands (pow10 : K → K) (mode : AbMode) (u g r i z : K) :
    abRow pow10 mode [u, g, r, i, z] = .ok
      [abElem pow10 mode (-(42 / 1000)) u, abElem pow10 mode (36 / 1000) g, abElem pow10 mode (15 / 1000) r,
       abElem pow10 mode (13 / 1000) i, abElem pow10 mode (-(2 / 1000)) z] := by
  simp only [abRow, abCorr_eq]
  rfl

theorem ab_row_refused (pow10 : K → K) (mode : AbMode) (row : List K) (h : row.length ≠ 5) :
    abRow pow10 mode row = .error "ValueError" := by
  simp only [abRow]
  rw [if_neg]
  · rfl
  · exact h

/-- flux and magnitude forms agree: the flux form followed by `-2.5 log10` is the magnitude form applied to
`-2.5 log10 f`, i.e. the offset `+c` of the band - for any `pow10`/`log10` with the three laws assumed -/
theorem ab_consistent (pow10 log10 : K → K)
    (hlogpow : ∀ x, log10 (pow10 x) = x)
    (hlogmul : ∀ x y, 0 < x → 0 < y → log10 (x * y) = log10 x + log10 y)
    (hpos : ∀ x, 0 < pow10 x) (c f : K) (hf : 0 < f) :
    -(5 / 2) * log10 (abElem pow10 .flux c f) = abElem pow10 .mag c (-(5 / 2) * log10 f) := by
  simp only [abElem, abFactor, val_magscale]
  rw [hlogmul f _ hf (hpos _), hlogpow]
  ring

/-- the inverse-variance form agrees: if the flux is multiplied by the band factor, its standard deviation
`σ` is too, and `1/(factor·σ)²` is what the ivar form computes -/
theorem ab_ivar_consistent (pow10 : K → K) (hpos : ∀ x, 0 < pow10 x) (c sigma : K) (hs : sigma ≠ 0) :
    abElem pow10 .ivar c (1 / (sigma * sigma))
      = 1 / ((abFactor pow10 c * sigma) * (abFactor pow10 c * sigma)) := by
  have hF : abFactor pow10 c ≠ 0 := ne_of_gt (hpos _)
  simp only [abElem, val_one]
  field_simp

/-- the flux form scales the flux by exactly the factor the ivar form is built from -/
theorem ab_flux_factor (pow10 : K → K) (c f : K) : abElem pow10 .flux c f = abFactor pow10 c * f := by
  simp only [abElem]; ring

/-! ## filter_thru: band mean over abstract weights -/

/-- the band mean is linear in the flux -/
theorem filter_linear (a b : K) (r f g : List K) (h : f.length = g.length) :
    filterMean r (List.zipWith (fun x y => a * x + b * y) f g) = a * filterMean r f + b * filterMean r g := by
  simp only [filterMean_eq, dot_lin a b f g r h]
  ring

/-- a constant spectrum has band mean `c` in every band that overlaps the wavelengths (`Σ r > 0`) -/
theorem filter_const (c : K) (r : List K) (h : 0 < r.sum) :
    filterMean r (List.replicate r.length c) = c := by
  rw [filterMean_pos r _ h, dot_const]
  field_simp

/-- the band mean lies between minimum and maximum of the flux -/
theorem filter_between_min_max (lo hi : K) (r f : List K) (hlen : f.length = r.length)
    (hr : ∀ w ∈ r, 0 ≤ w) (h : 0 < r.sum) (hf : ∀ x ∈ f, lo ≤ x ∧ x ≤ hi) :
    lo ≤ filterMean r f ∧ filterMean r f ≤ hi := by
  obtain ⟨i1, i2⟩ := dot_bounds lo hi f r hlen hr hf
  rw [filterMean_pos r f h]
  constructor
  · rw [le_div_iff₀ h]; exact i1
  · rw [div_le_iff₀ h]; exact i2

/-- a band that does not overlap the wavelengths (non-negative weights with `Σ r ≤ 0`) gives 0 -/
theorem filter_no_overlap (r f : List K) (hr : ∀ w ∈ r, 0 ≤ w) (h : r.sum ≤ 0) : filterMean r f = 0 := by
  rw [filterMean_eq, dot_zero f r fun _ hw =>
    List.all_zero_of_le_zero_le_of_sum_eq_zero hr (le_antisymm h (List.sum_nonneg hr)) hw]
  simp

/-- `djs_maskinterp1` as modelled meets the contract of `filter_mask_independent`: if at least one pixel is
unmasked, the interpolated row depends only on the unmasked values -/
theorem maskInterp_independent {m : List Bool} {f f' : List K} (h : AgreeUnmasked m f f') (hg : false ∈ m) :
    maskInterp m f = maskInterp m f' := by
  have hne := goodsFrom_ne_nil_of_mem 0 m f hg h.length_mask
  rw [maskInterp_eq_fill m f h.length_mask hne,
    maskInterp_eq_fill m f' (h.length_mask.trans h.length_eq) (goodsFrom_agree h 0 ▸ hne),
    ← goodsFrom_agree h 0, fillFrom_agree h]

/-- masked pixels do not matter to the band mean, for any interpolation that depends only on the unmasked
values (the contract `hc`) -/
theorem filter_mask_independent (interp : List Bool → List K → List K)
    (hc : ∀ m f f', AgreeUnmasked m f f' → false ∈ m → interp m f = interp m f')
    (m : List Bool) (r f f' : List K) (h : AgreeUnmasked m f f') (hg : false ∈ m) :
    filterMeanMasked interp m r f = filterMeanMasked interp m r f' := by
  simp only [filterMeanMasked, hc m f f' h hg]

/-- the same for the interpolation that filter_thru uses -/
theorem filter_mask_independent_model (m : List Bool) (r f f' : List K) (h : AgreeUnmasked m f f')
    (hg : false ∈ m) :
    filterMeanMasked maskInterp m r f = filterMeanMasked maskInterp m r f' :=
  filter_mask_independent maskInterp (fun _ _ _ h hg => maskInterp_independent h hg) m r f f' h hg

theorem maskInterp_mem {s : Set K} (hs : Convex K s) (m : List Bool) (y : List K) (hlen : m.length = y.length)
    (hne : goodsFrom 0 m y ≠ []) (hy : ∀ p ∈ goodsFrom 0 m y, p.2 ∈ s) : ∀ x ∈ maskInterp m y, x ∈ s := by
  rw [maskInterp_eq_fill m y hlen hne]
  exact fillFrom_mem hs _ hne hy 0 m y hy

/-- the mask interpolation stays within the bounds of the unmasked values -/
theorem maskInterp_bounds (lo hi : K) (m : List Bool) (y : List K) (hlen : m.length = y.length)
    (hne : goodsFrom 0 m y ≠ [])
    (hy : ∀ p ∈ goodsFrom 0 m y, lo ≤ p.2 ∧ p.2 ≤ hi) :
    ∀ x ∈ maskInterp m y, lo ≤ x ∧ x ≤ hi :=
  maskInterp_mem (convex_Icc lo hi) m y hlen hne hy

/-- with a mask the band mean lies between minimum and maximum of the unmasked flux values -/
theorem filter_between_min_max_masked (lo hi : K) (m : List Bool) (r f : List K)
    (hm : m.length = f.length) (hlen : f.length = r.length) (hg : false ∈ m)
    (hr : ∀ w ∈ r, 0 ≤ w) (h : 0 < r.sum)
    (hf : ∀ p ∈ goodsFrom 0 m f, lo ≤ p.2 ∧ p.2 ≤ hi) :
    lo ≤ filterMeanMasked maskInterp m r f ∧ filterMeanMasked maskInterp m r f ≤ hi := by
  unfold filterMeanMasked
  apply filter_between_min_max lo hi r _ (by rw [maskInterp_length m f hm, hlen]) hr h
  exact maskInterp_bounds lo hi m f hm (goodsFrom_ne_nil_of_mem 0 m f hg hm) hf

/-- `djs_maskinterp1` returns a constant row with at least one unmasked pixel unchanged -/
theorem maskInterp_const (c : K) (m : List Bool) (hg : false ∈ m) :
    maskInterp m (List.replicate m.length c) = List.replicate m.length c := by
  have hm : m.length = (List.replicate m.length c).length := by simp
  rw [List.eq_replicate_iff, maskInterp_length m _ hm]
  exact ⟨List.length_replicate, maskInterp_mem (convex_singleton c) m _ hm (goodsFrom_ne_nil_of_mem 0 m _ hg hm)
    fun p hp => (List.mem_replicate.1 (goodsFrom_values 0 m _ p hp)).2⟩

/-- a constant spectrum with a mask: still `c` in every band that overlaps -/
theorem filter_const_masked (c : K) (m : List Bool) (r : List K) (hlen : m.length = r.length)
    (hg : false ∈ m) (h : 0 < r.sum) :
    filterMeanMasked maskInterp m r (List.replicate m.length c) = c := by
  unfold filterMeanMasked
  rw [maskInterp_const c m hg, hlen]
  exact filter_const c r h

/-- the mask interpolation is linear in the flux -/
theorem maskInterp_linear (a b : K) (m : List Bool) (f g : List K) (hm : m.length = f.length)
    (hlen : f.length = g.length) :
    maskInterp m (lin a b f g) = lin a b (maskInterp m f) (maskInterp m g) := by
  -- `f`, `g` and `a·f + b·g` are three projections of the one list `f.zip g`
  have ef : f = (f.zip g).map Prod.fst := (List.map_fst_zip (by omega)).symm
  have eg : g = (f.zip g).map Prod.snd := (List.map_snd_zip (by omega)).symm
  have el : lin a b f g = (f.zip g).map fun p => a * p.1 + b * p.2 :=
    (List.map_zip_eq_zipWith (f := fun p : K × K => a * p.1 + b * p.2)).symm
  have hl : (f.zip g).length = m.length := by simp [hm, hlen]
  generalize f.zip g = l at ef eg el hl
  subst ef eg
  rw [el]
  by_cases hG : goodsFrom 0 m l = []
  · rw [maskInterp_all_bad _ _ (by rw [goodsFrom_map, hG]; rfl), maskInterp_all_bad _ _ (by rw [goodsFrom_map, hG]; rfl),
      maskInterp_all_bad _ _ (by rw [goodsFrom_map, hG]; rfl)]
    simp [lin, List.zipWith_map_left, List.zipWith_map_right]
  · have hne : ∀ {β : Type} (φ : Nat × K × K → β), (goodsFrom 0 m l).map φ ≠ [] := fun φ h => hG (List.map_eq_nil_iff.1 h)
    rw [maskInterp_eq_fill m _ (by simp [hl]) (by rw [goodsFrom_map]; exact hne _),
      maskInterp_eq_fill m _ (by simp [hl]) (by rw [goodsFrom_map]; exact hne _),
      maskInterp_eq_fill m _ (by simp [hl]) (by rw [goodsFrom_map]; exact hne _),
      goodsFrom_map, goodsFrom_map, goodsFrom_map]
    exact fill_lin a b _ 0 m l

/-- the band mean of the mask-interpolated row is linear in the flux -/
theorem filter_linear_masked (a b : K) (m : List Bool) (r f g : List K) (hm : m.length = f.length)
    (hlen : f.length = g.length) :
    filterMeanMasked maskInterp m r (lin a b f g)
      = a * filterMeanMasked maskInterp m r f + b * filterMeanMasked maskInterp m r g := by
  unfold filterMeanMasked
  rw [maskInterp_linear a b m f g hm hlen]
  exact filter_linear a b r _ _ (by rw [maskInterp_length m f hm, maskInterp_length m g (hm.trans hlen), hlen])

/-! ## filter_thru: the weight image as the code computes it -/

/-- `vactoair` of a whole image is the scalar conversion of every pixel (the early return for an image
entirely below 2000 Å returns the same values) -/
theorem toairImg_eq (img : List (List K)) :
    toairImg true img = img.map (List.map vactoair1) ∧ toairImg false img = img := by
  constructor
  · simp only [toairImg, if_true, vactoairArr_none]
    exact reshapeLike_map vactoair1 img
  · simp [toairImg]

/-- `toair` only changes the wavelengths at which the response is read, given the same fitted `d log λ` image -/
theorem toair_only_wavelengths (lds : List (List K)) (curves : List (List (K × K))) (wave : List (List K))
    (masks : Option (List (List Bool))) (flux : List (List K)) :
    filterThru true lds curves wave masks flux
      = filterThru false lds curves (wave.map (List.map vactoair1)) masks flux := by
  simp only [filterThru, (toairImg_eq wave).1, (toairImg_eq (wave.map (List.map vactoair1))).2]

/-- one band of one trace, when the shapes agree, is `filterMean` over the weights `|ld| · np.interp(w, curve)`
and the (mask-interpolated) flux - so every `filter_*` theorem applies to the weights the code computes -/
theorem bandFlux_ok (ld : List K) (x0 f0 : K) (rest : List (K × K)) (w : List K) (mask : Option (List Bool))
    (f : List K) (h1 : ld.length = w.length) (h2 : f.length = w.length) :
    bandFlux ld ((x0, f0) :: rest) w mask f
      = .ok (filterMean (weightsOf ld x0 f0 rest w) (match mask with | none => f | some m => maskInterp m f)) := by
  simp only [bandFlux, weightRow, if_pos h1, if_pos h2]
  rfl

/-- the weights are ≥ 0 whenever the filter response is ≥ 0 -/
theorem weights_nonneg (ld : List K) (x0 f0 : K) (rest : List (K × K)) (w : List K)
    (hc : ∀ q ∈ (x0, f0) :: rest, 0 ≤ q.2) : ∀ v ∈ weightsOf ld x0 f0 rest w, 0 ≤ v := by
  unfold weightsOf
  apply zipWith_mem_imp
  intro d x _
  rw [absS_eq]
  exact mul_nonneg (abs_nonneg d) (npInterp_mem (convex_Ici 0) x0 f0 rest hc x)

/-- pixels outside the filter curve get weight 0: filter_thru passes neither `left` nor `right` to `np.interp`,
so they get `|ld|·fp[0]` / `|ld|·fp[-1]` - zero exactly when the curve starts and ends at zero response
(the harness checks that of the five files) -/
theorem weights_zero_outside (ld : List K) (x0 f0 : K) (rest : List (K × K)) (w : List K)
    (h0 : f0 = 0) (hl : (((x0, f0) :: rest).getLast (List.cons_ne_nil _ _)).2 = 0)
    (hw : ∀ x ∈ w, x < x0 ∨ ∀ q ∈ (x0, f0) :: rest, q.1 ≤ x) : ∀ v ∈ weightsOf ld x0 f0 rest w, v = 0 := by
  unfold weightsOf
  apply zipWith_mem_imp
  intro d x hx
  rcases hw x hx with h | h
  · rw [npInterp_left x0 f0 rest x h, h0, mul_zero]
  · rw [npInterp_right x0 f0 rest x h, hl, mul_zero]

/-- a trace whose (air or vacuum) wavelengths all lie outside the curve gives
exactly 0 in that band, whatever the flux, the mask and the fitted `d log λ` -/
theorem bandflux_no_overlap (ld : List K) (x0 f0 : K) (rest : List (K × K)) (w : List K) (mask : Option (List Bool))
    (f : List K) (h1 : ld.length = w.length) (h2 : f.length = w.length)
    (h0 : f0 = 0) (hl : (((x0, f0) :: rest).getLast (List.cons_ne_nil _ _)).2 = 0)
    (hw : ∀ x ∈ w, x < x0 ∨ ∀ q ∈ (x0, f0) :: rest, q.1 ≤ x) :
    bandFlux ld ((x0, f0) :: rest) w mask f = .ok 0 := by
  rw [bandFlux_ok ld x0 f0 rest w mask f h1 h2, filterMean_eq,
    dot_zero _ _ (weights_zero_outside ld x0 f0 rest w h0 hl hw)]
  simp

/-- between minimum and maximum for the weights the code computes, given a non-negative filter curve -/
theorem bandflux_between_min_max (lo hi : K) (ld : List K) (x0 f0 : K) (rest : List (K × K)) (w f : List K)
    (h1 : ld.length = w.length) (h2 : f.length = w.length) (hc : ∀ q ∈ (x0, f0) :: rest, 0 ≤ q.2)
    (hs : 0 < (weightsOf ld x0 f0 rest w).sum) (hf : ∀ x ∈ f, lo ≤ x ∧ x ≤ hi) :
    ∃ v, bandFlux ld ((x0, f0) :: rest) w none f = .ok v ∧ lo ≤ v ∧ v ≤ hi := by
  refine ⟨_, bandFlux_ok ld x0 f0 rest w none f h1 h2, ?_⟩
  exact filter_between_min_max lo hi _ f (by rw [weightsOf_length h1, h2])
    (weights_nonneg ld x0 f0 rest w hc) hs hf

/-- the same with a mask: bounds of the unmasked flux values -/
theorem bandflux_between_min_max_masked (lo hi : K) (ld : List K) (x0 f0 : K) (rest : List (K × K)) (w f : List K)
    (m : List Bool) (hm : m.length = f.length) (hg : false ∈ m)
    (h1 : ld.length = w.length) (h2 : f.length = w.length) (hc : ∀ q ∈ (x0, f0) :: rest, 0 ≤ q.2)
    (hs : 0 < (weightsOf ld x0 f0 rest w).sum) (hf : ∀ p ∈ goodsFrom 0 m f, lo ≤ p.2 ∧ p.2 ≤ hi) :
    ∃ v, bandFlux ld ((x0, f0) :: rest) w (some m) f = .ok v ∧ lo ≤ v ∧ v ≤ hi := by
  refine ⟨_, bandFlux_ok ld x0 f0 rest w (some m) f h1 h2, ?_⟩
  exact filter_between_min_max_masked lo hi m _ f hm (by rw [weightsOf_length h1, h2])
    hg (weights_nonneg ld x0 f0 rest w hc) hs hf

/-- a constant spectrum gives the constant in every overlapping band, for the weights the code computes -/
theorem bandflux_const (c : K) (ld : List K) (x0 f0 : K) (rest : List (K × K)) (w : List K)
    (h1 : ld.length = w.length) (hs : 0 < (weightsOf ld x0 f0 rest w).sum) :
    bandFlux ld ((x0, f0) :: rest) w none (List.replicate w.length c) = .ok c := by
  rw [bandFlux_ok ld x0 f0 rest w none _ h1 (by simp)]
  have := filter_const c (weightsOf ld x0 f0 rest w) hs
  rw [weightsOf_length h1] at this
  simp only [this]

/-- the band mean does not depend on the order in which the pixels are stored (a statement about sums) -/
theorem filter_reverse_invariant (r f : List K) (h : f.length = r.length) :
    filterMean r.reverse f.reverse = filterMean r f := by
  rw [filterMean_eq, filterMean_eq, ← List.reverse_zipWith h, List.sum_reverse, List.sum_reverse]

/-- a spectrum stored red-to-blue (wavelengths, flux and the fitted `|d log λ|` reversed along the pixel axis)
gives the same band flux.  NB: the *real* fit of the reversed solution is the fit of the backward instead of the
forward differences, i.e. `ld` shifted by one pixel - equal for a log-linear solution only. -/
theorem bandflux_reverse_invariant (ld : List K) (curve : List (K × K)) (w f : List K)
    (h1 : ld.length = w.length) (h2 : f.length = w.length) :
    bandFlux ld.reverse curve w.reverse none f.reverse = bandFlux ld curve w none f := by
  cases curve with
  | nil => rfl
  | cons q rest =>
    obtain ⟨x0, f0⟩ := q
    rw [bandFlux_ok ld x0 f0 rest w none f h1 h2,
      bandFlux_ok ld.reverse x0 f0 rest w.reverse none f.reverse (by simp [h1]) (by simp [h2]),
      weightsOf_reverse ld x0 f0 rest w h1]
    simp only []  -- evaluates the `match` on the mask that `bandFlux_ok` leaves
    rw [filter_reverse_invariant _ f (by rw [weightsOf_length h1, h2])]

/-- the mask interpolation commutes with reversing the pixel order (linear interpolation between the
neighbouring unmasked pixels and constant ends are symmetric) -/
theorem maskInterp_reverse_invariant (m : List Bool) (y : List K) (h : m.length = y.length) :
    maskInterp m.reverse y.reverse = (maskInterp m y).reverse := by
  have hg := goodsFrom_reverse m y h
  by_cases hG : goodsFrom 0 m y = []
  · rw [maskInterp_all_bad m y hG, maskInterp_all_bad _ _ (by rw [hg, hG]; rfl)]
  · rw [maskInterp_eq_fill m y h hG,
      maskInterp_eq_fill _ _ (by simp [h]) (by rw [hg]; simpa [mirror] using hG), hg]
    exact fillFrom_reverse _ _ m y h fun t ht =>
      interpAt_mirror (m.length - 1) t (by omega) _ (goodsFrom_sorted 0 m y)
        fun r hr => by have := (goodsFrom_idx 0 m y r hr).2; omega

/-- the same with a mask, reversed too -/
theorem bandflux_reverse_invariant_masked (ld : List K) (curve : List (K × K)) (w f : List K) (m : List Bool)
    (hm : m.length = f.length) (h1 : ld.length = w.length) (h2 : f.length = w.length) :
    bandFlux ld.reverse curve w.reverse (some m.reverse) f.reverse = bandFlux ld curve w (some m) f := by
  cases curve with
  | nil => rfl
  | cons q rest =>
    obtain ⟨x0, f0⟩ := q
    rw [bandFlux_ok ld x0 f0 rest w (some m) f h1 h2,
      bandFlux_ok ld.reverse x0 f0 rest w.reverse (some m.reverse) f.reverse (by simp [h1]) (by simp [h2]),
      weightsOf_reverse ld x0 f0 rest w h1]
    simp only []  -- as in `bandflux_reverse_invariant`
    rw [maskInterp_reverse_invariant m f hm,
      filter_reverse_invariant _ _ (by rw [maskInterp_length m f hm, weightsOf_length h1, h2])]

/-! ## filter_thru end to end: the trace-set fit inside the model -/

/-- whenever `filter_thru` end to end (the cubic Legendre trace-set fit of `d log10 λ` computed by the C13
model) returns, entry `[t][b]` is `bandFlux` of row `t` of the fitted image and curve `b` - so every
`filter_*` / `bandflux_*` theorem applies to the whole function -/
theorem e2e_is_bandFlux (log10 : K → K) (solve : Array (Array K) → Array K → R (Array K)) (toair : Bool)
    (curves : List (List (K × K))) (wave : List (List K)) (masks : Option (List (List Bool)))
    (flux res : List (List K)) (h : filterThruE2E log10 solve toair curves wave masks flux = .ok res) :
    ∃ lds ms, fittedImg log10 solve (flux.headD []).length (toairImg toair wave) = .ok lds ∧
      maskRows flux.length masks = .ok ms ∧
      filterThru toair lds curves wave masks flux = .ok res ∧
      ∀ (t : ℕ) (row : List K), res[t]? = some row → ∀ (b : ℕ) (v : K), row[b]? = some v →
        ∃ ld w m f c, lds[t]? = some ld ∧ (toairImg toair wave)[t]? = some w ∧ ms[t]? = some m ∧
          flux[t]? = some f ∧ curves[b]? = some c ∧ bandFlux ld c w m f = .ok v := by
  unfold filterThruE2E at h
  obtain ⟨lds, h1, h2⟩ := bind_ok h
  have h2' := h2
  unfold filterThru at h2'
  obtain ⟨ms, hms, h3⟩ := bind_ok h2'
  refine ⟨lds, ms, h1, hms, h2, ?_⟩
  intro t row ht b v hb
  obtain ⟨ld, w, m, f, e1, e2, e3, e4, hrow⟩ := filterRows_entry curves lds _ ms flux res h3 t row ht
  obtain ⟨c, e5, hband⟩ := filterThruRow_entry ld curves w m f row hrow b v hb
  exact ⟨ld, w, m, f, c, e1, e2, e3, e4, e5, hband⟩

/-- a failure of the fit is the failure of the function (nothing is defaulted) -/
theorem e2e_fit_error (log10 : K → K) (solve : Array (Array K) → Array K → R (Array K)) (toair : Bool)
    (curves : List (List (K × K))) (wave : List (List K)) (masks : Option (List (List Bool)))
    (flux : List (List K)) (e : String)
    (h : fittedImg log10 solve (flux.headD []).length (toairImg toair wave) = .error e) :
    filterThruE2E log10 solve toair curves wave masks flux = .error e := by
  unfold filterThruE2E
  rw [h]; rfl

/-- the pixel differences `diffy` of a log-linear solution are the constant `c1` -/
theorem loglinear_diffy (log10 : K → K) (c0 c1 : K) (w : List K)
    (h : ∀ i (hi : i < w.length), log10 w[i] = c0 + c1 * (i : K)) :
    logDiffY log10 w = List.replicate (w.length - 1) c1 := by
  unfold logDiffY
  have := zipWith_tail_affine c0 c1 (w.map log10) (by
    intro i hi
    simp only [List.length_map] at hi
    simp only [List.getElem_map]
    exact h i hi)
  simpa using this

/-- closed form for a constant fitted pixel size (what the fit returns for a log-linear solution):
`Σ resp(λ_i)·f_i / Σ resp(λ_i)`, `resp = np.interp(·, curve)` - independent of the magnitude and the sign
of the pixel size (ascending or descending solution) -/
theorem bandflux_loglinear_closed (c1 x0 f0 : K) (rest : List (K × K)) (w : List K) (mask : Option (List Bool))
    (f : List K) (hc : c1 ≠ 0) (h2 : f.length = w.length) (hs : 0 < (w.map (npInterp x0 f0 rest)).sum) :
    bandFlux (List.replicate w.length c1) ((x0, f0) :: rest) w mask f
      = .ok ((List.zipWith (· * ·) (match mask with | none => f | some m => maskInterp m f)
               (w.map (npInterp x0 f0 rest))).sum / (w.map (npInterp x0 f0 rest)).sum) := by
  rw [bandFlux_ok _ x0 f0 rest w mask f (by simp) h2, weightsOf_const,
    filterMean_scale _ (abs_pos.mpr hc) _ _ hs]

/-- for a log-linear wavelength solution the image
`traceset2xy(xy2traceset(diffx, diffy, ncoeff=4, xmin=0, xmax=nx-1))[1]` the model computes is the constant
`c1 t` on trace `t`.  `solve` is trusted by its contract; that the 4×4 Legendre normal matrix on ≥ 4 equally
spaced pixels is positive definite (`fitPD`) is proved, not assumed. -/
theorem fit_loglinear (log10 : K → K) (solve : Array (Array K) → Array K → R (Array K))
    (hsolve : C13.SolveContract solve) (nx : ℕ) (hnx : 5 ≤ nx) (nw : List (List K)) (c0 c1 : ℕ → K)
    (hlen : ∀ t (ht : t < nw.length), nw[t].length = nx)
    (hlog : ∀ t (ht : t < nw.length) i (hi : i < nw[t].length), log10 (nw[t][i]) = c0 t + c1 t * (i : K))
    (lds : List (List K)) (h : fittedImg log10 solve nx nw = .ok lds) :
    lds.length = nw.length ∧ ∀ t (ht : t < lds.length), lds[t] = List.replicate nx (c1 t) :=
  fittedImg_const log10 solve hsolve nx (by omega) nw c1
    (fun t ht => by rw [loglinear_diffy log10 (c0 t) (c1 t) nw[t] (hlog t ht), hlen t ht])
    (fitPD nx hnx) lds h

/-- the closed form of `bandflux_loglinear_closed` for filter_thru end to end (λ log-linear after the optional
`toair` conversion), in every band whose curve the wavelengths overlap.  Nothing is supplied from outside the
model but `log10` and the linear solver with its contract. -/
theorem e2e_loglinear_closed (log10 : K → K) (solve : Array (Array K) → Array K → R (Array K))
    (hsolve : C13.SolveContract solve) (toair : Bool) (curves : List (List (K × K))) (wave : List (List K))
    (masks : Option (List (List Bool))) (flux res : List (List K)) (nx : ℕ) (hnx : 5 ≤ nx)
    (c0 c1 : ℕ → K) (hc1 : ∀ t, c1 t ≠ 0) (hnxf : (flux.headD []).length = nx)
    (hlen : ∀ t (ht : t < (toairImg toair wave).length), (toairImg toair wave)[t].length = nx)
    (hlog : ∀ t (ht : t < (toairImg toair wave).length) i (hi : i < (toairImg toair wave)[t].length),
      log10 ((toairImg toair wave)[t][i]) = c0 t + c1 t * (i : K))
    (h : filterThruE2E log10 solve toair curves wave masks flux = .ok res) :
    ∀ (t : ℕ) (row : List K), res[t]? = some row → ∀ (b : ℕ) (v : K), row[b]? = some v →
      ∃ w m f c, (toairImg toair wave)[t]? = some w ∧ flux[t]? = some f ∧ curves[b]? = some c ∧
        bandFlux (List.replicate w.length (c1 t)) c w m f = .ok v ∧
        ∀ x0 f0 rest, c = (x0, f0) :: rest → 0 < (w.map (npInterp x0 f0 rest)).sum →
          v = (List.zipWith (· * ·) (match m with | none => f | some mm => maskInterp mm f)
                (w.map (npInterp x0 f0 rest))).sum / (w.map (npInterp x0 f0 rest)).sum := by
  obtain ⟨lds, ms, h1, -, -, hent⟩ := e2e_is_bandFlux log10 solve toair curves wave masks flux res h
  rw [hnxf] at h1
  obtain ⟨-, hrows⟩ := fit_loglinear log10 solve hsolve nx hnx _ c0 c1 hlen hlog lds h1
  intro t row ht b v hb
  obtain ⟨ld, w, m, f, c, e1, e2, -, e4, e5, hband⟩ := hent t row ht b v hb
  have hld : ld = List.replicate nx (c1 t) := by
    obtain ⟨ht', rfl⟩ := List.getElem?_eq_some_iff.mp e1
    exact hrows t ht'
  have hwl : w.length = nx := by
    obtain ⟨ht', rfl⟩ := List.getElem?_eq_some_iff.mp e2
    exact hlen t ht'
  rw [hld, ← hwl] at hband
  refine ⟨w, m, f, c, e2, e4, e5, hband, ?_⟩
  intro x0 f0 rest hc hs
  subst hc
  by_cases hfl : f.length = w.length
  · rw [bandflux_loglinear_closed (c1 t) x0 f0 rest w m f (hc1 t) hfl hs] at hband
    exact (Except.ok.inj hband).symm
  · exfalso
    unfold bandFlux at hband
    obtain ⟨r, -, hb2⟩ := bind_ok hband
    rw [if_neg hfl] at hb2
    cases hb2

/-- numpy's pairwise summation gives the same band fluxes as the left-to-right sums of `filterMean` in exact
arithmetic; the pairwise model is the one the harness compares with the real function to the last bits -/
theorem pairwise_same_value (log10 : K → K) (solve : Array (Array K) → Array K → R (Array K)) (toair : Bool)
    (lds : List (List K)) (curves : List (List (K × K))) (wave : List (List K))
    (masks : Option (List (List Bool))) (flux : List (List K)) :
    filterThruG filterMeanPw toair lds curves wave masks flux = filterThru toair lds curves wave masks flux ∧
    filterThruE2EPw log10 solve toair curves wave masks flux
      = filterThruE2E log10 solve toair curves wave masks flux := by
  refine ⟨filterThruG_filterMeanPw toair lds curves wave masks flux, ?_⟩
  unfold filterThruE2EPw filterThruE2E
  simp only [filterThruG_filterMeanPw]

/-- the argument handling in front: another filter prefix and a call with neither `waveimg` nor `wset` are refused
(`ValueError`); a wavelength image wins over a trace set; a trace set alone is
the image `10 ** traceset2xy(wset)[1]`, and a trace set that cannot be evaluated fails the call -/
theorem top_dispatch (log10 pow10 : K → K) (solve : Array (Array K) → Array K → R (Array K)) (toair : Bool)
    (curves : List (List (K × K))) (masks : Option (List (List Bool))) (flux : List (List K)) :
    (∀ wave wset, filterThruTop log10 pow10 solve false toair curves wave wset masks flux = .error "ValueError") ∧
    filterThruTop log10 pow10 solve true toair curves none none masks flux = .error "ValueError" ∧
    (∀ w wset, filterThruTop log10 pow10 solve true toair curves (some w) wset masks flux
      = filterThruE2E log10 solve toair curves w masks flux) ∧
    (∀ (t : TSet K) p, t.xy none false = .ok p →
      filterThruTop log10 pow10 solve true toair curves none (some t) masks flux
        = filterThruE2E log10 solve toair curves (p.2.toList.map (fun r => r.toList.map pow10)) masks flux) ∧
    (∀ (t : TSet K) e, t.xy none false = .error e →
      filterThruTop log10 pow10 solve true toair curves none (some t) masks flux = .error e) := by
  refine ⟨fun _ _ => rfl, rfl, fun _ _ => rfl, ?_, ?_⟩
  · intro t p h
    simp only [filterThruTop, Bool.not_true, Bool.false_eq_true, if_false, h]
    rfl
  · intro t e h
    simp only [filterThruTop, Bool.not_true, Bool.false_eq_true, if_false, h]
    rfl

end

section
attribute [local instance] fieldScalar
attribute [local instance 5] Scalar.instOfNat Scalar.instOfScientific

/-- 5000 Å is in the domain of both round trips -/
example : (2000 : ℝ) ≤ 5000 ∧ (2000 : ℝ) ≤ vactoair1 (5000 : ℝ) := by
  refine ⟨by norm_num, ?_⟩
  have h : (2000 : ℝ) ≤ 5000 := by norm_num
  obtain ⟨f0, f1⟩ := fact_bounds h
  rw [vactoair1_eq, if_neg (by norm_num), le_div_iff₀ (by linarith)]
  linarith

/-- a `pow10`/`log10` pair with the contract of `ab_consistent` exists (ℝ, `10^x` and `log₁₀`) -/
example : ∃ pow10 log10 : ℝ → ℝ, (∀ x, log10 (pow10 x) = x) ∧
    (∀ x y, 0 < x → 0 < y → log10 (x * y) = log10 x + log10 y) ∧ (∀ x, 0 < pow10 x) := by
  have hL : Real.log 10 ≠ 0 := ne_of_gt (Real.log_pos (by norm_num))
  refine ⟨fun x => Real.exp (x * Real.log 10), fun y => Real.log y / Real.log 10, ?_, ?_, ?_⟩
  · intro x; simp only [Real.log_exp]; field_simp
  · intro x y hx hy; simp only [Real.log_mul (ne_of_gt hx) (ne_of_gt hy)]; ring
  · intro x; exact Real.exp_pos _

/-- the hypotheses of the `filter_*` theorems are met: weights that overlap the band, a mask with good and bad pixels -/
example : (0 : ℝ) < ([1, 2, 0] : List ℝ).sum ∧ (∀ w ∈ ([1, 2, 0] : List ℝ), 0 ≤ w) ∧
    (∀ x ∈ ([1, 7, 3] : List ℝ), (1 : ℝ) ≤ x ∧ x ≤ 7) ∧
    AgreeUnmasked [false, true, false] ([1, 5, 3] : List ℝ) [1, 7, 3] ∧ false ∈ [false, true, false] := by
  refine ⟨by norm_num, ?_, ?_, .good 1 (.bad 5 7 (.good 3 .nil)), by simp⟩
  · simp only [List.forall_mem_cons, List.not_mem_nil, IsEmpty.forall_iff, implies_true, and_true]
    norm_num
  · simp only [List.forall_mem_cons, List.not_mem_nil, IsEmpty.forall_iff, implies_true, and_true]
    norm_num

/-- the unmasked pixels of a masked row, as the masked theorems see them -/
example : goodsFrom 0 [false, true, false] ([1, 5, 3] : List ℝ) = [(0, 1), (2, 3)] := by
  rfl

/-- vactoair is not increasing across the 2000 Å guard (the reason `vactoair_strict_mono_above` starts there) -/
example : vactoair1 (2000 : ℝ) < vactoair1 (19999 / 10 : ℝ) := by
  rw [(C19.below_2000_identity (19999 / 10 : ℝ) (by norm_num)).2, vactoair1_eq, if_neg (by norm_num)]
  have h : (1 : ℝ) + 3 / 10000 ≤ fact (2000 : ℝ) := by
    show _ ≤ ciddor (sigma2 (2000 : ℝ))
    rw [sigma2_eq, ciddor_eq]; norm_num
  rw [div_lt_iff₀ (by linarith)]
  linarith

/-- a triangular curve that starts and ends at zero response, a wavelength row that crosses it, a fitted
`d log λ` row of mixed sign: the weight sum is positive (the hypothesis of `bandflux_between_min_max` /
`bandflux_const`), and the hypothesis of `weights_nonneg` holds -/
example : weightsOf ([-1, 1, 1, -1, 1] : List ℝ) 1 0 [(2, 1), (3, 0)] [1 / 2, 3 / 2, 2, 5 / 2, 7 / 2]
      = [0, 1 / 2, 1, 1 / 2, 0] ∧
    (∀ q ∈ ([(1, 0), (2, 1), (3, 0)] : List (ℝ × ℝ)), 0 ≤ q.2) := by
  constructor
  · simp only [weightsOf, List.zipWith_cons_cons, List.zipWith_nil_right, absS_eq, npInterp, interpGo, scalar_beq]
    norm_num
  · simp only [List.forall_mem_cons, List.not_mem_nil, IsEmpty.forall_iff, implies_true, and_true]
    norm_num

/-- a row entirely outside that curve meets the hypothesis of `weights_zero_outside` / `bandflux_no_overlap` -/
example : ∀ x ∈ ([1 / 2, 7 / 2, 4] : List ℝ), x < 1 ∨ ∀ q ∈ ([(1, 0), (2, 1), (3, 0)] : List (ℝ × ℝ)), q.1 ≤ x := by
  simp only [List.forall_mem_cons, List.not_mem_nil, IsEmpty.forall_iff, implies_true, and_true]
  norm_num

/-- the log-linear hypotheses of `fit_loglinear` / `e2e_loglinear_closed` are met by a 5-pixel row (`log10 := id`) -/
example : (∀ i (hi : i < ([0, 1, 2, 3, 4] : List ℝ).length),
      (fun x : ℝ => x) ([0, 1, 2, 3, 4] : List ℝ)[i] = 0 + 1 * (i : ℝ)) ∧ (1 : ℝ) ≠ 0 ∧
    ([0, 1, 2, 3, 4] : List ℝ).length = 5 ∧ FitPD (K := ℝ) 5 := by
  refine ⟨?_, one_ne_zero, rfl, fitPD 5 (le_refl _)⟩
  intro i hi
  have hi' : i < 5 := hi
  have : i = 0 ∨ i = 1 ∨ i = 2 ∨ i = 3 ∨ i = 4 := by omega
  rcases this with rfl | rfl | rfl | rfl | rfl <;>
    simp only [List.getElem_cons_zero, List.getElem_cons_succ] <;> push_cast <;> ring

end
end PydlVerif.C19
