/-
C10 property theorems: `iterfit` (pydl/pydlutils/bspline.py) is order-independent and its mask honours weights and
rejection limits.  Models: PydlVerif/Model/IterFit.lean (`iterfit`: invvar given, x2 = None, no requiren/oldset, the branch
"at most one good point left" refused; `iterfitFull`: all of these) and Model/IterFit2.lean (`iterfit2`: with `x2`), on the
C08 / C09 / C17 models.
-/
import PydlVerif.Model.IterFit
import PydlVerif.Model.IterFit2
import PydlVerif.Props.C09
import PydlVerif.Props.C17
import PydlVerif.Lemmas.IterFit
import PydlVerif.Lemmas.Loops
import PydlVerif.Lemmas.IterPass
import Mathlib.Data.List.Sort
namespace PydlVerif.C10
open PydlVerif PydlVerif.BSpline PydlVerif.BSplineFit PydlVerif.IterFit

section scalar
variable {α : Type} [Scalar α]

/-- loop_is_documented_procedure, unfolding: one turn of `while (error != 0 or not qdone) and iiter <= maxiter`;
a fit status of -2 ends everything -/
theorem iterLoop_succ (K : Kernels α) (p : Params α) (xw yw iw : List α) (fuel : ℕ) (s : St α) :
    iterLoop K p xw yw iw (fuel + 1) s =
      if (s.error ≠ 0 ∨ s.qdone = false) ∧ s.iiter ≤ p.maxiter then
        (iterBody K p xw yw iw s >>= fun o => match o with
          | .failed b => pure (.failed b)
          | .done s' => iterLoop K p xw yw iw fuel s')
      else pure (.done s) := by
  rfl

/-- with no pass left (the `while` is bounded by `maxiter + 1` passes) the loop returns the state it has -/
theorem iterLoop_zero (K : Kernels α) (p : Params α) (xw yw iw : List α) (s : St α) :
    iterLoop K p xw yw iw 0 s = pure (.done s) := rfl

/-- loop_is_documented_procedure, body: a pass that does not give up fits the spline with the weights `invvar * mask`, counts the
pass, and then, on status 0, takes mask and `qdone` from `djs_reject(ywork, yfit, inmask = outmask = mask, invvar = invwork, lower,
upper)`; on status -1 (breakpoints dropped) it keeps both (the next pass refits on the reduced breakpoints) -/
theorem iterBody_spec (K : Kernels α) (p : Params α) (xw yw iw : List α) (s s' : St α)
    (h : iterBody K p xw yw iw s = .ok (.done s')) :
    ∃ out, fit K s.sset xw yw (maskedWeights iw s.maskwork) (List.range xw.length) = .ok out ∧
      s'.iiter = s.iiter + 1 ∧ s'.sset = out.obj ∧ s'.error = out.status ∧ s'.yfit = out.yfit ∧ out.status ≠ -2 ∧
      ((out.status = 0 ∧ Reject.djsReject K.sqrt (rejectOpts p) yw (some out.yfit) (some s.maskwork) (some s.maskwork) iw
          = .ok (s'.maskwork, s'.qdone)) ∨
       (out.status ≠ 0 ∧ s'.maskwork = s.maskwork ∧ s'.qdone = s.qdone)) := by
  rw [IterPass.iterBody_eq] at h
  obtain ⟨⟨o, z⟩, ht, ho⟩ := of_map_eq_ok (ite_error_ok.1 h).2
  obtain ⟨_, out, hf, ⟨_, rfl⟩ | ⟨h2, m, q, hr, rfl⟩⟩ := IterPass.passTail_ok K p xw yw iw s _ o z ht
  · cases ho
  · cases ho
    refine ⟨out, hf, rfl, rfl, rfl, rfl, h2, ?_⟩
    rcases hr with ⟨h0, rfl, rfl⟩ | ⟨h0, hr⟩
    · exact Or.inr ⟨h0, rfl, rfl⟩
    · exact Or.inl ⟨h0, hr⟩

/-- loop_is_documented_procedure, termination: when the loop returns a state, either the last fit succeeded and the
rejection left the mask unchanged (`error = 0`, `qdone`), or `maxiter + 1` passes were made -/
theorem iterLoop_stops (K : Kernels α) (p : Params α) (xw yw iw : List α) :
    ∀ (fuel : ℕ) (s s' : St α), s.iiter + fuel = p.maxiter + 1 → iterLoop K p xw yw iw fuel s = .ok (.done s') →
      ((s'.error = 0 ∧ s'.qdone = true) ∨ s'.iiter = p.maxiter + 1) := by
  intro fuel
  induction fuel with
  | zero =>
    intro s s' hf h
    rw [iterLoop_zero] at h
    cases h
    exact Or.inr (by omega)
  | succ f ih =>
    intro s s' hf h
    rw [iterLoop_succ] at h
    by_cases hc : (s.error ≠ 0 ∨ s.qdone = false) ∧ s.iiter ≤ p.maxiter
    · rw [if_pos hc] at h
      obtain ⟨o, hb, h⟩ := bind_ok h
      cases o with
      | failed b => cases h
      | done s1 =>
        obtain ⟨_, _, hi, _⟩ := iterBody_spec K p xw yw iw s s1 hb
        exact ih s1 s' (by omega) h
    · rw [if_neg hc] at h
      cases h
      by_cases h1 : s.iiter ≤ p.maxiter
      · left
        have : ¬ (s.error ≠ 0 ∨ s.qdone = false) := fun h2 => hc ⟨h2, h1⟩
        rw [not_or, not_not, Bool.not_eq_false] at this
        exact this
      · exact Or.inr (by omega)

/-- with `maxiter = 0` the loop is ONE pass: one fit with the weights `invvar * (invvar > 0)`, then a pass of `djs_reject` that
still updates the returned mask; no refit follows.  (That this fit is the weighted least-squares optimum is C09 `fit_optimum`,
not applied here.) -/
theorem maxiter_zero (K : Kernels α) (p : Params α) (xw yw iw : List α) (s0 : St α) (hm : p.maxiter = 0)
    (h0 : s0.iiter = 0) (hq : s0.qdone = false) :
    iterLoop K p xw yw iw (p.maxiter + 1) s0 =
      (iterBody K p xw yw iw s0 >>= fun o => match o with
        | .failed b => pure (.failed b)
        | .done s' => pure (.done s')) := by
  rw [hm, iterLoop_succ, if_pos ⟨Or.inr hq, by omega⟩]
  rfl

/-! ## the full `iterfit`: requiren, oldset, groupbadpix, the branch "at most one good point left" -/

/-- how the full model calls `djs_reject`: with `maxrej=None` the group keywords are not read - it IS C17's `djsReject` -/
theorem rejectCall_eq (sqrt : α → α) (p : Params α) (gbp : Bool) (yw yfit : List α) (mask : List Bool) (iw : List α) :
    rejectCall sqrt p gbp yw yfit mask iw =
      Reject.djsReject sqrt (rejectOpts p) yw (some yfit) (some mask) (some mask) iw := rfl

/-- `bspline.fit` never changes the breakpoints or the order of the object, only its mask and its coefficients -/
theorem fit_keeps (K : Kernels α) (b : BS α) (xs ys ws : List α) (perm : List ℕ) (out : FitOut α)
    (h : fit K b xs ys ws perm = .ok out) : out.obj.breakpoints = b.breakpoints ∧ out.obj.nord = b.nord :=
  ⟨(C09.fit_obj_fields K b xs ys ws perm out h).2, (C09.fit_obj_fields K b xs ys ws perm out h).1⟩

/-- what one pass of the full loop does to the mask: nothing, or one `djs_reject(inmask = outmask = mask)` -/
theorem iterBodyFull_spec (K : Kernels α) (p : Params α) (rq : Option ℕ) (gbp : Bool) (xw yw iw : List α) (s s' : St α) (z : Bool)
    (h : iterBodyFull K p rq gbp xw yw iw s = .ok (.done s', z)) :
    s'.maskwork = s.maskwork ∨
    ∃ yf, Reject.djsReject K.sqrt (rejectOpts p) yw (some yf) (some s.maskwork) (some s.maskwork) iw = .ok (s'.maskwork, s'.qdone) := by
  have hrej : ∀ {yf run m q}, IterPass.Rejected K p yw iw s yf run m q → m = s.maskwork ∨ ∃ yf,
      Reject.djsReject K.sqrt (rejectOpts p) yw (some yf) (some s.maskwork) (some s.maskwork) iw = .ok (m, q) :=
    fun hr => hr.elim (fun e => Or.inl e.2.1) (fun e => Or.inr ⟨_, e.2⟩)
  rw [IterPass.iterBodyFull_eq] at h
  rcases IterPass.passG_ok _ K p rq xw yw iw s _ z h with ⟨_, m, q, hr, ho⟩ | ⟨_, b, out, _, _, ⟨_, ho⟩ | ⟨_, m, q, hr, ho⟩⟩
  · cases ho; exact hrej hr
  · cases ho
  · cases ho; exact hrej hr

/-- masks only shrink (one pass of the full loop: requiren and the degenerate branch included) -/
theorem iterBodyFull_mask_le (K : Kernels α) (p : Params α) (rq : Option ℕ) (gbp : Bool) (xw yw iw : List α) (s s' : St α) (z : Bool)
    (h : iterBodyFull K p rq gbp xw yw iw s = .ok (.done s', z)) (hlen : s.maskwork.length = yw.length) :
    s'.maskwork.length = yw.length ∧ ∀ i : ℕ, s'.maskwork[i]? = some true → s.maskwork[i]? = some true :=
  maskStep_le _ _ yw iw _ _ _ hlen (iterBodyFull_spec K p rq gbp xw yw iw s s' z h)

/-- masks only shrink (the whole full loop) -/
theorem iterLoopFull_mask_le (K : Kernels α) (p : Params α) (rq : Option ℕ) (gbp : Bool) (xw yw iw : List α) :
    ∀ (fuel : ℕ) (s s' : St α) (cz z : Bool), iterLoopFull K p rq gbp xw yw iw fuel s cz = .ok (.done s', z) →
      s.maskwork.length = yw.length →
      s'.maskwork.length = yw.length ∧ ∀ i : ℕ, s'.maskwork[i]? = some true → s.maskwork[i]? = some true := by
  intro fuel
  induction fuel with
  | zero => intro s s' cz z h hlen; unfold iterLoopFull at h; cases h; exact ⟨hlen, fun i hm => hm⟩
  | succ f ih =>
    intro s s' cz z h hlen
    unfold iterLoopFull at h
    split at h
    · obtain ⟨⟨o1, z1⟩, hb, h⟩ := bind_ok h
      cases o1 with
      | failed b => cases h
      | done s1 =>
        obtain ⟨hl1, h1⟩ := iterBodyFull_mask_le K p rq gbp xw yw iw s s1 z1 hb hlen
        obtain ⟨hl2, h2⟩ := ih s1 s' z1 z h hl1
        exact ⟨hl2, fun i hm => h1 i (h2 i hm)⟩
    · cases h; exact ⟨hlen, fun i hm => hm⟩

/-- the final working mask of the full core is below the initial one, `invvar > 0` (whatever `requiren`, `oldset`, `groupbadpix`) -/
theorem iterCoreFull_mask (K : Kernels α) (r32 : α → α) (p : Params α) (o : FullOpts α) (xw yw iw : List α) (sset : BS α) (cz : Bool)
    (m : List Bool) (hl : iw.length = yw.length) (h : iterCoreFull K r32 p o xw yw iw = .ok (sset, cz, some m)) :
    m.length = yw.length ∧ ∀ j : ℕ, m[j]? = some true → (iw.map (fun v => decide (0 < v)))[j]? = some true := by
  unfold iterCoreFull at h
  obtain ⟨⟨sset0, few⟩, _, h⟩ := bind_ok h
  simp only [] at h
  split at h
  · cases h
  obtain ⟨⟨o1, cz'⟩, hloop, h⟩ := bind_ok h
  cases o1 with
  | failed b => cases h
  | done s =>
    cases h
    exact iterLoopFull_mask_le K p _ _ xw yw iw _ _ _ _ _ hloop (by rw [List.length_map, hl])

/-- without `requiren` a pass of the full loop is the pass of `iterBody` wherever `iterBody` is defined (it refuses the degenerate branch) -/
theorem iterBodyFull_none (K : Kernels α) (p : Params α) (gbp : Bool) (xw yw iw : List α) (s : St α) (o : Outcome α)
    (h : iterBody K p xw yw iw s = .ok o) : iterBodyFull K p none gbp xw yw iw s = .ok (o, false) := by
  rw [IterPass.iterBody_eq] at h
  obtain ⟨hd, h⟩ := ite_error_ok.1 h
  obtain ⟨⟨o', z⟩, ht, rfl⟩ := of_map_eq_ok h
  obtain rfl := (IterPass.passTail_ok K p xw yw iw s _ o' z ht).1
  rw [IterPass.iterBodyFull_eq, IterPass.passG, if_neg hd]
  exact ht

/-- without `requiren` the loop of the full call returns what the loop of the first model returns, wherever that one answers -/
theorem iterLoopFull_none (K : Kernels α) (p : Params α) (gbp : Bool) (xw yw iw : List α) :
    ∀ (fuel : ℕ) (s : St α) (o : Outcome α), iterLoop K p xw yw iw fuel s = .ok o →
      iterLoopFull K p none gbp xw yw iw fuel s false = .ok (o, false) := by
  intro fuel
  induction fuel with
  | zero => intro s o h; rw [iterLoop_zero] at h; cases h; rfl
  | succ f ih =>
    intro s o h
    rw [iterLoop_succ] at h
    unfold iterLoopFull
    by_cases hc : (s.error ≠ 0 ∨ s.qdone = false) ∧ s.iiter ≤ p.maxiter
    · rw [if_pos hc] at h ⊢
      obtain ⟨o1, hb, h⟩ := bind_ok h
      rw [iterBodyFull_none K p gbp xw yw iw s o1 hb]
      cases o1 with
      | failed b => cases h; rfl
      | done s1 => exact ih s1 o h
    · rw [if_neg hc] at h ⊢; cases h; rfl

/-- without `requiren` and `oldset` everything `iterfit` does on the sorted arrays is the same in the full model as in the first, wherever the first answers -/
theorem iterCoreFull_none (K : Kernels α) (r32 : α → α) (p : Params α) (gbp : Bool) (xw yw iw : List α) (r : BS α × Option (List Bool))
    (h : iterCore K r32 p xw yw iw = .ok r) :
    iterCoreFull K r32 p { groupbadpix := gbp } xw yw iw = .ok (r.1, false, r.2) := by
  unfold iterCore at h
  obtain ⟨hany, h⟩ := ite_error_ok.1 h
  obtain ⟨knots, hk, h⟩ := bind_ok h
  unfold iterCoreFull initSset
  simp only [bind, Except.bind, pure, Except.pure, if_neg hany, hk]
  split at h
  · cases h; simp only [*, decide_true, if_true]
  · obtain ⟨o, hl, h⟩ := bind_ok h
    simp only [*, decide_false, Bool.false_eq_true, if_false, iterLoopFull_none K p gbp xw yw iw _ _ o hl]
    cases o <;> cases h <;> rfl

theorem getElem?_false_of_ne_true {m : List Bool} {j : ℕ} (hj : j < m.length) (h : m[j]? ≠ some true) : m[j]? = some false := by
  rw [List.getElem?_eq_getElem hj] at h ⊢
  cases hb : m[j] with
  | false => rfl
  | true => exact absurd (congrArg some hb) h

theorem outmaskOf_nonpositive (perm : List ℕ) (ivs : List α) (n : ℕ) (m : Option (List Bool)) (hperm : perm.Perm (List.range n))
    (hm : ∀ mw, m = some mw → mw.length = n ∧
      ∀ j : ℕ, mw[j]? = some true → ((perm.map (fun i => ivs.getD i 0)).map (fun v => decide (0 < v)))[j]? = some true) :
    outmaskOf n perm m = List.replicate n true ∨
      ((outmaskOf n perm m).length = n ∧ ∀ i, i < n → ¬ ((0 : α) < ivs.getD i 0) → (outmaskOf n perm m)[i]? = some false) := by
  cases m with
  | none => exact Or.inl rfl
  | some mw =>
    obtain ⟨hml, hmle⟩ := hm mw rfl
    subst hml
    have hplen := perm_length perm _ hperm
    refine Or.inr ⟨(C08.unsort_spec perm mw hperm).1, fun i hi hnp => ?_⟩
    obtain ⟨j, hj, hji⟩ := List.mem_iff_getElem.1 ((hperm.mem_iff).2 (List.mem_range.2 hi))
    have hu := (C08.unsort_spec perm mw hperm).2 j hj
    rw [hji] at hu
    show (unsort perm mw)[i]? = some false
    rw [hu]
    refine getElem?_false_of_ne_true (by omega) fun hb => hnp ?_
    have := hmle j hb
    simp only [List.getElem?_map, List.getElem?_eq_getElem hj, Option.map_some, hji] at this
    simpa using this

theorem iterfitFull_eq (K : Kernels α) (r32 : α → α) (p : Params α) (o : FullOpts α) (xs ys ivs : List α) (perm : List ℕ) :
    iterfitFull K r32 p o xs ys ivs perm =
      if ys.length ≠ xs.length then valueError else
      if ivs.length ≠ xs.length then valueError else
      if xs.length ≤ 1 then .error "Unmodelled" else
      (iterCoreFull K r32 p o (perm.map (fun i => xs.getD i 0)) (perm.map (fun i => ys.getD i 0))
        (perm.map (fun i => ivs.getD i 0))).map (fun v => ⟨v.1, v.2.1, outmaskOf xs.length perm v.2.2⟩) := by
  unfold iterfitFull
  simp only []
  congr 3
  refine bind_eq_map _ _ _ fun v => ?_
  obtain ⟨sset, cz, m⟩ := v
  cases m <;> rfl

theorem iterfit_eq (K : Kernels α) (r32 : α → α) (p : Params α) (xs ys ivs : List α) (perm : List ℕ) :
    iterfit K r32 p xs ys ivs perm =
      if ys.length ≠ xs.length then valueError else
      if ivs.length ≠ xs.length then valueError else
      if xs.length ≤ 1 then .error "Unmodelled" else
      (iterCore K r32 p (perm.map (fun i => xs.getD i 0)) (perm.map (fun i => ys.getD i 0))
        (perm.map (fun i => ivs.getD i 0))).map (fun v => (v.1, outmaskOf xs.length perm v.2)) := by
  unfold iterfit
  simp only []
  congr 3
  refine bind_eq_map _ _ _ fun v => ?_
  obtain ⟨sset, m⟩ := v
  cases m <;> rfl

/-- without `requiren` and `oldset` (any `groupbadpix`) the full model returns what `iterfit` returns wherever `iterfit` answers
(it refuses the branch "at most one good point left"): every theorem about `iterfit` is a theorem about the full function on these calls -/
theorem iterfitFull_eq_iterfit (K : Kernels α) (r32 : α → α) (p : Params α) (gbp : Bool) (xs ys ivs : List α) (perm : List ℕ)
    (r : BS α × List Bool) (h : iterfit K r32 p xs ys ivs perm = .ok r) :
    iterfitFull K r32 p { groupbadpix := gbp } xs ys ivs perm = .ok ⟨r.1, false, r.2⟩ := by
  rw [iterfit_eq] at h
  obtain ⟨h1, h⟩ := ite_error_ok.1 h
  obtain ⟨h2, h⟩ := ite_error_ok.1 h
  obtain ⟨h3, h⟩ := ite_error_ok.1 h
  obtain ⟨v, hc, rfl⟩ := of_map_eq_ok h
  rw [iterfitFull_eq, if_neg h1, if_neg h2, if_neg h3, iterCoreFull_none K r32 p gbp _ _ _ v hc]
  rfl

/-- `nonpositive_never_used` for the full call (any `requiren`, `oldset`, `groupbadpix`; the degenerate branch included) -/
theorem nonpositive_never_used_full (K : Kernels α) (r32 : α → α) (p : Params α) (o : FullOpts α) (xs ys ivs : List α) (perm : List ℕ)
    (out : FullOut α) (hperm : perm.Perm (List.range xs.length))
    (h : iterfitFull K r32 p o xs ys ivs perm = .ok out) :
    out.outmask = List.replicate xs.length true ∨
    (out.outmask.length = xs.length ∧ ∀ i, i < xs.length → ¬ ((0 : α) < ivs.getD i 0) → out.outmask[i]? = some false) := by
  rw [iterfitFull_eq] at h
  obtain ⟨_, h⟩ := ite_error_ok.1 h
  obtain ⟨_, h⟩ := ite_error_ok.1 h
  obtain ⟨_, h⟩ := ite_error_ok.1 h
  obtain ⟨⟨sset, cz, m⟩, hc, rfl⟩ := of_map_eq_ok h
  refine outmaskOf_nonpositive perm ivs xs.length m hperm fun mw hv => ?_
  subst hv
  obtain ⟨hml, hmle⟩ := iterCoreFull_mask K r32 p o _ _ _ sset cz mw (by rw [List.length_map, List.length_map]) hc
  exact ⟨by rw [hml, List.length_map, perm_length perm _ hperm], hmle⟩

/-! ## the first model is the full one without options: its mask theorems are read off the full ones -/

/-- masks only shrink (one pass of the first model) -/
theorem iterBody_mask_le (K : Kernels α) (p : Params α) (xw yw iw : List α) (s s' : St α)
    (h : iterBody K p xw yw iw s = .ok (.done s')) (hlen : s.maskwork.length = yw.length) :
    s'.maskwork.length = yw.length ∧ ∀ i : ℕ, s'.maskwork[i]? = some true → s.maskwork[i]? = some true :=
  iterBodyFull_mask_le K p none false xw yw iw s s' false (iterBodyFull_none K p false xw yw iw s _ h) hlen

/-- masks only shrink (the whole loop of the first model) -/
theorem iterLoop_mask_le (K : Kernels α) (p : Params α) (xw yw iw : List α) :
    ∀ (fuel : ℕ) (s s' : St α), iterLoop K p xw yw iw fuel s = .ok (.done s') → s.maskwork.length = yw.length →
      s'.maskwork.length = yw.length ∧ ∀ i : ℕ, s'.maskwork[i]? = some true → s.maskwork[i]? = some true :=
  fun fuel s s' h hlen =>
    iterLoopFull_mask_le K p none false xw yw iw fuel s s' false false (iterLoopFull_none K p false xw yw iw fuel s _ h) hlen

/-- the final working mask is below the initial one, `invvar > 0` -/
theorem iterCore_mask (K : Kernels α) (r32 : α → α) (p : Params α) (xw yw iw : List α) (sset : BS α) (m : List Bool)
    (hl : iw.length = yw.length) (h : iterCore K r32 p xw yw iw = .ok (sset, some m)) :
    m.length = yw.length ∧ ∀ j : ℕ, m[j]? = some true → (iw.map (fun v => decide (0 < v)))[j]? = some true :=
  iterCoreFull_mask K r32 p { groupbadpix := false } xw yw iw sset false m hl
    (iterCoreFull_none K r32 p false xw yw iw (sset, some m) h)

/-- unless `iterfit` gives up (fewer good points than `nord`, or a fit status -2: then it
returns the initial all-True mask), every point whose `invvar` is not positive is flagged False in the returned mask,
which is in the caller's order.  (That such a point has no influence on the fit: `masked_weight`.) -/
theorem nonpositive_never_used (K : Kernels α) (r32 : α → α) (p : Params α) (xs ys ivs : List α) (perm : List ℕ)
    (sset : BS α) (om : List Bool) (hperm : perm.Perm (List.range xs.length))
    (h : iterfit K r32 p xs ys ivs perm = .ok (sset, om)) :
    om = List.replicate xs.length true ∨
    (om.length = xs.length ∧ ∀ i, i < xs.length → ¬ ((0 : α) < ivs.getD i 0) → om[i]? = some false) :=
  nonpositive_never_used_full K r32 p { groupbadpix := false } xs ys ivs perm ⟨sset, false, om⟩ hperm
    (iterfitFull_eq_iterfit K r32 p false xs ys ivs perm (sset, om) h)

/-- masks only decrease: a point that is False after some pass is False in the mask the loop ends with -/
theorem false_stays_false (K : Kernels α) (p : Params α) (xw yw iw : List α) (fuel : ℕ) (s sf : St α) (j : ℕ)
    (hloop : iterLoop K p xw yw iw fuel s = .ok (.done sf)) (hlen : s.maskwork.length = yw.length) (hj : j < yw.length)
    (hf : s.maskwork[j]? = some false) : sf.maskwork[j]? = some false := by
  obtain ⟨hl, hle⟩ := iterLoop_mask_le K p xw yw iw fuel s sf hloop hlen
  refine getElem?_false_of_ne_true (by omega) fun hm => ?_
  have := hle j hm
  rw [hf] at this
  cases this

/-! ## the first model: loop and core commute with a re-indexing that `fit` does not see (for tied abscissae; they need
`iterBody_mask_le`, hence stand here and not with `iterBody_equiv`) -/

/-- re-ordering tied points of the sorted work arrays re-orders the working mask of every pass of the `while` loop in the same way and changes nothing else -/
theorem iterLoop_equiv (Kn : Kernels α) (p : Params α) (τ : List ℕ) (xw yw iw : List α)
    (hτ : τ.Perm (List.range xw.length)) (hy : yw.length = xw.length) (hi : iw.length = xw.length)
    (hfit : FitEquiv Kn τ xw yw) :
    ∀ (fuel : ℕ) (s : St α), s.maskwork.length = xw.length →
      iterLoop Kn p xw (reidx τ yw 0) (reidx τ iw 0) fuel (stMap τ s) = (iterLoop Kn p xw yw iw fuel s).map (outMap τ) := by
  intro fuel
  induction fuel with
  | zero => intro s _; rfl
  | succ f ih =>
    intro s hm
    rw [iterLoop_succ, iterLoop_succ, iterBody_equiv Kn p τ xw yw iw s hτ hy hi hm hfit]
    refine ite_map (bind_map_comm' fun o hb => ?_) rfl
    cases o with
    | failed b => rfl
    | done s1 => exact ih s1 (by rw [(iterBody_mask_le Kn p xw yw iw s s1 hb (by rw [hm, hy])).1, hy])

/-- the sorted core of `iterfit` is equivariant under a permutation `τ` of the sorted positions that `fit` on `xw` does not see
(`FitEquiv`) and that keeps the list of good abscissae (`hgood`) -/
theorem iterCore_equiv (Kn : Kernels α) (r32 : α → α) (p : Params α) (τ : List ℕ) (xw yw iw : List α)
    (hτ : τ.Perm (List.range xw.length)) (hy : yw.length = xw.length) (hi : iw.length = xw.length)
    (hfit : FitEquiv Kn τ xw yw)
    (hgood : ∀ m : List Bool, m.length = xw.length →
      ((xw.zip (reidx τ m true)).filter (fun xm => xm.2)).map (fun xm => xm.1)
        = ((xw.zip m).filter (fun xm => xm.2)).map (fun xm => xm.1)) :
    iterCore Kn r32 p xw (reidx τ yw 0) (reidx τ iw 0) =
      (iterCore Kn r32 p xw yw iw).map (fun r => (r.1, r.2.map (fun mw => reidx τ mw true))) := by
  unfold iterCore
  simp only []
  rw [← reidx_map τ iw (fun v => decide (0 < v)) 0 true (by rw [hi]; exact perm_mem_lt τ _ hτ)]
  generalize hm0 : iw.map (fun v => decide (0 < v)) = m0
  have hml : m0.length = xw.length := by rw [← hm0, List.length_map, hi]
  have hmp : (reidx τ m0 true).Perm m0 := reidx_perm τ m0 true (by rw [hml]; exact hτ)
  simp only [hmp.any_eq, hgood m0 hml, countTrue_perm _ _ hmp]
  refine ite_map rfl (bind_map' fun knots _ => ite_map rfl ?_)
  -- the initial state with the mask read through `τ` is `stMap τ` of the initial state
  exact (congrArg (· >>= _) (iterLoop_equiv Kn p τ xw yw iw hτ hy hi hfit (p.maxiter + 1) ⟨_, m0, _, _, _, _⟩ hml)).trans
    (bind_map_comm' fun o _ => by cases o <;> rfl)

/-! ## the full `iterfit`: `groupbadpix` is not read, `oldset` keeps breakpoints and order, `requiren` only drops breakpoints -/

theorem iterLoopFull_gbp (K : Kernels α) (p : Params α) (rq : Option ℕ) (gbp : Bool) (xw yw iw : List α) :
    ∀ (fuel : ℕ) (s : St α) (cz : Bool),
      iterLoopFull K p rq gbp xw yw iw fuel s cz = iterLoopFull K p rq false xw yw iw fuel s cz := by
  intro fuel
  induction fuel with
  | zero => intro s cz; rfl
  | succ f ih =>
    intro s cz
    unfold iterLoopFull
    simp only [ih]
    -- a pass hands `groupbadpix` to `rejectCall` only, which does not read it (`rejectCall_eq`): the two passes unfold to the same term
    rfl

/-- the result of the full `iterfit` does not depend on `groupbadpix` (1-D data; `maxrej` cannot be
passed: C17's maxrej block is never entered) -/
theorem groupbadpix_irrelevant (K : Kernels α) (r32 : α → α) (p : Params α) (o : FullOpts α) (b : Bool) (xs ys ivs : List α)
    (perm : List ℕ) :
    iterfitFull K r32 p { o with groupbadpix := b } xs ys ivs perm = iterfitFull K r32 p o xs ys ivs perm := by
  unfold iterfitFull iterCoreFull
  simp only [iterLoopFull_gbp K p o.requiren b, iterLoopFull_gbp K p o.requiren o.groupbadpix]

/-- one pass of `iterfit`'s loop, whatever branch it takes, leaves the breakpoints and the order of `sset` as they were -/
theorem iterBodyFull_keeps (K : Kernels α) (p : Params α) (rq : Option ℕ) (gbp : Bool) (xw yw iw : List α) (s : St α)
    (o : Outcome α) (z : Bool) (h : iterBodyFull K p rq gbp xw yw iw s = .ok (o, z)) :
    match o with
    | .done s' => s'.sset.breakpoints = s.sset.breakpoints ∧ s'.sset.nord = s.sset.nord
    | .failed b => b.breakpoints = s.sset.breakpoints ∧ b.nord = s.sset.nord := by
  rw [IterPass.iterBodyFull_eq] at h
  rcases IterPass.passG_ok _ K p rq xw yw iw s o z h with ⟨_, m, q, _, rfl⟩ | ⟨_, b, out, hb, hf, hout⟩
  · -- at most one good point left: the object stays
    exact ⟨rfl, rfl⟩
  · -- the `requiren` walk changes only the mask of the object, `fit` keeps breakpoints and order
    obtain ⟨k1, k2⟩ := fit_keeps K _ _ _ _ _ _ hf
    have hb' : b.breakpoints = s.sset.breakpoints ∧ b.nord = s.sset.nord := by
      rcases hb with rfl | ⟨_, _, _, rfl⟩ <;> exact ⟨rfl, rfl⟩
    rcases hout with ⟨_, rfl⟩ | ⟨_, m, q, _, rfl⟩ <;> exact ⟨k1.trans hb'.1, k2.trans hb'.2⟩

/-- so does the whole `while` loop, whether it ends normally or with a fit status -2 -/
theorem iterLoopFull_keeps (K : Kernels α) (p : Params α) (rq : Option ℕ) (gbp : Bool) (xw yw iw : List α) :
    ∀ (fuel : ℕ) (s : St α) (cz : Bool) (o : Outcome α) (z : Bool), iterLoopFull K p rq gbp xw yw iw fuel s cz = .ok (o, z) →
      match o with
      | .done s' => s'.sset.breakpoints = s.sset.breakpoints ∧ s'.sset.nord = s.sset.nord
      | .failed b => b.breakpoints = s.sset.breakpoints ∧ b.nord = s.sset.nord := by
  intro fuel
  induction fuel with
  | zero => intro s cz o z h; unfold iterLoopFull at h; cases h; exact ⟨rfl, rfl⟩
  | succ f ih =>
    intro s cz o z h
    unfold iterLoopFull at h
    split at h
    · obtain ⟨⟨o1, z1⟩, hb, h⟩ := bind_ok h
      have hk := iterBodyFull_keeps K p rq gbp xw yw iw s o1 z1 hb
      cases o1 with
      | failed b => cases h; exact hk
      | done s1 =>
        have h2 := ih s1 z1 o z h
        cases o with
        | done s' => exact ⟨h2.1.trans hk.1, h2.2.trans hk.2⟩
        | failed b => exact ⟨h2.1.trans hk.1, h2.2.trans hk.2⟩
    · cases h; exact ⟨rfl, rfl⟩

/-- with `oldset=b` the object `iterfit` works on and returns has the breakpoints and the order of `b` -/
theorem iterCoreFull_oldset (K : Kernels α) (r32 : α → α) (p : Params α) (o : FullOpts α) (b : BS α) (xw yw iw : List α)
    (r : BS α × Bool × Option (List Bool)) (ho : o.oldset = some b) (h : iterCoreFull K r32 p o xw yw iw = .ok r) :
    r.1.breakpoints = b.breakpoints ∧ r.1.nord = b.nord := by
  unfold iterCoreFull initSset at h
  rw [ho] at h
  obtain ⟨⟨sset0, few⟩, h0, h⟩ := bind_ok h
  cases h0
  simp only [Bool.false_eq_true, if_false] at h
  obtain ⟨⟨o1, cz'⟩, hloop, h⟩ := bind_ok h
  have hk := iterLoopFull_keeps K p _ _ _ _ _ _ _ _ _ _ hloop
  cases o1 <;> cases h <;> exact hk

/-- `iterfit(..., oldset=b)` returns an object with the breakpoints and the order of `b`, whatever the
data, the other options and the course of the loop (dropped breakpoints are marked in `mask`, never removed) -/
theorem oldset_reuses_breakpoints (K : Kernels α) (r32 : α → α) (p : Params α) (o : FullOpts α) (b : BS α) (xs ys ivs : List α)
    (perm : List ℕ) (out : FullOut α) (ho : o.oldset = some b)
    (h : iterfitFull K r32 p o xs ys ivs perm = .ok out) :
    out.sset.breakpoints = b.breakpoints ∧ out.sset.nord = b.nord := by
  rw [iterfitFull_eq] at h
  obtain ⟨_, h⟩ := ite_error_ok.1 h
  obtain ⟨_, h⟩ := ite_error_ok.1 h
  obtain ⟨_, h⟩ := ite_error_ok.1 h
  obtain ⟨v, hc, rfl⟩ := of_map_eq_ok h
  exact iterCoreFull_oldset K r32 p o b _ _ _ v ho hc

/-- `sset.mask[k] = False` only switches an entry off: what is True afterwards was True before -/
theorem setFalse_le (m : Array Bool) (k i : ℕ) (h : (m.setIfInBounds k false)[i]? = some true) : m[i]? = some true := by
  rw [Array.getElem?_setIfInBounds] at h
  split at h
  · split at h <;> cases h
  · exact h

/-- the `requiren` block keeps the length of the breakpoint mask and only switches entries off -/
theorem requirenWalk_le (b : BS α) (xw iw : List α) (mw : List Bool) (r : ℕ) (m : Array Bool)
    (h : requirenWalk b xw iw mw r = .ok m) :
    m.size = b.mask.size ∧ ∀ i : ℕ, m[i]? = some true → b.mask[i]? = some true := by
  unfold requirenWalk at h
  simp only [] at h
  split at h
  · cases h
  split at h
  · cases h
  split at h
  · cases h
  · rename_i rr hr
    cases h
    -- every step leaves the mask alone or switches one entry off
    refine List.foldlRecOn (motive := fun t : Option (ℕ × ℕ × Array Bool) => ∀ t', t = some t' →
        t'.2.2.size = b.mask.size ∧ ∀ i : ℕ, t'.2.2[i]? = some true → b.mask[i]? = some true) _ _
      (fun t' ht' => ?_) (fun t ht k _ t' hst => ?_) rr hr
    · cases ht'
      exact ⟨rfl, fun i hi => hi⟩
    · cases t with
      | none => cases hst
      | some t0 =>
        obtain ⟨hs, hle⟩ := ht t0 rfl
        obtain ⟨i, ct, mm⟩ := t0
        simp only [] at hst
        split at hst
        · cases hst
        · split at hst
          · cases hst; exact ⟨hs, hle⟩
          · cases hst
            exact ⟨by rw [Array.size_setIfInBounds]; exact hs, fun i hi => hle i (setFalse_le _ _ _ hi)⟩

end scalar
/-! ## `iterfit` with the second variable `x2` (2-D fit through C09's `fit2`; Model/IterFit2.lean) -/
section x2loop
variable {α : Type} [Scalar α]
open PydlVerif.BSplineFit2

/-- one pass of the loop with `x2`: the working mask stays as it is, or is what one `djs_reject(inmask = outmask = mask)` returned -/
theorem iterBody2_spec (K : Kernels α) (p : Params α) (gbp : Bool) (xw x2w yw iw : List α) (s s' : St2 α) (z : Bool)
    (h : iterBody2 K p gbp xw x2w yw iw s = .ok (.done s', z)) :
    s'.maskwork = s.maskwork ∨
    ∃ yf, Reject.djsReject K.sqrt (rejectOpts p) yw (some yf) (some s.maskwork) (some s.maskwork) iw = .ok (s'.maskwork, s'.qdone) := by
  unfold iterBody2 at h
  split at h
  · split at h
    · obtain ⟨⟨m, q⟩, hr, h⟩ := bind_ok h
      cases h
      exact Or.inr ⟨_, hr⟩
    · cases h; exact Or.inl rfl
  · obtain ⟨out, _, h⟩ := bind_ok h
    simp only [] at h
    split at h
    · cases h
    split at h
    · obtain ⟨⟨m, q⟩, hr, h⟩ := bind_ok h
      cases h
      exact Or.inr ⟨_, hr⟩
    · cases h; exact Or.inl rfl

/-- a pass of the loop with `x2` only shrinks the working mask -/
theorem iterBody2_mask_le (K : Kernels α) (p : Params α) (gbp : Bool) (xw x2w yw iw : List α) (s s' : St2 α) (z : Bool)
    (h : iterBody2 K p gbp xw x2w yw iw s = .ok (.done s', z)) (hlen : s.maskwork.length = yw.length) :
    s'.maskwork.length = yw.length ∧ ∀ i : ℕ, s'.maskwork[i]? = some true → s.maskwork[i]? = some true :=
  maskStep_le _ _ yw iw _ _ _ hlen (iterBody2_spec K p gbp xw x2w yw iw s s' z h)

/-- masks only shrink in the loop of the 2-D `iterfit` -/
theorem iterLoop2_mask_le (K : Kernels α) (p : Params α) (gbp : Bool) (xw x2w yw iw : List α) :
    ∀ (fuel : ℕ) (s s' : St2 α) (cz z : Bool), iterLoop2 K p gbp xw x2w yw iw fuel s cz = .ok (.done s', z) →
      s.maskwork.length = yw.length →
      s'.maskwork.length = yw.length ∧ ∀ i : ℕ, s'.maskwork[i]? = some true → s.maskwork[i]? = some true := by
  intro fuel
  induction fuel with
  | zero => intro s s' cz z h hlen; unfold iterLoop2 at h; cases h; exact ⟨hlen, fun i hm => hm⟩
  | succ f ih =>
    intro s s' cz z h hlen
    unfold iterLoop2 at h
    split at h
    · obtain ⟨⟨o1, z1⟩, hb, h⟩ := bind_ok h
      cases o1 with
      | failed b => cases h
      | done s1 =>
        obtain ⟨hl1, h1⟩ := iterBody2_mask_le K p gbp xw x2w yw iw s s1 z1 hb hlen
        obtain ⟨hl2, h2⟩ := ih s1 s' z1 z h hl1
        exact ⟨hl2, fun i hm => h1 i (h2 i hm)⟩
    · cases h; exact ⟨hlen, fun i hm => hm⟩

/-- with `x2` too the working mask `iterfit` ends with lies below the initial one, `invvar > 0` -/
theorem iterCore2_mask (K : Kernels α) (r32 : α → α) (p : Params α) (npoly : ℕ) (gbp : Bool) (xmin xmax : α) (xw x2w yw iw : List α)
    (sset : BS2 α) (cz : Bool) (m : List Bool) (hl : iw.length = yw.length)
    (h : iterCore2 K r32 p npoly gbp xmin xmax xw x2w yw iw = .ok (sset, cz, some m)) :
    m.length = yw.length ∧ ∀ j : ℕ, m[j]? = some true → (iw.map (fun v => decide (0 < v)))[j]? = some true := by
  unfold iterCore2 at h
  obtain ⟨_, h⟩ := ite_error_ok.1 h
  obtain ⟨knots, _, h⟩ := bind_ok h
  simp only [] at h
  split at h
  · cases h
  obtain ⟨⟨o1, cz'⟩, hloop, h⟩ := bind_ok h
  cases o1 with
  | failed b => cases h
  | done s =>
    cases h
    exact iterLoop2_mask_le K p _ xw x2w yw iw _ _ _ _ _ hloop (by rw [List.length_map, hl])

theorem iterfit2_eq (K : Kernels α) (r32 : α → α) (p : Params α) (npoly : ℕ) (gbp : Bool) (xs ys ivs x2s : List α) (perm : List ℕ) :
    iterfit2 K r32 p npoly gbp xs ys ivs x2s perm =
      if ys.length ≠ xs.length then valueError else
      if ivs.length ≠ xs.length then valueError else
      if x2s.length ≠ xs.length then valueError else
      if xs.length ≤ 1 then .error "Unmodelled" else
      (iterCore2 K r32 p npoly gbp (lmin x2s) (lmax x2s) (perm.map (fun i => xs.getD i 0)) (perm.map (fun i => x2s.getD i 0))
        (perm.map (fun i => ys.getD i 0)) (perm.map (fun i => ivs.getD i 0))).map
          (fun v => ⟨v.1, v.2.1, outmaskOf xs.length perm v.2.2⟩) := by
  unfold iterfit2
  simp only []
  congr 4
  refine bind_eq_map _ _ _ fun v => ?_
  obtain ⟨sset, cz, m⟩ := v
  cases m <;> rfl

/-- the 2-D `iterfit` too flags every point with non-positive `invvar` False (caller's order),
unless it gives up (all-True mask) -/
theorem nonpositive_never_used_x2 (K : Kernels α) (r32 : α → α) (p : Params α) (npoly : ℕ) (gbp : Bool) (xs ys ivs x2s : List α)
    (perm : List ℕ) (out : Out2 α) (hperm : perm.Perm (List.range xs.length))
    (h : iterfit2 K r32 p npoly gbp xs ys ivs x2s perm = .ok out) :
    out.outmask = List.replicate xs.length true ∨
    (out.outmask.length = xs.length ∧ ∀ i, i < xs.length → ¬ ((0 : α) < ivs.getD i 0) → out.outmask[i]? = some false) := by
  rw [iterfit2_eq] at h
  obtain ⟨_, h⟩ := ite_error_ok.1 h
  obtain ⟨_, h⟩ := ite_error_ok.1 h
  obtain ⟨_, h⟩ := ite_error_ok.1 h
  obtain ⟨_, h⟩ := ite_error_ok.1 h
  obtain ⟨⟨sset, cz, m⟩, hc, rfl⟩ := of_map_eq_ok h
  refine outmaskOf_nonpositive perm ivs xs.length m hperm fun mw hv => ?_
  subst hv
  obtain ⟨hml, hmle⟩ := iterCore2_mask K r32 p npoly gbp _ _ _ _ _ _ sset cz mw (by rw [List.length_map, List.length_map]) hc
  exact ⟨by rw [hml, List.length_map, perm_length perm _ hperm], hmle⟩

end x2loop

section field
variable {K : Type} [Field K] [LinearOrder K] [IsStrictOrderedRing K] [FloorRing K]

local notation "maskedWeightsK" => @maskedWeights _ (fieldScalar _)
local notation "djsRejectK" => @Reject.djsReject _ (fieldScalar _)

/-- the weights handed to `fit`: `invvar` where the mask is True, exactly 0 where it is False - so a masked point
(in particular one with `invvar ≤ 0`) has no influence on the assembled system (C09 `fit_zero_weight`) -/
theorem masked_weight (iw : List K) (mask : List Bool) (j : ℕ) (hj : j < iw.length) (hm : j < mask.length) :
    (maskedWeightsK iw mask)[j]? = some (if mask[j] = true then iw[j] else 0) := by
  unfold maskedWeights
  rw [List.getElem?_zipWith, List.getElem?_eq_getElem hj, List.getElem?_eq_getElem hm]
  cases mask[j] with
  | false => simp only [C08.sc_mul]; rw [Reject.castB_false]; simp
  | true => simp only [C08.sc_mul]; rw [Reject.castB_true]; simp

/-- all weights of the first pass are non-negative (hypothesis `hw` of C09 `fit_optimum`) -/
theorem initial_weights_nonneg (iw : List K) (j : ℕ) (hj : j < iw.length) :
    ∃ v, (maskedWeightsK iw (iw.map (fun v => @decide (@LT.lt K (fieldScalar K).toLT 0 v) ((fieldScalar K).decLt 0 v))))[j]? = some v ∧ 0 ≤ v := by
  refine ⟨_, masked_weight iw _ j hj (by simpa using hj), ?_⟩
  simp only [List.getElem_map]
  split
  · rename_i h
    have : (0 : K) < iw[j] := by
      have := of_decide_eq_true h
      simpa [scalar_lit] using this
    exact this.le
  · exact le_refl _

/-- loop_is_documented_procedure, `qdone`: it is True exactly when the rejection left the mask unchanged - with
`iterLoop_stops`: the loop ends when nothing changes or `maxiter` is reached -/
theorem qdone_unchanged (sqrt : K → K) (o : Reject.Opts K) (d mdl : List K) (prev inm : List Bool) (sv : List K)
    (m : List Bool) (q : Bool) (h : djsRejectK sqrt o d (some mdl) (some prev) (some inm) sv = .ok (m, q)) :
    q = true ↔ m = prev := by
  obtain ⟨⟨hp, _, _, _⟩, rfl, rfl⟩ := @djsReject_ok K (fieldScalar K) sqrt o d mdl sv prev inm m q h
  have hprev : (@pixOf K (fieldScalar K) d mdl sv inm prev).map (fun x => x.prev) = prev := by
    unfold pixOf
    rw [List.map_map, ← hp]
    exact map_range_getD prev true
  rw [C17.qdone_iff_unchanged, hprev]

omit [IsStrictOrderedRing K] [FloorRing K] in
/-- the sorting permutation of the input is `σ ∘ perm'`, the sorting permutation of the permuted input followed by `σ`
(distinct abscissae: a strictly sorted list has only one arrangement) -/
theorem perm_key (xs : List K) (σ perm perm' : List ℕ) (hσ : σ.Perm (List.range xs.length))
    (hperm : perm.Perm (List.range xs.length)) (hperm' : perm'.Perm (List.range xs.length))
    (hs : (perm.map (fun i => xs.getD i 0)).Pairwise (· < ·))
    (hs' : (perm'.map (fun i => (σ.map (fun i => xs.getD i 0)).getD i 0)).Pairwise (· ≤ ·)) :
    perm = perm'.map (fun i => σ.getD i 0) := by
  obtain ⟨ρ, hρdef⟩ : ∃ ρ, ρ = perm'.map (fun i => σ.getD i 0) := ⟨_, rfl⟩
  have hρ : ρ.Perm (List.range xs.length) := hρdef ▸ reidx_perm_range hσ hperm'
  rw [work_eq xs rfl 0 0 hσ hperm' hρdef] at hs'
  rw [← hρdef]
  have hLL : reidx perm xs 0 = reidx ρ xs 0 :=
    ((reidx_perm perm xs 0 hperm).trans (reidx_perm ρ xs 0 hρ).symm).eq_of_sortedLE (hs.imp le_of_lt).sortedLE hs'.sortedLE
  have hnd : xs.Nodup := ((reidx_perm perm xs 0 hperm).nodup_iff).1 (hs.imp ne_of_lt)
  apply List.ext_getElem (by rw [perm_length perm _ hperm, perm_length ρ _ hρ])
  intro j hj1 hj2
  have hpj := perm_mem_lt perm _ hperm _ (List.getElem_mem hj1)
  have hρj := perm_mem_lt ρ _ hρ _ (List.getElem_mem hj2)
  have e := congrArg (fun l => l.getD j 0) hLL
  simp only [reidx_getD perm xs 0 0 j hj1, reidx_getD ρ xs 0 0 j hj2, getD_lt perm 0 j hj1, getD_lt ρ 0 j hj2,
    getD_lt xs 0 _ hpj, getD_lt xs 0 _ hρj] at e
  exact (List.Nodup.getElem_inj_iff hnd).1 e

local notation "iterfitK" => @iterfit _ (fieldScalar _)
local notation "iterCoreK" => @iterCore _ (fieldScalar _)

open PydlVerif.AtField

/-- on sorted work abscissae `xw`, re-indexing `(yw, iw)` by a permutation `τ` that fixes `xw` (it moves points only within
groups of tied abscissae) leaves the spline object unchanged and re-indexes the working mask by `τ` (errors included) -/
theorem iterCore_perm_ties (Kn : Kernels K) (r32 : K → K) (p : Params K) (τ : List ℕ) (xw yw iw : List K)
    (hτ : τ.Perm (List.range xw.length)) (hs : xw.Pairwise (· ≤ ·)) (hx : reidx τ xw ZK = xw)
    (hy : yw.length = xw.length) (hi : iw.length = xw.length) :
    iterCoreK Kn r32 p xw (reidx τ yw ZK) (reidx τ iw ZK) =
      (iterCoreK Kn r32 p xw yw iw).map (fun r => (r.1, r.2.map (fun mw => reidx τ mw true))) :=
  @iterCore_equiv K (fieldScalar K) Kn r32 p τ xw yw iw hτ hy hi (fitEquiv_sorted Kn τ xw yw hτ hs hx)
    (fun m hm => goodx_eq τ xw m hτ hs hx hm)

/-- order independence with tied abscissae: for ANY sorting permutations `perm`, `perm'` that `argsort` may return for the
data and for the permuted data (they may order tied points differently), `outmask' = outmask ∘ σ` and the spline object is
unchanged (errors included).  Exact field arithmetic (the sums of `fit` are order-independent); kernels arbitrary. -/
theorem iterfit_perm_ties (Kn : Kernels K) (r32 : K → K) (p : Params K) (xs ys ivs : List K) (σ perm perm' : List ℕ)
    (hy : ys.length = xs.length) (hiv : ivs.length = xs.length)
    (hσ : σ.Perm (List.range xs.length)) (hperm : perm.Perm (List.range xs.length))
    (hperm' : perm'.Perm (List.range xs.length))
    (hs : (perm.map (fun i => xs.getD i 0)).Pairwise (· ≤ ·))
    (hs' : (perm'.map (fun i => (σ.map (fun i => xs.getD i 0)).getD i 0)).Pairwise (· ≤ ·)) :
    iterfitK Kn r32 p (σ.map (fun i => xs.getD i 0)) (σ.map (fun i => ys.getD i 0)) (σ.map (fun i => ivs.getD i 0)) perm' =
      (iterfitK Kn r32 p xs ys ivs perm).map (fun r => (r.1, σ.map (fun i => r.2.getD i true))) := by
  have hσl := perm_length σ _ hσ
  have hpl := perm_length perm _ hperm
  rw [@iterfit_eq K (fieldScalar K), @iterfit_eq K (fieldScalar K)]
  simp only [List.length_map, hσl, hy, hiv, ne_eq, not_true_eq_false, if_false]
  refine ite_map rfl ?_
  -- ρ = the order in which the permuted run visits the ORIGINAL points
  obtain ⟨ρ, hρdef⟩ : ∃ ρ, ρ = perm'.map (fun i => σ.getD i 0) := ⟨_, rfl⟩
  have hρ : ρ.Perm (List.range xs.length) := hρdef ▸ reidx_perm_range hσ hperm'
  rw [work_eq xs rfl 0 _ hσ hperm' hρdef, work_eq ys hy 0 _ hσ hperm' hρdef, work_eq ivs hiv 0 _ hσ hperm' hρdef]
  rw [work_eq xs rfl 0 0 hσ hperm' hρdef] at hs'
  simp only [scalar_zero]
  -- τ = where the permuted run's j-th sorted point sits in the original run's sorted order: `perm ∘ τ = ρ`
  obtain ⟨τ, hτ, hkey⟩ := exists_reidx_eq perm ρ xs.length hperm hρ
  have hre : ∀ l : List K, ρ.map (fun i => l.getD i 0) = reidx τ (perm.map (fun i => l.getD i 0)) 0 := fun l => by
    rw [← hkey]
    exact (reidx_reidx τ perm l 0 0 (by rw [hpl]; exact perm_mem_lt τ _ hτ)).symm
  have hxw : ρ.map (fun i => xs.getD i 0) = perm.map (fun i => xs.getD i 0) :=
    ((map_getD_perm xs 0 ρ hρ).trans (map_getD_perm xs 0 perm hperm).symm).eq_of_sortedLE hs'.sortedLE hs.sortedLE
  have hx : reidx τ (perm.map (fun i => xs.getD i 0)) 0 = perm.map (fun i => xs.getD i 0) := (hre xs).symm.trans hxw
  have hcore := iterCore_perm_ties Kn r32 p τ (perm.map (fun i => xs.getD i 0)) (perm.map (fun i => ys.getD i 0))
    (perm.map (fun i => ivs.getD i 0)) (by rw [List.length_map, hpl]; exact hτ) hs
    (by simp only [scalar_zero]; exact hx) (by rw [List.length_map, List.length_map])
    (by rw [List.length_map, List.length_map])
  simp only [scalar_zero] at hcore
  rw [hxw, hre ys, hre ivs, hcore]
  cases hc : iterCoreK Kn r32 p _ _ _ with
  | error e => rfl
  | ok v =>
    obtain ⟨sset, m⟩ := v
    have hm : ∀ mw, m = some mw → mw.length = xs.length := fun mw hv => by
      subst hv
      rw [(@iterCore_mask K (fieldScalar K) Kn r32 p _ _ _ sset mw (by rw [List.length_map, List.length_map]) hc).1, List.length_map, hpl]
    exact congrArg (fun om => Except.ok (sset, om))
      (outmaskOf_through σ perm perm' τ xs.length m hσ hperm hperm' hτ (hkey.trans hρdef) hm)

/-- `iterfit` is order-independent, distinct abscissae: permuting `(x, y, invvar)` by `σ` leaves the spline object unchanged and
permutes the returned mask identically, whatever sorting permutations `argsort` returns (special case of `iterfit_perm_ties`) -/
theorem iterfit_perm (Kn : Kernels K) (r32 : K → K) (p : Params K) (xs ys ivs : List K) (σ perm perm' : List ℕ)
    (hy : ys.length = xs.length) (hiv : ivs.length = xs.length)
    (hσ : σ.Perm (List.range xs.length)) (hperm : perm.Perm (List.range xs.length))
    (hperm' : perm'.Perm (List.range xs.length))
    (hs : (perm.map (fun i => xs.getD i 0)).Pairwise (· < ·))
    (hs' : (perm'.map (fun i => (σ.map (fun i => xs.getD i 0)).getD i 0)).Pairwise (· ≤ ·)) :
    iterfitK Kn r32 p (σ.map (fun i => xs.getD i 0)) (σ.map (fun i => ys.getD i 0)) (σ.map (fun i => ivs.getD i 0)) perm' =
      (iterfitK Kn r32 p xs ys ivs perm).map (fun r => (r.1, σ.map (fun i => r.2.getD i true))) :=
  iterfit_perm_ties Kn r32 p xs ys ivs σ perm perm' hy hiv hσ hperm hperm' (hs.imp le_of_lt) hs'

local notation "iterBodyK" => @iterBody _ (fieldScalar _)
local notation "iterLoopK" => @iterLoop _ (fieldScalar _)

/-- in a pass whose fit has status 0, a point that the mask still had and whose scaled residual against the NEW curve,
`(y_j - yfit_j) * sqrt(invvar_j)`, is below `-lower` or above `upper` (limits `≥ 0`), is False in the new mask -/
theorem clear_outlier_rejected (Kn : Kernels K) (p : Params K) (xw yw iw : List K) (s s' : St K)
    (h : iterBodyK Kn p xw yw iw s = .ok (.done s')) (h0 : s'.error = 0)
    (hlo : ∀ lo, p.lower = some lo → 0 ≤ lo) (hup : ∀ up, p.upper = some up → 0 ≤ up)
    (j : ℕ) (hj : j < yw.length) (hm : s.maskwork[j]? = some true)
    (hout : (∃ lo, p.lower = some lo ∧ (yw.getD j 0 - s'.yfit.getD j 0) * Kn.sqrt (iw.getD j 0) < -lo) ∨
            (∃ up, p.upper = some up ∧ up < (yw.getD j 0 - s'.yfit.getD j 0) * Kn.sqrt (iw.getD j 0))) :
    s'.maskwork[j]? = some false := by
  obtain ⟨out, _, _, _, herr, hyf, _, hcase⟩ := @iterBody_spec K (fieldScalar K) Kn p xw yw iw s s' h
  rcases hcase with ⟨_, hr⟩ | ⟨hne, _, _⟩
  swap
  · exact absurd (herr.symm.trans h0) hne
  rw [← hyf] at hr
  obtain ⟨_, h1, _⟩ := @djsReject_ok K (fieldScalar K) _ _ _ _ _ _ _ _ _ hr
  obtain ⟨hlen, hiff⟩ := C17.reject_mask Kn.sqrt { rejectOpts p with hasIn := true }
    (@pixOf K (fieldScalar K) yw s'.yfit iw s.maskwork s.maskwork)
    hlo hup (fun md hmd => by cases hmd) (fun _ _ hu => by cases hu)
  rw [h1] at hlen hiff
  have hjp : j < (@pixOf K (fieldScalar K) yw s'.yfit iw s.maskwork s.maskwork).length := by
    rw [@pixOf_length K (fieldScalar K)]; exact hj
  refine getElem?_false_of_ne_true (by rw [hlen]; exact hjp) fun hb => ((hiff j hjp).1 hb).2 ?_
  -- `reject_mask` speaks of a bad pixel within `grow` of `j`: `grow = 0` makes it `j`; `maxdev = none`, `useSigma = false` leave its side
  -- conditions empty (the two `by cases` above)
  refine ⟨j, hjp, Nat.le_add_right _ _, Nat.le_add_right _ _, ?_⟩
  rw [@pixOf_getElem K (fieldScalar K)]
  simp only [scalar_zero]
  have hinm : s.maskwork.getD j true = true := by rw [List.getD_eq_getElem?_getD, hm]; rfl
  refine ⟨⟨fun _ => hinm, fun hst => by cases hst⟩, ?_⟩
  rcases hout with ⟨lo, hl, hlt⟩ | ⟨up, hu, hgt⟩
  · exact Or.inl ⟨lo, hl, hlt⟩
  · exact Or.inr (Or.inl ⟨up, hu, hgt⟩)

/-- a point that is beyond a limit in SOME status-0 pass whose mask still had it is False in the mask the loop ends with -/
theorem clear_outlier_rejected_final (Kn : Kernels K) (p : Params K) (xw yw iw : List K) (s s' sf : St K) (fuel : ℕ)
    (h : iterBodyK Kn p xw yw iw s = .ok (.done s')) (h0 : s'.error = 0)
    (hlo : ∀ lo, p.lower = some lo → 0 ≤ lo) (hup : ∀ up, p.upper = some up → 0 ≤ up)
    (hlen : s.maskwork.length = yw.length)
    (j : ℕ) (hj : j < yw.length) (hm : s.maskwork[j]? = some true)
    (hout : (∃ lo, p.lower = some lo ∧ (yw.getD j 0 - s'.yfit.getD j 0) * Kn.sqrt (iw.getD j 0) < -lo) ∨
            (∃ up, p.upper = some up ∧ up < (yw.getD j 0 - s'.yfit.getD j 0) * Kn.sqrt (iw.getD j 0)))
    (hloop : iterLoopK Kn p xw yw iw fuel s' = .ok (.done sf)) :
    sf.maskwork[j]? = some false :=
  @false_stays_false K (fieldScalar K) Kn p xw yw iw fuel s' sf j hloop
    (@iterBody_mask_le K (fieldScalar K) Kn p xw yw iw s s' h hlen).1 hj
    (clear_outlier_rejected Kn p xw yw iw s s' h h0 hlo hup j hj hm hout)

local notation "iterfitFullK" => @iterfitFull _ (fieldScalar _)

/-- order independence of the FULL call (any `requiren`, `oldset`, `groupbadpix`, the degenerate branch included), distinct abscissae:
the spline object (and whether its coefficients are the int 0) is unchanged, the returned mask permuted identically (errors included).
With TIED abscissae the `requiren` walk is NOT invariant: its guard `i < nx-1` leaves out the last sorted point, and which of two
tied points is last is up to argsort. -/
theorem iterfitFull_perm (Kn : Kernels K) (r32 : K → K) (p : Params K) (o : FullOpts K) (xs ys ivs : List K) (σ perm perm' : List ℕ)
    (hy : ys.length = xs.length) (hiv : ivs.length = xs.length)
    (hσ : σ.Perm (List.range xs.length)) (hperm : perm.Perm (List.range xs.length))
    (hperm' : perm'.Perm (List.range xs.length))
    (hs : (perm.map (fun i => xs.getD i 0)).Pairwise (· < ·))
    (hs' : (perm'.map (fun i => (σ.map (fun i => xs.getD i 0)).getD i 0)).Pairwise (· ≤ ·)) :
    iterfitFullK Kn r32 p o (σ.map (fun i => xs.getD i 0)) (σ.map (fun i => ys.getD i 0)) (σ.map (fun i => ivs.getD i 0)) perm' =
      (iterfitFullK Kn r32 p o xs ys ivs perm).map
        (fun r => ⟨r.sset, r.cz, σ.map (fun i => r.outmask.getD i true)⟩) := by
  have hkey := perm_key xs σ perm perm' hσ hperm hperm' hs hs'
  rw [@iterfitFull_eq K (fieldScalar K), @iterfitFull_eq K (fieldScalar K)]
  simp only [List.length_map, perm_length σ _ hσ, hy, hiv, ne_eq, not_true_eq_false, if_false]
  refine ite_map rfl ?_
  rw [work_eq xs rfl 0 _ hσ hperm' hkey, work_eq ys hy 0 _ hσ hperm' hkey, work_eq ivs hiv 0 _ hσ hperm' hkey]
  -- the work arrays coincide: the same core result, un-sorted with `perm'` and with `perm`
  refine map_map' fun ⟨sset, cz, m⟩ hc => congrArg (FullOut.mk sset cz) (outmaskOf_perm σ perm perm' xs.length m hσ hperm hperm' hkey ?_)
  rintro mw rfl
  rw [(@iterCoreFull_mask K (fieldScalar K) Kn r32 p o _ _ _ sset cz mw (by rw [List.length_map, List.length_map]) hc).1, List.length_map,
    perm_length perm _ hperm]

/-- `iterfit` cannot hand `maxrej` to `djs_reject` (its `**kwargs` go to the `bspline` constructor, which refuses the keyword -
observed by the harness on every run); and even a rejection call WITH any `maxrej` / `groupdim` / `groupsize` / `groupbadpix` on
iterfit's 1-D work arrays, when it returns, returns exactly the result of the call the model makes (C17 `maxrej_never_limits`); `body` is an arbitrary function
standing for the loop body of the `maxrej` block, which is not modelled -/
theorem maxrej_would_not_matter (sqrt : K → K) (body : ℕ → List ℕ → ℕ → List K → Except String (List K)) (p : Params K)
    (g : Reject.MaxrejOpts) (gbp : Bool) (yw yfit : List K) (mask : List Bool) (iw : List K) (r : List Bool × Bool)
    (h : @Reject.djsRejectMaxrej K (fieldScalar K) sqrt body (rejectOpts p) g [yw.length] yw (some yfit)
      (some mask) (some mask) iw = .ok r) :
    @rejectCall K (fieldScalar K) sqrt p gbp yw yfit mask iw = .ok r :=
  C17.maxrej_never_limits sqrt body _ g _ _ yw _ _ _ iw r h

/-- order independence of the full call with TIED abscissae, in part: any `groupbadpix`, no `requiren` / `oldset`, and only where
the first model answers on the data (the loop never reaches the branch "at most one good point left").
NOT proved: the same with `oldset` and through the degenerate branch (it rejects against the previous `yfit`, so `yfit∘τ = yfit`
would have to be carried through the loop).  With `requiren` the statement is false for ties. -/
theorem iterfitFull_perm_ties_partial (Kn : Kernels K) (r32 : K → K) (p : Params K) (gbp : Bool) (xs ys ivs : List K) (σ perm perm' : List ℕ)
    (hy : ys.length = xs.length) (hiv : ivs.length = xs.length)
    (hσ : σ.Perm (List.range xs.length)) (hperm : perm.Perm (List.range xs.length))
    (hperm' : perm'.Perm (List.range xs.length))
    (hs : (perm.map (fun i => xs.getD i 0)).Pairwise (· ≤ ·))
    (hs' : (perm'.map (fun i => (σ.map (fun i => xs.getD i 0)).getD i 0)).Pairwise (· ≤ ·))
    (r : BS K × List Bool) (hr : @iterfit K (fieldScalar K) Kn r32 p xs ys ivs perm = .ok r) :
    iterfitFullK Kn r32 p { groupbadpix := gbp } xs ys ivs perm = .ok ⟨r.1, false, r.2⟩ ∧
    iterfitFullK Kn r32 p { groupbadpix := gbp } (σ.map (fun i => xs.getD i 0)) (σ.map (fun i => ys.getD i 0))
        (σ.map (fun i => ivs.getD i 0)) perm' = .ok ⟨r.1, false, σ.map (fun i => r.2.getD i true)⟩ := by
  have h := iterfit_perm_ties Kn r32 p xs ys ivs σ perm perm' hy hiv hσ hperm hperm' hs hs'
  rw [hr] at h
  exact ⟨@iterfitFull_eq_iterfit K (fieldScalar K) Kn r32 p gbp xs ys ivs perm r hr,
    @iterfitFull_eq_iterfit K (fieldScalar K) Kn r32 p gbp _ _ _ perm' _ h⟩

end field

/-- a choice of a least element does not depend on the order of the list -/
theorem least_perm {β : Type} [PartialOrder β] (f : List β → β) (hf : ∀ l, l ≠ [] → f l ∈ l ∧ ∀ v ∈ l, f l ≤ v)
    (l l' : List β) (hp : l'.Perm l) : f l' = f l := by
  by_cases hne : l = []
  · subst hne; rw [hp.eq_nil]
  obtain ⟨m1, m2⟩ := hf l hne
  obtain ⟨m1', m2'⟩ := hf l' fun e => hne (by rw [e] at hp; exact hp.symm.eq_nil)
  exact le_antisymm (m2' _ ((hp.mem_iff).2 m1)) (m2 _ ((hp.mem_iff).1 m1'))

section x2field
variable {K : Type} [Field K] [LinearOrder K] [IsStrictOrderedRing K] [FloorRing K]
open PydlVerif.BSplineFit2

local notation "iterfit2K" => @iterfit2 _ (fieldScalar _)
local notation "lminK" => @lmin _ (fieldScalar _)
local notation "lmaxK" => @lmax _ (fieldScalar _)

/-- `x2.min()` is a least element of the array -/
theorem lmin_spec (l : List K) (hne : l ≠ []) : lminK l ∈ l ∧ ∀ v ∈ l, lminK l ≤ v := by
  cases l with
  | nil => exact absurd rfl hne
  | cons h t =>
    obtain ⟨h1, h2⟩ := foldl_pick (p := fun m v : K => v < m) (· ≤ ·) le_refl (fun _ _ _ => le_trans)
      (fun _ _ hlt => le_of_lt hlt) (fun _ _ hlt => not_lt.1 hlt) (h :: t) h
    exact ⟨(List.mem_cons.1 h1).elim (fun e => List.mem_cons.2 (Or.inl e)) id, fun v hv => h2 v (List.mem_cons_of_mem _ hv)⟩

/-- `x2.max()` is a greatest element of the array -/
theorem lmax_spec (l : List K) (hne : l ≠ []) : lmaxK l ∈ l ∧ ∀ v ∈ l, v ≤ lmaxK l := by
  cases l with
  | nil => exact absurd rfl hne
  | cons h t =>
    obtain ⟨h1, h2⟩ := foldl_pick (p := fun m v : K => m < v) (fun a b => b ≤ a) le_refl (fun _ _ _ h1 h2 => le_trans h2 h1)
      (fun _ _ hlt => le_of_lt hlt) (fun _ _ hlt => not_lt.1 hlt) (h :: t) h
    exact ⟨(List.mem_cons.1 h1).elim (fun e => List.mem_cons.2 (Or.inl e)) id, fun v hv => h2 v (List.mem_cons_of_mem _ hv)⟩

/-- `x2.min()` (and `x2.max()`, `lmax_perm`) does not depend on the order of the array -/
theorem lmin_perm (l l' : List K) (hp : l'.Perm l) : lminK l' = lminK l :=
  least_perm (@lmin K (fieldScalar K)) lmin_spec l l' hp

/-- `x2.max()` does not depend on the order of the array: a greatest element is a least element of the dual order -/
theorem lmax_perm (l l' : List K) (hp : l'.Perm l) : lmaxK l' = lmaxK l :=
  least_perm (β := Kᵒᵈ) (@lmax K (fieldScalar K)) (@lmax_spec K _ _ _ _) l l' hp

/-- order independence of the 2-D `iterfit`, distinct abscissae: permuting `(x, y, invvar, x2)` TOGETHER by `σ` leaves the 2-D
spline object (breakpoints, mask, the `(npoly, nc)` coefficients, `xmin`, `xmax`) unchanged and permutes the returned mask
identically (errors included) -/
theorem iterfit2_perm (Kn : Kernels K) (r32 : K → K) (p : Params K) (npoly : ℕ) (gbp : Bool) (xs ys ivs x2s : List K)
    (σ perm perm' : List ℕ)
    (hy : ys.length = xs.length) (hiv : ivs.length = xs.length) (hx2 : x2s.length = xs.length)
    (hσ : σ.Perm (List.range xs.length)) (hperm : perm.Perm (List.range xs.length))
    (hperm' : perm'.Perm (List.range xs.length))
    (hs : (perm.map (fun i => xs.getD i 0)).Pairwise (· < ·))
    (hs' : (perm'.map (fun i => (σ.map (fun i => xs.getD i 0)).getD i 0)).Pairwise (· ≤ ·)) :
    iterfit2K Kn r32 p npoly gbp (σ.map (fun i => xs.getD i 0)) (σ.map (fun i => ys.getD i 0)) (σ.map (fun i => ivs.getD i 0))
        (σ.map (fun i => x2s.getD i 0)) perm' =
      (iterfit2K Kn r32 p npoly gbp xs ys ivs x2s perm).map
        (fun r => ⟨r.sset, r.cz, σ.map (fun i => r.outmask.getD i true)⟩) := by
  have hkey := perm_key xs σ perm perm' hσ hperm hperm' hs hs'
  have hx2p := map_getD_perm x2s 0 σ (by rw [hx2]; exact hσ)
  rw [@iterfit2_eq K (fieldScalar K), @iterfit2_eq K (fieldScalar K), lmin_perm _ _ hx2p, lmax_perm _ _ hx2p]
  simp only [List.length_map, perm_length σ _ hσ, hy, hiv, hx2, ne_eq, not_true_eq_false, if_false]
  refine ite_map rfl ?_
  rw [work_eq xs rfl 0 _ hσ hperm' hkey, work_eq ys hy 0 _ hσ hperm' hkey, work_eq ivs hiv 0 _ hσ hperm' hkey,
    work_eq x2s hx2 0 _ hσ hperm' hkey]
  refine map_map' fun ⟨sset, cz, m⟩ hc => congrArg (Out2.mk sset cz) (outmaskOf_perm σ perm perm' xs.length m hσ hperm hperm' hkey ?_)
  rintro mw rfl
  rw [(@iterCore2_mask K (fieldScalar K) Kn r32 p npoly gbp _ _ _ _ _ _ sset cz mw (by rw [List.length_map, List.length_map]) hc).1,
    List.length_map, perm_length perm _ hperm]

end x2field

/-- `iterfit_perm`: x = (1, 3, 2) with argsort (0, 2, 1); permuted by σ = (2, 0, 1) to (2, 1, 3) with argsort (1, 0, 2) -/
example : ([2, 0, 1] : List ℕ).Perm (List.range 3) ∧ ([0, 2, 1] : List ℕ).Perm (List.range 3) ∧
    ([1, 0, 2] : List ℕ).Perm (List.range 3) ∧
    (([0, 2, 1] : List ℕ).map (fun i => ([1, 3, 2] : List ℚ).getD i 0)).Pairwise (· < ·) ∧
    (([1, 0, 2] : List ℕ).map (fun i => (([2, 0, 1] : List ℕ).map (fun i => ([1, 3, 2] : List ℚ).getD i 0)).getD i 0)).Pairwise (· ≤ ·) := by
  refine ⟨by decide, by decide, by decide, by decide, by decide⟩

/-- `iterfit_perm_ties`: x = (1, 2, 1) (a tie) with sorting permutation (2, 0, 1); permuted by σ = (2, 0, 1) to (1, 1, 2) with
sorting permutation (1, 0, 2), which visits the two tied points in the other order (last conjunct); `iterfit_perm` does not apply -/
example : ([2, 0, 1] : List ℕ).Perm (List.range 3) ∧ ([2, 0, 1] : List ℕ).Perm (List.range 3) ∧
    ([1, 0, 2] : List ℕ).Perm (List.range 3) ∧
    (([2, 0, 1] : List ℕ).map (fun i => ([1, 2, 1] : List ℚ).getD i 0)).Pairwise (· ≤ ·) ∧
    (([1, 0, 2] : List ℕ).map (fun i => (([2, 0, 1] : List ℕ).map (fun i => ([1, 2, 1] : List ℚ).getD i 0)).getD i 0)).Pairwise (· ≤ ·) ∧
    ¬ (([2, 0, 1] : List ℕ).map (fun i => ([1, 2, 1] : List ℚ).getD i 0)).Pairwise (· < ·) ∧
    ([2, 0, 1] : List ℕ) ≠ ([1, 0, 2] : List ℕ).map (fun i => ([2, 0, 1] : List ℕ).getD i 0) := by
  refine ⟨by decide, by decide, by decide, by decide, by decide, by decide, by decide⟩

end PydlVerif.C10
