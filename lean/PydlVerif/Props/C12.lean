/-
C12: Mangle membership (`pydl/pydlutils/mangle.py`, `window_read(balkans=True)` of `pydl/photoop/window.py`) for any number type,
the cap test over ℝ, the `.ply` reader.  Audited theorems: harness/props/c12.py.
-/
import PydlVerif.Model.MangleExt
import PydlVerif.Lemmas.ManglePly
import PydlVerif.Lemmas.MangleLoops
import PydlVerif.Lemmas.RealTrig
import PydlVerif.Lemmas.MangleGeom
set_option linter.unusedSectionVars false
namespace PydlVerif.C12
open PydlVerif PydlVerif.Mangle

section windows
variable {α : Type} [Trig α]

/-- `is_in_polygon`: a point is inside exactly when every USED cap among the first
`usencaps = (ncaps > 0 ? min(ncaps, P.ncaps) : P.ncaps)` contains it -/
theorem polygon_and (P : Polygon α) (pts : List (Point α)) (ncaps : Int) (hwf : wfPoly P) :
    isInPolygon P pts ncaps = .ok (pts.map (inP ncaps P)) ∧
    ∀ p, (inP ncaps P p = true ↔
      ∀ i, i < useNcaps P.ncaps ncaps → P.useCaps.testBit i = true →
        ∀ c, P.rows[i]? = some c → isInCap c p = true) :=
  ⟨isInPolygon_eq P pts ncaps hwf, fun p => inPolyPt_iff P _ p⟩

/-- a polygon without caps, or without used caps, contains every point -/
theorem polygon_no_caps (P : Polygon α) (pts : List (Point α)) (ncaps : Int) (hwf : wfPoly P)
    (h : P.ncaps = 0 ∨ ∀ i, i < P.ncaps → P.useCaps.testBit i = false) :
    isInPolygon P pts ncaps = .ok (pts.map fun _ => true) := by
  rw [(polygon_and P pts ncaps hwf).1]
  congr 1
  apply List.map_congr_left
  intro p _
  rw [inP, inPolyPt_iff]
  intro i hi hu
  have := useNcaps_le P.ncaps ncaps
  rcases h with h | h
  · omega
  · rw [h i (by omega)] at hu; cases hu

/-- restricting to the first `n > 0` caps gives the answer of the polygon cut to these caps -/
theorem polygon_ncaps_ignores_rest (P : Polygon α) (pts : List (Point α)) (n : Int) (hn : 0 < n)
    (hwf : wfPoly P) :
    isInPolygon P pts n =
      isInPolygon { ncaps := min n.toNat P.ncaps, useCaps := P.useCaps,
                    rows := P.rows.take (min n.toNat P.ncaps) } pts 0 := by
  rw [(polygon_and P pts n hwf).1, (polygon_and _ pts 0 ?_).1]
  · congr 1
    apply List.map_congr_left
    intro p _
    unfold inP
    rw [useNcaps_pos hn, useNcaps_nonpos (by decide)]
    exact inPolyPt_congr _ _ _ p rfl fun _ hi => (List.getElem?_take_of_lt hi).symm
  · -- the cut polygon stores the caps it announces
    simp only [wfPoly, List.length_take] at *; omega

/-- `is_in_window`: every point gets the index of the first polygon in list order that contains
it, `(False, -1)` if none does -/
theorem window_first (polys : List (Polygon α)) (pts : List (Point α)) (ncaps : Int)
    (hwf : ∀ P ∈ polys, wfPoly P) :
    isInWindow polys pts ncaps =
      .ok (pts.map fun p => (decide (firstFrom ncaps 0 polys p ≥ 0), firstFrom ncaps 0 polys p)) := by
  simp only [isInWindow, windowLoop_eq ncaps polys 0 _ hwf, bind, Except.bind, pure, Except.pure,
    List.map_map]
  congr 1

/-- `firstFrom` is `k +` the least index whose polygon contains the point, -1 if no polygon does -/
theorem first_from_least (ncaps : Int) (p : Point α) : ∀ (polys : List (Polygon α)) (k : Nat),
    (firstFrom ncaps k polys p = -1 ∧ ∀ P ∈ polys, inP ncaps P p = false) ∨
    (∃ i, i < polys.length ∧ firstFrom ncaps k polys p = ((k + i : Nat) : Int) ∧
      (∃ P, polys[i]? = some P ∧ inP ncaps P p = true) ∧
      ∀ j, j < i → ∀ Q, polys[j]? = some Q → inP ncaps Q p = false)
  | [], k => Or.inl ⟨rfl, fun _ hP => absurd hP List.not_mem_nil⟩
  | P :: rest, k => by
    cases hP : inP ncaps P p
    · have hf : firstFrom ncaps k (P :: rest) p = firstFrom ncaps (k + 1) rest p := by simp [firstFrom, hP]
      rcases first_from_least ncaps p rest (k + 1) with ⟨h1, h2⟩ | ⟨i, hi, h1, hQ, h3⟩
      · exact Or.inl ⟨hf.trans h1, List.forall_mem_cons.2 ⟨hP, h2⟩⟩
      · refine Or.inr ⟨i + 1, Nat.succ_lt_succ hi, by rw [hf, h1, Nat.add_assoc, Nat.add_comm 1 i], hQ, fun j hj R hR => ?_⟩
        cases j with
        | zero => exact Option.some.inj hR ▸ hP
        | succ j => exact h3 j (Nat.lt_of_succ_lt_succ hj) R hR
    · exact Or.inr ⟨0, Nat.zero_lt_succ _, by simp [firstFrom, hP], ⟨P, rfl, hP⟩, fun j hj => absurd hj (Nat.not_lt_zero j)⟩

/-- `ManglePolygon(FITS row)`: the first NCAPS stored caps, nothing else -/
theorem record_take (P : Polygon α) :
    (ofRecord P).ncaps = P.ncaps ∧ (ofRecord P).useCaps = P.useCaps ∧
    (∀ i, (ofRecord P).rows[i]? = if i < P.ncaps then P.rows[i]? else none) ∧
    (wfPoly P → (ofRecord P).rows.length = P.ncaps) := by
  refine ⟨rfl, rfl, fun i => by simp [ofRecord, List.getElem?_take], fun h => ?_⟩
  simp only [wfPoly, ofRecord, List.length_take] at *; omega

theorem inP_ofRecord (ncaps : Int) (P : Polygon α) (p : Point α) : inP ncaps (ofRecord P) p = inP ncaps P p :=
  inPolyPt_congr _ _ _ p rfl fun _ hi => List.getElem?_take_of_lt (Nat.lt_of_lt_of_le hi (useNcaps_le _ _))

theorem firstFrom_ofRecord (ncaps : Int) (polys : List (Polygon α)) (p : Point α) :
    ∀ k, firstFrom ncaps k (polys.map ofRecord) p = firstFrom ncaps k polys p := by
  induction polys with
  | nil => intro k; rfl
  | cons P rest ih => intro k; simp only [List.map_cons, firstFrom, inP_ofRecord, ih]

/-- raw FITS rows and converted `ManglePolygon`s (rows cut to NCAPS) give identical answers -/
theorem window_formats_agree (polys : List (Polygon α)) (pts : List (Point α)) (ncaps : Int)
    (hwf : ∀ P ∈ polys, wfPoly P) :
    isInWindow (polys.map ofRecord) pts ncaps = isInWindow polys pts ncaps := by
  have hwf' : ∀ P ∈ polys.map ofRecord, wfPoly P :=
    List.forall_mem_map.2 fun Q hQ => ((record_take Q).2.2.2 (hwf Q hQ)).ge
  rw [window_first _ pts ncaps hwf', window_first _ pts ncaps hwf]
  simp only [firstFrom_ofRecord]

/-- `window_read(balkans=True)`: polygon k has NCAPS_k caps, all of them used, and cap i of
polygon k is `bcaps[ICAP_k + i]` -/
theorem balkans_slice (bcaps : List (Cap α)) : ∀ (blist : List BRow),
    (∀ b ∈ blist, b.icap + b.ncaps ≤ bcaps.length) →
    balkansAssemble blist bcaps =
      .ok (blist.map fun b => { ncaps := b.ncaps, useCaps := 2 ^ b.ncaps - 1,
                                rows := (bcaps.drop b.icap).take b.ncaps }) ∧
    ∀ b ∈ blist, ((bcaps.drop b.icap).take b.ncaps).length = b.ncaps ∧
      (∀ i, i < b.ncaps → ((bcaps.drop b.icap).take b.ncaps)[i]? = bcaps[b.icap + i]?) ∧
      (∀ i, (2 ^ b.ncaps - 1).testBit i = decide (i < b.ncaps)) := by
  intro blist h
  have hlen : ∀ b ∈ blist, ((bcaps.drop b.icap).take b.ncaps).length = b.ncaps := fun b hb => by
    have := h b hb
    rw [List.length_take, List.length_drop]; omega
  constructor
  · clear h
    unfold balkansAssemble
    induction blist with
    | nil => rfl
    | cons b rest ih =>
      obtain ⟨hb, hrest⟩ := List.forall_mem_cons.1 hlen
      rw [List.mapM_cons, ih hrest]
      simp only [sliceAssign, hb, if_true, bind, Except.bind, pure, Except.pure, Nat.one_shiftLeft, List.map_cons]
  · intro b hb
    refine ⟨hlen b hb, fun i hi => ?_, fun i => Nat.testBit_two_pow_sub_one _ _⟩
    rw [List.getElem?_take_of_lt hi, List.getElem?_drop]

end windows

/-- `set_use_caps`, bit by bit: bit j of the result is set exactly when j is listed (or was set
before and `add`), and - unless `allow_doubles` - cap j is not a double of a cap i < j whose bit
is set in the result -/
theorem use_caps_bits {α : Type} [Trig α] (rows : List (Cap α)) (useCaps : Nat) (idx : List Nat)
    (add : Bool) (tol : α) (ad an : Bool) (j : Nat) :
    (setUseCaps rows useCaps idx add tol ad an).testBit j = true ↔
      (((add = true ∧ useCaps.testBit j = true) ∨ j ∈ idx) ∧
       ¬ (ad = false ∧ j < rows.length ∧ ∃ i, i < j ∧
            (setUseCaps rows useCaps idx add tol ad an).testBit i = true ∧
            dupAt rows tol an i j = true)) := by
  have h0 : ∀ k, (orBits (if add = true then useCaps else 0) idx).testBit k = true ↔
      ((add = true ∧ useCaps.testBit k = true) ∨ k ∈ idx) := by
    intro k
    rw [or_bits_testBit]
    cases add <;> simp
  cases ad with
  | true => simp [setUseCaps, h0]
  | false =>
    simp only [setUseCaps, Bool.false_eq_true, if_false, true_and]
    rw [dedupLoop_testBit, h0]

/-- with `allow_doubles` exactly the listed bits (plus the old ones when `add`) are set -/
theorem use_caps_allow_doubles {α : Type} [Trig α] (rows : List (Cap α)) (useCaps : Nat)
    (idx : List Nat) (add : Bool) (tol : α) (an : Bool) (j : Nat) :
    (setUseCaps rows useCaps idx add tol true an).testBit j =
      ((add && useCaps.testBit j) || decide (j ∈ idx)) := by
  simp only [setUseCaps, if_true, or_bits_testBit]
  cases add <;> simp

section real
attribute [local instance] realTrig
-- priority 1: a numeral in a statement of this section is Mathlib's real numeral, not the model's literal (the last two examples
-- of the file check this from outside the section); the model's literals occur only inside unfolded model terms (`scalar_lit`)
attribute [local instance 1] Scalar.instOfNat Scalar.instOfScientific
open Real

theorem absS_real (v : ℝ) : absS v = |v| := by
  unfold absS
  simp only [scalar_lit, Nat.cast_zero]
  exact ite_neg_eq_abs _

theorem clip1_real (d : ℝ) : clip1 d = max (-1) (min 1 d) := by
  unfold clip1
  simp only [scalar_lit, Nat.cast_one]
  split
  · rw [min_eq_right (by linarith), max_eq_left (by linarith)]
  · split
    · rw [min_eq_left (by linarith), max_eq_right (by linarith)]
    · rw [min_eq_right (by linarith), max_eq_right (by linarith)]

theorem degrees_real (v : ℝ) : degrees v = v * (180 / π) := rfl

theorem degrees_nonneg_iff (v : ℝ) : 0 ≤ degrees v ↔ 0 ≤ v := by
  rw [degrees_real]
  exact mul_nonneg_iff_of_pos_right (div_pos (by norm_num) Real.pi_pos)

/-- `clip1` is the projection onto [-1, 1], and Mathlib's `arcsin` (hence `arccos = π/2 - arcsin`) is `arcsin ∘ projIcc (-1) 1` -/
theorem arccos_clip (d : ℝ) : Real.arccos (clip1 d) = Real.arccos d := by
  rw [clip1_real, Real.arccos_eq_pi_div_two_sub_arcsin, Real.arccos_eq_pi_div_two_sub_arcsin d,
    ← Set.coe_projIcc (-1) 1 (by norm_num) d, Real.arcsin_projIcc]

theorem capDistanceD_pos (cm d : ℝ) (h0 : 0 ≤ cm) (h2 : cm ≤ 2) (hd1 : -1 ≤ d) (hd2 : d ≤ 1) :
    0 ≤ capDistanceD cm d ↔ 1 - d ≤ cm := by
  unfold capDistanceD
  simp only [scalar_lit, Nat.cast_zero, Nat.cast_one, not_lt.2 h0, if_false, degrees_nonneg_iff,
    absS_real, abs_of_nonneg h0]
  show 0 ≤ Real.arccos (1 - cm) - Real.arccos d ↔ _
  rw [sub_nonneg, Real.strictAntiOn_arccos.le_iff_ge ⟨hd1, hd2⟩ ⟨by linarith, by linarith⟩, sub_le_comm]

theorem capDistanceD_neg (cm d : ℝ) (h0 : cm < 0) (h2 : -2 ≤ cm) (hd1 : -1 ≤ d) (hd2 : d ≤ 1) :
    0 ≤ capDistanceD cm d ↔ -cm ≤ 1 - d := by
  unfold capDistanceD
  simp only [scalar_lit, Nat.cast_zero, Nat.cast_one, h0, if_true, absS_real, abs_of_neg h0]
  -- `0 ≤ degrees v * -1` is `0 ≤ degrees (-v)`, since `degrees` multiplies by a constant
  rw [mul_neg, mul_one, degrees_real, ← neg_mul, ← degrees_real, degrees_nonneg_iff]
  show 0 ≤ -(Real.arccos (1 - -cm) - Real.arccos d) ↔ _
  rw [neg_sub, sub_nonneg, Real.strictAntiOn_arccos.le_iff_ge ⟨by linarith, by linarith⟩ ⟨hd1, hd2⟩, le_sub_comm]

theorem clip1_mem (d : ℝ) : -1 ≤ clip1 d ∧ clip1 d ≤ 1 := by
  rw [clip1_real]; exact ⟨le_max_left _ _, max_le (by norm_num) (min_le_left _ _)⟩

/-- over the reals the clip does not change the decision: `arccos` is already constant
outside [-1, 1] -/
theorem cap_clip_real (cm d : ℝ) : capDistanceD cm (clip1 d) = capDistanceD cm d := by
  have h : (Trig.arccos (clip1 d) : ℝ) = Trig.arccos d := arccos_clip d
  simp only [capDistanceD, h]

/-- RA/Dec input is converted to a unit vector -/
theorem radec_unit (ra dec : ℝ) :
    let q := (Point.radec ra dec).toXyz
    q.1 * q.1 + q.2.1 * q.2.1 + q.2.2 * q.2.2 = 1 :=
  MangleGeom.polar_unit (radians ra) (radians (90 - dec))

theorem isInCap_iff (c : Cap ℝ) (p : Point ℝ) :
    isInCap c p = true ↔ 0 ≤ capDistanceD c.cm (clip1 (dot p.toXyz c)) := by
  unfold isInCap capDistance
  rw [decide_eq_true_iff]
  simp only [scalar_lit, Nat.cast_zero]

/-- cap with cm ≥ 0: a point (Cartesian or RA/Dec alike) is inside exactly when
`1 - x·p ≤ cm`, where `x·p` is the dot product clipped to [-1,1] (no change for unit vectors) -/
theorem cap_formula (c : Cap ℝ) (p : Point ℝ) (h0 : 0 ≤ c.cm) (h2 : c.cm ≤ 2) :
    isInCap c p = true ↔ 1 - clip1 (dot p.toXyz c) ≤ c.cm :=
  (isInCap_iff c p).trans (capDistanceD_pos _ _ h0 h2 (clip1_mem _).1 (clip1_mem _).2)

/-- cap with cm < 0: inside exactly when `1 - x·p ≥ |cm|`, i.e. the complement of the cap of size
|cm| together with its boundary circle (the statement's "complement" up to that circle) -/
theorem cap_formula_neg (c : Cap ℝ) (p : Point ℝ) (h0 : c.cm < 0) (h2 : -2 ≤ c.cm) :
    (isInCap c p = true ↔ -c.cm ≤ 1 - clip1 (dot p.toXyz c)) ∧
    (¬ (1 - clip1 (dot p.toXyz c) ≤ -c.cm) → isInCap c p = true) ∧
    (isInCap c p = true → ¬ (1 - clip1 (dot p.toXyz c) < -c.cm)) := by
  have key := (isInCap_iff c p).trans (capDistanceD_neg _ _ h0 h2 (clip1_mem _).1 (clip1_mem _).2)
  exact ⟨key, fun h => key.2 (le_of_lt (not_le.1 h)), fun h => not_lt.2 (key.1 h)⟩

/-- for unit vectors the clip is the identity: the test is on `x·p` itself -/
theorem clip_dot_unit (c : Cap ℝ) (a b d : ℝ) (hp : a * a + b * b + d * d = 1)
    (hc : c.x * c.x + c.y * c.y + c.z * c.z = 1) :
    clip1 (dot (a, b, d) c) = a * c.x + b * c.y + d * c.z := by
  have hb := MangleGeom.unit_dot_bounds a b d c.x c.y c.z hp hc
  rw [clip1_real]
  show max (-1) (min 1 (a * c.x + b * c.y + d * c.z)) = _
  rw [min_eq_right hb.2, max_eq_right hb.1]

/-- the point at a cap's own centre is inside the cap (cm ≥ 0) -/
theorem cap_centre_inside (c : Cap ℝ) (hc : c.x * c.x + c.y * c.y + c.z * c.z = 1)
    (h0 : 0 ≤ c.cm) (h2 : c.cm ≤ 2) : isInCap c (.xyz c.x c.y c.z) = true := by
  rw [cap_formula c _ h0 h2]
  show 1 - clip1 (dot (c.x, c.y, c.z) c) ≤ c.cm
  rw [clip_dot_unit c c.x c.y c.z hc hc]
  linarith

theorem radians_real (r : ℝ) : radians r = r * (Real.pi / 180) := rfl

theorem circleCap_cm (r : ℝ) (p : Point ℝ) : (circleCap r p).cm = 1 - Real.cos (radians r) := by
  simp only [circleCap, scalar_lit, Nat.cast_one]
  rfl

/-- `circle_cap(r, p)` (0 ≤ r ≤ 180 degrees) contains exactly the points whose angular separation from `p`
(`arccos` of the clipped dot product) is at most `r` degrees; Cartesian and RA/Dec input alike, for the centre
as for the points -/
theorem circle_cap_within (r : ℝ) (p q : Point ℝ) (h0 : 0 ≤ r) (h1 : r ≤ 180) :
    isInCap (circleCap r p) q = true ↔ Real.arccos (clip1 (dot q.toXyz (circleCap r p))) ≤ radians r := by
  have hr0 : 0 ≤ radians r := mul_nonneg h0 deg_pos.le
  have hrpi : radians r ≤ Real.pi := deg_le_pi h1
  have hc1 := Real.cos_le_one (radians r)
  have hc2 := Real.neg_one_le_cos (radians r)
  have hcm := circleCap_cm r p
  rw [cap_formula _ q (by rw [hcm]; linarith) (by rw [hcm]; linarith), hcm]
  -- `1 - x·p ≤ 1 - cos ρ` is `cos ρ ≤ x·p`, and `arccos` reverses the order on [-1, 1], with `arccos (cos ρ) = ρ`
  rw [sub_le_sub_iff_left]
  conv_rhs => rw [← Real.arccos_cos hr0 hrpi]
  exact (Real.strictAntiOn_arccos.le_iff_ge (clip1_mem _) ⟨hc2, hc1⟩).symm

/-- the centre of `circle_cap(r, p)` is `p` itself (as a Cartesian vector) and `cm = 1 - cos r` lies in [0, 2] -/
theorem circle_cap_fields (r : ℝ) (p : Point ℝ) :
    ((circleCap r p).x, (circleCap r p).y, (circleCap r p).z) = p.toXyz ∧
    0 ≤ (circleCap r p).cm ∧ (circleCap r p).cm ≤ 2 := by
  have hc1 := Real.cos_le_one (radians r)
  have hc2 := Real.neg_one_le_cos (radians r)
  rw [circleCap_cm]
  exact ⟨rfl, by linarith, by linarith⟩

example : wfPoly ({ ncaps := 1, useCaps := 1, rows := [⟨0, 0, 1, 1⟩, ⟨1, 0, 0, 1⟩] } : Polygon ℝ) := by
  simp [wfPoly]

example : let c : Cap ℝ := ⟨0, 0, 1, 1⟩
    c.x * c.x + c.y * c.y + c.z * c.z = 1 ∧ 0 ≤ c.cm ∧ c.cm ≤ 2 := by norm_num

example : ∀ b ∈ [(⟨0, 2⟩ : BRow), ⟨1, 1⟩], b.icap + b.ncaps ≤ [(⟨0, 0, 1, 1⟩ : Cap ℝ), ⟨1, 0, 0, 1⟩].length := by
  simp

/-- the cap of radius 90° about the pole contains the pole (hypotheses of `cap_centre_inside` met) -/
example : isInCap (⟨0, 0, 1, 1⟩ : Cap ℝ) (.xyz 0 0 1) = true :=
  cap_centre_inside ⟨0, 0, 1, 1⟩ (by norm_num) (by norm_num) (by norm_num)

end real

/-! ## The Mangle ASCII polygon format (`read_mangle_polygons`, model `Model/ManglePly.lean`) -/
section ply
open PydlVerif.ManglePly
variable {α : Type}

/-- the polygon the window functions see: `ncaps`, `use_caps = (1 << ncaps) - 1`, the caps -/
def plyToPolygon (P : PlyPoly α) : Polygon α :=
  { ncaps := P.ncaps, useCaps := P.useCaps, rows := P.rows.map fun c => ⟨c.x, c.y, c.z, c.cm⟩ }

theorem ply_polygon_wf (P : PlyPoly α) : wfPoly (plyToPolygon P) := by
  simp [wfPoly, plyToPolygon, PlyPoly.ncaps]

/-- the reader's use-mask selects exactly the caps of the file -/
theorem ply_use_caps_all (P : PlyPoly α) (i : Nat) : P.useCaps.testBit i = true ↔ i < P.ncaps := by
  simp [PlyPoly.useCaps, PlyPoly.ncaps, Nat.testBit_two_pow_sub_one, Nat.shiftLeft_eq]

/-- Round trip on the lexed form of the canonical file (`N polygons`, any keyword lines, per polygon the header with
caps / weight / pixel / optional str and one line per cap): the reader returns exactly the keyword lines and the polygon list.
Assumed: `float(text)` reads back what the writer wrote (`hF`), Python's `int` reads back the integers that occur (`hI`, `h0`);
every polygon has at least one cap (`hne`; `ply_zero_caps_refused`). -/
theorem ply_roundtrip_lex (parseF : List Char → Option α) (one : α) (fmtF : α → List Char) (fmtI : Int → List Char)
    (hF : ∀ x, parseF (fmtF x) = some x) (kw : List (List Char)) (polys : List (PlyPoly α))
    (hI : ∀ P ∈ polys, IntsOk fmtI P) (hne : ∀ P ∈ polys, P.rows ≠ []) (hp : polys ≠ [])
    (h0 : (pyInt (fmtI (Int.ofNat polys.length))).isSome) :
    parseLex parseF one (canonLex fmtF fmtI kw polys) = .ok (kw, polys) := by
  obtain ⟨n0, hn0⟩ := Option.isSome_iff_exists.1 h0
  have hst : ∀ l ∈ lexFirst fmtI polys.length :: kw.map lexKw, l.starts = false :=
    List.forall_mem_cons.2 ⟨rfl, List.forall_mem_map.2 fun _ _ => rfl⟩
  have hpl := pLinesFrom_pre 0 _ (polys.flatMap (lexBlock fmtF fmtI)) hst
  rw [pLinesFrom_blocks, Nat.zero_add] at hpl
  have hb := blocks_canon parseF one fmtF fmtI hF polys hI hne (lexFirst fmtI polys.length :: kw.map lexKw)
  cases polys with
  | nil => exact absurd rfl hp
  | cons P r =>
    refine (parseLex_ok parseF one (by simp [lexFirst, sp]) rfl hn0 hpl hb).trans ?_
    rw [List.length_cons, List.take_succ_cons, List.append_eq, List.take_left' rfl, List.drop_succ_cons, List.drop_zero,
      map_raw_lexKw]

/-- Round trip on the characters of the file, with the lexical step as the explicit hypothesis `hlex` (the hand-written
scanners `strip` / `split` / `r1` / `split(',')` applied to the rendered text give the canonical lexed lines).  NOT proved:
`hlex` from "number texts contain no whitespace, comma, parenthesis and do not begin with `polygon`"; it is checked by
evaluation for a concrete file (`exLex`) and, for every generated file of every run, by the `plylex` stream against Python's
own `str` / `re`. -/
theorem ply_roundtrip_partial (parseF : List Char → Option α) (one : α) (fmtF : α → List Char) (fmtI : Int → List Char)
    (hF : ∀ x, parseF (fmtF x) = some x) (kw : List (List Char)) (polys : List (PlyPoly α))
    (hI : ∀ P ∈ polys, IntsOk fmtI P) (hne : ∀ P ∈ polys, P.rows ≠ []) (hp : polys ≠ [])
    (h0 : (pyInt (fmtI (Int.ofNat polys.length))).isSome)
    (hlex : lexFile (renderPly fmtF fmtI kw polys) = canonLex fmtF fmtI kw polys) :
    parsePly parseF one (renderPly fmtF fmtI kw polys) = .ok (kw, polys) := by
  unfold parsePly
  rw [hlex]
  exact ply_roundtrip_lex parseF one fmtF fmtI hF kw polys hI hne hp h0

/-- Membership is format independent end to end: window lookup over the polygons READ from the text equals the lookup
over the polygons themselves and over the same polygons stored as FITS rows with padding.  Same lexical hypothesis as
`ply_roundtrip_partial`. -/
theorem ply_window_format_independent_partial [Trig α] (parseF : List Char → Option α) (one : α) (fmtF : α → List Char)
    (fmtI : Int → List Char) (hF : ∀ x, parseF (fmtF x) = some x) (kw : List (List Char)) (polys : List (PlyPoly α))
    (hI : ∀ P ∈ polys, IntsOk fmtI P) (hne : ∀ P ∈ polys, P.rows ≠ []) (hp : polys ≠ [])
    (h0 : (pyInt (fmtI (Int.ofNat polys.length))).isSome)
    (hlex : lexFile (renderPly fmtF fmtI kw polys) = canonLex fmtF fmtI kw polys)
    (pts : List (Point α)) (ncaps : Int) :
    (match parsePly parseF one (renderPly fmtF fmtI kw polys) with
     | .ok r => isInWindow (r.2.map plyToPolygon) pts ncaps
     | .error e => .error e) = isInWindow (polys.map plyToPolygon) pts ncaps ∧
    isInWindow ((polys.map plyToPolygon).map ofRecord) pts ncaps = isInWindow (polys.map plyToPolygon) pts ncaps := by
  rw [ply_roundtrip_partial parseF one fmtF fmtI hF kw polys hI hne hp h0 hlex]
  exact ⟨rfl, window_formats_agree _ pts ncaps (List.forall_mem_map.2 fun Q _ => ply_polygon_wf Q)⟩

/-- Malformed first line: the first word is not an integer literal -> `PydlutilsException` -/
theorem ply_bad_first_line (parseF : List Char → Option α) (one : α) (l0 : LexLine) (rest : List LexLine) (t : List Char)
    (ts : List (List Char)) (hraw : l0.raw.isEmpty = false) (ht : l0.toks = t :: ts) (hint : pyInt t = none) :
    parseLex parseF one (l0 :: rest) = .error "PydlutilsException" := by
  simp [parseLex, hraw, ht, hint]

/-- An empty file or an empty first line: `IndexError` -/
theorem ply_no_first_line (parseF : List Char → Option α) (one : α) (l0 : LexLine) (rest : List LexLine)
    (hraw : l0.raw.isEmpty = true) :
    parseLex parseF one ([] : List LexLine) = .error "IndexError" ∧ parseLex parseF one (l0 :: rest) = .error "IndexError" :=
  by simp [parseLex, hraw]

/-- Cap count: whatever the per-polygon step accepts has EXACTLY the announced number of caps, each a line present in the
file behind the header, and at least one.  Hence a count that differs from the lines read, exceeds the lines left in the
file, or is ≤ 0 is refused. -/
theorem ply_count_mismatch_refused (parseF : List Char → Option α) (one : α) (lines : List LexLine) (p : Nat) (P : PlyPoly α)
    (h : parseBlock parseF one lines p = .ok P) :
    announced parseF lines p = some (Int.ofNat P.rows.length) ∧ p + 1 + P.rows.length ≤ lines.length ∧ 1 ≤ P.rows.length := by
  unfold announced
  revert h
  -- the nine refusing arms of `parseBlock` (no such line, no header match, a bad piece or value, no `caps`, a bad cap line, ragged
  -- rows, a wrong shape, a row that is no cap) contradict the hypothesis that it returned; the accepting arm is left
  fun_cases parseBlock parseF one lines p <;> intro h <;> try contradiction
  rename_i hh tl hdrop ds pieces hhdr kvs hkv md hmd caps hcaps rows hrows sh hsh hcond cs hcs
  cases h
  dsimp only
  have hc0 : 0 ≤ caps := Int.not_lt.1 fun hc => hcond (Or.inl hc)
  have hshape : sh = [caps.toNat, 3] := Decidable.not_not.1 fun hs => hcond (Or.inr hs)
  subst hshape
  obtain ⟨l3, hpos⟩ := xShape_length hsh
  rw [List.length_map] at l3
  have l1 := toCaps_length hcs
  have l2 := capRows_length parseF hrows
  have l4 := pySlice_length_le lines (p + 1) (Int.ofNat (p + 1) + caps)
  refine ⟨?_, by omega, by omega⟩
  simp only [hdrop, hhdr, hkv, hmd]
  rw [hcaps, l1, l3, Int.ofNat_eq_natCast, Int.toNat_of_nonneg hc0]

/-- a header that announces more caps than there are lines left in the file is refused -/
theorem ply_missing_rows_refused (parseF : List Char → Option α) (one : α) (lines : List LexLine) (p : Nat) (caps : Int)
    (ha : announced parseF lines p = some caps) (hmore : Int.ofNat lines.length < Int.ofNat (p + 1) + caps) :
    ∀ P, parseBlock parseF one lines p ≠ .ok P := by
  intro P h
  obtain ⟨h1, h2, _⟩ := ply_count_mismatch_refused parseF one lines p P h
  rw [ha] at h1
  simp only [Option.some.injEq] at h1
  subst h1
  simp only [Int.ofNat_eq_natCast] at hmore
  omega

/-- A zero-cap polygon in a `.ply` file is refused by the reader (`np.array([]).shape == (0,)`, the assert wants `(0, 3)`) -/
theorem ply_zero_caps_refused (parseF : List Char → Option α) (one : α) (lines : List LexLine) (p : Nat)
    (ha : announced parseF lines p = some 0) : ∀ P, parseBlock parseF one lines p ≠ .ok P := by
  intro P h
  obtain ⟨h1, _, h3⟩ := ply_count_mismatch_refused parseF one lines p P h
  rw [ha] at h1
  simp only [Option.some.injEq, Int.ofNat_eq_natCast] at h1
  omega

end ply

section ext
variable {α : Type} [Trig α]

/-- `add_caps`: the caps are appended and stored, but the use-mask is kept, so (for a mask without bits beyond the old
`ncaps`, which every reader and `set_use_caps` produce) membership is UNCHANGED until `set_use_caps` selects the new caps -/
theorem add_caps_membership (P : Polygon α) (new : List (Cap α)) (hx : P.rows.length = P.ncaps)
    (hu : P.useCaps < 2 ^ P.ncaps) (n : Int) (p : Point α) :
    ∃ Q, addCaps P new = .ok Q ∧ Q.ncaps = P.ncaps + new.length ∧ Q.rows = P.rows ++ new ∧ Q.useCaps = P.useCaps ∧
      wfPoly Q ∧ inP n Q p = inP n P p := by
  refine ⟨{ ncaps := P.ncaps + new.length, useCaps := P.useCaps, rows := P.rows ++ new }, by rw [addCaps, if_pos hx],
    rfl, rfl, rfl, by simp [wfPoly, hx], ?_⟩
  rw [Bool.eq_iff_iff, inP, inP, inPolyPt_iff, inPolyPt_iff]
  refine forall_congr' fun i => ?_
  by_cases hb : P.useCaps.testBit i = true
  · -- a used cap is an old one: there the two ranges and the two row lists agree
    have hin : i < P.ncaps := (Nat.pow_lt_pow_iff_right (by norm_num)).1 ((Nat.ge_two_pow_of_testBit hb).trans_lt hu)
    simp only [useNcaps_lt_iff _ _ n i hin, List.getElem?_append_left (hx ▸ hin)]
  · simp [hb]

theorem forall_lt_add {a k : Nat} {Q : Nat → Prop} :
    (∀ i, i < a + k → Q i) ↔ (∀ i, i < a → Q i) ∧ (∀ j, j < k → Q (a + j)) :=
  ⟨fun h => ⟨fun i hi => h i (by omega), fun j hj => h (a + j) (by omega)⟩,
   fun h i hi => if hia : i < a then h.1 i hia else by
     have := h.2 (i - a) (by omega); rwa [Nat.add_sub_cancel' (by omega)] at this⟩

/-- once the new caps are selected as well (`use_caps` = old mask plus the bits `ncaps .. ncaps+k-1`), membership in the
polygon built by `add_caps` is the AND of the old polygon and every new cap -/
theorem add_caps_selected_and (P : Polygon α) (new : List (Cap α)) (hx : P.rows.length = P.ncaps)
    (hu : P.useCaps < 2 ^ P.ncaps) (u : Nat)
    (hsel : ∀ i, u.testBit i = (P.useCaps.testBit i || (decide (P.ncaps ≤ i) && decide (i < P.ncaps + new.length))))
    (p : Point α) :
    inP 0 { ncaps := P.ncaps + new.length, useCaps := u, rows := P.rows ++ new } p =
      (inP 0 P p && new.all fun c => isInCap c p) := by
  rw [Bool.eq_iff_iff, Bool.and_eq_true, inP, inP, inPolyPt_iff, inPolyPt_iff, List.all_eq_true]
  simp only [useNcaps_nonpos (by decide : ¬ (0 : Int) < 0)]
  rw [forall_lt_add]
  refine and_congr (forall_congr' fun i => forall_congr' fun hi => ?_) ?_
  · -- below the old `ncaps` the new mask and rows are the old ones
    rw [hsel, List.getElem?_append_left (hx ▸ hi), decide_eq_false (Nat.not_le.2 hi), Bool.false_and, Bool.or_false]
  · -- the new caps are all selected, and row `ncaps + j` is `new[j]`
    rw [List.forall_mem_iff_getElem]
    refine forall_congr' fun j => ⟨fun h hj => h hj (by rw [hsel]; simp [hj]) _
      (by rw [List.getElem?_append_right (by omega)]; simp [hx, hj]), fun h hj _ c hc => ?_⟩
    rw [List.getElem?_append_right (by omega), hx, Nat.add_sub_cancel_left, List.getElem?_eq_getElem hj] at hc
    exact Option.some.inj hc ▸ h hj

/-- one-cap FITS tables (scalar `XCAPS` / `CMCAPS` columns; the D20 case): the converted polygon keeps NCAPS, USE_CAPS and the
single stored cap (`hz`: adding it to the zero array returns it - every real, every float but -0.0, which becomes 0.0)
- also when NCAPS = 0, where the general branch (`record_take`) would keep no cap; for NCAPS = 1 both branches agree -/
theorem record_scalar (P : Polygon α) (c : Cap α) (h : P.rows = [c])
    (hz : (0 : α) + c.x = c.x ∧ (0 : α) + c.y = c.y ∧ (0 : α) + c.z = c.z ∧ (0 : α) + c.cm = c.cm) :
    ofRecordScalar P = .ok P ∧ (P.ncaps = 1 → ofRecord P = P) ∧ (wfPoly P ↔ P.ncaps ≤ 1) := by
  obtain ⟨n, u, rows⟩ := P
  simp only at h
  subst h
  obtain ⟨c1, c2, c3, c4⟩ := c
  simp only at hz
  refine ⟨by simp only [ofRecordScalar, hz.1, hz.2.1, hz.2.2.1, hz.2.2.2], ?_, by simp [wfPoly]⟩
  intro h1
  simp only at h1
  subst h1
  rfl

/-- `polyn(other, n, complement)` appends cap `n` of `other` (sign flipped for `complement`) and is refused
(`IndexError`) exactly when `other` has no such cap -/
theorem polyn_spec (P other : Polygon α) (n : Nat) (compl : Bool) :
    (other.rows[n]? = none → polyn P other n compl = .error "IndexError") ∧
    (∀ c, other.rows[n]? = some c →
      polyn P other n compl = addCaps P [{ c with cm := (if compl then -1 else 1) * c.cm }]) := by
  constructor
  · intro h; simp [polyn, h]
  · intro c h; simp [polyn, h]

end ext

section plyExamples
open PydlVerif.ManglePly

/-- a toy number type with a text form that reads back: the hypotheses of the round trip are satisfiable -/
def exFmtF (b : Bool) : List Char := if b then ['1', '.', '5', 'e', '-', '3'] else ['-', '0', '.', '2', '5']
def exParseF (t : List Char) : Option Bool :=
  if t = ['1', '.', '5', 'e', '-', '3'] then some true else if t = ['-', '0', '.', '2', '5'] then some false else none
def exFmtI (i : Int) : List Char := (toString i).toList
def exPolys : List (PlyPoly Bool) :=
  [{ id := 7, weight := true, pixel := -1, str := some false, rows := [⟨true, false, false, true⟩, ⟨false, false, true, false⟩] },
   { id := 12, weight := false, pixel := 305, str := none, rows := [⟨false, true, true, true⟩] }]
def exKw : List (List Char) := ["snapped".toList, "pixelization 6s".toList]

example : ∀ x, exParseF (exFmtF x) = some x := by decide
theorem exInts : ∀ P ∈ exPolys, IntsOk exFmtI P := by
  intro P hP
  simp only [exPolys, List.mem_cons, List.not_mem_nil, or_false] at hP
  rcases hP with rfl | rfl <;> (unfold IntsOk; decide)
example : ∀ P ∈ exPolys, IntsOk exFmtI P := exInts
example : ∀ P ∈ exPolys, P.rows ≠ [] := by decide
/- The runs of the scanners and of the reader on whole files below are evaluated by the kernel alone (`+kernel`); plain `decide`
would have the elaborator evaluate them first and the kernel a second time. -/
/-- the lexical hypothesis `hlex` holds for this file -/
theorem exLex : lexFile (renderPly exFmtF exFmtI exKw exPolys) = canonLex exFmtF exFmtI exKw exPolys := by decide +kernel
example : lexFile (renderPly exFmtF exFmtI exKw exPolys) = canonLex exFmtF exFmtI exKw exPolys := exLex
/-- `ply_roundtrip_partial` at this file -/
example : parsePly exParseF true (renderPly exFmtF exFmtI exKw exPolys) = .ok (exKw, exPolys) :=
  ply_roundtrip_partial exParseF true exFmtF exFmtI (by decide) exKw exPolys exInts (by decide) (by decide) (by decide) exLex
/-- refusals are met by concrete files (a string literal is `String.ofList` of its characters: `String.toList_ofList` hands
them over without decoding the literal) -/
example : parsePly exParseF true "x polygons\n".toList = .error "PydlutilsException" := by
  rw [String.toList_ofList]
  decide +kernel
example : parsePly exParseF true "1 polygons\npolygon 0 ( 2 caps, 1.5e-3 weight):\n 1.5e-3 -0.25 -0.25 1.5e-3\n".toList
    = .error "AssertionError" := by
  rw [String.toList_ofList]
  decide +kernel
example : parsePly exParseF true "1 polygons\npolygon 0 ( 0 caps, 1.5e-3 weight):\n".toList = .error "AssertionError" := by
  rw [String.toList_ofList]
  decide +kernel

end plyExamples

/-- the literals of the real-number statements are the ordinary real numbers (checked outside the
section that installs the model's literal instances) -/
example (c : Cap ℝ) (p : Point ℝ) (h0 : (0 : ℝ) ≤ c.cm) (h2 : c.cm ≤ (2 : ℝ)) :
    @isInCap ℝ realTrig c p = true ↔
      (1 : ℝ) - @clip1 ℝ realTrig (@dot ℝ realTrig (@Point.toXyz ℝ realTrig p) c) ≤ c.cm :=
  cap_formula c p h0 h2

example (c : Cap ℝ) (a b d : ℝ) (hp : a * a + b * b + d * d = (1 : ℝ))
    (hc : c.x * c.x + c.y * c.y + c.z * c.z = (1 : ℝ)) :
    @clip1 ℝ realTrig (@dot ℝ realTrig (a, b, d) c) = a * c.x + b * c.y + d * c.z :=
  clip_dot_unit c a b d hp hc

end PydlVerif.C12
