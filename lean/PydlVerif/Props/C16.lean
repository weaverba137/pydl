/-
C16: readspec returns each requested spectrum in request order, unshifted; spec_append never overlaps, drops or moves
data other than by the requested pixel shift.  The same for `znum=`, `fiber=None` and readspec over directory listings;
what a fibre number `≤ 0` reads and the requests on which readspec raises.  Core Lean only.
-/
import PydlVerif.Lemmas.SpecFiles
import PydlVerif.Lemmas.SpecOrder
namespace PydlVerif.C16
open PydlVerif PydlVerif.SpecOrder

/-! ## spec_append -/

/-- `spec_append(spec1, spec2, pixshift)` is rectangular with `nrows1 + nrows2` rows and `max(npix1 + nadd1, npix2 + nadd2)`
pixels (`nadd1 = |pixshift|` for a negative shift, `nadd2 = pixshift` for a positive one): the rows of `spec1` moved right
by exactly `nadd1`, then the rows of `spec2` moved right by exactly `nadd2`, zero in every other cell. -/
theorem specAppend_spec {α} (z : α) (s1 s2 : Img α) (ps : Int) (h1 : Img.WF s1) (h2 : Img.WF s2) :
    let r := specAppend z s1 s2 ps
    let a1 := (-ps).toNat
    let a2 := ps.toNat
    r.npix = max (s1.npix + a1) (s2.npix + a2) ∧ Img.WF r ∧
    r.rows.length = s1.rows.length + s2.rows.length ∧
    (∀ i p, i < s1.rows.length →
      cell z r i p = if a1 ≤ p ∧ p < a1 + s1.npix then cell z s1 i (p - a1) else z) ∧
    (∀ i p, i < s2.rows.length →
      cell z r (s1.rows.length + i) p = if a2 ≤ p ∧ p < a2 + s2.npix then cell z s2 i (p - a2) else z) := by
  simp only [specAppend_eq]
  generalize (-ps).toNat = a1, ps.toNat = a2
  refine ⟨trivial, ?_, ?_, ?_, ?_⟩
  · intro row hrow
    rcases List.mem_append.mp hrow with h | h
    · obtain ⟨x, hx, rfl⟩ := List.mem_map.mp h
      exact place_length z _ _ x (by rw [h1 x hx, Nat.add_comm]; exact Nat.le_max_left _ _)
    · obtain ⟨x, hx, rfl⟩ := List.mem_map.mp h
      exact place_length z _ _ x (by rw [h2 x hx, Nat.add_comm]; exact Nat.le_max_right _ _)
  · simp only [List.length_append, List.length_map]
  · intro i p hi
    rw [cell_append_left z _ _ _ _ hi, place_get, h1 _ (List.getElem_mem hi), cell_of_lt z s1 hi]
  · intro i p hi
    rw [cell_append_right z _ _ _ _ _ hi, place_get, h2 _ (List.getElem_mem hi), cell_of_lt z s2 hi]

/-- `spec_append` drops nothing and nothing overlaps: every cell of `spec1` and of `spec2` is found inside the
result at its shifted place, and at most one of the two shifts is non-zero. -/
theorem specAppend_nothing_dropped {α} (z : α) (s1 s2 : Img α) (ps : Int) (h1 : Img.WF s1) (h2 : Img.WF s2) :
    let r := specAppend z s1 s2 ps
    let a1 := (-ps).toNat
    let a2 := ps.toNat
    (a1 = 0 ∨ a2 = 0) ∧
    (∀ i q, i < s1.rows.length → q < s1.npix → q + a1 < r.npix ∧ cell z r i (q + a1) = cell z s1 i q) ∧
    (∀ i q, i < s2.rows.length → q < s2.npix →
      q + a2 < r.npix ∧ cell z r (s1.rows.length + i) (q + a2) = cell z s2 i q) := by
  obtain ⟨hn, _, _, hc1, hc2⟩ := specAppend_spec z s1 s2 ps h1 h2
  refine ⟨(Int.le_total 0 ps).imp (fun h => Int.toNat_eq_zero.mpr (Int.neg_nonpos_of_nonneg h)) Int.toNat_eq_zero.mpr, ?_⟩
  -- the rest holds for any two shifts
  generalize (-ps).toNat = a1, ps.toNat = a2 at *
  rw [hn]
  refine ⟨fun i q hi hq => ⟨Nat.lt_of_lt_of_le (Nat.add_lt_add_right hq a1) (Nat.le_max_left _ _), ?_⟩,
    fun i q hi hq => ⟨Nat.lt_of_lt_of_le (Nat.add_lt_add_right hq a2) (Nat.le_max_right _ _), ?_⟩⟩
  · rw [hc1 i _ hi, if_pos ⟨Nat.le_add_left _ _, Nat.add_comm q a1 ▸ Nat.add_lt_add_left hq a1⟩, Nat.add_sub_cancel]
  · rw [hc2 i _ hi, if_pos ⟨Nat.le_add_left _ _, Nat.add_comm q a2 ▸ Nat.add_lt_add_left hq a2⟩, Nat.add_sub_cancel]

/-- Negative shift `pixshift = -k`: spec1 is moved right by exactly k pixels, spec2 is not moved. -/
theorem specAppend_shift_neg {α} (z : α) (s1 s2 : Img α) (k : Nat) (h1 : Img.WF s1) (h2 : Img.WF s2) :
    let r := specAppend z s1 s2 (-(k : Int))
    r.npix = max (s1.npix + k) s2.npix ∧ Img.WF r ∧ r.rows.length = s1.rows.length + s2.rows.length ∧
    (∀ i p, i < s1.rows.length → cell z r i p = if k ≤ p ∧ p < k + s1.npix then cell z s1 i (p - k) else z) ∧
    (∀ i p, i < s2.rows.length → cell z r (s1.rows.length + i) p = if p < s2.npix then cell z s2 i p else z) := by
  have := specAppend_spec z s1 s2 (-(k : Int)) h1 h2
  simp only [Int.neg_neg, Int.toNat_natCast, Int.toNat_neg_natCast, Nat.add_zero, Nat.zero_le, true_and, Nat.zero_add,
    Nat.sub_zero] at this
  exact this

/-- Positive shift `pixshift = k`: spec2 is moved right by exactly k pixels, spec1 is not moved. -/
theorem specAppend_shift_pos {α} (z : α) (s1 s2 : Img α) (k : Nat) (h1 : Img.WF s1) (h2 : Img.WF s2) :
    let r := specAppend z s1 s2 (k : Int)
    r.npix = max s1.npix (s2.npix + k) ∧ Img.WF r ∧ r.rows.length = s1.rows.length + s2.rows.length ∧
    (∀ i p, i < s1.rows.length → cell z r i p = if p < s1.npix then cell z s1 i p else z) ∧
    (∀ i p, i < s2.rows.length →
      cell z r (s1.rows.length + i) p = if k ≤ p ∧ p < k + s2.npix then cell z s2 i (p - k) else z) := by
  have := specAppend_spec z s1 s2 (k : Int) h1 h2
  simp only [Int.toNat_natCast, Int.toNat_neg_natCast, Nat.add_zero, Nat.zero_le, true_and, Nat.zero_add,
    Nat.sub_zero] at this
  exact this

/-- Empty blocks, as the code handles them: a block without rows contributes no row (but its pixel count still enters
the width), a block without pixels contributes all-zero rows, two blocks without rows give an array without rows. -/
theorem specAppend_empty {α} (z : α) (s1 s2 : Img α) (ps : Int) (h1 : Img.WF s1) (h2 : Img.WF s2) :
    let r := specAppend z s1 s2 ps
    let a1 := (-ps).toNat
    let a2 := ps.toNat
    (s1.rows = [] → r.rows.length = s2.rows.length ∧ ∀ i p, i < s2.rows.length →
      cell z r i p = if a2 ≤ p ∧ p < a2 + s2.npix then cell z s2 i (p - a2) else z) ∧
    (s2.rows = [] → r.rows.length = s1.rows.length ∧ ∀ i p, i < s1.rows.length →
      cell z r i p = if a1 ≤ p ∧ p < a1 + s1.npix then cell z s1 i (p - a1) else z) ∧
    (s1.npix = 0 → ∀ i p, i < s1.rows.length → cell z r i p = z) ∧
    (s2.npix = 0 → ∀ i p, i < s2.rows.length → cell z r (s1.rows.length + i) p = z) ∧
    (s1.rows = [] → s2.rows = [] → r.rows = []) := by
  obtain ⟨_, _, hl, hc1, hc2⟩ := specAppend_spec z s1 s2 ps h1 h2
  refine ⟨fun he => ?_, fun he => ?_, fun h0 i p hi => ?_, fun h0 i p hi => ?_, fun e1 e2 => ?_⟩
  · rw [he, List.length_nil, Nat.zero_add] at hl
    refine ⟨hl, fun i p hi => ?_⟩
    have := hc2 i p hi
    rwa [he, List.length_nil, Nat.zero_add] at this
  · rw [he, List.length_nil, Nat.add_zero] at hl
    exact ⟨hl, hc1⟩
  · rw [hc1 i p hi, h0, if_neg (fun h => Nat.lt_irrefl _ (Nat.lt_of_lt_of_le h.2 h.1))]
  · rw [hc2 i p hi, h0, if_neg (fun h => Nat.lt_irrefl _ (Nat.lt_of_lt_of_le h.2 h.1))]
  · rw [e1, e2] at hl
    exact List.eq_nil_of_length_eq_zero hl

/-! ## the plate-MJD key -/

theorem key_decode (p m : Nat) (h : m < 2 ^ 16) :
    key p m >>> 16 = p ∧ key p m &&& ((1 <<< 16) - 1) = m := by
  have e : (1 <<< 16) - 1 = 2 ^ 16 - 1 := rfl
  rw [e, Nat.and_two_pow_sub_one_eq_mod, Nat.shiftRight_eq_div_pow, key, Nat.shiftLeft_eq, Nat.add_comm,
    Nat.add_mul_div_right _ _ (by decide), Nat.add_mul_mod_self_right, Nat.div_eq_of_lt h, Nat.mod_eq_of_lt h]
  exact ⟨Nat.zero_add p, rfl⟩

/-- `(plate << 16) + mjd` identifies the pair when `mjd < 2^16`.  readspec groups the requests by this key, one file per key, so
requests of different plate-MJDs never share a pass; `mjd < 2^16` is the MJD < 65536 assumption of the property. -/
theorem key_injective (p1 m1 p2 m2 : Nat) (h1 : m1 < 2 ^ 16) (h2 : m2 < 2 ^ 16)
    (h : key p1 m1 = key p2 m2) : p1 = p2 ∧ m1 = m2 := by
  have a := key_decode p1 m1 h1
  rw [h] at a
  have b := key_decode p2 m2 h2
  exact ⟨a.1.symm.trans b.1, a.2.symm.trans b.2⟩

theorem decode_inj (u v : Nat) (h1 : u >>> 16 = v >>> 16)
    (h2 : u &&& ((1 <<< 16) - 1) = v &&& ((1 <<< 16) - 1)) : u = v := by
  have e : (1 <<< 16) - 1 = 2 ^ 16 - 1 := rfl
  rw [e, Nat.and_two_pow_sub_one_eq_mod, Nat.and_two_pow_sub_one_eq_mod] at h2
  rw [Nat.shiftRight_eq_div_pow, Nat.shiftRight_eq_div_pow] at h1
  rw [← Nat.div_add_mod u (2 ^ 16), ← Nat.div_add_mod v (2 ^ 16), h1, h2]

/-! ## readspec on request vectors of the domain -/

section Readspec
variable {α τ : Type} [Scalar α]

/-- the zero of `np.zeros` -/
abbrev zero : α := Scalar.ofNat 0

/-- file row of request `i`: `fibre_i - 1` -/
def rowOf (fv : List Int) (i : Nat) : Nat := (fv.getD i 0 - 1).toNat

/-- the pixels request `i` asks for in image `h` (7 = loglam) when its file is `f` -/
def srcRow (fv : List Int) (f : PlateFile α τ) (h i : Nat) : List α :=
  if h == 7 then loglam0 f else f.img h (rowOf fv i)

theorem tmpImg_eq (fv : List Int) (f : PlateFile α τ) (idx : List Nat) (h : Nat) :
    tmpImg f (idx.map (rowOf fv)) h = ⟨f.npix, idx.map (srcRow fv f h)⟩ := by
  unfold tmpImg srcRow
  split <;> simp [List.map_map, Function.comp_def]

theorem fibers_valid (fv : List Int) (nfib : Nat) (idx : List Nat)
    (hfib : ∀ i ∈ idx, 1 ≤ fv.getD i 0 ∧ fv.getD i 0 ≤ nfib) :
    (idx.map (fun i => fv.getD i 0)).all (fun x => (rowIndex nfib x).isSome) = true ∧
    (idx.map (fun i => fv.getD i 0)).map (fun x => (rowIndex nfib x).getD 0) = idx.map (rowOf fv) :=
  indices_valid (rowIndex nfib) _ (rowOf fv) idx fun i hi => (rowIndex_cases nfib _).1 (hfib i hi)

theorem specAppend_padded (w np : Nat) (idx0 idx : List Nat) (g : Nat → List α) :
    specAppend (zero : α) ⟨w, idx0.map (fun i => padTo zero w (g i))⟩ ⟨np, idx.map g⟩ 0
      = ⟨max w np, (idx0 ++ idx).map (fun i => padTo zero (max w np) (g i))⟩ := by
  have e1 : nadd1 0 = 0 := rfl
  have e2 : nadd2 0 = 0 := rfl
  simp only [specAppend, e1, e2, Nat.add_zero, List.map_map, List.map_append, Function.comp_def, place_zero,
    padTo_padTo]
  -- the accumulated rows end up padded to `max w (max w np)`, which is `max w np`
  congr 3
  funext i
  congr 1
  exact Nat.max_eq_right (Nat.le_max_left _ _)

/-- the domain of the statement, for request vectors `(pv, mv, fv)` of length n:
`files i` is the spPlate file of request i, `zt` / `tt` the spZbest / photoPlate tables
(`none`: no requested plate has the file, `some t`: every one has it, `t i` being the table of request i) -/
structure Domain (S : Survey α τ) (pv mv : List Nat) (fv : List Int) (files : Nat → PlateFile α τ)
    (zt tt : Option (Nat → Nat → τ)) : Prop where
  len_mv : mv.length = pv.length
  len_fv : fv.length = pv.length
  mjd_lt : ∀ i, i < pv.length → mv.getD i 0 < 2 ^ 16
  file : ∀ i, i < pv.length → S (pv.getD i 0) (mv.getD i 0) = some (files i)
  fiber : ∀ i, i < pv.length → 1 ≤ fv.getD i 0 ∧ fv.getD i 0 ≤ (files i).nfib
  rect : ∀ i, i < pv.length → ∀ h ∈ imgHdus, h ≠ 7 → ∀ r, r < (files i).nfib →
    ((files i).img h r).length = (files i).npix
  zans : ∀ i, i < pv.length → (files i).zans = zt.map (fun t => t i)
  tsobj : ∀ i, i < pv.length → (files i).tsobj = tt.map (fun t => t i)

variable {S : Survey α τ} {pv mv : List Nat} {fv : List Int} {files : Nat → PlateFile α τ}
  {zt tt : Option (Nat → Nat → τ)}

theorem mem_idxOf (u i : Nat) : i ∈ idxOf pv mv u ↔
    i < pv.length ∧ pv.getD i 0 = u >>> 16 ∧ mv.getD i 0 = u &&& ((1 <<< 16) - 1) := by
  rw [idxOf, List.mem_filter, List.mem_range, Bool.and_eq_true, beq_iff_eq, beq_iff_eq]

omit [Scalar α] in
theorem key_requests (i0 : Nat) (h0 : i0 < pv.length) (hm : mv.getD i0 0 < 2 ^ 16) (u : Nat)
    (hu : u = key (pv.getD i0 0) (mv.getD i0 0)) :
    u >>> 16 = pv.getD i0 0 ∧ u &&& ((1 <<< 16) - 1) = mv.getD i0 0 ∧ i0 ∈ idxOf pv mv u ∧
    ∀ i ∈ idxOf pv mv u, i < pv.length ∧ pv.getD i 0 = pv.getD i0 0 ∧ mv.getD i 0 = mv.getD i0 0 := by
  subst hu
  obtain ⟨d1, d2⟩ := key_decode (pv.getD i0 0) (mv.getD i0 0) hm
  refine ⟨d1, d2, (mem_idxOf _ i0).mpr ⟨h0, d1.symm, d2.symm⟩, fun i hi => ?_⟩
  obtain ⟨hi1, hi2, hi3⟩ := (mem_idxOf _ i).mp hi
  exact ⟨hi1, hi2.trans d1, hi3.trans d2⟩

omit [Scalar α] in
theorem key_file (hfile : ∀ i, i < pv.length → S (pv.getD i 0) (mv.getD i 0) = some (files i))
    (i0 : Nat) (h0 : i0 < pv.length) (hm : mv.getD i0 0 < 2 ^ 16) (u : Nat) (hu : u = key (pv.getD i0 0) (mv.getD i0 0)) :
    i0 ∈ idxOf pv mv u ∧ S (u >>> 16) (u &&& ((1 <<< 16) - 1)) = some (files i0) ∧
    ∀ i ∈ idxOf pv mv u, i < pv.length ∧ files i = files i0 := by
  obtain ⟨d1, d2, hmem, hall⟩ := key_requests i0 h0 hm u hu
  refine ⟨hmem, by rw [d1, d2]; exact hfile i0 h0, fun i hi => ⟨(hall i hi).1, ?_⟩⟩
  have := hfile i (hall i hi).1
  rw [(hall i hi).2.1, (hall i hi).2.2, hfile i0 h0] at this
  exact (Option.some.inj this).symm

/-- the accumulated state after the keys `done`; `w` is the running maximum of the pixel counts (NAXIS1) of the files read so
far: none exceeds it and one attains it -/
def Inv (pv mv : List Nat) (fv : List Int) (files : Nat → PlateFile α τ) (zt tt : Option (Nat → Nat → τ))
    (done : List Nat) (a : Acc α τ) : Prop :=
  ∃ w, a.allidx = done.flatMap (idxOf pv mv) ∧
    a.imgs = imgHdus.map (fun h => ⟨w, a.allidx.map (fun i => padTo zero w (srcRow fv (files i) h i))⟩) ∧
    a.plug = a.allidx.map (fun i => (files i).plug (rowOf fv i)) ∧
    a.zans = zt.map (fun t => a.allidx.map (fun i => t i (rowOf fv i))) ∧
    a.tsobj = tt.map (fun t => a.allidx.map (fun i => t i (rowOf fv i))) ∧
    (∀ i ∈ a.allidx, (files i).npix ≤ w) ∧ (∃ i ∈ a.allidx, (files i).npix = w)

theorem srcRow_length (D : Domain S pv mv fv files zt tt) (i : Nat) (hi : i < pv.length) (h : Nat)
    (hh : h ∈ imgHdus) : (srcRow fv (files i) h i).length = (files i).npix := by
  unfold srcRow
  split
  · simp [loglam0]
  · rename_i h7
    have hf := D.fiber i hi
    apply D.rect i hi h hh (by simpa using h7)
    unfold rowOf; omega

omit [Scalar α] in
theorem pass_table (get : PlateFile α τ → Option (Nat → τ)) (xt : Option (Nat → Nat → τ)) (idx : List Nat) (i0 : Nat)
    (h0 : i0 ∈ idx) (hget : ∀ i ∈ idx, get (files i0) = xt.map (fun t => t i)) :
    (get (files i0)).map (fun t => (idx.map (rowOf fv)).map t) = xt.map (fun t => idx.map (fun i => t i (rowOf fv i))) := by
  rw [hget i0 h0]
  cases xt with
  | none => rfl
  | some t =>
    refine congrArg some ?_
    show (idx.map (rowOf fv)).map (t i0) = _
    rw [List.map_map]
    refine List.map_congr_left fun i hi => ?_
    have := (hget i0 h0).symm.trans (hget i hi)
    exact congrFun (Option.some.inj this) _

/-- what `stepOk` reads from the file of key `u`, written per request `i`: all requests of a key have one file (`key_file`) -/
theorem pass_data (D : Domain S pv mv fv files zt tt) (i0 : Nat) (h0 : i0 < pv.length)
    (u : Nat) (hu : u = key (pv.getD i0 0) (mv.getD i0 0)) :
    (∀ h, tmpImg (files i0) ((idxOf pv mv u).map (rowOf fv)) h
      = ⟨(files i0).npix, (idxOf pv mv u).map (fun i => srcRow fv (files i) h i)⟩) ∧
    ((idxOf pv mv u).map (rowOf fv)).map (files i0).plug = (idxOf pv mv u).map (fun i => (files i).plug (rowOf fv i)) ∧
    (files i0).zans.map (fun t => ((idxOf pv mv u).map (rowOf fv)).map t)
      = zt.map (fun t => (idxOf pv mv u).map (fun i => t i (rowOf fv i))) ∧
    (files i0).tsobj.map (fun t => ((idxOf pv mv u).map (rowOf fv)).map t)
      = tt.map (fun t => (idxOf pv mv u).map (fun i => t i (rowOf fv i))) := by
  obtain ⟨hmem0, _, hall⟩ := key_file D.file i0 h0 (D.mjd_lt i0 h0) u hu
  refine ⟨fun h => ?_, ?_, ?_, ?_⟩
  · rw [tmpImg_eq]
    exact congrArg _ (List.map_congr_left fun i hi => by rw [(hall i hi).2])
  · rw [List.map_map]
    exact List.map_congr_left fun i hi => by rw [Function.comp_apply, (hall i hi).2]
  · exact pass_table (·.zans) zt _ i0 hmem0 fun i hi => by rw [← (hall i hi).2]; exact D.zans i (hall i hi).1
  · exact pass_table (·.tsobj) tt _ i0 hmem0 fun i hi => by rw [← (hall i hi).2]; exact D.tsobj i (hall i hi).1

theorem inv_first (D : Domain S pv mv fv files zt tt) (i0 : Nat) (h0 : i0 < pv.length)
    (u : Nat) (hu : u = key (pv.getD i0 0) (mv.getD i0 0)) :
    Inv pv mv fv files zt tt [u]
      (stepOk (files i0) (idxOf pv mv u) ((idxOf pv mv u).map (rowOf fv)) none) := by
  obtain ⟨hmem0, _, hall⟩ := key_file D.file i0 h0 (D.mjd_lt i0 h0) u hu
  obtain ⟨p1, p2, p3, p4⟩ := pass_data D i0 h0 u hu
  refine ⟨(files i0).npix, (List.flatMap_singleton ..).symm, ?_, p2, ?_, ?_, fun i hi => ?_, i0, hmem0, rfl⟩
  · refine List.map_congr_left fun h hh => ?_
    rw [p1 h]
    refine congrArg _ (List.map_congr_left fun i hi => ?_)
    rw [padTo_of_length]
    rw [srcRow_length D i (hall i hi).1 h hh, (hall i hi).2]
    exact Nat.le_refl _
  · exact (catOpt_none_left _).trans p3
  · exact (catOpt_none_left _).trans p4
  · rw [(hall i hi).2]
    exact Nat.le_refl _

/-- every pass of the loop after the first keeps `Inv` -/
theorem inv_step (D : Domain S pv mv fv files zt tt) (i0 : Nat) (h0 : i0 < pv.length)
    (done : List Nat) (a : Acc α τ) (ha : Inv pv mv fv files zt tt done a)
    (u : Nat) (hu : u = key (pv.getD i0 0) (mv.getD i0 0)) :
    Inv pv mv fv files zt tt (done ++ [u])
      (stepOk (files i0) (idxOf pv mv u) ((idxOf pv mv u).map (rowOf fv)) (some a)) := by
  obtain ⟨hmem0, _, hall⟩ := key_file D.file i0 h0 (D.mjd_lt i0 h0) u hu
  obtain ⟨p1, p2, p3, p4⟩ := pass_data D i0 h0 u hu
  obtain ⟨w, a1, a2, a3, a4, a5, a6, a7⟩ := ha
  refine ⟨max w (files i0).npix, by rw [List.flatMap_append, List.flatMap_singleton, ← a1]; rfl, ?_, ?_, ?_, ?_, ?_, ?_⟩
  · simp only [stepOk]
    rw [a2, List.zipWith_map, List.zipWith_self]
    refine List.map_congr_left fun h _ => ?_
    rw [p1 h]
    exact specAppend_padded w (files i0).npix a.allidx (idxOf pv mv u) (fun i => srcRow fv (files i) h i)
  · simp only [stepOk, a3, p2, List.map_append]
  · simp only [stepOk, a4, p3, catOpt_map, List.map_append]
  · simp only [stepOk, a5, p4, catOpt_map, List.map_append]
  · intro i hi
    rcases List.mem_append.mp hi with hi | hi
    · exact Nat.le_trans (a6 i hi) (Nat.le_max_left _ _)
    · rw [(hall i hi).2]; exact Nat.le_max_right _ _
  · obtain ⟨k, hk, hkw⟩ := a7
    by_cases hc : (files i0).npix ≤ w
    · exact ⟨k, List.mem_append_left _ hk, hkw.trans (Nat.max_eq_left hc).symm⟩
    · exact ⟨i0, List.mem_append_right _ hmem0, (Nat.max_eq_right (Nat.le_of_not_le hc)).symm⟩

def InvO (pv mv : List Nat) (fv : List Int) (files : Nat → PlateFile α τ) (zt tt : Option (Nat → Nat → τ))
    (done : List Nat) : Option (Acc α τ) → Prop
  | none => done = []
  | some a => Inv pv mv fv files zt tt done a

theorem step_ok_inv (D : Domain S pv mv fv files zt tt) (i0 : Nat) (h0 : i0 < pv.length) (done : List Nat)
    (st : Option (Acc α τ)) (hst : InvO pv mv fv files zt tt done st) (u : Nat)
    (hu : u = key (pv.getD i0 0) (mv.getD i0 0)) :
    ∃ a', step S pv mv fv st u = .ok (some a') ∧ Inv pv mv fv files zt tt (done ++ [u]) a' := by
  obtain ⟨_, hS, hall⟩ := key_file D.file i0 h0 (D.mjd_lt i0 h0) u hu
  obtain ⟨hok, hrows⟩ := fibers_valid fv (files i0).nfib (idxOf pv mv u) fun i hi => by
    rw [← (hall i hi).2]
    exact D.fiber i (hall i hi).1
  refine ⟨stepOk (files i0) (idxOf pv mv u) ((idxOf pv mv u).map (rowOf fv)) st, ?_, ?_⟩
  · simp only [step, hS, hok, hrows]
    rfl
  · cases st with
    | none =>
      rw [show done = [] from hst]
      exact inv_first D i0 h0 u hu
    | some a => exact inv_step D i0 h0 done a hst u hu

theorem fold_inv (D : Domain S pv mv fv files zt tt) (us : List Nat)
    (hus : ∀ u ∈ us, ∃ i0, i0 < pv.length ∧ u = key (pv.getD i0 0) (mv.getD i0 0))
    (done : List Nat) (st : Option (Acc α τ)) (hst : InvO pv mv fv files zt tt done st) :
    ∃ st', us.foldlM (step S pv mv fv) st = .ok st' ∧ InvO pv mv fv files zt tt (done ++ us) st' := by
  induction us generalizing done st with
  | nil => exact ⟨st, rfl, by rwa [List.append_nil]⟩
  | cons u us ih =>
    obtain ⟨i0, h0, hu⟩ := hus u List.mem_cons_self
    obtain ⟨a', h1, h2⟩ := step_ok_inv D i0 h0 done st hst u hu
    obtain ⟨st', g1, g2⟩ := ih (fun v hv => hus v (List.mem_cons_of_mem _ hv)) (done ++ [u]) (some a') h2
    rw [List.append_assoc] at g2
    refine ⟨st', ?_, g2⟩
    rw [List.foldlM_cons, h1]
    exact g1

omit [Scalar α] in
theorem mem_keys (hlen : mv.length = pv.length) (u : Nat) :
    u ∈ uniq (List.zipWith key pv mv) ↔ ∃ i0, i0 < pv.length ∧ u = key (pv.getD i0 0) (mv.getD i0 0) := by
  have hk : ∀ i (hi : i < pv.length) (h : i < (List.zipWith key pv mv).length),
      (List.zipWith key pv mv)[i] = key (pv.getD i 0) (mv.getD i 0) := fun i hi h => by
    rw [List.getElem_zipWith, getD_lt pv 0 i hi, getD_lt mv 0 i (hlen ▸ hi)]
  have hl : (List.zipWith key pv mv).length = pv.length := by rw [List.length_zipWith, hlen, Nat.min_self]
  rw [mem_uniq, List.mem_iff_getElem]
  constructor
  · rintro ⟨i, hi, rfl⟩
    exact ⟨i, hl ▸ hi, hk i (hl ▸ hi) hi⟩
  · rintro ⟨i, hi, rfl⟩
    exact ⟨i, hl ▸ hi, hk i hi (hl ▸ hi)⟩

omit [Scalar α] in
/-- `allpmjdindex` is a permutation of 0..n-1: every request position is read exactly once -/
theorem allidx_perm (hlen : mv.length = pv.length) (hm : ∀ i, i < pv.length → mv.getD i 0 < 2 ^ 16) :
    ((uniq (List.zipWith key pv mv)).flatMap (idxOf pv mv)).Perm (List.range pv.length) := by
  apply (List.perm_ext_iff_of_nodup ?_ List.nodup_range).mpr
  · intro i
    rw [List.mem_flatMap, List.mem_range]
    constructor
    · rintro ⟨u, _, hi⟩
      exact ((mem_idxOf u i).mp hi).1
    · intro hi
      exact ⟨key (pv.getD i 0) (mv.getD i 0), (mem_keys hlen _).mpr ⟨i, hi, rfl⟩, (key_requests i hi (hm i hi) _ rfl).2.2.1⟩
  · rw [List.nodup_iff_pairwise_ne, List.pairwise_flatMap]
    refine ⟨fun u _ => ?_, ?_⟩
    · exact (List.nodup_range (n := pv.length)).sublist List.filter_sublist
    · refine (nodup_uniq _).imp ?_
      intro u v huv x hx y hy hxy
      subst hxy
      obtain ⟨_, a1, a2⟩ := (mem_idxOf u x).mp hx
      obtain ⟨_, b1, b2⟩ := (mem_idxOf v x).mp hy
      exact huv (decode_inj u v (a1.symm.trans b1) (a2.symm.trans b2))

/-- on `Domain` the result is the request-indexed tables: row i is the source row of request i, the images padded to `w`, the
largest `npix` -/
theorem readspecCore_eq (argsort : List Nat → List Nat) (hA : IsArgsort argsort)
    (D : Domain S pv mv fv files zt tt) (hn : 0 < pv.length) :
    ∃ w, (∀ i, i < pv.length → (files i).npix ≤ w) ∧ (∃ i, i < pv.length ∧ (files i).npix = w) ∧
      readspecCore argsort S pv mv fv = .ok
        ⟨imgHdus.map (fun h => ⟨w, (List.range pv.length).map (fun i => padTo zero w (srcRow fv (files i) h i))⟩),
         (List.range pv.length).map (fun i => (files i).plug (rowOf fv i)),
         zt.map (fun t => (List.range pv.length).map (fun i => t i (rowOf fv i))),
         tt.map (fun t => (List.range pv.length).map (fun i => t i (rowOf fv i)))⟩ := by
  have hne : key (pv.getD 0 0) (mv.getD 0 0) ∈ uniq (List.zipWith key pv mv) :=
    (mem_keys D.len_mv _).mpr ⟨0, hn, rfl⟩
  have hperm := allidx_perm D.len_mv D.mjd_lt
  obtain ⟨st', hfold, hinv⟩ := fold_inv D _ (fun u => (mem_keys D.len_mv u).mp) [] none rfl
  cases st' with
  | none => exact absurd hinv (List.ne_nil_of_mem hne)
  | some a =>
    obtain ⟨w, a1, a2, a3, a4, a5, a6, a7⟩ := hinv
    rw [List.nil_append] at a1
    rw [← a1] at hperm
    have hlen : a.allidx.length = pv.length := by rw [hperm.length_eq, List.length_range]
    obtain ⟨hj, hs⟩ := hA a.allidx
    have hinv := argsort_perm_inverse a.allidx (argsort a.allidx) (hlen ▸ hperm) hj hs
    refine ⟨w, fun i hi => a6 i (hperm.mem_iff.mpr (List.mem_range.mpr hi)), ?_, ?_⟩
    · obtain ⟨i, hi, hw⟩ := a7
      exact ⟨i, List.mem_range.mp (hperm.mem_iff.mp hi), hw⟩
    · simp only [readspecCore]
      rw [hfold]
      show finish argsort a = _
      have himgs : a.imgs.mapM (fun s => do pure (⟨s.npix, ← gather s.rows (argsort a.allidx)⟩ : Img α))
          = .ok (imgHdus.map (fun h => ⟨w, (List.range pv.length).map
              (fun i => padTo zero w (srcRow fv (files i) h i))⟩)) := by
        rw [a2, List.mapM_map]
        refine mapM_eq_ok_map _ _ _ fun h _ => ?_
        simp only [Function.comp_def]
        rw [gather_map _ _ _ hj hinv, hlen]
        rfl
      simp only [finish]
      rw [himgs, a3, gather_map _ _ _ hj hinv, a4, gatherOpt_map _ _ _ _ hj hinv, a5, gatherOpt_map _ _ _ _ hj hinv, hlen]
      rfl

/-- For EVERY request vector of the domain (any order, repeats, mixtures of plates and MJDs) and any sorting permutation
`argsort` may return: readspec succeeds, every image has n rows and `w` pixels, `w` the longest pixel count among the
requested plates, and row i of the image read from HDU `h` (flux, invvar, andmask, ormask, disp, sky) is row `fibre_i - 1`
of HDU `h` of the file of request i followed by `w - npix_i` zeros: right-padded, never shifted. -/
theorem readspec_row_i (argsort : List Nat → List Nat) (hA : IsArgsort argsort)
    (D : Domain S pv mv fv files zt tt) (hn : 0 < pv.length) :
    ∃ res w, readspecCore argsort S pv mv fv = .ok res ∧
      (∀ i, i < pv.length → (files i).npix ≤ w) ∧ (∃ i, i < pv.length ∧ (files i).npix = w) ∧
      res.imgs.length = imgHdus.length ∧
      ∀ (k h : Nat), imgHdus[k]? = some h → h ≠ 7 →
        ∃ im : Img α, res.imgs[k]? = some im ∧ im.npix = w ∧ im.rows.length = pv.length ∧
          ∀ i, i < pv.length → im.rows[i]? =
            some ((files i).img h ((fv.getD i 0 - 1).toNat) ++ List.replicate (w - (files i).npix) zero) := by
  obtain ⟨w, h1, h2, h3⟩ := readspecCore_eq argsort hA D hn
  refine ⟨_, w, h3, h1, h2, List.length_map _, ?_⟩
  intro k h hk h7
  refine ⟨⟨w, (List.range pv.length).map (fun i => padTo zero w (srcRow fv (files i) h i))⟩,
    by rw [List.getElem?_map, hk]; rfl, rfl, (map_range_spec _ _).1, ?_⟩
  intro i hi
  have hs : srcRow fv (files i) h i = (files i).img h (rowOf fv i) := by
    unfold srcRow; simp [h7]
  rw [(map_range_spec _ _).2 i hi, padTo, srcRow_length D i hi h (List.mem_of_getElem? hk), hs]
  rfl

/-- Under the same hypotheses the wavelength array has the same shape and its row i is
`COEFF0_i + COEFF1_i * p` for the pixels `p < npix_i` of the plate of request i, and 0 in the padding. -/
theorem loglam_rows (argsort : List Nat → List Nat) (hA : IsArgsort argsort)
    (D : Domain S pv mv fv files zt tt) (hn : 0 < pv.length) :
    ∃ res w, readspecCore argsort S pv mv fv = .ok res ∧
      (∀ i, i < pv.length → (files i).npix ≤ w) ∧ (∃ i, i < pv.length ∧ (files i).npix = w) ∧
      ∃ im : Img α, res.imgs[6]? = some im ∧ im.npix = w ∧ im.rows.length = pv.length ∧
        ∀ i, i < pv.length → im.rows[i]? =
          some ((List.range (files i).npix).map (fun p => (files i).c0 + (files i).c1 * Scalar.ofNat p)
            ++ List.replicate (w - (files i).npix) zero) := by
  obtain ⟨w, h1, h2, h3⟩ := readspecCore_eq argsort hA D hn
  refine ⟨_, w, h3, h1, h2, ⟨w, (List.range pv.length).map (fun i => padTo zero w (srcRow fv (files i) 7 i))⟩,
    rfl, rfl, (map_range_spec _ _).1, ?_⟩
  intro i hi
  rw [(map_range_spec _ _).2 i hi, padTo, srcRow_length D i hi 7 (by decide)]
  rfl

/-- Under the same hypotheses row i of the plug-map is row `fibre_i - 1` of the plug-map
of the file of request i; the redshift table (`zans`) and the photo table (`tsobj`) are returned
exactly when the files exist, and then row i is row `fibre_i - 1` of the table of request i. -/
theorem readspec_tables (argsort : List Nat → List Nat) (hA : IsArgsort argsort)
    (D : Domain S pv mv fv files zt tt) (hn : 0 < pv.length) :
    ∃ res, readspecCore argsort S pv mv fv = .ok res ∧
      res.plug.length = pv.length ∧
      (∀ i, i < pv.length → res.plug[i]? = some ((files i).plug ((fv.getD i 0 - 1).toNat))) ∧
      (zt = none → res.zans = none) ∧
      (∀ t, zt = some t → ∃ l, res.zans = some l ∧ l.length = pv.length ∧
        ∀ i, i < pv.length → l[i]? = some (t i ((fv.getD i 0 - 1).toNat))) ∧
      (tt = none → res.tsobj = none) ∧
      (∀ t, tt = some t → ∃ l, res.tsobj = some l ∧ l.length = pv.length ∧
        ∀ i, i < pv.length → l[i]? = some (t i ((fv.getD i 0 - 1).toNat))) := by
  obtain ⟨w, _, _, h3⟩ := readspecCore_eq argsort hA D hn
  refine ⟨_, h3, (map_range_spec _ _).1, (map_range_spec _ _).2, ?_, ?_, ?_, ?_⟩
  · rintro rfl
    rfl
  · rintro t rfl
    exact ⟨_, rfl, (map_range_spec _ _).1, (map_range_spec _ _).2⟩
  · rintro rfl
    rfl
  · rintro t rfl
    exact ⟨_, rfl, (map_range_spec _ _).1, (map_range_spec _ _).2⟩

end Readspec

/-! ## calling conventions -/

/-- What "request i" is under each calling convention (readspec 866-918): equal-length
vectors are taken as they are (with `mjd=None`: the latest MJD of each plate), a scalar plate-MJD is
repeated for every fibre, a scalar fibre for every plate-MJD, three scalars are one request.
The row theorems hold for every request vector, hence under all these conventions. -/
theorem normalize_spec (latest : Nat → Nat) :
    (∀ (pv mv : List Nat) (fv : List Int), mv.length = pv.length → fv.length = pv.length → 0 < pv.length →
      normalize latest (.vec pv) (some (.vec mv)) (.vec fv) = .ok (pv, mv, fv)) ∧
    (∀ (pv : List Nat) (fv : List Int), fv.length = pv.length → 0 < pv.length →
      normalize latest (.vec pv) none (.vec fv) = .ok (pv, pv.map latest, fv)) ∧
    (∀ (p m : Nat) (fv : List Int), 0 < fv.length →
      normalize latest (.scalar p) (some (.scalar m)) (.vec fv)
        = .ok (List.replicate fv.length p, List.replicate fv.length m, fv)) ∧
    (∀ (pv mv : List Nat) (f : Int), mv.length = pv.length → 0 < pv.length →
      normalize latest (.vec pv) (some (.vec mv)) (.scalar f) = .ok (pv, mv, List.replicate pv.length f)) ∧
    (∀ (p m : Nat) (f : Int),
      normalize latest (.scalar p) (some (.scalar m)) (.scalar f) = .ok ([p], [m], [f])) := by
  refine ⟨fun pv mv fv h1 h2 hn => ?_, fun pv fv h2 hn => ?_, fun p m fv hn => ?_, fun pv mv f h1 hn => ?_,
    fun _ _ _ => rfl⟩
  · simp [normalize, Arg.len, Arg.toList, h1, h2, Nat.ne_of_gt hn, bcast_same _ pv rfl, bcast_same _ mv h1,
      bcast_same _ fv h2, bind, Except.bind, pure, Except.pure]
  · simp [normalize, Arg.len, Arg.toList, h2, Nat.ne_of_gt hn, bcast_same _ pv rfl,
      bcast_same _ (pv.map latest) (List.length_map _), bcast_same _ fv h2, bind, Except.bind, pure, Except.pure]
  · have e4 : bcast 1 [m] = .ok [m] := bcast_same _ _ rfl
    have n1 : fv.length ≠ 0 := Nat.ne_of_gt hn
    by_cases hp : fv.length > 1
    · simp [normalize, Arg.len, Arg.toList, hp, n1, bcast_one, e4, bind, Except.bind, pure, Except.pure]
    · have : fv.length = 1 := by omega
      simp [normalize, Arg.len, Arg.toList, this, bcast_same 1 fv this, e4, bind, Except.bind, pure, Except.pure,
        bcast_same 1 [p] rfl]
  · have e3 : bcast pv.length mv = .ok mv := bcast_same _ _ h1
    have n1 : pv.length ≠ 0 := Nat.ne_of_gt hn
    by_cases hp : pv.length > 1
    · simp [normalize, Arg.len, Arg.toList, h1, hp, n1, bcast_one, e3, bind, Except.bind, pure, Except.pure]
    · have : pv.length = 1 := by omega
      simp [normalize, Arg.len, Arg.toList, h1, this, bcast_same 1 pv this, bcast_same 1 mv (h1.trans this), bind,
        Except.bind, pure, Except.pure, bcast_same 1 [f] rfl]

/-- The public entry point under the plain vector convention is `readspecCore` on the same vectors, so the row
theorems speak about `readspec` itself. -/
theorem readspec_vec {α τ : Type} [Scalar α] (argsort : List Nat → List Nat) (S : Survey α τ)
    (files : List (Nat × Nat)) (pv mv : List Nat) (fv : List Int)
    (h1 : mv.length = pv.length) (h2 : fv.length = pv.length) (hn : 0 < pv.length) :
    readspec argsort S files (.vec pv) (some (.vec mv)) (.vec fv) = readspecCore argsort S pv mv fv := by
  simp only [readspec, (normalize_spec (latestMjd files)).1 pv mv fv h1 h2 hn, bind, Except.bind]

/-! ## `znum=` and `fiber=None` (model `readspecX`, end of Model/SpecOrder.lean) -/

section ZnumAllFibers
variable {α τ : Type} [Scalar α]

theorem stepOk_eq_G (f : PlateFile α τ) (p rows : List Nat) (st : Option (Acc α τ)) :
    stepOk f p rows st = stepOkG f p rows (f.zans.map (fun t => rows.map t)) st := by
  cases st <;> rfl

/-- the redshift table that `znum=k` reads for a file with `nper` fits per fibre: row r ↦ fit k of row r -/
def zTable (z : ZAll τ) (k : Int) : Nat → τ := fun r => z.row (r * z.nper + (k - 1).toNat)

/-- the survey whose redshift tables are the `znum=k` selections of the spZall files -/
def withZ (S : Survey α τ) (Z : ZSurvey τ) (k : Int) : Survey α τ := fun p m =>
  (S p m).map (fun f => { f with zans := (Z p m).map (fun z => zTable z k) })

theorem stepX_none (S : Survey α τ) (Z : ZSurvey τ) (pv mv : List Nat) (fv : List Int) :
    stepX S Z none pv mv fv = step S pv mv fv := by
  funext st u
  simp only [stepX, step]
  split
  · rfl
  · split
    · rfl
    · rw [stepOk_eq_G]

theorem readspecCoreX_none (argsort : List Nat → List Nat) (S : Survey α τ) (Z : ZSurvey τ)
    (pv mv : List Nat) (fv : List Int) :
    readspecCoreX argsort S Z none pv mv fv = readspecCore argsort S pv mv fv := by
  simp only [readspecCoreX, readspecCore, stepX_none]

/-- `readspecX` with `fiber` given and no `znum` is `readspec`: every theorem about
`readspec` / `readspecCore` speaks about `readspecX`, the entry point the driver runs. -/
theorem readspecX_plain (argsort : List Nat → List Nat) (S : Survey α τ) (Z : ZSurvey τ)
    (files : List (Nat × Nat)) (pl : Option (List PlateListRow)) (r2 r1 : String)
    (platein : Arg Nat) (mjd : Option (Arg Nat)) (fiber : Arg Int) :
    readspecX argsort S Z files pl r2 r1 platein mjd (some fiber) none = readspec argsort S files platein mjd fiber := by
  simp only [readspecX, readspec, readspecCoreX_none]

/-- the domain of the `znum=k` statements: as `Domain`, but the redshifts come from spZall
(`zf = none`: no requested plate-MJD has the file; `some t`: every one has it, `t i` being the file of
request i, with `nfib_i * nper_i` rows and at least `k` fits per fibre); spZbest is not looked at -/
structure DomainZ (S : Survey α τ) (Z : ZSurvey τ) (k : Int) (pv mv : List Nat) (fv : List Int)
    (files : Nat → PlateFile α τ) (zf : Option (Nat → ZAll τ)) (tt : Option (Nat → Nat → τ)) : Prop where
  len_mv : mv.length = pv.length
  len_fv : fv.length = pv.length
  mjd_lt : ∀ i, i < pv.length → mv.getD i 0 < 2 ^ 16
  file : ∀ i, i < pv.length → S (pv.getD i 0) (mv.getD i 0) = some (files i)
  fiber : ∀ i, i < pv.length → 1 ≤ fv.getD i 0 ∧ fv.getD i 0 ≤ (files i).nfib
  rect : ∀ i, i < pv.length → ∀ h ∈ imgHdus, h ≠ 7 → ∀ r, r < (files i).nfib →
    ((files i).img h r).length = (files i).npix
  tsobj : ∀ i, i < pv.length → (files i).tsobj = tt.map (fun t => t i)
  zall : ∀ i, i < pv.length → Z (pv.getD i 0) (mv.getD i 0) = zf.map (fun t => t i)
  shape : ∀ t, zf = some t → ∀ i, i < pv.length →
    (t i).nrows = (files i).nfib * (t i).nper ∧ 1 ≤ k ∧ k ≤ (t i).nper

variable {S : Survey α τ} {Z : ZSurvey τ} {k : Int} {pv mv : List Nat} {fv : List Int}
  {files : Nat → PlateFile α τ} {zf : Option (Nat → ZAll τ)} {tt : Option (Nat → Nat → τ)}

/-- file of request i as `znum=k` sees it -/
def zFile (files : Nat → PlateFile α τ) (zf : Option (Nat → ZAll τ)) (k : Int) (i : Nat) : PlateFile α τ :=
  { files i with zans := zf.map (fun t => zTable (t i) k) }

omit [Scalar α] in
theorem DomainZ.toDomain (D : DomainZ S Z k pv mv fv files zf tt) :
    Domain (withZ S Z k) pv mv fv (zFile files zf k) (zf.map (fun t i => zTable (t i) k)) tt where
  len_mv := D.len_mv
  len_fv := D.len_fv
  mjd_lt := D.mjd_lt
  file := by
    intro i hi
    simp only [withZ, D.file i hi, D.zall i hi, Option.map_some, Option.map_map, zFile]
    rfl
  fiber := D.fiber
  rect := D.rect
  zans := by
    intro i _
    simp only [zFile, Option.map_map]
    rfl
  tsobj := D.tsobj

/-- On the domain, readspec with `znum=k` is readspec without `znum` on the survey whose
redshift tables are the fit-k selections `row r ↦ spZall row r*nper + k-1`. -/
theorem readspec_znum_transfer (argsort : List Nat → List Nat) (D : DomainZ S Z k pv mv fv files zf tt) :
    readspecCoreX argsort S Z (some k) pv mv fv = readspecCore argsort (withZ S Z k) pv mv fv := by
  have hfold : (uniq (List.zipWith key pv mv)).foldlM (stepX S Z (some k) pv mv fv) none
      = (uniq (List.zipWith key pv mv)).foldlM (step (withZ S Z k) pv mv fv) none := by
    -- pass by pass: for a key of the requests both bodies read the same rows of the same file
    refine foldlM_congr _ _ _ (fun u hu st => ?_) none
    obtain ⟨i0, h0, hk⟩ := (mem_keys D.len_mv u).mp hu
    obtain ⟨_, hS, hsame⟩ := key_file D.file i0 h0 (D.mjd_lt i0 h0) u hk
    obtain ⟨d1, d2, -⟩ := key_requests i0 h0 (D.mjd_lt i0 h0) u hk
    have hfib : ∀ i ∈ idxOf pv mv u, 1 ≤ fv.getD i 0 ∧ fv.getD i 0 ≤ (files i0).nfib := fun i hi => by
      rw [← (hsame i hi).2]
      exact D.fiber i (hsame i hi).1
    obtain ⟨hall, hrows⟩ := fibers_valid fv (files i0).nfib _ hfib
    simp only [stepX, step, withZ, hS, Option.map_some, hall, hrows, stepOk_eq_G]
    rw [d1, d2, D.zall i0 h0]
    cases zf with
    | none => rfl
    | some t =>
      -- the spZall lookup `zfiber` is valid and reads fit k of the rows read from spPlate
      obtain ⟨z1, z2, z3⟩ := D.shape t rfl i0 h0
      obtain ⟨hzall, hzi⟩ := indices_valid (zIndex (t i0) k) (fun i => fv.getD i 0)
        (fun i => rowOf fv i * (t i0).nper + (k - 1).toNat) (idxOf pv mv u)
        fun i hi => zIndex_valid (t i0) (files i0).nfib k _ z1 z2 z3 (hfib i hi).1 (hfib i hi).2
      have hzrows := congrArg (List.map (t i0).row) hzi
      simp only [List.map_map, Function.comp_def] at hzrows ⊢
      simp only [Option.map_some, hzall, hzrows]
      rfl
  simp only [readspecCoreX, readspecCore, hfold]

/-- `znum=k`: for EVERY request vector of the domain, row i of `zans` is fit k of fibre_i of
(plate_i, mjd_i), i.e. row `(fibre_i - 1) * nper_i + k - 1` of that plate-MJD's spZall table; `zans` is absent
exactly when no requested plate-MJD has an spZall file. -/
theorem readspec_znum_row (argsort : List Nat → List Nat) (hA : IsArgsort argsort)
    (D : DomainZ S Z k pv mv fv files zf tt) (hn : 0 < pv.length) :
    ∃ res, readspecCoreX argsort S Z (some k) pv mv fv = .ok res ∧
      (zf = none → res.zans = none) ∧
      (∀ t, zf = some t → ∃ l, res.zans = some l ∧ l.length = pv.length ∧
        ∀ i, i < pv.length →
          l[i]? = some ((t i).row ((fv.getD i 0 - 1).toNat * (t i).nper + (k - 1).toNat))) := by
  obtain ⟨res, h1, _, _, h4, h5, _, _⟩ := readspec_tables argsort hA D.toDomain hn
  refine ⟨res, by rw [readspec_znum_transfer argsort D]; exact h1, ?_, ?_⟩
  · rintro rfl
    exact h4 rfl
  · rintro t rfl
    exact h5 _ rfl

/-- With `znum=k` the images are what they are without it (`readspec_row_i`). -/
theorem readspec_row_i_znum (argsort : List Nat → List Nat) (hA : IsArgsort argsort)
    (D : DomainZ S Z k pv mv fv files zf tt) (hn : 0 < pv.length) :
    ∃ res w, readspecCoreX argsort S Z (some k) pv mv fv = .ok res ∧
      (∀ i, i < pv.length → (files i).npix ≤ w) ∧ (∃ i, i < pv.length ∧ (files i).npix = w) ∧
      res.imgs.length = imgHdus.length ∧
      ∀ (j h : Nat), imgHdus[j]? = some h → h ≠ 7 →
        ∃ im : Img α, res.imgs[j]? = some im ∧ im.npix = w ∧ im.rows.length = pv.length ∧
          ∀ i, i < pv.length → im.rows[i]? =
            some ((files i).img h ((fv.getD i 0 - 1).toNat) ++ List.replicate (w - (files i).npix) zero) := by
  obtain ⟨res, w, h1, h2⟩ := readspec_row_i argsort hA D.toDomain hn
  exact ⟨res, w, by rw [readspec_znum_transfer argsort D]; exact h1, h2⟩

/-- With `znum=k` the wavelength array is what it is without it (`loglam_rows`). -/
theorem loglam_rows_znum (argsort : List Nat → List Nat) (hA : IsArgsort argsort)
    (D : DomainZ S Z k pv mv fv files zf tt) (hn : 0 < pv.length) :
    ∃ res w, readspecCoreX argsort S Z (some k) pv mv fv = .ok res ∧
      (∀ i, i < pv.length → (files i).npix ≤ w) ∧ (∃ i, i < pv.length ∧ (files i).npix = w) ∧
      ∃ im : Img α, res.imgs[6]? = some im ∧ im.npix = w ∧ im.rows.length = pv.length ∧
        ∀ i, i < pv.length → im.rows[i]? =
          some ((List.range (files i).npix).map (fun p => (files i).c0 + (files i).c1 * Scalar.ofNat p)
            ++ List.replicate (w - (files i).npix) zero) := by
  obtain ⟨res, w, h1, h2⟩ := loglam_rows argsort hA D.toDomain hn
  exact ⟨res, w, by rw [readspec_znum_transfer argsort D]; exact h1, h2⟩

/-- With `znum=k` the plug-map and photo rows are what they are without it (`readspec_tables`); the redshift
rows are in `readspec_znum_row`. -/
theorem readspec_tables_znum (argsort : List Nat → List Nat) (hA : IsArgsort argsort)
    (D : DomainZ S Z k pv mv fv files zf tt) (hn : 0 < pv.length) :
    ∃ res, readspecCoreX argsort S Z (some k) pv mv fv = .ok res ∧
      res.plug.length = pv.length ∧
      (∀ i, i < pv.length → res.plug[i]? = some ((files i).plug ((fv.getD i 0 - 1).toNat))) ∧
      (tt = none → res.tsobj = none) ∧
      (∀ t, tt = some t → ∃ l, res.tsobj = some l ∧ l.length = pv.length ∧
        ∀ i, i < pv.length → l[i]? = some (t i ((fv.getD i 0 - 1).toNat))) := by
  obtain ⟨res, h1, h2, h3, _, _, h6, h7⟩ := readspec_tables argsort hA D.toDomain hn
  exact ⟨res, by rw [readspec_znum_transfer argsort D]; exact h1, h2, h3, h6, h7⟩

/-- number_of_fibers for a plate VECTOR: 640 for every plate when every latest MJD is before 55025; as soon as ONE
plate is later, EVERY plate of the vector (the early ones too) gets N_TOTAL of its first platelist row under
(plate, latest MJD, run2d, run1d). -/
theorem numberOfFibers_vec (latest : Nat → Nat) (rows : List PlateListRow) (r2 r1 : String) (plates : List Nat) (nt : Nat → Nat) :
    ((∀ p ∈ plates, latest p < 55025) → ∀ pl, numberOfFibers latest pl r2 r1 plates = .ok (plates.map (fun _ => 640))) ∧
    ((∃ p ∈ plates, ¬ latest p < 55025) →
      (∀ p ∈ plates, ∃ r rest, rows.filter (fun r => r.plate == p && r.mjd == latest p && r.run2d == r2 && r.run1d == r1) = r :: rest
        ∧ r.ntotal = nt p) →
      numberOfFibers latest (some rows) r2 r1 plates = .ok (plates.map nt)) := by
  constructor
  · intro h pl
    have : (plates.map latest).all (· < 55025) = true := by
      simp only [List.all_map, List.all_eq_true, Function.comp, decide_eq_true_eq]
      exact h
    simp only [numberOfFibers, this, if_true, List.map_map]
    rfl
  · rintro ⟨p0, hp0, hlate⟩ hrows
    have : ¬ (plates.map latest).all (· < 55025) = true := by
      simp only [List.all_map, List.all_eq_true, Function.comp, decide_eq_true_eq]
      intro h
      exact hlate (h p0 hp0)
    simp only [numberOfFibers, this]
    apply mapM_eq_ok_map
    intro p hp
    obtain ⟨r, rest, hf, hn⟩ := hrows p hp
    simp only [hf, hn]
    rfl

/-- number_of_fibers for one plate: 640 before MJD 55025, otherwise N_TOTAL of the first platelist row of
(plate, latest MJD, run2d, run1d) -/
theorem numberOfFibers_single (latest : Nat → Nat) (pl : Option (List PlateListRow)) (r2 r1 : String) (p : Nat) :
    (latest p < 55025 → numberOfFibers latest pl r2 r1 [p] = .ok [640]) ∧
    (∀ rows r rest, ¬ latest p < 55025 → pl = some rows →
      rows.filter (fun r => r.plate == p && r.mjd == latest p && r.run2d == r2 && r.run1d == r1) = r :: rest →
      numberOfFibers latest pl r2 r1 [p] = .ok [r.ntotal]) := by
  constructor
  · intro h
    exact (numberOfFibers_vec latest [] r2 r1 [p] (fun _ => 0)).1 (fun q hq => by rwa [List.mem_singleton.mp hq]) pl
  · intro rows r rest h hpl hf
    rw [hpl]
    exact (numberOfFibers_vec latest rows r2 r1 [p] (fun _ => r.ntotal)).2 ⟨p, List.mem_singleton_self p, h⟩
      fun q hq => by rw [List.mem_singleton.mp hq]; exact ⟨r, rest, hf, rfl⟩

omit [Scalar α] in
/-- What the requests are under `fiber=None` for one plate `p` (scalar or one-element vector) whose
fibre count is `n`: `(p, mjd, 1), (p, mjd, 2), ..., (p, mjd, n)` in this order, `mjd` being the given scalar MJD
or the latest MJD of the plate. -/
theorem normalizeAll_single (latest : Nat → Nat) (nfOf : List Nat → Except String (List Nat)) (platein : Arg Nat)
    (p n : Nat) (hp : platein.toList = [p]) (hnf : nfOf [p] = .ok [n]) (mjd : Option Nat) :
    normalizeAll latest nfOf platein (mjd.map Arg.scalar)
      = .ok (List.replicate n p, List.replicate n (mjd.getD (latest p)),
             (List.range n).map (fun (i : Nat) => (i : Int) + 1)) := by
  have hlen : platein.len = 1 := by cases platein <;> exact congrArg List.length hp
  have hc : countFor [p] [n] p = n := by simp [countFor, uniq, insertU]
  have hu : uniq [p] = [p] := rfl
  cases mjd with
  | none =>
    simp only [normalizeAll, hp, hnf, hu, hc, Option.map_none, bind, Except.bind, pure, Except.pure,
      List.map_cons, List.map_nil, List.flatMap_cons, List.flatMap_nil, List.append_nil, List.sum_cons, List.sum_nil,
      List.length_replicate, List.length_map, List.length_range, Nat.add_zero, Nat.sub_self, List.replicate_zero,
      List.map_replicate, Option.getD_none]
    rw [bcast_same _ _ (by simp)]
  | some m =>
    have e1 : bcast 1 [m] = .ok [m] := bcast_same _ _ rfl
    have e2 : (Arg.scalar m : Arg Nat).len = 1 := rfl
    have e3 : (Arg.scalar m : Arg Nat).toList = [m] := rfl
    simp only [normalizeAll, hp, hlen, hnf, hu, hc, Option.map_some, bind, Except.bind, pure, Except.pure,
      List.map_cons, List.map_nil, List.flatMap_cons, List.flatMap_nil, List.append_nil, List.sum_cons, List.sum_nil,
      List.length_replicate, List.length_map, List.length_range, Nat.add_zero, Nat.sub_self, List.replicate_zero,
      e2, e3, bne_self_eq_false, Bool.false_eq_true, if_false, e1, bcast_one, Option.getD_some]

/-- `readspec(plate)` / `readspec(plate, mjd)` with `fiber=None` (any `znum`) is readspec on the
request vector "fibres 1..n of the plate", to which the row theorems apply. -/
theorem readspec_all_fibers_requests (argsort : List Nat → List Nat) (S : Survey α τ) (Z : ZSurvey τ)
    (files : List (Nat × Nat)) (pl : Option (List PlateListRow)) (r2 r1 : String) (platein : Arg Nat)
    (p n : Nat) (hp : platein.toList = [p])
    (hnf : numberOfFibers (latestMjd files) pl r2 r1 [p] = .ok [n]) (mjd : Option Nat) (znum : Option Int) :
    readspecX argsort S Z files pl r2 r1 platein (mjd.map Arg.scalar) none znum
      = readspecCoreX argsort S Z znum (List.replicate n p) (List.replicate n (mjd.getD (latestMjd files p)))
          ((List.range n).map (fun (i : Nat) => (i : Int) + 1)) := by
  simp only [readspecX, normalizeAll_single (latestMjd files) _ platein p n hp hnf mjd, bind, Except.bind]

omit [Scalar α] in
theorem domain_all_fibers (S : Survey α τ) (p m n : Nat) (f : PlateFile α τ) (hm : m < 2 ^ 16) (hS : S p m = some f)
    (hnfib : n ≤ f.nfib) (hrect : ∀ h ∈ imgHdus, h ≠ 7 → ∀ r, r < f.nfib → (f.img h r).length = f.npix) :
    Domain S (List.replicate n p) (List.replicate n m) ((List.range n).map (fun (i : Nat) => (i : Int) + 1))
      (fun _ => f) (f.zans.map (fun t _ => t)) (f.tsobj.map (fun t _ => t)) where
  len_mv := by simp
  len_fv := by simp
  mjd_lt := by
    intro i hi
    rw [getD_replicate _ _ _ _ (by simpa using hi)]; exact hm
  file := by
    intro i hi
    have hi' : i < n := by simpa using hi
    rw [getD_replicate _ _ _ _ hi', getD_replicate _ _ _ _ hi']; exact hS
  fiber := by
    intro i hi
    have hi' : i < n := by simpa using hi
    rw [getD_map_range_lt n i _ 0 hi']
    omega
  rect := fun _ _ => hrect
  zans := by intro i _; cases f.zans <;> rfl
  tsobj := by intro i _; cases f.tsobj <;> rfl

/-- `fiber=None` for one plate `p` (scalar or one-element vector; `mjd` a scalar or found by latest_mjd) whose fibre
count `number_of_fibers` reports as `n` (`0 < n ≤` rows of the file): readspec returns exactly n rows, row i being fibre
i+1 of the plate - image rows unpadded - and the tables exactly when the file has them. -/
theorem readspec_all_fibers (argsort : List Nat → List Nat) (hA : IsArgsort argsort) (S : Survey α τ) (Z : ZSurvey τ)
    (files : List (Nat × Nat)) (pl : Option (List PlateListRow)) (r2 r1 : String) (platein : Arg Nat)
    (p n : Nat) (hp : platein.toList = [p])
    (hnf : numberOfFibers (latestMjd files) pl r2 r1 [p] = .ok [n]) (mjd : Option Nat) (f : PlateFile α τ)
    (hm : mjd.getD (latestMjd files p) < 2 ^ 16) (hS : S p (mjd.getD (latestMjd files p)) = some f)
    (hn : 0 < n) (hnfib : n ≤ f.nfib)
    (hrect : ∀ h ∈ imgHdus, h ≠ 7 → ∀ r, r < f.nfib → (f.img h r).length = f.npix) :
    ∃ res, readspecX argsort S Z files pl r2 r1 platein (mjd.map Arg.scalar) none none = .ok res ∧
      res.imgs.length = imgHdus.length ∧
      (∀ (j h : Nat), imgHdus[j]? = some h → h ≠ 7 →
        ∃ im : Img α, res.imgs[j]? = some im ∧ im.npix = f.npix ∧ im.rows.length = n ∧
          ∀ i, i < n → im.rows[i]? = some (f.img h i)) ∧
      res.plug.length = n ∧ (∀ i, i < n → res.plug[i]? = some (f.plug i)) ∧
      (f.zans = none → res.zans = none) ∧
      (∀ t, f.zans = some t → ∃ l, res.zans = some l ∧ l.length = n ∧ ∀ i, i < n → l[i]? = some (t i)) ∧
      (f.tsobj = none → res.tsobj = none) ∧
      (∀ t, f.tsobj = some t → ∃ l, res.tsobj = some l ∧ l.length = n ∧ ∀ i, i < n → l[i]? = some (t i)) := by
  have D := domain_all_fibers S p _ n f hm hS hnfib hrect
  have hlen : (List.replicate n p).length = n := List.length_replicate
  have hrow : ∀ i, i < n →
      (((List.range n).map (fun (i : Nat) => (i : Int) + 1)).getD i 0 - 1).toNat = i := by
    intro i hi
    rw [getD_map_range_lt n i _ 0 hi, Int.add_sub_cancel, Int.toNat_natCast]
  obtain ⟨res, w, h1, h2, ⟨i0, _, h3⟩, h4, h5⟩ := readspec_row_i argsort hA D (hlen.symm ▸ hn)
  obtain ⟨res', t1, t2, t3, t4, t5, t6, t7⟩ := readspec_tables argsort hA D (hlen.symm ▸ hn)
  obtain rfl : res' = res := Except.ok.inj (t1.symm.trans h1)
  subst h3
  rw [hlen] at h5 t2 t3 t5 t7
  refine ⟨res', ?_, h4, ?_, t2, ?_, ?_, ?_, ?_, ?_⟩
  · rw [readspec_all_fibers_requests argsort S Z files pl r2 r1 platein p n hp hnf mjd none, readspecCoreX_none]
    exact h1
  · intro j h hj h7
    obtain ⟨im, i1, i2, i3, i4⟩ := h5 j h hj h7
    refine ⟨im, i1, i2, i3, ?_⟩
    intro i hi
    rw [i4 i hi, hrow i hi, Nat.sub_self, List.replicate_zero, List.append_nil]
  · intro i hi; rw [t3 i hi, hrow i hi]
  · intro hz; exact t4 (by rw [hz]; rfl)
  · intro t ht
    obtain ⟨l, l1, l2, l3⟩ := t5 (fun _ => t) (by rw [ht]; rfl)
    exact ⟨l, l1, l2, fun i hi => by rw [l3 i hi, hrow i hi]⟩
  · intro hz; exact t6 (by rw [hz]; rfl)
  · intro t ht
    obtain ⟨l, l1, l2, l3⟩ := t7 (fun _ => t) (by rw [ht]; rfl)
    exact ⟨l, l1, l2, fun i hi => by rw [l3 i hi, hrow i hi]⟩

theorem countFor_map (ps : List Nat) (nf : Nat → Nat) (p : Nat) (hp : p ∈ ps) :
    countFor ps (ps.map nf) p = nf p := by
  unfold countFor
  rw [List.zip, List.zipWith_map_right, List.zipWith_self]
  refine uniq_headD (nf p) _ ?_ fun x hx => ?_
  · exact List.mem_map.mpr
      ⟨(p, nf p), List.mem_filter.mpr ⟨List.mem_map.mpr ⟨p, hp, rfl⟩, beq_self_eq_true p⟩, rfl⟩
  · obtain ⟨a, ha, rfl⟩ := List.mem_map.mp hx
    obtain ⟨ha1, ha2⟩ := List.mem_filter.mp ha
    obtain ⟨q, _, rfl⟩ := List.mem_map.mp ha1
    rw [show q = p from beq_iff_eq.mp ha2]

/-- the plate vector of `fiber=None` for the (sorted, distinct) plates `us` with fibre counts `nf`: a block of `nf p` copies per plate -/
def allPlates (us : List Nat) (nf : Nat → Nat) : List Nat := us.flatMap (fun p => List.replicate (nf p) p)
/-- its fibre vector: `1..nf p` in every block -/
def allFibers (us : List Nat) (nf : Nat → Nat) : List Int :=
  us.flatMap (fun p => (List.range (nf p)).map (fun (i : Nat) => (i : Int) + 1))

theorem allPlates_length (us : List Nat) (nf : Nat → Nat) : (allPlates us nf).length = (us.map nf).sum := by
  simp [allPlates, List.length_flatMap]

theorem allFibers_length (us : List Nat) (nf : Nat → Nat) : (allFibers us nf).length = (us.map nf).sum := by
  simp [allFibers, List.length_flatMap]

/-- `fiber=None` on ANY plate vector: the blocks of the distinct plates in ascending order, then `gap` zeros up to
`total_fibers` (none when the plates are distinct) -/
theorem normalizeAll_vec (latest : Nat → Nat) (nfOf : List Nat → Except String (List Nat))
    (ps : List Nat) (nf : Nat → Nat) (hnf : nfOf ps = .ok (ps.map nf)) (gap : Nat)
    (hgap : gap = (ps.map nf).sum - ((uniq ps).map nf).sum) :
    normalizeAll latest nfOf (.vec ps) none
      = .ok (allPlates (uniq ps) nf ++ List.replicate gap 0,
             (allPlates (uniq ps) nf ++ List.replicate gap 0).map latest,
             allFibers (uniq ps) nf ++ List.replicate gap 0) := by
  have hblocks : (uniq ps).map (fun p => (p, countFor ps (ps.map nf) p)) = (uniq ps).map (fun p => (p, nf p)) :=
    List.map_congr_left fun p hp => by rw [countFor_map ps nf p ((mem_uniq p ps).mp hp)]
  have hP : ((uniq ps).map (fun p => (p, nf p))).flatMap (fun b => List.replicate b.2 b.1) = allPlates (uniq ps) nf :=
    List.flatMap_map ..
  have hF : ((uniq ps).map (fun p => (p, nf p))).flatMap (fun b => (List.range b.2).map (fun (i : Nat) => (i : Int) + 1))
      = allFibers (uniq ps) nf := List.flatMap_map ..
  simp only [normalizeAll, Arg.toList, hnf, hblocks, hP, hF, allPlates_length, allFibers_length, ← hgap,
    bind, Except.bind, pure, Except.pure]
  rw [bcast_same _ _ (List.length_map _)]

/-- What the requests are under `fiber=None` for a vector of DISTINCT plates (any order) whose fibre
counts are `nf p`: the plates in ascending order, for each plate the fibres 1..nf p in order, MJD = the latest of
the plate. -/
theorem normalizeAll_distinct (latest : Nat → Nat) (nfOf : List Nat → Except String (List Nat))
    (ps : List Nat) (nf : Nat → Nat) (hd : ps.Nodup) (hnf : nfOf ps = .ok (ps.map nf)) :
    normalizeAll latest nfOf (.vec ps) none
      = .ok ((uniq ps).flatMap (fun p => List.replicate (nf p) p),
             ((uniq ps).flatMap (fun p => List.replicate (nf p) p)).map latest,
             (uniq ps).flatMap (fun p => (List.range (nf p)).map (fun (i : Nat) => (i : Int) + 1))) := by
  rw [normalizeAll_vec latest nfOf ps nf hnf 0 (by rw [((uniq_perm ps hd).map nf).sum_nat, Nat.sub_self])]
  simp only [List.replicate_zero, List.append_nil]
  rfl

/-- position i of the `fiber=None` request vectors is (plate p, fibre j+1) for some plate p of the list and some j < nf p
(the order of the blocks and of the fibres inside a block is that of the definitions `allPlates` / `allFibers`) -/
theorem all_fibers_layout (us : List Nat) (nf : Nat → Nat) (i : Nat) (hi : i < (allPlates us nf).length) :
    ∃ p ∈ us, ∃ j, j < nf p ∧ (allPlates us nf).getD i 0 = p ∧ (allFibers us nf).getD i 0 = (j : Int) + 1 := by
  induction us generalizing i with
  | nil => exact absurd hi (Nat.not_lt_zero _)
  | cons q rest ih =>
    have e1 : allPlates (q :: rest) nf = List.replicate (nf q) q ++ allPlates rest nf := rfl
    have e2 : allFibers (q :: rest) nf
        = (List.range (nf q)).map (fun (i : Nat) => (i : Int) + 1) ++ allFibers rest nf := rfl
    rw [e1, e2, getD_append, getD_append, List.length_replicate, List.length_map, List.length_range]
    by_cases h : i < nf q
    · rw [if_pos h, if_pos h]
      exact ⟨q, List.mem_cons_self, i, h, getD_replicate _ _ _ _ h, getD_map_range_lt _ _ _ 0 h⟩
    · rw [e1, List.length_append, List.length_replicate] at hi
      rw [if_neg h, if_neg h]
      obtain ⟨p, hp, j, hj, g⟩ := ih (i - nf q) (Nat.sub_lt_left_of_lt_add (Nat.le_of_not_lt h) hi)
      exact ⟨p, List.mem_cons_of_mem _ hp, j, hj, g⟩

/-- `fiber=None` for a vector of DISTINCT plates (any order; counts `nf p`, files `F p` at the latest MJD):
readspec is readspec on the vectors `allPlates` / `allFibers` of the ascending plates, and these satisfy `Domain` - so
the row theorems hold for it as soon as one count is positive, with position i being (plate p, fibre j+1) as in
`all_fibers_layout`. -/
theorem readspec_all_fibers_plates (argsort : List Nat → List Nat) (S : Survey α τ) (Z : ZSurvey τ)
    (files : List (Nat × Nat)) (pl : Option (List PlateListRow)) (r2 r1 : String)
    (ps : List Nat) (nf : Nat → Nat) (F : Nat → PlateFile α τ) (ztP ttP : Option (Nat → Nat → τ)) (hd : ps.Nodup)
    (hnf : numberOfFibers (latestMjd files) pl r2 r1 ps = .ok (ps.map nf))
    (hF : ∀ p ∈ ps, latestMjd files p < 2 ^ 16 ∧ S p (latestMjd files p) = some (F p) ∧ nf p ≤ (F p).nfib ∧
      (∀ h ∈ imgHdus, h ≠ 7 → ∀ r, r < (F p).nfib → ((F p).img h r).length = (F p).npix) ∧
      (F p).zans = ztP.map (fun t => t p) ∧ (F p).tsobj = ttP.map (fun t => t p)) :
    readspecX argsort S Z files pl r2 r1 (.vec ps) none none none
      = readspecCore argsort S (allPlates (uniq ps) nf) ((allPlates (uniq ps) nf).map (latestMjd files))
          (allFibers (uniq ps) nf) ∧
    Domain S (allPlates (uniq ps) nf) ((allPlates (uniq ps) nf).map (latestMjd files)) (allFibers (uniq ps) nf)
      (fun i => F ((allPlates (uniq ps) nf).getD i 0))
      (ztP.map (fun t i => t ((allPlates (uniq ps) nf).getD i 0)))
      (ttP.map (fun t i => t ((allPlates (uniq ps) nf).getD i 0))) ∧
    (uniq ps).Pairwise (· < ·) ∧ (∀ p, p ∈ uniq ps ↔ p ∈ ps) := by
  refine ⟨?_, ?_, pairwise_uniq ps, fun p => mem_uniq p ps⟩
  · simp only [readspecX, normalizeAll_distinct (latestMjd files) _ ps nf hd hnf, readspecCoreX_none, bind, Except.bind]
    rfl
  · refine ⟨List.length_map _, by rw [allFibers_length, allPlates_length], ?_, ?_, ?_, ?_, ?_, ?_⟩
    -- every field is the hypothesis on the plate that the layout finds at position i
    all_goals
      intro i hi
      obtain ⟨p, hp, j, hj, g1, g2⟩ := all_fibers_layout (uniq ps) nf i hi
      have hFp := hF p ((mem_uniq p ps).mp hp)
    · rw [getD_map _ _ 0 _ i hi, g1]
      exact hFp.1
    · rw [getD_map _ _ 0 _ i hi, g1]
      exact hFp.2.1
    · rw [g1, g2]
      have := hFp.2.2.1
      omega
    · rw [g1]
      exact hFp.2.2.2.1
    · simp only [Option.map_map, Function.comp_def, g1]
      exact hFp.2.2.2.2.1
    · simp only [Option.map_map, Function.comp_def, g1]
      exact hFp.2.2.2.2.2

end ZnumAllFibers

/-! ## non-vacuity: the hypotheses are satisfiable by a non-trivial request -/

/-- a survey in which plate p (any MJD) has p+2 pixels, 3 fibres, no spZbest, a photoPlate table -/
def exFile (p : Nat) : PlateFile Rat Nat :=
  ⟨p + 2, 3, 35/10, 1/10000, fun h r => List.replicate (p + 2) ((h + 10 * r : Nat) : Rat), fun r => r, none,
    some (fun r => 100 + r)⟩

/-- four requests, scrambled: two plates, plate 3 at two MJDs, a repeated request, different pixel counts -/
example : Domain (fun p _ => some (exFile p)) [3, 1, 3, 1] [52000, 51999, 51000, 51999] [2, 1, 3, 1]
    (fun i => exFile ([3, 1, 3, 1].getD i 0)) none (some (fun _ r => 100 + r)) where
  len_mv := rfl
  len_fv := rfl
  mjd_lt := by decide
  file := fun _ _ => rfl
  fiber := by decide
  rect := fun _ _ _ _ _ _ _ => List.length_replicate
  zans := fun _ _ => rfl
  tsobj := fun _ _ => rfl

example : IsArgsort argsortImpl := argsortImpl_isArgsort

/-- spZall of the example survey: 3 fibres x 2 fits, row (fibre-1)*2 + fit-1 -/
def exZ (p : Nat) : ZAll Nat := ⟨2, 6, fun r => 1000 * p + r⟩

/-- the same four scrambled requests with `znum=2` (spZall for every plate; the survey has no spZbest at all) -/
example : DomainZ (fun p _ => some (exFile p)) (fun p _ => some (exZ p)) 2 [3, 1, 3, 1] [52000, 51999, 51000, 51999]
    [2, 1, 3, 1] (fun i => exFile ([3, 1, 3, 1].getD i 0)) (some (fun i => exZ ([3, 1, 3, 1].getD i 0)))
    (some (fun _ r => 100 + r)) where
  len_mv := rfl
  len_fv := rfl
  mjd_lt := by decide
  file := fun _ _ => rfl
  fiber := by decide
  rect := fun _ _ _ _ _ _ _ => List.length_replicate
  tsobj := fun _ _ => rfl
  zall := fun _ _ => rfl
  shape := by
    intro t ht i hi
    cases ht
    exact ⟨rfl, by decide, Int.le_refl 2⟩

/-- `fiber=None`: the hypotheses of `readspec_all_fibers` are met by a BOSS plate with a platelist row (3 fibres) ... -/
example : numberOfFibers (latestMjd [(7, 56000), (7, 55900)])
    (some [⟨7, 56000, "x", "r1d", 9⟩, ⟨7, 56000, "r2d", "r1d", 3⟩]) "r2d" "r1d" [7] = .ok [3] := by rfl
/-- ... and by an SDSS-I/II plate (640 fibres, no platelist) -/
example : numberOfFibers (latestMjd [(266, 51630), (266, 51602)]) none "26" "" [266] = .ok [640] := by rfl
example : (exFile 7).nfib = 3 ∧ latestMjd [(7, 56000), (7, 55900)] 7 = 56000 := by decide
/-- two distinct plates in descending order: the hypothesis `hnf` of `readspec_all_fibers_plates` / `normalizeAll_distinct` -/
example : numberOfFibers (latestMjd [(7, 56000), (3, 56100)])
    (some [⟨3, 56100, "r2d", "r1d", 2⟩, ⟨7, 56000, "r2d", "r1d", 3⟩]) "r2d" "r1d" [7, 3]
      = .ok ([7, 3].map (fun p => if p == 7 then 3 else 2)) := by rfl
example : allPlates (uniq [7, 3]) (fun p => if p == 7 then 3 else 2) = [3, 3, 7, 7, 7] ∧
    allFibers (uniq [7, 3]) (fun p => if p == 7 then 3 else 2) = [1, 2, 1, 2, 3] := by decide

/-- spec_append of the repository test, positive and negative shift, evaluated by the model -/
example : (specAppend (0 : Int) ⟨3, [[1, 1, 1], [1, 1, 1]]⟩ ⟨3, [[2, 2, 2]]⟩ (-2)).rows
    = [[0, 0, 1, 1, 1], [0, 0, 1, 1, 1], [2, 2, 2, 0, 0]] := by decide
example : (specAppend (0 : Int) ⟨3, [[1, 1, 1], [1, 1, 1]]⟩ ⟨4, [[2, 2, 2, 2]]⟩ 1).rows
    = [[1, 1, 1, 0, 0], [1, 1, 1, 0, 0], [0, 2, 2, 2, 2]] := by decide

/-! ## index wrap, error theorems -/

section Errors
variable {α τ : Type} [Scalar α]

theorem readspecCore_congr_fiber (argsort : List Nat → List Nat) (S : Survey α τ) (pv mv : List Nat) (fv fv' : List Int)
    (h : ∀ i, i < pv.length → ∀ f, S (pv.getD i 0) (mv.getD i 0) = some f →
      rowIndex f.nfib (fv.getD i 0) = rowIndex f.nfib (fv'.getD i 0)) :
    readspecCore argsort S pv mv fv = readspecCore argsort S pv mv fv' := by
  suffices hstep : step S pv mv fv = step S pv mv fv' by
    unfold readspecCore
    rw [hstep]
  funext st u
  simp only [step]
  cases hS : S (u >>> 16) (u &&& ((1 <<< 16) - 1)) with
  | none => rfl
  | some f =>
    -- both the test and the selected rows are functions of the list of numpy indices
    have hrow : (idxOf pv mv u).map (fun i => rowIndex f.nfib (fv.getD i 0))
        = (idxOf pv mv u).map (fun i => rowIndex f.nfib (fv'.getD i 0)) := by
      refine List.map_congr_left fun i hi => ?_
      obtain ⟨h1, h2, h3⟩ := (mem_idxOf u i).mp hi
      exact h i h1 f (by rw [h2, h3]; exact hS)
    have e1 := congrArg (List.all · Option.isSome) hrow
    have e2 := congrArg (List.map (·.getD 0)) hrow
    simp only [List.all_map, List.map_map, Function.comp_def] at e1 e2 ⊢
    rw [e1, e2]

/-- Fibres `≤ 0` inside the wrap range (`-nfib_i < x_i ≤ 0`) return EXACTLY what `x_i + nfib_i` returns: fibre 0 is the
last fibre of the plate, fibre -1 the one before.  (The property speaks about "requested spectra"; fibre ≤ 0 names no
spectrum - this is OUTSIDE it, the theorem only says what the code does there.) -/
theorem readspec_fiber_wrap (argsort : List Nat → List Nat) (S : Survey α τ) (pv mv : List Nat) (fv : List Int)
    (nf : Nat → Nat) (hnf : ∀ i, i < pv.length → ∀ f, S (pv.getD i 0) (mv.getD i 0) = some f → f.nfib = nf i)
    (hw : ∀ i, i < pv.length → (1 ≤ fv.getD i 0) ∨ (-(nf i : Int) < fv.getD i 0 ∧ fv.getD i 0 ≤ 0)) :
    readspecCore argsort S pv mv fv = readspecCore argsort S pv mv
      ((List.range fv.length).map (fun i => if fv.getD i 0 ≤ 0 then fv.getD i 0 + nf i else fv.getD i 0)) := by
  refine readspecCore_congr_fiber argsort S pv mv fv _ fun i hi f hf => ?_
  rw [getD_map_range]
  split
  · rcases hw i hi with h1 | h1
    · rw [if_neg (by omega)]
    · rw [if_pos h1.2, hnf i hi f hf]
      exact ((rowIndex_cases (nf i) (fv.getD i 0)).2.1 h1).2
  · rw [getD_ge _ _ _ (Nat.le_of_not_lt ‹_›)]

/-- If ONE request names a plate-MJD without an spPlate file, readspec returns nothing: it raises
(FileNotFoundError from `fits.open`, or an earlier IndexError of another file), whatever the other requests are, for any
`znum`.  No partial result, no row of another file in its place. -/
theorem readspec_missing_file_raises (argsort : List Nat → List Nat) (S : Survey α τ) (Z : ZSurvey τ) (znum : Option Int)
    (pv mv : List Nat) (fv : List Int) (hlen : mv.length = pv.length) (i0 : Nat) (h0 : i0 < pv.length)
    (hm : mv.getD i0 0 < 2 ^ 16) (hS : S (pv.getD i0 0) (mv.getD i0 0) = none) :
    ∃ e, readspecCoreX argsort S Z znum pv mv fv = .error e := by
  simp only [readspecCoreX]
  have hu : key (pv.getD i0 0) (mv.getD i0 0) ∈ uniq (List.zipWith key pv mv) := (mem_keys hlen _).mpr ⟨i0, h0, rfl⟩
  have hd := key_requests i0 h0 hm _ rfl
  obtain ⟨e, he, -⟩ := foldlM_error_of_mem (stepX S Z znum pv mv fv) _ _ hu (by
    intro b
    refine ⟨"FileNotFoundError", ?_⟩
    unfold stepX
    simp only [hd.1, hd.2.1, hS]
    rfl) none
  exact ⟨e, by rw [he]; rfl⟩

omit [Scalar α] in
/-- When an accumulated table (zans / tsobj; some plate-MJDs had the file, others not) has FEWER rows than there are
requests, the final reorder `x[j]` with `j = allpmjdindex.argsort()` raises IndexError for ANY argsort: nothing is
returned, no row is silently shifted to another request. -/
theorem finish_short_table_raises (argsort : List Nat → List Nat) (hA : IsArgsort argsort) (a : Acc α τ)
    (h : (∃ l, a.zans = some l ∧ l.length < a.allidx.length) ∨ (∃ l, a.tsobj = some l ∧ l.length < a.allidx.length)) :
    ∃ e, finish argsort a = .error e := by
  have hbig : ∀ l : List τ, l.length < a.allidx.length → gatherOpt (some l) (argsort a.allidx) = .error "IndexError" := by
    intro l hl
    have hmem : l.length ∈ argsort a.allidx := (hA a.allidx).1.mem_iff.mpr (List.mem_range.mpr hl)
    rw [gatherOpt, gather, if_neg]
    · rfl
    · exact fun hall => Nat.lt_irrefl _ (of_decide_eq_true (List.all_eq_true.mp hall _ hmem))
  refine bind_raises _ _ fun imgs => bind_raises _ _ fun plug => ?_
  rcases h with ⟨l, hl, hlt⟩ | ⟨l, hl, hlt⟩
  · rw [hl, hbig l hlt]
    exact ⟨_, rfl⟩
  · refine bind_raises _ _ fun z => ?_
    rw [hl, hbig l hlt]
    exact ⟨_, rfl⟩

/-- `fiber=None` with REPEATED plates: `platevec = np.zeros(total_fibers)` is filled once per DISTINCT plate, so with a
repeated plate the tail stays plate 0 / fibre 0; readspec then looks for the spPlate file of plate 0 at `latest_mjd(0)`
and raises - nothing is returned.  `hgap`: the gap between `total_fibers` and the filled part. -/
theorem readspec_all_fibers_unfilled_raises (argsort : List Nat → List Nat) (S : Survey α τ) (Z : ZSurvey τ)
    (files : List (Nat × Nat)) (pl : Option (List PlateListRow)) (r2 r1 : String) (ps : List Nat) (nf : Nat → Nat)
    (znum : Option Int)
    (hnf : numberOfFibers (latestMjd files) pl r2 r1 ps = .ok (ps.map nf))
    (hgap : ((uniq ps).map nf).sum < (ps.map nf).sum)
    (h0 : S 0 (latestMjd files 0) = none) (hl : latestMjd files 0 < 2 ^ 16) :
    ∃ e, readspecX argsort S Z files pl r2 r1 (.vec ps) none none znum = .error e := by
  obtain ⟨gap, hg⟩ : ∃ gap, gap = (ps.map nf).sum - ((uniq ps).map nf).sum := ⟨_, rfl⟩
  simp only [readspecX, normalizeAll_vec _ _ ps nf hnf gap hg, bind, Except.bind]
  -- the first position after the filled part `P` holds plate 0
  generalize allPlates (uniq ps) nf = P
  have hlt : P.length < (P ++ List.replicate gap 0).length := by
    rw [List.length_append, List.length_replicate]
    exact Nat.lt_add_of_pos_right (hg ▸ Nat.sub_pos_of_lt hgap)
  have hp : (P ++ List.replicate gap 0).getD P.length 0 = 0 := by
    rw [getD_append, if_neg (Nat.lt_irrefl _), List.getD_eq_getElem?_getD, getElem?_replicate_getD]
  apply readspec_missing_file_raises argsort S Z znum _ _ _ (List.length_map _) _ hlt
  · rw [getD_map _ _ 0 _ _ hlt, hp]; exact hl
  · rw [getD_map _ _ 0 _ _ hlt, hp]; exact h0

/-- `fiber=None` on EVERY plate vector that is not duplicate-free and whose plates have fibres (`nf p > 0`), any `znum`:
readspec raises (no plate-0 file at `latest_mjd(0)`), nothing is returned. -/
theorem readspec_all_fibers_dup_raises (argsort : List Nat → List Nat) (S : Survey α τ) (Z : ZSurvey τ)
    (files : List (Nat × Nat)) (pl : Option (List PlateListRow)) (r2 r1 : String) (ps : List Nat) (nf : Nat → Nat)
    (znum : Option Int)
    (hnf : numberOfFibers (latestMjd files) pl r2 r1 ps = .ok (ps.map nf))
    (hdup : ¬ ps.Nodup) (hpos : ∀ p ∈ ps, 0 < nf p)
    (h0 : S 0 (latestMjd files 0) = none) (hl : latestMjd files 0 < 2 ^ 16) :
    ∃ e, readspecX argsort S Z files pl r2 r1 (.vec ps) none none znum = .error e :=
  readspec_all_fibers_unfilled_raises argsort S Z files pl r2 r1 ps nf znum hnf (sum_uniq_lt nf ps hdup hpos) h0 hl

/-- the hypothesis `hgap` of `readspec_all_fibers_unfilled_raises` on a plate given twice -/
example : ((uniq [7, 7]).map (fun _ => 3)).sum < ([7, 7].map (fun _ => 3)).sum := by decide

section Mixed

/-- the length of `allpmjdindex` -/
def readLen (st : Option (Acc α τ)) : Nat := match st with | none => 0 | some a => a.allidx.length
/-- rows of one accumulated table (0 while it does not exist) -/
def tableLen (accT : Acc α τ → Option (List τ)) (st : Option (Acc α τ)) : Nat := ((st.bind accT).getD []).length

/- `get` / `accT`: one optional table (zans or tsobj) as a field of a file / of the accumulator; `hacc`: a pass joins them with `catOpt` -/
variable (get : PlateFile α τ → Option (Nat → τ)) (accT : Acc α τ → Option (List τ))
  (hacc : ∀ f idx rows st, accT (stepOk f idx rows st) = catOpt (st.bind accT) ((get f).map (fun t => rows.map t)))
  (S : Survey α τ) (pv mv : List Nat) (fv : List Int)
include hacc

/-- one pass of the loop that returns: `allpmjdindex` grows by the number `n` of requests of the key.  The table never gets
ahead of it (`c`: by how much it is behind) and stays once it exists; it falls `n` further behind when the file of the key has
no such table, and exists after a file that has one -/
theorem step_table (st st' : Option (Acc α τ)) (u : Nat) (h : step S pv mv fv st u = .ok st') :
    (∀ c, tableLen accT st + c ≤ readLen st → tableLen accT st' + c ≤ readLen st') ∧
      ((st.bind accT).isSome → (st'.bind accT).isSome) ∧
      ∀ f, S (u >>> 16) (u &&& ((1 <<< 16) - 1)) = some f →
        (get f = none → ∀ c, tableLen accT st + c ≤ readLen st → tableLen accT st' + (c + (idxOf pv mv u).length) ≤ readLen st') ∧
        ((get f).isSome → (st'.bind accT).isSome) := by
  simp only [step] at h
  cases hS : S (u >>> 16) (u &&& ((1 <<< 16) - 1)) with
  | none => rw [hS] at h; cases h
  | some f =>
    rw [hS] at h
    simp only at h
    split at h
    · cases h
    · cases h
      obtain ⟨rows, hrows, hlen⟩ : ∃ rows, rows = ((idxOf pv mv u).map (fun i => fv.getD i 0)).map
          (fun x => (rowIndex f.nfib x).getD 0) ∧ rows.length = (idxOf pv mv u).length :=
        ⟨_, rfl, by rw [List.length_map, List.length_map]⟩
      rw [← hrows]
      have hA : readLen (some (stepOk f (idxOf pv mv u) rows st)) = readLen st + (idxOf pv mv u).length := by
        cases st with
        | none => exact (Nat.zero_add _).symm
        | some a => exact List.length_append
      rw [tableLen, tableLen, Option.bind_some, hacc f (idxOf pv mv u) rows st, hA]
      cases hg : get f with
      | none =>
        rw [Option.map_none, catOpt_none_right]
        refine ⟨fun c hc => Nat.le_trans hc (Nat.le_add_right _ _), id, fun g hg' => ?_⟩
        cases hg'
        rw [hg]
        exact ⟨fun _ c hc => by rw [← Nat.add_assoc]; exact Nat.add_le_add_right hc _, fun hh => (by cases hh)⟩
      | some t =>
        obtain ⟨l', h1, h2⟩ := catOpt_some_length (st.bind accT) (rows.map t)
        rw [Option.map_some, h1, Option.getD_some, h2, List.length_map, hlen]
        refine ⟨fun c hc => by rw [Nat.add_right_comm]; exact Nat.add_le_add_right hc _, fun _ => rfl, fun g hg' => ?_⟩
        cases hg'
        rw [hg]
        exact ⟨fun hh => (by cases hh), fun _ => rfl⟩

omit hacc

/-- If ONE requested plate-MJD has the spZbest (resp. photoPlate) file and ANOTHER requested one has not, readspec
raises - at the latest in the reorder step - for ANY argsort, any order of the requests: nothing is returned.
`which = true`: zans, `false`: tsobj. -/
theorem readspec_mixed_tables_raise (which : Bool) (argsort : List Nat → List Nat) (hA : IsArgsort argsort)
    (S : Survey α τ) (pv mv : List Nat) (fv : List Int) (hlen : mv.length = pv.length)
    (i j : Nat) (hi : i < pv.length) (hj : j < pv.length) (hmi : mv.getD i 0 < 2 ^ 16) (hmj : mv.getD j 0 < 2 ^ 16)
    (fi fj : PlateFile α τ) (hSi : S (pv.getD i 0) (mv.getD i 0) = some fi) (hSj : S (pv.getD j 0) (mv.getD j 0) = some fj)
    (hnone : (if which then fi.zans else fi.tsobj) = none) (hsome : (if which then fj.zans else fj.tsobj).isSome) :
    ∃ e, readspecCore argsort S pv mv fv = .error e := by
  simp only [readspecCore]
  cases hfold : (uniq (List.zipWith key pv mv)).foldlM (step S pv mv fv) none with
  | error e => exact ⟨e, rfl⟩
  | ok st' =>
    cases st' with
    | none => exact ⟨_, rfl⟩
    | some a =>
      refine finish_short_table_raises argsort hA a ?_
      obtain ⟨di1, di2, hii, -⟩ := key_requests i hi hmi _ rfl
      obtain ⟨dj1, dj2, -⟩ := key_requests j hj hmj _ rfl
      have hshort : ∀ (get : PlateFile α τ → Option (Nat → τ)) (accT : Acc α τ → Option (List τ)),
          (∀ f idx rows st, accT (stepOk f idx rows st) = catOpt (st.bind accT) ((get f).map (fun t => rows.map t))) →
          get fi = none → (get fj).isSome → ∃ l, accT a = some l ∧ l.length < a.allidx.length := by
        intro get accT hacc h1 h2
        have hT := fun st st' u => step_table get accT hacc S pv mv fv st st' u
        -- `foldlM_of_mem f P Q l u ..`: every pass keeps `P`, every pass keeps `Q`, the pass of `u` turns `P` into `Q`; so `Q` at the end.
        -- The table exists from the pass of request j on (`P` = nothing, `Q` = it exists)
        have hex := foldlM_of_mem _ (fun _ => True) (fun st => (st.bind accT).isSome) _ _ ((mem_keys hlen _).mpr ⟨j, hj, rfl⟩)
          (fun _ _ _ _ _ _ => trivial) (fun u _ st st' h => (hT st st' u h).2.1)
          (fun st st' h _ => ((hT st st' _ h).2.2 fj (by rw [dj1, dj2]; exact hSj)).2 h2) none (some a) hfold trivial
        -- and is behind `allpmjdindex` from the pass of request i on (`P` = behind by ≥ 0, `Q` = behind by ≥ 1): by at least the
        -- requests of that key, of which i is one
        have hlt := foldlM_of_mem _ (fun st => tableLen accT st + 0 ≤ readLen st) (fun st => tableLen accT st + 1 ≤ readLen st) _ _
          ((mem_keys hlen _).mpr ⟨i, hi, rfl⟩) (fun u _ st st' h => (hT st st' u h).1 0)
          (fun u _ st st' h => (hT st st' u h).1 1) (fun st st' h h0 =>
            Nat.le_trans (Nat.add_le_add_left (Nat.add_le_add_left (List.length_pos_of_mem hii) 0) _)
              (((hT st st' _ h).2.2 fi (by rw [di1, di2]; exact hSi)).1 h1 0 h0))
          none (some a) hfold (Nat.le_refl 0)
        obtain ⟨l, hl⟩ := Option.isSome_iff_exists.mp hex
        rw [tableLen, hl] at hlt
        exact ⟨l, hl, hlt⟩
      cases which with
      | true => exact Or.inl (hshort (·.zans) (·.zans) (fun f idx rows st => by cases st <;> rfl) hnone hsome)
      | false => exact Or.inr (hshort (·.tsobj) (·.tsobj) (fun f idx rows st => by cases st <;> rfl) hnone hsome)

end Mixed

end Errors

/-! ## readspec over directory listings (Model/SpecFiles.lean) -/

section FS
variable {α τ : Type} [Scalar α]

/-- the survey that a directory holding the spPlate files `files` with contents `content` IS -/
def surveyOfFiles (files : List (Nat × Nat)) (content : List Char → PlateFile α τ) : Survey α τ :=
  fun p m => if (p, m) ∈ files then some (content (specFileName p m)) else none

/-- a directory entry that the glob of no plate picks: other kinds of files (spZbest-…, photoPlate-…, platelist.fits),
sub-directories, names with other extensions -/
def NoGlob (name : List Char) : Prop := ∀ plate, globMatch plate name = false

omit [Scalar α] in
theorem surveyOfListing_eq (files : List (Nat × Nat)) (junk : List (List Char)) (hj : ∀ n ∈ junk, NoGlob n)
    (content : List Char → PlateFile α τ) :
    surveyOfListing (listingOf files ++ junk) content = surveyOfFiles files content := by
  funext p m
  unfold surveyOfListing surveyOfFiles
  have : specFileName p m ∈ listingOf files ++ junk ↔ (p, m) ∈ files := by
    rw [List.mem_append, mem_listingOf]
    refine ⟨fun h => h.resolve_right fun hjk => ?_, Or.inl⟩
    -- a junk entry is globbed by no plate, a file name by its own
    have h1 := hj _ hjk p
    rw [(globMatch_specFileName p p m).mpr rfl] at h1
    cases h1
  simp only [this]

theorem latestMjdFS_junk (dir : List Char) (hP : 'P' ∉ dir) (files : List (Nat × Nat)) (hm : ∀ f ∈ files, f.2 < 100000)
    (junk : List (List Char)) (hj : ∀ n ∈ junk, NoGlob n) (plate : Nat) :
    latestMjdFS dir (listingOf files ++ junk) plate = .ok (latestMjd files plate) := by
  rw [latestMjdFS_ignores_unmatched, List.filter_append]
  have : junk.filter (globMatch plate) = [] := by
    rw [List.filter_eq_nil_iff]
    intro n hn
    rw [hj n hn plate]
    exact Bool.false_ne_true
  rw [this, List.append_nil, ← latestMjdFS_ignores_unmatched]
  exact latestMjdFS_eq_latestMjd dir plate hP files hm

/-- readspec on a DIRECTORY LISTING - names formed with zero padding, latest MJD found by glob + regular expression,
files opened by name - is the abstract `readspec` on the survey `surveyOfFiles`, for every calling convention, every
plate (≥ 10000 included), any order of the listing, decoy plates and other entries present. -/
theorem readspecFS_eq_readspec (argsort : List Nat → List Nat) (dir : List Char) (hP : 'P' ∉ dir)
    (files : List (Nat × Nat)) (hm : ∀ f ∈ files, f.2 < 100000) (junk : List (List Char)) (hj : ∀ n ∈ junk, NoGlob n)
    (content : List Char → PlateFile α τ) (platein : Arg Nat) (mjd : Option (Arg Nat)) (fiber : Arg Int) :
    readspecFS argsort dir (listingOf files ++ junk) content platein mjd fiber
      = readspec argsort (surveyOfFiles files content) files platein mjd fiber := by
  have hl : ∀ p, latestMjdFS dir (listingOf files ++ junk) p = .ok (latestMjd files p) :=
    latestMjdFS_junk dir hP files hm junk hj
  have hlat : latestOf (fun _ => listingOf files ++ junk) dir = latestMjd files := by
    funext p
    simp only [latestOf, hl p]
  -- latest_mjd raises on no plate, so readspecFS goes on to its core, whatever `mjd` is
  unfold readspecFS readspecFSCore readspec
  rw [mapM_eq_ok_map _ (latestMjd files) _ fun p _ => hl p, hlat, surveyOfListing_eq files junk hj content]
  cases mjd <;> rfl

/-- Under the plain vector convention readspec on a listing IS `readspecCore` on the survey of the listed
files - so every theorem about `readspecCore` speaks about directory listings. -/
theorem readspecFS_vec (argsort : List Nat → List Nat) (dir : List Char) (hP : 'P' ∉ dir)
    (files : List (Nat × Nat)) (hm : ∀ f ∈ files, f.2 < 100000) (junk : List (List Char)) (hj : ∀ n ∈ junk, NoGlob n)
    (content : List Char → PlateFile α τ) (pv mv : List Nat) (fv : List Int)
    (h1 : mv.length = pv.length) (h2 : fv.length = pv.length) (hn : 0 < pv.length) :
    readspecFS argsort dir (listingOf files ++ junk) content (.vec pv) (some (.vec mv)) (.vec fv)
      = readspecCore argsort (surveyOfFiles files content) pv mv fv := by
  rw [readspecFS_eq_readspec argsort dir hP files hm junk hj, readspec_vec argsort _ files pv mv fv h1 h2 hn]

/-- `readspec_row_i` about file listings.  A directory holds the spPlate files `files` (names `spPlate-pppp-mmmmm.fits`
with AT LEAST 4 plate digits) among other entries.  For EVERY request vector of the domain on `surveyOfFiles`: row i of
every image HDU is row `fibre_i - 1` of the file NAMED `spPlate-{plate_i:04d}-{mjd_i:05d}.fits`, right-padded, never
shifted.  Two different (plate, MJD) never name the same file (`specFileName_injective`), so no request can receive
another plate's rows through a shared or mis-globbed name. -/
theorem readspec_row_i_listing (argsort : List Nat → List Nat) (hA : IsArgsort argsort) (dir : List Char) (hP : 'P' ∉ dir)
    (files : List (Nat × Nat)) (hm : ∀ f ∈ files, f.2 < 100000) (junk : List (List Char)) (hj : ∀ n ∈ junk, NoGlob n)
    (content : List Char → PlateFile α τ) (pv mv : List Nat) (fv : List Int) (fl : Nat → PlateFile α τ)
    (zt tt : Option (Nat → Nat → τ))
    (D : Domain (surveyOfFiles files content) pv mv fv fl zt tt) (hn : 0 < pv.length) :
    (∀ i, i < pv.length → fl i = content (specFileName (pv.getD i 0) (mv.getD i 0)) ∧ (pv.getD i 0, mv.getD i 0) ∈ files) ∧
    ∃ res w, readspecFS argsort dir (listingOf files ++ junk) content (.vec pv) (some (.vec mv)) (.vec fv) = .ok res ∧
      (∀ i, i < pv.length → (fl i).npix ≤ w) ∧ (∃ i, i < pv.length ∧ (fl i).npix = w) ∧
      res.imgs.length = imgHdus.length ∧
      ∀ (k h : Nat), imgHdus[k]? = some h → h ≠ 7 →
        ∃ im : Img α, res.imgs[k]? = some im ∧ im.npix = w ∧ im.rows.length = pv.length ∧
          ∀ i, i < pv.length → im.rows[i]? =
            some ((content (specFileName (pv.getD i 0) (mv.getD i 0))).img h ((fv.getD i 0 - 1).toNat)
              ++ List.replicate (w - (fl i).npix) zero) := by
  -- a request of the domain has a file, so it is among `files`, and its file is the one of that name
  refine (fun hfl => ⟨hfl, ?_⟩) fun i hi => ?_
  · have := D.file i hi
    unfold surveyOfFiles at this
    split at this
    · rename_i hmem
      exact ⟨(Option.some.inj this).symm, hmem⟩
    · cases this
  obtain ⟨res, w, h1, h2, h3, h4, h5⟩ := readspec_row_i argsort hA D hn
  refine ⟨res, w, ?_, h2, h3, h4, ?_⟩
  · rw [readspecFS_vec argsort dir hP files hm junk hj content pv mv fv D.len_mv D.len_fv hn]
    exact h1
  · intro k h hk h7
    obtain ⟨im, i1, i2, i3, i4⟩ := h5 k h hk h7
    refine ⟨im, i1, i2, i3, ?_⟩
    intro i hi
    rw [i4 i hi, (hfl i hi).1]

/-- With `mjd=None` the request vector readspec works on has, for every plate, the LARGEST
MJD among the names `spPlate-{plate:04d}-*.fits` of the listing (decoys ignored): readspec on the listing is `readspecCore` on
`(pv, pv.map (latestMjd files), fv)`, to which the row theorems apply. -/
theorem readspec_latest_listing (argsort : List Nat → List Nat) (dir : List Char) (hP : 'P' ∉ dir)
    (files : List (Nat × Nat)) (hm : ∀ f ∈ files, f.2 < 100000) (junk : List (List Char)) (hj : ∀ n ∈ junk, NoGlob n)
    (content : List Char → PlateFile α τ) (pv : List Nat) (fv : List Int) (h2 : fv.length = pv.length) (hn : 0 < pv.length) :
    readspecFS argsort dir (listingOf files ++ junk) content (.vec pv) none (.vec fv)
      = readspecCore argsort (surveyOfFiles files content) pv (pv.map (latestMjd files)) fv ∧
    ∀ p, (∀ m, (p, m) ∈ files → m ≤ latestMjd files p) ∧ (latestMjd files p = 0 ∨ (p, latestMjd files p) ∈ files) := by
  refine ⟨?_, fun p => latestMjd_spec files p⟩
  rw [readspecFS_eq_readspec argsort dir hP files hm junk hj]
  simp only [readspec, (normalize_spec (latestMjd files)).2.1 pv fv h2 hn, bind, Except.bind]

/-- `loglam_rows` and `readspec_tables` for readspec on a listing, about the file NAMED for request i. -/
theorem readspec_tables_loglam_listing (argsort : List Nat → List Nat) (hA : IsArgsort argsort) (dir : List Char) (hP : 'P' ∉ dir)
    (files : List (Nat × Nat)) (hm : ∀ f ∈ files, f.2 < 100000) (junk : List (List Char)) (hj : ∀ n ∈ junk, NoGlob n)
    (content : List Char → PlateFile α τ) (pv mv : List Nat) (fv : List Int) (fl : Nat → PlateFile α τ)
    (zt tt : Option (Nat → Nat → τ))
    (D : Domain (surveyOfFiles files content) pv mv fv fl zt tt) (hn : 0 < pv.length) :
    ∃ res w, readspecFS argsort dir (listingOf files ++ junk) content (.vec pv) (some (.vec mv)) (.vec fv) = .ok res ∧
      (∃ im : Img α, res.imgs[6]? = some im ∧ im.npix = w ∧ im.rows.length = pv.length ∧
        ∀ i, i < pv.length → im.rows[i]? =
          some ((List.range (fl i).npix).map (fun p => (fl i).c0 + (fl i).c1 * Scalar.ofNat p)
            ++ List.replicate (w - (fl i).npix) zero)) ∧
      res.plug.length = pv.length ∧
      (∀ i, i < pv.length → res.plug[i]? = some ((fl i).plug ((fv.getD i 0 - 1).toNat))) ∧
      (zt = none → res.zans = none) ∧
      (∀ t, zt = some t → ∃ l, res.zans = some l ∧ l.length = pv.length ∧
        ∀ i, i < pv.length → l[i]? = some (t i ((fv.getD i 0 - 1).toNat))) ∧
      (tt = none → res.tsobj = none) ∧
      (∀ t, tt = some t → ∃ l, res.tsobj = some l ∧ l.length = pv.length ∧
        ∀ i, i < pv.length → l[i]? = some (t i ((fv.getD i 0 - 1).toNat))) := by
  obtain ⟨res, w, h1, _, _, h4⟩ := loglam_rows argsort hA D hn
  obtain ⟨res', g1, g2, g3, g4, g5, g6, g7⟩ := readspec_tables argsort hA D hn
  obtain rfl : res' = res := Except.ok.inj (g1.symm.trans h1)
  refine ⟨res', w, ?_, h4, g2, g3, g4, g5, g6, g7⟩
  rw [readspecFS_vec argsort dir hP files hm junk hj content pv mv fv D.len_mv D.len_fv hn]
  exact h1

end FS

example : specFileName 266 51630 = ['s','p','P','l','a','t','e','-','0','2','6','6','-','5','1','6','3','0','.','f','i','t','s'] ∧
    specFileName 10266 5 = ['s','p','P','l','a','t','e','-','1','0','2','6','6','-','0','0','0','0','5','.','f','i','t','s'] := by
  decide +kernel
example : NoGlob ['s','p','Z','b','e','s','t','-','0','2','6','6','-','5','1','6','3','0','.','f','i','t','s'] :=
  fun _ => rfl  -- the third character is not 'P'
example : latestMjdFS ['/','d','a','t','a'] (listingOf [(266, 51630), (2660, 59999), (10266, 58888), (266, 51602)]) 266 = .ok 51630 := by
  rw [latestMjdFS_eq_latestMjd _ _ (by decide) _ (by decide)]
  rfl

end PydlVerif.C16
