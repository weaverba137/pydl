/-
C01 - yanny: tables and header pairs written to a file read back unchanged.

Theorems about the executable model in Model/Yanny{Tok,Row,File,Dom}.lean: hand-written scanners for the regular
expressions of `get_token`, `type()`, `_parse`; that they agree with Python's `re` and with `_parse` is sampled by the
correspondence check (streams tok, doc-b, doc-c), not proved.  Floats are abstract (`FloatIO F`); every
float statement carries the hypotheses
  H1 io : parseF w (fmtF w x) = some x          (numpy's shortest repr, Python float(), the cast)
  H2 io : fmtF w x has no `"`, `{`, `}`, newline
which the harness samples on every run and which are jointly satisfiable (`intIO`).  `dbFree` (no `{ws{ws}ws}` pattern
in a written line) is the D4 exclusion.  `loop_lines` and `front_appended` serve C03 as well and stand in the model's
namespace `PydlVerif.Yanny`.
-/
import PydlVerif.Lemmas.YannyCanonFile
import PydlVerif.Model.YannyHistDom
variable {F : Type}

namespace PydlVerif.C01
open PydlVerif.Yanny PydlVerif.YannyRT

/-- the domain of table names and header keys -/
def bareWord (s : Str) : Bool :=
  !s.isEmpty && s.all (fun c => !isSpace c && c != '"' && c != '#' && c != '\n') && s.head? != some '{'

/-- a newline is a white-space character already -/
theorem bareWord_eq (s : Str) : bareWord s = bareLegal s := by
  have : (fun c : Char => !isSpace c && c != '"' && c != '#' && c != '\n') =
      fun c => !isSpace c && c != '#' && c != '"' := by
    funext c
    cases hs : isSpace c
    · have : c ≠ '\n' := fun e => by subst e; cases hs
      cases h1 : c != '"' <;> cases h2 : c != '#' <;> simp [this]
    · rfl
  rw [bareWord, bareLegal, this]

theorem bareWord_bareLegal (s : Str) (h : bareWord s = true) : bareLegal s = true := bareWord_eq s ▸ h

theorem bareWord_of_wordOK (s : Str) (h : wordOK s = true) : bareWord s = true :=
  bareWord_eq s ▸ YannyLayLine.wordOK_bare s h

theorem fmtRow_spaced (io : FloatIO F) (name : Str) (r : List (Cell F)) :
    fmtRow io name r = name ++ spaced (r.map (fmtCell io)) :=
  joinSp_cons name _

theorem fmtRow_piece (io : FloatIO F) (h2 : H2 io) (name : Str) (hn : bareWord name = true)
    (sch : List ColSpec) (r : List (Cell F)) (hr : rowFits sch r = true) : Piece (fmtRow io name r) := by
  obtain ⟨_, lays, hok, hb⟩ := row_written io h2 sch r hr
  rw [fmtRow_spaced]
  exact (renderCells_follows io r lays _ hok hb).1 _ (quoteTok_piece .bare name (bareWord_bareLegal name hn))

theorem strip_id (l : Str) (h1 : ∀ c, l.head? = some c → isSpace c = false)
    (h2 : ∀ c, l.getLast? = some c → isSpace c = false) : strip l = l := by
  unfold strip lstrip rstrip
  rw [lstrip_id l h1, lstrip_id l.reverse (by intro c hc; rw [List.head?_reverse] at hc; exact h2 c hc)]
  simp

/-- integers: what is printed for an integer is read back as that integer -/
theorem int_roundtrip (n : Int) : parseInt (fmtInt n) = some n := parseInt_fmtInt n

/-- tokens: a protected datum followed by a blank and more text is read back exactly, and the
reader stops exactly at the next datum -/
theorem getToken_protect (s rest : Str) (hs : tokOK s = true)
    (hr : ∀ c, rest.head? = some c → isSpace c = false) (hn : '\n' ∉ rest) :
    getToken (protect s ++ ' ' :: rest) = .ok (s, rest) :=
  Yanny.getToken_protect s rest hs hr hn

/-- tokens: a protected datum that ends the line is read back exactly, with nothing left -/
theorem getToken_protect_last (s : Str) (hs : tokOK s = true) : getToken (protect s) = .ok (s, []) := by
  simpa [protect_quoteTok] using getToken_quote_trail _ s [] (protStyle_legal s hs).1 (by simp)

/-- a written data line is a fixed point of `strip` followed by `trailing_comment`: every `#`
the writer emits sits inside a quoted cell -/
theorem trailingComment_row (io : FloatIO F) (h2 : H2 io) (name : Str) (hn : bareWord name = true)
    (sch : List ColSpec) (r : List (Cell F)) (hr : rowFits sch r = true) :
    trailingComment (strip (fmtRow io name r)) = fmtRow io name r := by
  obtain ⟨_, hh, hl, _, hg⟩ := fmtRow_piece io h2 name hn sch r hr
  rw [strip_id _ hh hl]
  exact trailingComment_good _ hg

/-- a written data line without a `{ws{ws}ws}` pattern (the D4 exclusion) is a fixed point of the double-brace
substitution -/
theorem doubleBraces_row (io : FloatIO F) (name : Str) (r : List (Cell F))
    (hd : dbFree (fmtRow io name r) = true) : doubleBraces (fmtRow io name r) = fmtRow io name r :=
  doubleBraces_dbFree _ hd

/-- rows: reading the written cells of a fitting row gives the row back (scalar integers, strings incl. empty /
blanks / tabs / `#` / `;` / inner braces, floats under H1 and H2, 1-D arrays of each, enum labels are strings) -/
theorem parseRow_fmtRow (io : FloatIO F) (h1 : H1 io) (h2 : H2 io) (sch : List ColSpec)
    (r : List (Cell F)) (hr : rowFits sch r = true) : parseRow io sch (fmtRowBody io r) = .ok r := by
  -- the cells are a legal rendering of the row, without trailing blanks
  obtain ⟨hk, lays, hok, hb⟩ := row_written io h2 sch r hr
  have := parseRow_layout' io h1 sch r lays _ [] hk hok hb (by simp)
  rwa [List.append_nil, lstrip_cells] at this

/-- lines: the first token of a written data line is the table name, the rest is the row body -/
theorem getToken_rowLine (io : FloatIO F) (h2 : H2 io) (name : Str) (hn : bareWord name = true)
    (sch : List ColSpec) (x : Cell F) (xs : List (Cell F)) (hr : rowFits sch (x :: xs) = true) :
    getToken (fmtRow io name (x :: xs)) = .ok (name, fmtRowBody io (x :: xs)) := by
  obtain ⟨_, lays, hok, hb⟩ := row_written io h2 sch (x :: xs) hr
  have hc := renderCells_follows io _ lays _ hok hb
  have : getToken (name ++ spaced ((x :: xs).map (fmtCell io))) = _ :=
    getToken_quote_any .bare name _ (bareWord_bareLegal name hn) hc.2
      (fun hm => hc.nonl ((List.dropWhile_sublist _).subset hm))
  rwa [lstrip_cells, ← fmtRow_spaced] at this

/-- unsupported scalar column types (unsigned, 8-bit, boolean, half, complex) are refused:
`dtype_to_struct` raises KeyError, whatever the position of the column -/
theorem unsupported_refused (cols : List Col) (name : Str) (enums : List EnumDecl)
    (h : ∃ c ∈ cols, c.ty ∈ [NpT.u2, .u4, .u8, .i1, .u1, .b1, .f2, .c8, .c16]) :
    dtypeToStruct cols name enums = .error "KeyError" := by
  have hs : ∀ t ∈ [NpT.u2, .u4, .u8, .i1, .u1, .b1, .f2, .c8, .c16], strSize t = none ∧ cType t = none := by
    decide
  -- `colLine` raises nothing but KeyError, so an earlier failing column gives the same result
  have herr : ∀ c e, colLine enums c = .error e → e = "KeyError" := by
    intro c e hl
    unfold colLine at hl
    cases hs : strSize c.ty <;> cases hf : enums.find? (fun e => e.col == c.name) <;>
      cases ht : cType c.ty <;> simp only [hs, hf, ht, reduceCtorEq, Except.error.injEq] at hl <;> exact hl.symm
  have key : colLines enums cols = .error "KeyError" := by
    induction cols with
    | nil => obtain ⟨c, hc, _⟩ := h; cases hc
    | cons c cs ih =>
      obtain ⟨b, hb, hty⟩ := h
      unfold colLines
      cases hl : colLine enums c with
      | error e => rw [herr c e hl]
      | ok l =>
        rcases List.mem_cons.mp hb with e | hb'
        · subst e
          simp only [colLine, (hs b.ty hty).1, (hs b.ty hty).2] at hl
          cases hl
        · simp only [ih ⟨b, hb', hty⟩]
  simp only [dtypeToStruct, key]

/-- `write_ndarray_to_yanny` writes nothing for a document with a column of an unsupported type: the KeyError of
`dtype_to_struct` ends it -/
theorem unsupported_not_rendered (io : FloatIO F) (d : Doc F)
    (h : ∃ t ∈ d.tables, ∃ c ∈ t.cols, c.ty ∈ [NpT.u2, .u4, .u8, .i1, .u1, .b1, .f2, .c8, .c16]) :
    ∃ e, renderFile io d = .error e := by
  obtain ⟨e, he⟩ : ∃ e, structTexts d.enums d.tables = .error e := by
    generalize d.tables = ts at h
    induction ts with
    | nil => obtain ⟨t, ht, _⟩ := h; cases ht
    | cons t ts ih =>
      obtain ⟨u, hu, hc⟩ := h
      unfold structTexts
      rcases List.mem_cons.mp hu with e | hu'
      · rw [← e, unsupported_refused u.cols u.name d.enums hc]
        exact ⟨_, rfl⟩
      · cases hd : dtypeToStruct t.cols t.name d.enums with
        | error e' => exact ⟨e', rfl⟩
        | ok s =>
          obtain ⟨e', he'⟩ := ih ⟨u, hu', hc⟩
          simp only [he']
          exact ⟨e', rfl⟩
  exact ⟨e, by simp [renderFile, he]⟩

/-- the line loop on one written data line: the line is not skipped, cleaning leaves it unchanged,
it is dispatched to its table (`T` = the upper-cased struct name) and appends exactly the row -/
theorem lineStep_row (io : FloatIO F) (h1 : H1 io) (h2 : H2 io)
    (specs : List (Str × Except String (List ColSpec))) (st : LoopSt F)
    (T : Str) (hT : bareWord T = true) (hU : upper T = T)
    (sch : List ColSpec) (hs : lookupSpec specs T = some (.ok sch))
    (x : Cell F) (xs : List (Cell F)) (hr : rowFits sch (x :: xs) = true)
    (hd : dbFree (fmtRow io T (x :: xs)) = true) :
    lineStep io specs st (fmtRow io T (x :: xs)) =
      .ok { st with rows := addRow st.rows T (x :: xs) } := by
  -- the written line is the layout without leading or trailing blanks, comment and CR
  obtain ⟨hk, lays, hok, hb⟩ := row_written io h2 sch (x :: xs) hr
  have := YannyLayLine.lineStep_row_lay io h1 specs st sch (x :: xs) ⟨[], T, lays, [], none, false⟩ _ []
    (by simp) (by simp) (bareWord_bareLegal T hT) rfl hok hb (fmtRow_spaced io T _ ▸ hd) hk (hU.symm ▸ hs)
    (Or.inl rfl)
  simpa [commentText, hU, fmtRow_spaced] using this

/-- the line loop on a written header line `key value`: the pair is recorded with the value in its
text form after `strip` (leading/trailing blanks of a header value are not kept by the format) -/
theorem lineStep_pair (io : FloatIO F) (specs : List (Str × Except String (List ColSpec)))
    (st : LoopSt F) (k v : Str) (hne : k ≠ [])
    (hsp : ∀ c ∈ k, isSpace c = false ∧ c ≠ '#')
    (hh1 : k.head? ≠ some '"') (hh2 : k.head? ≠ some '{') (hv : '#' ∉ v)
    (hd : dbFree (strip (k ++ ' ' :: v)) = true) (hs : lookupSpec specs (upper k) = none) :
    lineStep io specs st (k ++ ' ' :: v) = .ok { st with pairs := setPair st.pairs k (strip v) } := by
  have hks : ∀ c ∈ k, isSpace c = false := fun c hc => (hsp c hc).1
  -- the keyword line without leading white space, comment and CR; the blank is part of what follows the key
  rw [strip, lstrip, lstrip_id _ (head_append_mem _ hne hks), YannyLayLine.rstrip_key k _ hks] at hd
  have := YannyLayLine.lineStep_key io specs st [] k (' ' :: v) none [] (by simp) rfl hne hsp hh1 hh2
    (by intro c hc; cases hc; decide) (by simp [hv]) hd hs (Or.inl rfl)
  rw [show strip (' ' :: v) = strip v by rw [strip, lstrip, List.dropWhile_cons_of_pos (by decide)]; rfl] at this
  simpa [commentText] using this

/-- the data section of `parse_render` in the form C03 uses: the line loop, from ANY state and for ANY
symbol table that knows the table, appends the rows written for it -/
theorem parse_render_partial (io : FloatIO F) (h1 : H1 io) (h2 : H2 io)
    (specs : List (Str × Except String (List ColSpec)))
    (T : Str) (hT : bareWord T = true) (hU : upper T = T)
    (sch : List ColSpec) (hs : lookupSpec specs T = some (.ok sch))
    (rows : List (List (Cell F)))
    (hrows : ∀ r ∈ rows, r ≠ [] ∧ rowFits sch r = true ∧ dbFree (fmtRow io T r) = true)
    (st : LoopSt F) :
    lineLoop io specs st (rows.map (fmtRow io T)) =
      .ok { st with rows := rows.foldl (fun acc r => addRow acc T r) st.rows } := by
  induction rows generalizing st with
  | nil => rfl
  | cons r rs ih =>
    obtain ⟨hne, hfit, hdb⟩ := hrows r (by simp)
    obtain ⟨x, xs, rfl⟩ := List.exists_cons_of_ne_nil hne
    simp only [List.map, lineLoop, lineStep_row io h1 h2 specs st T hT hU sch hs x xs hfit hdb]
    rw [ih (fun r' hr' => hrows r' (by simp [hr']))]
    rfl

end PydlVerif.C01

namespace PydlVerif.Yanny
open PydlVerif.YannyRT PydlVerif.C01

/-- domain of the rows written for one table: the hypotheses of `C01.lineStep_row`, for every row -/
def GroupOK (io : FloatIO F) (specs : List (Str × Except String (List ColSpec)))
    (g : Str × List (List (Cell F))) : Prop :=
  C01.bareWord g.1 = true ∧ upper g.1 = g.1 ∧
  ∃ sch, lookupSpec specs g.1 = some (.ok sch) ∧
    ∀ r ∈ g.2, r ≠ [] ∧ rowFits sch r = true ∧ dbFree (fmtRow io g.1 r) = true

theorem lineLoop_pairs (io : FloatIO F) (specs : List (Str × Except String (List ColSpec)))
    (ps : List (Str × Str)) (h : ∀ kv ∈ ps, PairOK specs kv) (st : LoopSt F) :
    lineLoop io specs st (ps.map (fun kv => kv.1 ++ ' ' :: kv.2)) =
      .ok { st with pairs := ps.foldl (fun acc kv => setPair acc kv.1 (strip kv.2)) st.pairs } := by
  induction ps generalizing st with
  | nil => rfl
  | cons kv ps ih =>
    obtain ⟨⟨a1, a2, a3, a4, a5, _, a7, a8⟩, hps⟩ := List.forall_mem_cons.mp h
    simp only [List.map, lineLoop, C01.lineStep_pair io specs st kv.1 kv.2 a1 a2 a3 a4 a5 a7 a8]
    rw [ih hps]
    rfl

theorem lineLoop_groups (io : FloatIO F) (h1 : H1 io) (h2 : H2 io)
    (specs : List (Str × Except String (List ColSpec)))
    (groups : List (Str × List (List (Cell F)))) (h : ∀ g ∈ groups, GroupOK io specs g) (st : LoopSt F) :
    lineLoop io specs st (groups.flatMap (fun g => g.2.map (fmtRow io g.1))) =
      .ok { st with rows := groups.foldl (fun acc g => g.2.foldl (fun a r => addRow a g.1 r) acc) st.rows } := by
  induction groups generalizing st with
  | nil => rfl
  | cons g gs ih =>
    obtain ⟨⟨b1, b2, sch, b3, b4⟩, hgs⟩ := List.forall_mem_cons.mp h
    simp only [List.flatMap_cons, lineLoop_cat,
      C01.parse_render_partial io h1 h2 specs g.1 b1 b2 sch b3 g.2 b4 st]
    rw [ih hgs]
    rfl

/-- the one statement behind the loop over a written file (`loop_written`) and over a chunk appended later (C03) -/
theorem loop_lines (io : FloatIO F) (h1 : H1 io) (h2 : H2 io)
    (specs : List (Str × Except String (List ColSpec))) (st : LoopSt F) (S1 S2 S3 : List Str)
    (ps : List (Str × Str)) (gs : List (Str × List (List (Cell F))))
    (hS : ∀ l ∈ S1 ++ S2 ++ S3, skipLine l = true)
    (hp : ∀ kv ∈ ps, PairOK specs kv) (hg : ∀ g ∈ gs, GroupOK io specs g) :
    lineLoop io specs st (S1 ++ (ps.map (fun kv => kv.1 ++ ' ' :: kv.2) ++
      (S2 ++ (gs.flatMap (fun g => g.2.map (fmtRow io g.1)) ++ S3)))) = .ok (applyAppend st ps gs) := by
  simp only [List.forall_mem_append] at hS
  simp only [lineLoop_cat, lineLoop_skip io specs _ S1 hS.1.1, lineLoop_pairs io specs ps hp,
    lineLoop_skip io specs _ S2 hS.1.2, lineLoop_groups io h1 h2 specs gs hg, lineLoop_skip io specs _ S3 hS.2]
  rfl

theorem group_noNl (io : FloatIO F) (h2 : H2 io) (specs : List (Str × Except String (List ColSpec)))
    (gs : List (Str × List (List (Cell F)))) (hg : ∀ g ∈ gs, GroupOK io specs g) :
    ∀ l ∈ gs.flatMap (fun g => g.2.map (fmtRow io g.1)), '\n' ∉ l := by
  intro l hl
  obtain ⟨g, hm, hl⟩ := List.mem_flatMap.mp hl
  obtain ⟨r, hr, rfl⟩ := List.mem_map.mp hl
  obtain ⟨b1, _, sch, _, b4⟩ := hg g hm
  exact (fmtRow_piece io h2 _ b1 sch r (b4 r hr).2.1).2.2.2.1

theorem addRows_eq (rows : List (Str × List (List (Cell F)))) (T : Str) (rs : List (List (Cell F))) :
    rs.foldl (fun a r => addRow a T r) rows = rows.map (fun e => if e.1 == T then (e.1, e.2 ++ rs) else e) := by
  induction rs generalizing rows with
  | nil => simp
  | cons r rs ih =>
    rw [List.foldl_cons, ih]
    simp only [addRow, List.map_map]
    apply List.map_congr_left
    intro e _
    by_cases h : (e.1 == T) = true <;> simp [Function.comp, h]

theorem applyRows_eq (gs : List (Str × List (List (Cell F)))) (rows : List (Str × List (List (Cell F)))) :
    gs.foldl (fun acc g => g.2.foldl (fun a r => addRow a g.1 r) acc) rows =
      rows.map (fun e => (e.1, e.2 ++ extraRows gs e.1)) := by
  induction gs generalizing rows with
  | nil => simp [extraRows]
  | cons g gs ih =>
    rw [List.foldl_cons, ih, addRows_eq, List.map_map]
    apply List.map_congr_left
    intro e _
    by_cases h : (e.1 == g.1) = true <;> simp [Function.comp, extraRows, h]

theorem extraRows_by_key {α : Type} (l : List α) (key : α → Str) (val : α → List (List (Cell F)))
    (hnd : nodup (l.map key) = true) (a : α) (ha : a ∈ l) :
    extraRows (l.map fun x => (key x, val x)) (key a) = val a := by
  obtain ⟨pre, post, rfl, h1, h2⟩ := key_unique l key hnd a ha
  have e1 : pre.filter (fun b => key a == key b) = [] :=
    List.filter_eq_nil_iff.mpr fun b hb e => h1 b hb (beq_iff_eq.mp e).symm
  have e2 : post.filter (fun b => key a == key b) = [] :=
    List.filter_eq_nil_iff.mpr fun b hb e => h2 b hb (beq_iff_eq.mp e).symm
  simp [extraRows, List.filter_map, Function.comp_def, List.filter_append, e1, e2]

/-- reading a document from scratch is appending all of it to the empty document -/
theorem applyAppend_doc (d : Doc F) (hpn : nodup (d.hdr.map (·.1)) = true)
    (htn : nodup (d.tables.map (fun t => upper t.name)) = true) :
    applyAppend ⟨[], d.tables.map (fun t => (upper t.name, []))⟩ d.hdr
      (d.tables.map (fun t => (upper t.name, t.rows))) = docLoop d := by
  unfold applyAppend docLoop
  rw [foldl_insert setPair setPair_new d.hdr (·.1) (fun kv => strip kv.2) [] hpn (fun _ h => by cases h),
    applyRows_eq, List.map_map]
  simp only [List.nil_append, LoopSt.mk.injEq, true_and]
  apply List.map_congr_left
  intro t hm
  simp only [Function.comp, List.nil_append,
    extraRows_by_key d.tables (fun t => upper t.name) (fun t => t.rows) htn t hm]

theorem tables_lines (io : FloatIO F) (ts : List (TableD F)) :
    (ts.map (rowLines io)).flatten =
      linesText (ts.flatMap (fun t => t.rows.map (fmtRow io (upper t.name)))) := by
  induction ts with
  | nil => rfl
  | cons t rest ih =>
    simp only [List.map, List.flatten_cons, List.flatMap_cons, linesText_append, ih, rowLines]
    simp only [linesText, List.map_map]
    rfl

end PydlVerif.Yanny

namespace PydlVerif.C01
open PydlVerif.Yanny PydlVerif.YannyRT

theorem comment_lines (c : Str) (hc : commentsOK c = true) :
    ∃ cl, (∀ R, splitNl (c ++ R) = cl ++ splitNl R) ∧ ∀ l ∈ cl, skipLine l = true := by
  simp only [commentsOK, Bool.and_eq_true, Bool.or_eq_true, List.all_eq_true, Bool.not_eq_true'] at hc
  obtain ⟨⟨⟨⟨hend, hlines⟩, _⟩, _⟩, _⟩ := hc
  rcases hend with he | he
  · exact ⟨[], fun R => by rw [List.isEmpty_iff.mp he]; rfl, fun l hl => by cases hl⟩
  · obtain ⟨c', hc'⟩ : ∃ c', c = c' ++ ['\n'] := List.getLast?_eq_some_iff.mp (by simpa using he)
    refine ⟨splitNl c', fun R => by rw [hc', List.append_assoc, List.singleton_append, splitNl_cut], ?_⟩
    intro l hl
    rcases hlines l (by rw [hc', splitNl_cut]; exact List.mem_append_left _ hl) with h | h
    · rw [List.isEmpty_iff.mp h]
      rfl
    · cases l with
      | nil => rfl
      | cons a t =>
        have : a = '#' := by simpa using h
        subst this
        exact skipLine_hash t

/-- the line loop over what the front half leaves of a written file; `nls`: the newlines that framed the cut-out
typedef blocks -/
theorem loop_written (io : FloatIO F) (h1 : H1 io) (h2 : H2 io)
    (specs : List (Str × Except String (List ColSpec))) (d : Doc F) (nls : Str)
    (hnls : ∀ c ∈ nls, c = '\n') (hc : commentsOK d.comments = true)
    (hp : ∀ kv ∈ d.hdr, PairOK specs kv) (hpn : nodup (d.hdr.map (·.1)) = true)
    (ht : ∀ t ∈ d.tables, GroupOK io specs (upper t.name, t.rows))
    (htn : nodup (d.tables.map (fun t => upper t.name)) = true) :
    lineLoop io specs ⟨[], d.tables.map (fun t => (upper t.name, []))⟩
      (splitNl ("#%yanny\n".toList ++ d.comments ++
        (d.hdr.map (fun kv => kv.1 ++ ' ' :: kv.2 ++ ['\n'])).flatten ++ (nls ++ ['\n']) ++
        (d.tables.map (rowLines io)).flatten)) = .ok (docLoop d) := by
  obtain ⟨cl, hcl, hcs⟩ := comment_lines d.comments hc
  have hgr : ∀ g ∈ d.tables.map (fun t => (upper t.name, t.rows)), GroupOK io specs g :=
    List.forall_mem_map.mpr ht
  have hgs : (d.tables.map (fun t => (upper t.name, t.rows))).flatMap (fun g => g.2.map (fmtRow io g.1)) =
      d.tables.flatMap (fun t => t.rows.map (fmtRow io (upper t.name))) := by
    simp [List.flatMap_def, List.map_map, Function.comp_def]
  -- the lines of the text: `#%yanny`, the comment lines, the pair lines, empty lines, the data lines
  have e : "#%yanny\n".toList ++ d.comments ++
        (d.hdr.map (fun kv => kv.1 ++ ' ' :: kv.2 ++ ['\n'])).flatten ++ (nls ++ ['\n']) ++
        (d.tables.map (rowLines io)).flatten =
      linesText ["#%yanny".toList] ++ (d.comments ++ (linesText (d.hdr.map (fun kv => kv.1 ++ ' ' :: kv.2)) ++
        (nls ++ '\n' :: (linesText ((d.tables.map (fun t => (upper t.name, t.rows))).flatMap
          (fun g => g.2.map (fmtRow io g.1))) ++ [])))) := by
    rw [hdr_lines, tables_lines, hgs]
    simp only [linesText, String.reduceToList, List.map_cons, List.map_nil, List.flatten_cons, List.flatten_nil,
      List.append_assoc, List.cons_append, List.nil_append, List.append_nil]
  rw [e, splitNl_lines_app _ _ (by simp only [String.reduceToList]; decide), hcl,
    splitNl_lines_app _ _ (List.forall_mem_map.mpr fun kv hm => pair_noNl specs kv (hp kv hm)),
    splitNl_cut, splitNl_lines_app _ _ (group_noNl io h2 specs _ hgr), ← applyAppend_doc d hpn htn, ← List.append_assoc]
  -- the skipped lines behind the data lines: the empty string `split('\n')` returns after the last newline
  refine loop_lines io h1 h2 specs _ _ (splitNl nls) (splitNl []) d.hdr _ ?_ hp hgr
  simp only [List.forall_mem_append, List.forall_mem_singleton, String.reduceToList]
  exact ⟨⟨⟨skipLine_hash _, hcs⟩, fun l hl => by rw [splitNl_nls nls hnls l hl]; rfl⟩, fun l hl => by
    rw [List.mem_singleton.mp hl]; rfl⟩

theorem groupOK_of_tableOK (io : FloatIO F) (specs : List (Str × Except String (List ColSpec)))
    (enums : List EnumDecl) (t : TableD F) (h : tableOK io enums t = true)
    (hs : lookupSpec specs (upper t.name) = some (.ok (t.cols.map specOfCol))) :
    GroupOK io specs (upper t.name, t.rows) := by
  obtain ⟨hw, hne, _, _, hrows⟩ := tableOK_props io enums t h
  have hu := upper_wordOK t.name hw
  refine ⟨bareWord_of_wordOK _ hu.1, hu.2, _, hs, ?_⟩
  intro r hr
  have := hrows r hr
  simp only [rowOK, Bool.and_eq_true] at this
  obtain ⟨hc, ⟨hdb, _⟩, _⟩ := this
  exact ⟨cellsOK_ne_nil enums t.cols r hne hc, rowFits_of_cellsOK enums t.cols r hc, hdb⟩

theorem row_lineOK (io : FloatIO F) (h2 : H2 io) (enums : List EnumDecl) (t : TableD F)
    (ht : tableOK io enums t = true) : ∀ r ∈ t.rows, LineOK (fmtRow io (upper t.name) r) := by
  intro r hr
  obtain ⟨hw, _, _, _, hrows⟩ := tableOK_props io enums t ht
  have := hrows r hr
  simp only [rowOK, Bool.and_eq_true, Bool.not_eq_true'] at this
  obtain ⟨hc, ⟨_, hnt⟩, hbs⟩ := this
  obtain ⟨_, _, hlast, hnl, _⟩ := fmtRow_piece io h2 _ (bareWord_of_wordOK _ (upper_wordOK t.name hw).1) _ r
    (rowFits_of_cellsOK enums t.cols r hc)
  refine ⟨hnt, hnl, noCont_of_last _ (fun c hcl => ⟨hlast c hcl, ?_⟩)⟩
  intro e
  subst e
  simp [endsBackslash, hcl] at hbs

/-- the text `renderFile` writes for a document -/
def textOf (io : FloatIO F) (d : Doc F) : Str :=
  headText d ++ (defsBlock (blocksOf "enum".toList (enumBlocks d)) ++
    (defsBlock (blocksOf "struct".toList (structBlocks d)) ++ dataText io d))

/-- what is left of it for the line loop: the typedef blocks are cut out, their blank lines stay -/
def restOf (io : FloatIO F) (d : Doc F) : Str :=
  headText d ++ ((defsBlock ((enumBlocks d).map (fun _ => ([] : Str))) ++
    defsBlock ((structBlocks d).map (fun _ => ([] : Str)))) ++ dataText io d)

/-- the symbol table the line loop works with -/
def docSpecs (d : Doc F) : List (Str × Except String (List ColSpec)) :=
  d.tables.map (fun t => (upper t.name, .ok (t.cols.map specOfCol)))

/-- the `_enum_cache` of the read file -/
def docCache (d : Doc F) : List (Str × List Str) := enumCache (tdefsOf "enum".toList (enumBlocks d))

theorem docOK_props (io : FloatIO F) (d : Doc F) (hd : docOK io d = true) :
    commentsOK d.comments = true ∧ (∀ e ∈ d.enums, enumOK e = true) ∧
    nodup (d.enums.map (fun e => upper e.tyName)) = true ∧
    (∀ t ∈ d.tables, tableOK io d.enums t = true) ∧ nodup (d.tables.map (fun t => upper t.name)) = true ∧
    selectOK d = true ∧ (∀ kv ∈ d.hdr, pairOK (d.tables.map (fun t => upper t.name)) kv = true) ∧
    nodup (d.hdr.map (·.1)) = true := by
  simp only [docOK, Bool.and_eq_true, List.all_eq_true] at hd
  obtain ⟨⟨⟨⟨⟨⟨⟨⟨hc, he⟩, _⟩, het⟩, ht⟩, htn⟩, hsel⟩, hp⟩, hpn⟩ := hd
  exact ⟨hc, he, het, ht, htn, hsel, hp, hpn⟩

theorem docOK_supported (io : FloatIO F) (d : Doc F) (hd : docOK io d = true) :
    ∀ t ∈ d.tables, ∀ c ∈ t.cols, supported c.ty = true := by
  obtain ⟨_, _, _, ht, _⟩ := docOK_props io d hd
  exact fun t hm c hc' => colOK_supported c ((tableOK_props io d.enums t (ht t hm)).2.2.1 c hc')

theorem render_text (io : FloatIO F) (d : Doc F) (hd : docOK io d = true) :
    renderFile io d = .ok (textOf io d) :=
  render_shape io d (docOK_props io d hd).2.1 (docOK_supported io d hd)

theorem pairOK_docSpecs (d : Doc F) (ps : List (Str × Str))
    (hp : ∀ kv ∈ ps, pairOK (d.tables.map (fun t => upper t.name)) kv = true) :
    ∀ kv ∈ ps, PairOK (docSpecs d) kv :=
  fun kv hm => pairOK_line (docSpecs d) _ (specs_none d.tables) kv (hp kv hm)

theorem doc_pairOK (io : FloatIO F) (d : Doc F) (hd : docOK io d = true) :
    ∀ kv ∈ d.hdr, PairOK (docSpecs d) kv := by
  obtain ⟨_, _, _, _, _, _, hp, _⟩ := docOK_props io d hd
  exact pairOK_docSpecs d d.hdr hp

theorem doc_groupOK (io : FloatIO F) (d : Doc F) (hd : docOK io d = true) :
    ∀ t ∈ d.tables, GroupOK io (docSpecs d) (upper t.name, t.rows) := by
  obtain ⟨_, _, _, ht, htn, _⟩ := docOK_props io d hd
  exact fun t hm => groupOK_of_tableOK io (docSpecs d) d.enums t (ht t hm) (specs_lookup d.tables htn t hm)

/-- what `front_layout` asks of the pieces of a written file -/
theorem docOK_front (io : FloatIO F) (h2 : H2 io) (d : Doc F) (hd : docOK io d = true) :
    (∀ b ∈ enumBlocks d, blockOK b.1 b.2 ∧ '\\' ∉ b.1) ∧ (∀ b ∈ structBlocks d, blockOK b.1 b.2 ∧ '\\' ∉ b.1) ∧
    nodup ((structBlocks d).map (fun b => upper b.2)) = true ∧
    (∀ kv ∈ d.hdr, LineOK (kv.1 ++ ' ' :: kv.2)) ∧
    ∀ t ∈ d.tables, ∀ r ∈ t.rows, LineOK (fmtRow io (upper t.name) r) := by
  obtain ⟨hc, he, _, ht, htn, _, hp, _⟩ := docOK_props io d hd
  have htp := fun t (hm : t ∈ d.tables) => tableOK_props io d.enums t (ht t hm)
  refine ⟨?_, ?_, ?_, fun kv hm => pair_lineOK _ kv (hp kv hm),
    fun t hm => row_lineOK io h2 d.enums t (ht t hm)⟩
  · intro b hb
    unfold enumBlocks at hb
    split at hb
    · cases hb
    · obtain ⟨e, hm, rfl⟩ := List.mem_map.mp hb
      obtain ⟨_, hne, hl⟩ := enumOK_props e (he e hm)
      exact ⟨enumBody_blockOK e (he e hm),
        fun h => (enumBody_plain e.labels hne (fun l h => wordOK_wordy l (hl l h)) _ h).1 rfl⟩
  · intro b hb
    obtain ⟨t, hm, rfl⟩ := List.mem_map.mp hb
    obtain ⟨hw, _, hcol, _, _⟩ := htp t hm
    have hms : ∀ m ∈ t.cols.map (member d.enums), memOK m :=
      List.forall_mem_map.mpr fun x hx => member_ok d.enums x (hcol x hx) he
    exact ⟨structBody_blockOK _ hms t.name hw, fun h => (structBody_plain _ hms _ h).1 rfl⟩
  · have : (structBlocks d).map (fun b => upper b.2) = d.tables.map (fun t => upper t.name) := by
      unfold structBlocks
      rw [List.map_map]
      apply List.map_congr_left
      intro t hm
      exact (upper_wordOK t.name (htp t hm).1).2
    exact this ▸ htn

end PydlVerif.C01

namespace PydlVerif.Yanny
open PydlVerif.YannyRT PydlVerif.C01

def dataLines (io : FloatIO F) (d : Doc F) : List Str :=
  d.tables.flatMap (fun t => t.rows.map (fmtRow io (upper t.name)))

theorem dataText_lines (io : FloatIO F) (d : Doc F) (ls : List Str) :
    dataText io d ++ linesText ls = '\n' :: linesText (dataLines io d ++ ls) := by
  unfold dataText dataLines
  rw [tables_lines, linesText_append]
  rfl

/-- the front half of `_parse` on a written document followed by whole lines of C01's line domain (what C03
appends): the lines simply stay at the end of the text left for the line loop -/
theorem front_appended (io : FloatIO F) (h2 : H2 io) (d : Doc F) (hd : docOK io d = true)
    (ls : List Str) (hls : ∀ l ∈ ls, LineOK l) :
    front (textOf io d ++ linesText ls) =
      ⟨tdefsOf "struct".toList (structBlocks d), tdefsOf "enum".toList (enumBlocks d),
       d.tables.map (fun t => (upper t.name, t.cols.map (·.name))), restOf io d ++ linesText ls⟩ := by
  obtain ⟨hE, hS, hnd, hp, hr⟩ := docOK_front io h2 d hd
  obtain ⟨hc, he, _, ht, _⟩ := docOK_props io d hd
  -- after the definitions come an empty line, the data lines of `d`, then `ls`: whole lines of the line domain
  have hZ : Inert (dataText io d ++ linesText ls) := by
    rw [dataText_lines]
    refine inert_lines ([] :: _) (List.forall_mem_cons.mpr ⟨⟨rfl, List.not_mem_nil, rfl⟩,
      List.forall_mem_append.mpr ⟨fun l h => ?_, hls⟩⟩)
    obtain ⟨t, hm, hl⟩ := List.mem_flatMap.mp h
    obtain ⟨r, hm', rfl⟩ := List.mem_map.mp hl
    exact hr t hm r hm'
  have hfront := front_layout (headText d) _ (enumBlocks d) (structBlocks d) hE hS hnd (head_inert d hc hp) hZ
  rw [symtab_written io d he ht] at hfront
  unfold textOf restOf
  simp only [List.append_assoc] at hfront ⊢
  exact hfront

end PydlVerif.Yanny

namespace PydlVerif.C01
open PydlVerif.Yanny PydlVerif.YannyRT

/-- the front half of `_parse` on the written text - continuation joining is the
identity, typedef extraction returns exactly the written struct and enum definitions, in order, and
cuts exactly them out of the text; the symbol table lists every table (upper-cased) with its columns -/
theorem front_render (io : FloatIO F) (h2 : H2 io) (d : Doc F) (hd : docOK io d = true) :
    front (textOf io d) =
      ⟨tdefsOf "struct".toList (structBlocks d), tdefsOf "enum".toList (enumBlocks d),
       d.tables.map (fun t => (upper t.name, t.cols.map (·.name))), restOf io d⟩ := by
  simpa [linesText_nil] using front_appended io h2 d hd [] (fun _ h => by cases h)

/-- typing from the typedef text - for every table of the document, `type()`,
`basetype`, `isarray`, `array_length`, `char_length`, `isenum` on the written struct give the column
specs the row reader needs and the record-array column types of the canonical form -/
theorem typing_render (io : FloatIO F) (d : Doc F) (hd : docOK io d = true) :
    ∀ t ∈ d.tables,
      colSpecs (structsOf d) (upper t.name) (t.cols.map (·.name)) = .ok (t.cols.map specOfCol) ∧
      ∀ c ∈ t.cols, ∀ data : List (Cell F),
        rcolOf (structsOf d) (docCache d) (upper t.name) c.name data = .ok (rcolCanon d.enums c) := by
  obtain ⟨_, he, het, ht, _, hsel, _, _⟩ := docOK_props io d hd
  have hselt := select_written d (docOK_supported io d hd) hsel
  intro t hm
  obtain ⟨k1, k2⟩ := cache_written d he het (List.ne_nil_of_mem hm)
  exact typing_written io d he _ k1 k2 t (ht t hm) (hselt t hm)

/-- the line loop over the rest text of the written file (the `#%yanny` line, the
comment block, the header pairs, the blank lines left by the typedef blocks, the data lines of all
tables) records exactly the header pairs (values stripped) and the rows of every table, in order -/
theorem loop_render (io : FloatIO F) (h1 : H1 io) (h2 : H2 io) (d : Doc F) (hd : docOK io d = true) :
    lineLoop io (docSpecs d) ⟨[], d.tables.map (fun t => (upper t.name, []))⟩ (splitNl (restOf io d)) =
      .ok ⟨d.hdr.map (fun kv => (kv.1, strip kv.2)), d.tables.map (fun t => (upper t.name, t.rows))⟩ := by
  obtain ⟨hc, _, _, _, htn, _, _, hpn⟩ := docOK_props io d hd
  have hloop := loop_written io h1 h2 (docSpecs d) d
    (defsBlock ((enumBlocks d).map (fun _ => ([] : Str))) ++ defsBlock ((structBlocks d).map (fun _ => ([] : Str))))
    (fun c hc' => (List.mem_append.mp hc').elim (defsBlock_blank_nls _ c) (defsBlock_blank_nls _ c))
    hc (doc_pairOK io d hd) hpn (doc_groupOK io d hd) htn
  unfold restOf headText dataText
  generalize "#%yanny\n".toList = h0 at hloop ⊢
  simpa only [docLoop, List.append_assoc, List.cons_append, List.nil_append] using hloop

/-- `finishTable` is the identity - the record arrays rebuilt from the rows the loop
read are the document's tables: names, column order, column types, row count and order, every cell -/
theorem finish_render (io : FloatIO F) (d : Doc F) (hd : docOK io d = true) :
    finishTables (structsOf d) (docCache d) (d.tables.map (fun t => (upper t.name, t.rows)))
      (d.tables.map (fun t => (upper t.name, t.cols.map (·.name)))) = .ok (canon d).tables := by
  obtain ⟨_, _, _, ht, htn, _, _, _⟩ := docOK_props io d hd
  have htyp := typing_render io d hd
  -- `(canon d).tables` is by definition the list `finishTables_written` concludes with: `rcolCanon` is `canon`'s column
  refine YannyLay.finishTables_written (structsOf d) (docCache d) d.enums
    d.tables htn d.tables (fun _ h => h) (fun t hm => ?_)
  obtain ⟨_, hne, _, _, hrows⟩ := tableOK_props io d.enums t (ht t hm)
  refine ⟨hne, fun _ c hk => (htyp t hm).2 c (List.mem_of_getElem? hk) _, fun r hr => ?_⟩
  have := hrows r hr
  simp only [rowOK, Bool.and_eq_true] at this
  exact this.1

/-- file-level round trip: every document of the domain `docOK` (several tables, tables without
rows, header pairs, enum declarations, any comment block) is rendered, and the rendered text reads
back as the document's canonical form: table names upper-cased, column order, column types, row
count and order, every cell, header values in their stripped text form -/
theorem parse_render (io : FloatIO F) (h1 : H1 io) (h2 : H2 io) (d : Doc F) (hd : docOK io d = true) :
    ∃ text, renderFile io d = .ok text ∧ parseFile io text = .ok (canon d) := by
  refine ⟨_, render_text io d hd, ?_⟩
  have htyp := typing_render io d hd
  have hspecs : (d.tables.map (fun t => (upper t.name, t.cols.map (·.name)))).map
      (fun t => (t.1, colSpecs (structsOf d) t.1 t.2)) = docSpecs d := by
    unfold docSpecs
    rw [List.map_map]
    apply List.map_congr_left
    intro t hm
    simp only [Function.comp, (htyp t hm).1]
  have e2 : List.map (fun t => (t.1, ([] : List (List (Cell F)))))
      (d.tables.map (fun t => (upper t.name, t.cols.map (·.name)))) =
      d.tables.map (fun t => (upper t.name, [])) := by
    rw [List.map_map]; rfl
  unfold parseFile
  simp only [front_render io h2 d hd]
  rw [texts_written d, hspecs, e2, loop_render io h1 h2 d hd]
  simp only []
  have hfin := finish_render io d hd
  unfold docCache at hfin
  rw [hfin]
  rfl

/-- the file-level round trip as one equation: writing a `docOK` document and reading the text gives its canonical form -/
theorem parse_render_bind (io : FloatIO F) (h1 : H1 io) (h2 : H2 io) (d : Doc F) (hd : docOK io d = true) :
    (renderFile io d).bind (parseFile io) = .ok (canon d) := by
  obtain ⟨text, hr, hp⟩ := parse_render io h1 h2 d hd
  rw [hr]
  exact hp

/-- the conjunct `selectOK` of `docOK` (type() finds each table's own typedef) is implied by the
others: table names that are distinct ignoring case may contain one another, equal column names,
enum type names or C type words (the D16/D17 patterns) -/
theorem docOK_select (io : FloatIO F) (d : Doc F) (ht : ∀ t ∈ d.tables, tableOK io d.enums t = true)
    (htn : nodup (d.tables.map (fun t => upper t.name)) = true) : selectOK d = true :=
  selectOK_of_names d
    (fun t hm c hc' => colOK_supported c ((tableOK_props io d.enums t (ht t hm)).2.2.1 c hc'))
    (fun t hm => (tableOK_props io d.enums t (ht t hm)).1) htn

/-- a float type for which H1 and H2 hold: integer-valued floats printed as integers -/
def intIO : FloatIO Int := ⟨fun _ x => fmtInt x, fun _ t => parseInt t⟩

theorem intIO_H1 : H1 intIO := fun _ x => parseInt_fmtInt x

theorem intIO_H2 : H2 intIO := fun _ x c hc => intChar_ne c (fmtInt_chars x c hc)

example : H1 intIO := intIO_H1

example : H2 intIO := intIO_H2

/-- every column kind; strings that are empty, blank, with tab, `#`, `;`, inner braces, a
trailing backslash inside quotes; extreme integers; arrays of each kind -/
def sampleSch : List ColSpec :=
  [⟨.int, false⟩, ⟨.flt .f4, false⟩, ⟨.flt .f8, true⟩, ⟨.str, false⟩, ⟨.str, false⟩, ⟨.str, false⟩,
   ⟨.str, true⟩, ⟨.int, true⟩, ⟨.str, false⟩, ⟨.str, false⟩]

def sampleRow : List (Cell Int) :=
  [.one (.int (-9223372036854775808)), .one (.flt .f4 (-7)), .many [.flt .f8 0, .flt .f8 12],
   .one (.str []), .one (.str "a b\t#;".toList), .one (.str "x{y}}z".toList),
   .many [.str "".toList, .str " # ".toList, .str "p{q".toList], .many [.int 32767, .int (-1)],
   .one (.str "ON".toList), .one (.str "tail \\".toList)]

example : rowFits sampleSch sampleRow = true := by decide +kernel
example : bareWord "MYSTRUCT0".toList = true := by decide +kernel
example : dbFree (fmtRow intIO "T".toList [Cell.one (.str "x{y}}z".toList), .many [.str "p{q".toList]]) = true := by
  decide +kernel
example : tokOK "a b\t#;{}".toList = true := by decide +kernel

/-- a document in `docOK`: two tables (one without rows, with an array column), every column kind,
an enum column, header pairs with blanks and quotes, a comment block -/
def sampleDoc : Doc Int :=
  { comments := "# made by hand\n".toList
    hdr := [("mjd".toList, "54579".toList), ("note".toList, "  say \"hi\" there ".toList)]
    enums := [⟨"state".toList, "Status".toList, ["ON".toList, "OFF".toList]⟩]
    tables := [
      { name := "obs".toList
        cols := [⟨"n".toList, .i2, 0⟩, ⟨"id".toList, .i8, 0⟩, ⟨"f".toList, .f4, 0⟩, ⟨"g".toList, .f8, 2⟩,
                 ⟨"s".toList, .S 8, 0⟩, ⟨"tags".toList, .S 4, 2⟩, ⟨"k".toList, .i4, 2⟩, ⟨"state".toList, .S 3, 0⟩,
                 ⟨"u".toList, .U 3, 0⟩]
        rows := [[.one (.int (-32768)), .one (.int 9223372036854775807), .one (.flt .f4 3), .many [.flt .f8 0, .flt .f8 (-5)],
                  .one (.str "a #;{}".toList), .many [.str "".toList, .str " \t".toList], .many [.int 1, .int (-2)],
                  .one (.str "OFF".toList), .one (.str "".toList)],
                 [.one (.int 0), .one (.int 0), .one (.flt .f4 0), .many [.flt .f8 1, .flt .f8 2],
                  .one (.str "}}".toList), .many [.str "x{".toList, .str "#".toList], .many [.int 0, .int 0],
                  .one (.str "ON".toList), .one (.str "\\ ".toList)]] },
      { name := "Empty_1".toList
        cols := [⟨"v".toList, .f8, 3⟩]
        rows := [] }] }

theorem sampleDoc_ok : docOK intIO sampleDoc = true := by decide +kernel

set_option maxRecDepth 200000 in
example : docOK intIO sampleDoc = true := sampleDoc_ok

example : ∃ text, renderFile intIO sampleDoc = .ok text ∧ parseFile intIO text = .ok (canon sampleDoc) :=
  parse_render intIO intIO_H1 intIO_H2 sampleDoc sampleDoc_ok

/-- a document with the D16/D17 name patterns (a table name inside another, equal to a column name and
to a C type word) is in the domain -/
def clashDoc : Doc Int :=
  { comments := [], hdr := [], enums := []
    tables := [
      { name := "int".toList, cols := [⟨"a".toList, .i4, 0⟩, ⟨"xint".toList, .i4, 0⟩], rows := [[.one (.int 1), .one (.int 2)]] },
      { name := "xint".toList, cols := [⟨"int".toList, .S 3, 2⟩], rows := [] },
      { name := "a".toList, cols := [⟨"a".toList, .f8, 0⟩], rows := [[.one (.flt .f8 5)]] }] }

set_option maxRecDepth 200000 in
example : docOK intIO clashDoc = true := by decide +kernel

end PydlVerif.C01
