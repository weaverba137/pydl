/-
C13: the basis functions are the textbook polynomials, `func_fit` solves the weighted normal equations, a trace set
evaluated where it was fitted returns the fitted values, the loop of `xy2traceset` with the real `djs_reject` inside is
one fit per trace.  Over an arbitrary linearly ordered field with floor; `numpy.linalg.solve` is a parameter with the
contract `SolveContract`.  The audited theorems are listed in harness/props/c13.py.
-/
import PydlVerif.Model.Trace
import PydlVerif.Model.TraceIter
import PydlVerif.Lemmas.TraceFit
import PydlVerif.Lemmas.Reject
import Mathlib.Analysis.SpecialFunctions.Trigonometric.Chebyshev.Basic

namespace PydlVerif.C13
open PydlVerif PydlVerif.Trace

/- used by name only; the reason stands in Lemmas/TraceFit.lean -/
attribute [-simp] scalar_ofNat scalar_lit scalar_sci scalar_floor

variable {K : Type} [Field K] [LinearOrder K] [IsStrictOrderedRing K] [FloorRing K]

section basis

/- The model functions are instantiated explicitly at `fieldScalar K`, so that every operation
written in a statement is the field's own. -/
local notation "polyF" => @polyK K (fieldScalar K)
local notation "chebF" => @chebK K (fieldScalar K)
local notation "legF" => @legK K (fieldScalar K)

/-- fpoly: row k is x^k -/
theorem fpoly_pow (x : K) (k : ℕ) : polyF x k = x ^ k := by
  fun_induction polyF x k with
  | case1 => simp only [scalar_lit, Nat.cast_one, pow_zero]
  | case2 => simp only [pow_one]
  | case3 k ih => rw [ih]; exact (pow_succ x (k + 1)).symm

/-- the Chebyshev recurrence of the model is Mathlib's Chebyshev polynomial of the first kind -/
theorem fcheb_eq_T (x : K) (k : ℕ) : chebF x k = (Polynomial.Chebyshev.T K k).eval x := by
  fun_induction chebF x k with
  | case1 => simp only [scalar_lit, Nat.cast_one]; simp
  | case2 => simp
  | case3 k ih1 ih2 =>
    rw [ih1, ih2]
    have := Polynomial.Chebyshev.T_add_two K (k : ℤ)
    push_cast
    rw [show ((k : ℤ) + 1 + 1) = k + 2 by ring, this]
    simp only [scalar_lit]
    simp only [Nat.cast_ofNat, Polynomial.eval_sub, Polynomial.eval_mul, Polynomial.eval_X,
      Polynomial.eval_ofNat]

/-- `T_k(cos θ) = cos kθ` for fchebyshev's rows (over ℝ) -/
theorem fcheb_cos (θ : ℝ) (k : ℕ) : @chebK ℝ (fieldScalar ℝ) (Real.cos θ) k = Real.cos (k * θ) := by
  rw [fcheb_eq_T]
  exact_mod_cast Polynomial.Chebyshev.T_real_cos θ (k : ℤ)

/-- Bonnet's recurrence, with P_0 = 1, P_1 = x -/
theorem fleg_bonnet (x : K) (k : ℕ) :
    legF x 0 = 1 ∧ legF x 1 = x ∧
    ((k : K) + 2) * legF x (k + 2) = (2 * (k : K) + 3) * x * legF x (k + 1) - ((k : K) + 1) * legF x k := by
  refine ⟨by simp only [legK, scalar_lit, Nat.cast_one], by simp only [legK], ?_⟩
  have h : ((k + 2 : ℕ) : K) ≠ 0 := Nat.cast_ne_zero.2 (Nat.succ_ne_zero _)
  have e : ((k + 2 : ℕ) : K) * legF x (k + 2) = _ :=
    mul_div_cancel₀ (((2 * k + 3 : ℕ) : K) * x * legF x (k + 1) - ((k + 1 : ℕ) : K) * legF x k) h
  simpa only [Nat.cast_add, Nat.cast_mul, Nat.cast_ofNat, Nat.cast_one] using e

theorem cast_add_two_ne_zero (k : ℕ) : (k : K) + 2 ≠ 0 :=
  (add_pos_of_nonneg_of_pos (Nat.cast_nonneg k) two_pos).ne'

/-- `P_k(1) = 1` -/
theorem fleg_one (k : ℕ) : legF (1 : K) k = 1 := by
  induction k using Nat.twoStepInduction with
  | zero => exact (fleg_bonnet 1 0).1
  | one => exact (fleg_bonnet 1 0).2.1
  | more k ih0 ih1 =>
    apply mul_left_cancel₀ (cast_add_two_ne_zero k)
    rw [(fleg_bonnet 1 k).2.2, ih0, ih1]
    ring

/-- `P_k(-x) = (-1)^k P_k(x)` -/
theorem fleg_parity (x : K) (k : ℕ) : legF (-x) k = (-1) ^ k * legF x k := by
  induction k using Nat.twoStepInduction with
  | zero => rw [(fleg_bonnet (-x) 0).1, (fleg_bonnet x 0).1]; ring
  | one => rw [(fleg_bonnet (-x) 0).2.1, (fleg_bonnet x 0).2.1]; ring
  | more k ih0 ih1 =>
    -- both sides multiplied by k+2: Bonnet's recurrence at -x and at x
    apply mul_left_cancel₀ (cast_add_two_ne_zero k)
    rw [(fleg_bonnet (-x) k).2.2, ih0, ih1]
    linear_combination -((-1 : K) ^ k) * (fleg_bonnet x k).2.2
end basis

section anyScalar
variable {α : Type} [Scalar α]

/-- fchebyshev_split: row 0 is the step (x ≥ 0), row k+1 is the Chebyshev row k -/
theorem fsplit_eq (x : α) (k : ℕ) :
    splitK x 0 = (if 0 ≤ x then 1 else 0) ∧ splitK x (k + 1) = chebK x k := by
  refine ⟨rfl, ?_⟩
  fun_induction chebK x k with
  | case1 => rfl
  | case2 => rfl
  | case3 k ih1 ih2 => simp only [splitK]; rw [← ih1, ← ih2]

/-- a scalar abscissa gives the same rows as the 1-element array -/
theorem basis_scalar_eq_array (x : α) (m : ℕ) :
    flegendre (.scalar x) m = flegendre (.arr #[x]) m ∧
    fchebyshev (.scalar x) m = fchebyshev (.arr #[x]) m ∧
    fchebyshevSplit (.scalar x) m = fchebyshevSplit (.arr #[x]) m ∧
    fpoly (.scalar x) m = fpoly (.arr #[x]) m := ⟨rfl, rfl, rfl, rfl⟩
end anyScalar

section fit
/- Inside this section the only `Scalar K` is the field interpretation, and arithmetic written in a
statement is the field's own (the operation instances of `Scalar` are switched off for elaboration).  Sections `fit` and
`values` need this: their statements write arithmetic, order or literals on `K`; `loop` only equates terms of the model. -/
attribute [-instance] Scalar.toAdd Scalar.toSub Scalar.toMul Scalar.toDiv Scalar.toNeg Scalar.toLT Scalar.toLE
  Scalar.instOfNat Scalar.instOfScientific Scalar.decLt Scalar.decLe
attribute [local instance] fieldScalar
open Finset

/-- func_fit solves the weighted normal equations: whenever it returns with two or more good points,
coefficients declared fixed keep `inputans`, coefficients beyond `ncfit` are 0, `yfit = legarr.T · res`, and,
if `solve` honours its contract and every free row has a non-zero weighted norm, `AᵀW(y - A·res) = 0` on
the free parameters. -/
theorem funcFit_normal (solve : Array (Array K) → Array K → R (Array K)) (inp : FitIn K) (out : FitOut K)
    (h : funcFit solve inp = .ok out) :
    inp.y.size = inp.x.size ∧ ∃ w ia, fitWeights inp = .ok w ∧ fitIa inp = .ok ia ∧
      (2 ≤ (goodIdx w).length →
        ∃ legarr, fitBasis inp (ncfit inp w) = .ok legarr ∧
          (∀ k, k < ncfit inp w → ia.getD k true = false → at1 out.res k = at1 (fitAns inp) k) ∧
          (∀ k, ncfit inp w ≤ k → at1 out.res k = 0) ∧
          (∀ i, i < inp.x.size →
            at1 out.yfit i = ∑ k ∈ range (ncfit inp w), at2 legarr k i * at1 out.res k) ∧
          (SolveContract solve →
            (∀ k, k < ncfit inp w → ia.getD k true = true →
              ∑ i ∈ range inp.x.size, at2 legarr k i * (at2 legarr k i * at1 w i) ≠ 0) →
            ∀ k, k < ncfit inp w → ia.getD k true = true →
              ∑ i ∈ range inp.x.size, at1 w i * at2 legarr k i *
                (at1 inp.y i - ∑ j ∈ range (ncfit inp w), at2 legarr j i * at1 out.res j) = 0)) := by
  obtain ⟨hy, w, ia, hw, hia, -, -, h2⟩ := funcFit_ok h
  refine ⟨hy, w, ia, hw, hia, fun hg => ?_⟩
  have hmle : ncfit inp w ≤ inp.ncoeff := Nat.min_le_right _ _
  generalize hm : ncfit inp w = m at hmle ⊢
  obtain ⟨legarr, ysub, sol, h1, h2, h3, hres, hyfit⟩ := fitMain_ok (h2 hg) m hm.symm _ rfl
  have hresk : ∀ k, k < m → at1 out.res k =
      if ia.getD k true then at1 sol ((freeIdx ia m).idxOf k) else at1 (fitAns inp) k :=
    fun k hk => by rw [hres, at1_resOf _ _ _ _ _ _ _ hmle, if_pos hk]
  refine ⟨legarr, h1, ?_, ?_, ?_, ?_⟩
  · intro k hk hf
    rw [hresk k hk, hf]; rfl
  · intro k hk
    rw [hres, at1_resOf _ _ _ _ _ _ _ hmle, if_neg (by omega), scalar_zero]
  · intro i hi
    rw [hyfit, yfitOf_eq, at1_tab _ _ _ hi]
  · intro hsolve hnz k hk hf
    -- `alpha · sol = beta` (contract of `solve`) is the hypothesis of `normal_core`
    refine Eq.trans (Finset.sum_congr rfl fun i _ => ?_)
      (normal_core inp.x.size m (at2 legarr) (at1 w) (at1 inp.y) (at1 (fitAns inp)) (at1 sol)
        (fun k => ia.getD k true) (fun a ha => ?_) k hk hf)
    · refine congrArg (fun s => at1 w i * at2 legarr k i * (at1 inp.y i - s)) (Finset.sum_congr rfl fun j hj => ?_)
      rw [hresk j (Finset.mem_range.mp hj)]
      rfl
    · have ha : a < (freeIdx ia m).length := ha
      have hs := fitSol_spec solve hsolve _ _ sol _ (by unfold betaOf; exact tab_size _ _) (fun h1 => by
        rw [at2_alphaOf _ _ _ _ _ _ (by omega) (by omega)]
        obtain ⟨hlt, hfree⟩ := free_mem ia m 0 (by omega)
        exact hnz _ hlt hfree) h3 a ha
      unfold betaOf at hs
      rw [at1_tab _ _ _ ha, sumN_eq] at hs
      refine Eq.trans (Finset.sum_congr rfl fun b hb => ?_) (hs.trans (Finset.sum_congr rfl fun i hi => ?_))
      · rw [at2_alphaOf _ _ _ _ _ _ ha (Finset.mem_range.mp hb)]; rfl
      · rw [fitYsub_spec (at2 legarr) inp ia m ysub h2 i (Finset.mem_range.mp hi)]; rfl

/-- the design rows used by func_fit are the basis functions at the abscissae, times `inputfunc` -/
theorem fitBasis_entry (inp : FitIn K) (m : ℕ) (legarr : Array (Array K)) (h : fitBasis inp m = .ok legarr) :
    ∃ φ, kernelOf inp.func = some φ ∧ ∀ k i, k < m → i < inp.x.size →
      at2 legarr k i = φ (at1 inp.x i) k * (match inp.inputfunc with | none => 1 | some g => at1 g i) := by
  unfold fitBasis at h
  split at h
  · cases h
  rename_i f hf
  obtain ⟨l0, h0, h⟩ := bind_ok h
  obtain ⟨φ, m0, hφ, hspec⟩ := fitFunc_spec _ f hf
  rw [hspec] at h0
  split at h0
  · cases h0
  cases h0
  refine ⟨φ, hφ, ?_⟩
  intro k i hk hi
  unfold withInputfunc at h
  cases hg : inp.inputfunc with
  | none =>
    rw [hg] at h
    cases h
    rw [at2_rows _ _ _ _ _ hk hi]
    exact (mul_one _).symm
  | some g =>
    rw [hg] at h
    dsimp only at h
    split at h
    · cases h
    · cases h
      rw [at2_tab_tab _ _ _ _ _ hk hi, at2_rows _ _ _ _ _ hk hi]

/-- everything `funcFit_normal` says, for named `w`, `ia`, `legarr` -/
theorem funcFit_facts (solve : Array (Array K) → Array K → R (Array K)) (inp : FitIn K) (out : FitOut K)
    (h : funcFit solve inp = .ok out) (w : Array K) (ia : Array Bool) (legarr : Array (Array K))
    (hw : fitWeights inp = .ok w) (hia : fitIa inp = .ok ia) (hg : 2 ≤ (goodIdx w).length)
    (hb : fitBasis inp (ncfit inp w) = .ok legarr) :
    (∀ k, k < ncfit inp w → ia.getD k true = false → at1 out.res k = at1 (fitAns inp) k) ∧
    (∀ k, ncfit inp w ≤ k → at1 out.res k = 0) ∧
    (∀ i, i < inp.x.size →
      at1 out.yfit i = ∑ k ∈ range (ncfit inp w), at2 legarr k i * at1 out.res k) ∧
    (SolveContract solve →
      (∀ k, k < ncfit inp w → ia.getD k true = true →
        ∑ i ∈ range inp.x.size, at2 legarr k i * (at2 legarr k i * at1 w i) ≠ 0) →
      ∀ k, k < ncfit inp w → ia.getD k true = true →
        ∑ i ∈ range inp.x.size, at1 w i * at2 legarr k i *
          (at1 inp.y i - ∑ j ∈ range (ncfit inp w), at2 legarr j i * at1 out.res j) = 0) := by
  obtain ⟨-, w', ia', hw', hia', hrest⟩ := funcFit_normal solve inp out h
  rw [hw] at hw'; cases hw'
  rw [hia] at hia'; cases hia'
  obtain ⟨legarr', hb', hrest⟩ := hrest hg
  rw [hb] at hb'; cases hb'
  exact hrest

/-- weighted-least-squares optimum: with non-negative weights the coefficients returned by
func_fit minimise Σ w (y - A·c)² among all coefficient vectors `z` whose fixed entries have the
prescribed values `inputans` -/
theorem funcFit_optimum (solve : Array (Array K) → Array K → R (Array K)) (hsolve : SolveContract solve)
    (inp : FitIn K) (out : FitOut K) (h : funcFit solve inp = .ok out)
    (w : Array K) (ia : Array Bool) (legarr : Array (Array K))
    (hw : fitWeights inp = .ok w) (hia : fitIa inp = .ok ia) (hg : 2 ≤ (goodIdx w).length)
    (hb : fitBasis inp (ncfit inp w) = .ok legarr)
    (hpos : ∀ i, i < inp.x.size → 0 ≤ at1 w i)
    (hnz : ∀ k, k < ncfit inp w → ia.getD k true = true →
      ∑ i ∈ range inp.x.size, at2 legarr k i * (at2 legarr k i * at1 w i) ≠ 0)
    (z : ℕ → K) (hz : ∀ k, k < ncfit inp w → ia.getD k true = false → z k = at1 (fitAns inp) k) :
    wssr inp.x.size (ncfit inp w) (at2 legarr) (at1 w) (at1 inp.y) (at1 out.res)
      ≤ wssr inp.x.size (ncfit inp w) (at2 legarr) (at1 w) (at1 inp.y) z := by
  obtain ⟨hfix, -, -, hN⟩ := funcFit_facts solve inp out h w ia legarr hw hia hg hb
  exact wls_optimum_fixed _ _ _ _ _ _ _ (fun k => ia.getD k true) hpos (hN hsolve hnz)
    (fun k hk hf => by rw [hz k hk hf, hfix k hk hf])

/-- zero-weight points have no influence: replacing the data `y` at points of weight 0 by
anything else leaves the normal equations satisfied by the same coefficients (under `funcFit_exact`'s
hypothesis these determine the coefficients; no theorem here combines the two) -/
theorem funcFit_zero_weight (solve : Array (Array K) → Array K → R (Array K)) (hsolve : SolveContract solve)
    (inp : FitIn K) (out : FitOut K) (h : funcFit solve inp = .ok out)
    (w : Array K) (ia : Array Bool) (legarr : Array (Array K))
    (hw : fitWeights inp = .ok w) (hia : fitIa inp = .ok ia) (hg : 2 ≤ (goodIdx w).length)
    (hb : fitBasis inp (ncfit inp w) = .ok legarr)
    (hnz : ∀ k, k < ncfit inp w → ia.getD k true = true →
      ∑ i ∈ range inp.x.size, at2 legarr k i * (at2 legarr k i * at1 w i) ≠ 0)
    (y' : ℕ → K) (hy' : ∀ i, i < inp.x.size → at1 w i ≠ 0 → y' i = at1 inp.y i) :
    ∀ k, k < ncfit inp w → ia.getD k true = true →
      ∑ i ∈ range inp.x.size, at1 w i * at2 legarr k i *
        (y' i - ∑ j ∈ range (ncfit inp w), at2 legarr j i * at1 out.res j) = 0 := by
  obtain ⟨-, -, -, hN⟩ := funcFit_facts solve inp out h w ia legarr hw hia hg hb
  intro k hk hf
  rw [← hN hsolve hnz k hk hf]
  apply Finset.sum_congr rfl
  intro i hi
  by_cases hwi : at1 w i = 0
  · simp only [hwi, zero_mul]
  · rw [hy' i (Finset.mem_range.mp hi) hwi]

/-- exact data are recovered: if `y` is exactly a combination `A·c0` of the design rows whose
fixed entries are the prescribed ones, and the weighted normal matrix is positive definite on the
free directions, func_fit returns `c0` -/
theorem funcFit_exact (solve : Array (Array K) → Array K → R (Array K)) (hsolve : SolveContract solve)
    (inp : FitIn K) (out : FitOut K) (h : funcFit solve inp = .ok out)
    (w : Array K) (ia : Array Bool) (legarr : Array (Array K))
    (hw : fitWeights inp = .ok w) (hia : fitIa inp = .ok ia) (hg : 2 ≤ (goodIdx w).length)
    (hb : fitBasis inp (ncfit inp w) = .ok legarr)
    (hpd : ∀ d : ℕ → K, (∀ k, k < ncfit inp w → ia.getD k true = false → d k = 0) →
      ∑ i ∈ range inp.x.size, at1 w i * (∑ j ∈ range (ncfit inp w), at2 legarr j i * d j) ^ 2 = 0 →
      ∀ k, k < ncfit inp w → d k = 0)
    (c0 : ℕ → K) (hc0 : ∀ k, k < ncfit inp w → ia.getD k true = false → c0 k = at1 (fitAns inp) k)
    (hexact : ∀ i, i < inp.x.size → at1 inp.y i = ∑ j ∈ range (ncfit inp w), at2 legarr j i * c0 j) :
    ∀ k, k < ncfit inp w → at1 out.res k = c0 k := by
  obtain ⟨hfix, -, -, hN⟩ := funcFit_facts solve inp out h w ia legarr hw hia hg hb
  have hnz : ∀ k, k < ncfit inp w → ia.getD k true = true →
      ∑ i ∈ range inp.x.size, at2 legarr k i * (at2 legarr k i * at1 w i) ≠ 0 := by
    intro k hk hf h0
    -- positive definiteness at the unit vector `e_k`: the k-th diagonal entry of the normal matrix is not 0
    have hd := hpd (fun j => if j = k then 1 else 0)
      (fun j hj hjf => by
        by_cases hjk : j = k
        · subst hjk; rw [hf] at hjf; cases hjf
        · exact if_neg hjk) ?_ k hk
    · rw [if_pos rfl] at hd
      exact one_ne_zero hd
    · refine Eq.trans (Finset.sum_congr rfl ?_) h0
      intro i _
      rw [Finset.sum_eq_single k]
      · rw [if_pos rfl, mul_one]; ring
      · intro j _ hjk; rw [if_neg hjk, mul_zero]
      · intro hk'; exact absurd (Finset.mem_range.mpr hk) hk'
  -- `c0` reproduces `y`, so its residual is 0 and it satisfies the normal equations as well
  refine wls_unique_fixed _ _ (at2 legarr) (at1 w) (at1 inp.y) (at1 out.res) c0 (fun k => ia.getD k true)
    hpd (hN hsolve hnz) ?_ (fun k hk hf => by rw [hfix k hk hf, hc0 k hk hf])
  intro k _ _
  apply Finset.sum_eq_zero
  intro i hi
  rw [hexact i (Finset.mem_range.mp hi)]; ring

/- stands here and not in section `basis`: its statement writes `x ^ k`, `0 ≤ x`, `1`, which must be the field's own -/
/-- the basis arrays are the textbook polynomials: for every order `m`, every abscissa (array or scalar)
row `k` holds `P_k`, `T_k` (Mathlib's Chebyshev polynomial), `x^k`; `fchebyshev_split` holds the step, 1,
and the Chebyshev rows shifted by one -/
theorem basis_entry (x : XIn K) (m k i : ℕ) (hk : k < m) (hi : i < x.vals.size) :
    (∃ a, flegendre x m = .ok a ∧ a.size = m ∧ at2 a k i = legK (at1 x.vals i) k) ∧
    (∃ a, fchebyshev x m = .ok a ∧ a.size = m ∧
      at2 a k i = (Polynomial.Chebyshev.T K k).eval (at1 x.vals i)) ∧
    (∃ a, fpoly x m = .ok a ∧ a.size = m ∧ at2 a k i = (at1 x.vals i) ^ k) ∧
    (2 ≤ m → ∃ a, fchebyshevSplit x m = .ok a ∧ a.size = m ∧
      at2 a k i = (if k = 0 then (if 0 ≤ at1 x.vals i then 1 else 0) else chebK (at1 x.vals i) (k - 1))) := by
  have hm : ¬ m < 1 := by omega
  refine ⟨⟨_, by unfold flegendre; rw [if_neg hm]; rfl, rows_size _ _ _, at2_rows _ _ _ _ _ hk hi⟩,
    ⟨_, by unfold fchebyshev; rw [if_neg hm]; rfl, rows_size _ _ _, ?_⟩,
    ⟨_, by unfold fpoly; rw [if_neg hm]; rfl, rows_size _ _ _, ?_⟩, fun h2 =>
    ⟨_, by unfold fchebyshevSplit; rw [if_neg (by omega : ¬ m < 2)]; rfl, rows_size _ _ _, ?_⟩⟩
  · rw [at2_rows _ _ _ _ _ hk hi, fcheb_eq_T]
  · rw [at2_rows _ _ _ _ _ hk hi, fpoly_pow]
  · rw [at2_rows _ _ _ _ _ hk hi]
    cases k with
    | zero =>
      simp only [if_true, splitK, scalar_zero, scalar_one]
    | succ k => simp only [Nat.succ_ne_zero, if_false, Nat.add_sub_cancel, (fsplit_eq _ k).2]

/-- without `inputfunc`, `yfit_j = Σ_{k<ncoeff} φ_k(x_j)·res_k` in all three branches (0, 1, ≥ 2 good points); the one-point
branch needs `φ_0 = 1` (`hφ0`), which is why `chebyshev_split` is outside -/
theorem funcFit_yfit (solve : Array (Array K) → Array K → R (Array K)) (inp : FitIn K) (out : FitOut K)
    (hfit : funcFit solve inp = .ok out) (hg : inp.inputfunc = none) (φ : K → ℕ → K) (hφ : kernelOf inp.func = some φ)
    (hφ0 : ∀ x, φ x 0 = 1) :
    out.yfit = tab inp.x.size fun j => ∑ k ∈ range inp.ncoeff, φ (at1 inp.x j) k * at1 out.res k := by
  obtain ⟨hy, w, ia, hw, hia, h0, h1, h2⟩ := funcFit_ok hfit
  rcases hgood : goodIdx w with _ | ⟨i0, _ | ⟨i1, rest⟩⟩
  · -- no good point: zeros
    obtain rfl := h0 hgood
    rw [replicate_eq_tab inp.x.size]
    dsimp only
    refine tab_congr _ _ _ fun j _ => ?_
    rw [scalar_zero]
    exact (Finset.sum_eq_zero fun k hk => by rw [at1_replicate _ _ _ (Finset.mem_range.mp hk), mul_zero]).symm
  · -- one good point: the constant y[i0]
    obtain ⟨hnc, rfl⟩ := h1 i0 hgood
    rw [replicate_eq_tab inp.x.size]
    dsimp only
    refine tab_congr _ _ _ fun j _ => ?_
    rw [Finset.sum_eq_single_of_mem 0 (Finset.mem_range.mpr (Nat.pos_of_ne_zero hnc)) fun k hk hk0 => by
        rw [at1_tab _ _ _ (Finset.mem_range.mp hk), if_neg hk0, scalar_zero, mul_zero],
      hφ0, at1_tab _ _ _ (Nat.pos_of_ne_zero hnc), if_pos rfl, one_mul, scalar_zero, zero_add]
  · -- two or more good points: the sum stops at `ncfit`, beyond which the coefficients are 0
    obtain ⟨L', ysub, sol, hb, -, -, hres, hyf⟩ := fitMain_ok (h2 (by rw [hgood]; simp)) _ rfl _ rfl
    obtain ⟨φ', hφ', hentry⟩ := fitBasis_entry _ _ _ hb
    obtain rfl : φ = φ' := Option.some.inj (hφ.symm.trans hφ')
    have hmle := Nat.min_le_right (goodIdx w).length inp.ncoeff
    rw [hg] at hentry
    rw [hyf, yfitOf_eq]
    refine tab_congr _ _ _ fun j hj => ?_
    rw [← Finset.sum_subset (Finset.range_subset_range.mpr hmle) fun k _ hk => by
      rw [hres, at1_resOf _ _ _ _ _ _ _ hmle, if_neg (mt Finset.mem_range.mpr hk), scalar_zero, mul_zero]]
    exact Finset.sum_congr rfl fun k hk => by rw [hentry k j (Finset.mem_range.mp hk) hj, mul_one]

/-- one trace: evaluating the fitted coefficients on the normalised abscissae they were fitted
on returns the fitted values (whatever `solve` returned, whatever the weights) -/
theorem eval_of_fit (solve : Array (Array K) → Array K → R (Array K)) (xvec y ivar : Array K)
    (ncoeff : ℕ) (name : String) (out : FitOut K)
    (hfit : funcFit solve { x := xvec, y := y, ncoeff := ncoeff, invvar := some ivar, func := name } = .ok out)
    (f : XIn K → ℕ → R (Array (Array K))) (hf : tsetFunc name = some f)
    (legarr : Array (Array K)) (hl : f (.arr xvec) ncoeff = .ok legarr) :
    evalRow legarr out.res ncoeff xvec.size = out.yfit ∧ out.res.size = ncoeff := by
  obtain ⟨φ, hker, hφ0, hspec⟩ := tsetFunc_spec name f hf
  rw [hspec] at hl
  split at hl
  · cases hl
  cases hl
  exact ⟨(evalRow_rows _ _ _ _).trans (funcFit_yfit solve _ out hfit rfl φ hker hφ0).symm, (funcFit_sizes solve _ out hfit).1⟩

/-- default grid: a trace set with integral range `xmax - xmin = N` evaluated without `xpos`
uses, for every trace, the abscissae `xmin, xmin+1, …, xmax` (N+1 points at unit steps) -/
theorem default_grid (t : TSet K) (N : ℕ) (hN : t.xmax - t.xmin = N) :
    ∃ g, t.grid = .ok g ∧ g.size = t.coeff.size ∧
      (∀ r, r < t.coeff.size → (g.getD r #[]).size = N + 1 ∧
        (∀ j, j ≤ N → at2 g r j = t.xmin + j) ∧ at2 g r 0 = t.xmin ∧ at2 g r N = t.xmax) ∧
      (∀ ign x y, t.xy none ign = .ok (x, y) → x = g) := by
  have hg : t.grid = .ok (tab t.coeff.size fun _ => tab (N + 1) fun j => Scalar.ofNat j + t.xmin) := by
    unfold TSet.grid
    rw [nx_integral t N hN]
    rfl
  refine ⟨_, hg, tab_size _ _, ?_, ?_⟩
  · intro r hr
    have hent : ∀ j, j ≤ N → at2 (tab t.coeff.size fun _ => tab (N + 1) fun j => Scalar.ofNat j + t.xmin) r j
        = t.xmin + j := by
      intro j hj
      rw [at2_tab_tab _ _ _ _ _ hr (by omega)]
      simp only [Scalar.ofNat]
      ring
    refine ⟨?_, hent, ?_, ?_⟩
    · rw [tab_getD, if_pos hr, tab_size]
    · rw [hent 0 (by omega)]; simp
    · rw [hent N (le_refl _), ← hN]; ring
  · intro ign x y h
    unfold TSet.xy at h
    obtain ⟨xp, hxp, h⟩ := bind_ok h
    obtain ⟨ys, -, h⟩ := bind_ok h
    unfold TSet.xyPos at hxp
    rw [hg] at hxp
    cases hxp
    cases h
    rfl

/-- the hypotheses of the fit theorems on a concrete input: two good points, one free coefficient (so `solve`
is not even called); the result is the weighted mean 2 -/
example (solve : Array (Array ℚ) → Array ℚ → R (Array ℚ)) :
    funcFit solve { x := #[0, 1], y := #[1, 3], ncoeff := 1, invvar := some #[1, 1], func := "poly" }
      = .ok ⟨#[2], #[2, 2]⟩ ∧ 2 ≤ (goodIdx (#[1, 1] : Array ℚ)).length := by
  have hg : goodIdx (#[1, 1] : Array ℚ) = [0, 1] := by decide
  refine ⟨?_, by rw [hg]; decide⟩
  -- the control flow up to the 1 × 1 system, then the arithmetic on the two points by evaluation
  simp [funcFit, fitWeights, fitIa, hg, fitMain, fitBasis, fitFunc, fpoly, withInputfunc, fitYsub, fixedIdx, fitSol,
    freeIdx, bind, Except.bind, pure, Except.pure, List.range_succ, List.filter]
  decide +kernel

/-- a contract-honouring `solve` exists that answers a non-trivial system: the 1×1 solver -/
example : SolveContract (fun (a : Array (Array ℚ)) (b : Array ℚ) =>
    if b.size = 1 ∧ at2 a 0 0 ≠ 0 then .ok #[at1 b 0 / at2 a 0 0] else .error "refused") := by
  intro a b s h r hr
  dsimp only at h
  split at h
  · rename_i hc
    cases h
    have hr0 : r = 0 := by omega
    subst hr0
    rw [hc.1, Finset.sum_range_one]
    show at2 a 0 0 * (at1 b 0 / at2 a 0 0) = at1 b 0
    exact mul_div_cancel₀ _ hc.2
  · cases h

/-- `default_grid`'s hypothesis: the SDSS detector range 0 .. 2047 -/
example : ∃ g, (⟨"legendre", 0, 2047, #[#[1, 2]], 2, none, none, none⟩ : TSet ℚ).grid = .ok g ∧ at2 g 0 2047 = 2047 := by
  obtain ⟨g, hg, -, hrow, -⟩ := default_grid (⟨"legendre", 0, 2047, #[#[1, 2]], 2, none, none, none⟩ : TSet ℚ) 2047
    (by norm_num)
  exact ⟨g, hg, (hrow 0 (by simp)).2.2.2⟩
end fit

/-! ## the loop of `xy2traceset` with the real `djs_reject` inside (`Model/TraceIter.lean`) -/

section loop
attribute [local instance] fieldScalar

/-- the options are `rejectOpts` as `Reject.djsReject_model` hands them to `djsRejectPix` (`hasIn` filled in) -/
theorem badness_none (sqrt : K → K) (p : Reject.Pix K) :
    Reject.isZero (Reject.badness sqrt { (rejectOpts : Reject.Opts K) with hasIn := false } p) = true := by
  -- `lower`, `upper` and `maxdev` are all `none`: nothing is added to the initial badness 0
  simp [Reject.badness, Reject.addLow, Reject.addUp, Reject.addDev, rejectOpts, Reject.isZero, BEq.beq, Scalar.beq]

/-- the rejection step as `TraceSet.__init__` calls it rejects nothing and ends the loop: `djs_reject(ypos[i], ycurfit,
invvar=tempivar)` (no `lower`/`upper`/`maxdev`, `grow = 0`, not sticky) returns the all-true mask and `qdone = True`
whenever its size checks pass -/
theorem rejectCall_none (sqrt : K → K) (data model ivar : Array K) (hm : model.size = data.size)
    (hv : ivar.size = data.size) :
    rejectCall sqrt data model ivar = .ok (Array.replicate data.size true, true) := by
  unfold rejectCall
  -- the four size checks of `djs_reject` pass (no mask is given)
  have hsz : (∀ om, (none : Option (List Bool)) = some om → om.length = data.toList.length) ∧
      model.toList.length = data.toList.length ∧
      (∀ im, (none : Option (List Bool)) = some im → im.length = data.toList.length) ∧
      ivar.toList.length = data.toList.length :=
    ⟨fun _ h => (by cases h), (by simpa using hm), fun _ h => (by cases h), (by simpa using hv)⟩
  rw [Reject.djsReject_model, if_pos hsz]
  unfold Reject.djsRejectPix
  simp only [Option.isSome_none, List.map_map, Function.comp_def, badness_none, Option.getD_none, Array.length_toList]
  have hr : ∀ b, (List.replicate data.size true).getD b true = true := fun b => by
    rw [List.getD_eq_getElem?_getD, List.getElem?_replicate]
    split <;> rfl
  -- no `grow`, no `inmask`, not sticky: the new mask is `badness == 0`, true everywhere, and equals the all-true `outmask`
  simp only [rejectOpts, Reject.growMask_zero, Bool.false_eq_true, if_false, List.zipWith_map_left, List.zipWith_map_right,
    List.zipWith_self, List.all_map, Function.comp_def, hr, beq_self_eq_true, id]
  rw [List.map_const', List.length_range, List.toArray_replicate]
  exact congrArg (fun q => Except.ok (Array.replicate data.size true, q)) (List.all_eq_true.2 fun _ _ => rfl)

theorem fitIterRej_eq (sqrt : K → K) (fit : R (FitOut K)) (y ivar : Array K)
    (hfit : ∀ o, fit = .ok o → o.yfit.size = y.size ∧ ivar.size = y.size) :
    ∀ fuel qdone acc, fitIterRej sqrt fit y ivar fuel qdone acc = fitIter fit y.size fuel qdone acc := by
  intro fuel
  induction fuel with
  | zero => intro qdone acc; rfl
  | succ fuel ih =>
    intro qdone acc
    unfold fitIterRej fitIter
    cases qdone with
    | true => rfl
    | false =>
      simp only [Bool.false_eq_true, if_false]
      cases hf : fit with
      | error e => rfl
      | ok o =>
        obtain ⟨h1, h2⟩ := hfit o hf
        simp only [bind, Except.bind, rejectCall_none sqrt y o.yfit ivar h1 h2, rejectDefault]
        simpa only [hf] using ih true (some (o, Array.replicate y.size true))

theorem tsFitRowRej_eq (sqrt : K → K) (solve : Array (Array K) → Array K → R (Array K)) (inp : TsIn K) (t0 : TSet K)
    (i : ℕ) (hy : (inp.ypos.getD i #[]).size = (inp.xpos.getD 0 #[]).size) :
    tsFitRowRej sqrt solve inp t0 i = tsFitRow solve inp t0 i := by
  unfold tsFitRowRej tsFitRow
  cases hx : t0.xnorm (inp.xpos.getD i #[]) inp.xjumplo.isSome with
  | error e => rfl
  | ok xvec =>
    simp only [bind, Except.bind]
    rw [fitIterRej_eq sqrt _ _ _ ?_, hy]
    · rfl
    · intro o ho
      obtain ⟨-, h1, h2, h3⟩ := funcFit_sizes solve _ o ho
      dsimp only at h1 h2 h3
      exact ⟨by rw [h1, h2], by rw [h3 _ rfl, h2]⟩

/-- the loop with the real `djs_reject` is the loop of `tsetFit` -/
theorem tsetFitRej_eq (sqrt : K → K) (solve : Array (Array K) → Array K → R (Array K)) (inp : TsIn K) :
    tsetFitRej sqrt solve inp = tsetFit solve inp := by
  unfold tsetFitRej tsetFit
  split
  · rfl
  rename_i hshape
  have hs : tsShapeOk inp = true := by simpa using hshape
  have hrow : ∀ t0, (List.range inp.xpos.size).mapM (tsFitRowRej sqrt solve inp t0)
      = (List.range inp.xpos.size).mapM (tsFitRow solve inp t0) := fun t0 =>
    mapM_congr _ _ _ fun i hi =>
      tsFitRowRej_eq sqrt solve inp t0 i (ts_rows_rect inp hs i (List.mem_range.mp hi)).2
  simp only [hrow]

/-- the loop is one fit: with `maxiter ≥ 0` every trace of the result is exactly what ONE call of `func_fit`
on the normalised positions of that trace with `tempivar = invvar * inmask` returns (the rejection step rejects
nothing and ends the loop), and the `outmask` row is all true -/
theorem tsetFit_row_is_funcFit (solve : Array (Array K) → Array K → R (Array K)) (inp : TsIn K) (o : TsOut K)
    (h : tsetFit solve inp = .ok o) (i : ℕ) (hi : i < inp.xpos.size) :
    ∃ xvec, o.tset.xnorm (inp.xpos.getD i #[]) inp.xjumplo.isSome = .ok xvec ∧
      funcFit solve { x := xvec, y := inp.ypos.getD i #[], ncoeff := inp.ncoeff, invvar := some (tsTempivar inp i),
                      func := inp.func } = .ok ⟨o.tset.coeff.getD i #[], o.yfit.getD i #[]⟩ ∧
      o.outmask.getD i #[] = Array.replicate (inp.xpos.getD 0 #[]).size true := by
  obtain ⟨-, xmin, xmax, hmin, hmax, e1, e2, ⟨-, -, e3, e4, e5⟩, -, -, -, hrow⟩ := tsetFit_ok solve inp o h
  have hF := hrow i hi
  have hjump : o.tset.xnorm (inp.xpos.getD i #[]) inp.xjumplo.isSome =
      (ts0 inp xmin xmax).xnorm (inp.xpos.getD i #[]) inp.xjumplo.isSome := by
    unfold TSet.xnorm
    rw [e1, e2, e3, e4, e5]
    rfl
  unfold tsFitRow at hF
  obtain ⟨xvec, hxv, hF⟩ := bind_ok hF
  obtain ⟨r, hr, hF⟩ := bind_ok hF
  cases r with
  | none => cases hF
  | some r =>
    cases hF
    obtain ⟨h1, h2⟩ := fitIter_some _ _ _ _ hr
    exact ⟨xvec, by rw [hjump, hxv], h1, h2⟩

/-- what two inputs must share for their loops over traces to be comparable: everything except the rows -/
structure SameSetup (inp inp' : TsIn K) : Prop where
  func : inp'.func = inp.func
  ncoeff : inp'.ncoeff = inp.ncoeff
  maxiter : inp'.maxiter = inp.maxiter
  lo : inp'.xjumplo = inp.xjumplo
  hi : inp'.xjumphi = inp.xjumphi
  val : inp'.xjumpval = inp.xjumpval
  nx : (inp'.xpos.getD 0 #[]).size = (inp.xpos.getD 0 #[]).size
  xmin : tsXmin inp' = tsXmin inp
  xmax : tsXmax inp' = tsXmax inp

/-- every trace is fitted on its own: trace `i'` of one input and trace `i` of another get the same coefficients, fitted
values and mask as soon as the two inputs agree in the global settings and in the data of that one trace (positions,
values, `invvar * inmask`) - whatever the other traces contain -/
theorem tsetFit_row_local (solve : Array (Array K) → Array K → R (Array K)) (inp inp' : TsIn K) (o o' : TsOut K)
    (h : tsetFit solve inp = .ok o) (h' : tsetFit solve inp' = .ok o') (hs : SameSetup inp inp')
    (i i' : ℕ) (hi : i < inp.xpos.size) (hi' : i' < inp'.xpos.size)
    (hx : inp'.xpos.getD i' #[] = inp.xpos.getD i #[]) (hy : inp'.ypos.getD i' #[] = inp.ypos.getD i #[])
    (hw : tsTempivar inp' i' = tsTempivar inp i) :
    o'.tset.coeff.getD i' #[] = o.tset.coeff.getD i #[] ∧ o'.yfit.getD i' #[] = o.yfit.getD i #[] ∧
      o'.outmask.getD i' #[] = o.outmask.getD i #[] := by
  obtain ⟨-, xmin, xmax, hmin, hmax, -, -, -, -, -, -, hrow⟩ := tsetFit_ok solve inp o h
  obtain ⟨-, xmin', xmax', hmin', hmax', -, -, -, -, -, -, hrow'⟩ := tsetFit_ok solve inp' o' h'
  obtain rfl : xmin' = xmin := Except.ok.inj (hmin'.symm.trans (hs.xmin.trans hmin))
  obtain rfl : xmax' = xmax := Except.ok.inj (hmax'.symm.trans (hs.xmax.trans hmax))
  have ht : ts0 inp' xmin' xmax' = ts0 inp xmin' xmax' := by
    unfold ts0; rw [hs.func, hs.ncoeff, hs.lo, hs.hi, hs.val]
  have hc : tsFitRow solve inp' (ts0 inp' xmin' xmax') i' = tsFitRow solve inp (ts0 inp xmin' xmax') i := by
    rw [ht]
    unfold tsFitRow
    rw [hs.func, hs.ncoeff, hs.maxiter, hs.lo, hs.nx, hx, hy, hw]
  have := (hrow' i' hi').symm.trans (hc.trans (hrow i hi))
  injection this with this
  injection this with h1 h2
  injection h1 with h3 h4
  exact ⟨h3, h4, h2⟩

/-- replace row `j` of `ypos` by anything: every trace `i ≠ j` keeps its coefficients, fitted values and mask -/
theorem tsetFit_other_traces (solve : Array (Array K) → Array K → R (Array K)) (inp : TsIn K) (j : ℕ) (row : Array K)
    (o o' : TsOut K) (h : tsetFit solve inp = .ok o)
    (h' : tsetFit solve { inp with ypos := inp.ypos.setIfInBounds j row } = .ok o')
    (i : ℕ) (hi : i < inp.xpos.size) (hij : i ≠ j) :
    o'.tset.coeff.getD i #[] = o.tset.coeff.getD i #[] ∧ o'.yfit.getD i #[] = o.yfit.getD i #[] ∧
      o'.outmask.getD i #[] = o.outmask.getD i #[] := by
  refine tsetFit_row_local solve inp _ o o' h h' ⟨rfl, rfl, rfl, rfl, rfl, rfl, rfl, rfl, rfl⟩ i i hi hi rfl ?_ rfl
  show (inp.ypos.setIfInBounds j row).getD i #[] = inp.ypos.getD i #[]
  simp [Ne.symm hij]

/-- permuting the traces permutes the rows of the result (row `i` of the new input is row `σ i` of the old one),
provided the two inputs use the same `xmin`/`xmax` (`hmin`, `hmax`) -/
theorem tsetFit_perm (solve : Array (Array K) → Array K → R (Array K)) (inp : TsIn K) (σ : ℕ → ℕ)
    (hσ : ∀ i, i < inp.xpos.size → σ i < inp.xpos.size)
    (hmin : tsXmin (inp.reorder σ) = tsXmin inp) (hmax : tsXmax (inp.reorder σ) = tsXmax inp)
    (o o' : TsOut K) (h : tsetFit solve inp = .ok o) (h' : tsetFit solve (inp.reorder σ) = .ok o')
    (i : ℕ) (hi : i < inp.xpos.size) :
    o'.tset.coeff.getD i #[] = o.tset.coeff.getD (σ i) #[] ∧ o'.yfit.getD i #[] = o.yfit.getD (σ i) #[] ∧
      o'.outmask.getD i #[] = o.outmask.getD (σ i) #[] := by
  obtain ⟨hshape, -⟩ := tsetFit_ok solve inp o h
  have h0 : 0 < inp.xpos.size := by omega
  have hnx : ((inp.reorder σ).xpos.getD 0 #[]).size = (inp.xpos.getD 0 #[]).size :=
    (congrArg Array.size ((tab_getD _ _ 0 _).trans (if_pos h0))).trans (ts_rows_rect inp hshape (σ 0) (hσ 0 h0)).1
  refine tsetFit_row_local solve inp _ o o' h h' ⟨rfl, rfl, rfl, rfl, rfl, rfl, hnx, hmin, hmax⟩ (σ i) i (hσ i hi)
    (by show i < (tab _ _).size; rwa [tab_size]) ?_ ?_ ?_
  · exact (tab_getD _ _ i _).trans (if_pos hi)
  · exact (tab_getD _ _ i _).trans (if_pos hi)
  · unfold tsTempivar
    rw [hnx]
    simp only [TsIn.reorder]
    cases inp.invvar <;> cases inp.inmask <;> simp only [Option.map_some, Option.map_none, tab_getD, hi, if_true]

/-- with `xmin` / `xmax` given explicitly the two hypotheses of `tsetFit_perm` hold -/
theorem tsXmin_reorder (inp : TsIn K) (σ : ℕ → ℕ) (a b : K) (ha : inp.xmin = some a) (hb : inp.xmax = some b) :
    tsXmin (inp.reorder σ) = tsXmin inp ∧ tsXmax (inp.reorder σ) = tsXmax inp := by
  unfold tsXmin tsXmax TsIn.reorder
  simp [ha, hb]

/-- `xpos.min()` depends only on the set of values -/
theorem minAll_congr (a b : Array (Array K))
    (h : ∀ v, v ∈ a.toList.flatMap Array.toList ↔ v ∈ b.toList.flatMap Array.toList) : minAll a = minAll b :=
  foldBest_congr (· < ·) (· ≤ ·) le_refl (fun _ _ _ => le_trans) (fun _ _ => le_of_lt) (fun _ _ => le_of_not_gt)
    (fun _ _ => le_antisymm) _ _ h

/-- `xpos.max()` likewise -/
theorem maxAll_congr (a b : Array (Array K))
    (h : ∀ v, v ∈ a.toList.flatMap Array.toList ↔ v ∈ b.toList.flatMap Array.toList) : maxAll a = maxAll b :=
  foldBest_congr (fun v m => m < v) (fun m v => v ≤ m) le_refl (fun _ _ _ h1 h2 => le_trans h2 h1)
    (fun _ _ => le_of_lt) (fun _ _ => le_of_not_gt) (fun _ _ h1 h2 => le_antisymm h2 h1) _ _ h

/-- the hypotheses of `tsetFit_perm` hold for every permutation of the traces, also with the default
`xmin = xpos.min()`, `xmax = xpos.max()` -/
theorem tsXminmax_reorder (inp : TsIn K) (σ : ℕ → ℕ) (hσ : ∀ i, i < inp.xpos.size → σ i < inp.xpos.size)
    (hsurj : ∀ k, k < inp.xpos.size → ∃ i, i < inp.xpos.size ∧ σ i = k) :
    tsXmin (inp.reorder σ) = tsXmin inp ∧ tsXmax (inp.reorder σ) = tsXmax inp := by
  unfold tsXmin tsXmax
  have e1 : (inp.reorder σ).xmin = inp.xmin := rfl
  have e2 : (inp.reorder σ).xmax = inp.xmax := rfl
  rw [e1, e2]
  have hm := reorder_mem inp.xpos σ hσ hsurj
  refine ⟨?_, ?_⟩
  · cases inp.xmin with
    | some v => rfl
    | none => exact minAll_congr _ _ hm
  · cases inp.xmax with
    | some v => rfl
    | none => exact maxAll_congr _ _ hm

/-- permuting the traces permutes the rows of the result - `tsetFit_perm` without `hmin`/`hmax`: any `σ` that permutes the
trace numbers, explicit or default `xmin`/`xmax` -/
theorem tsetFit_perm_full (solve : Array (Array K) → Array K → R (Array K)) (inp : TsIn K) (σ : ℕ → ℕ)
    (hσ : ∀ i, i < inp.xpos.size → σ i < inp.xpos.size)
    (hsurj : ∀ k, k < inp.xpos.size → ∃ i, i < inp.xpos.size ∧ σ i = k)
    (o o' : TsOut K) (h : tsetFit solve inp = .ok o) (h' : tsetFit solve (inp.reorder σ) = .ok o')
    (i : ℕ) (hi : i < inp.xpos.size) :
    o'.tset.coeff.getD i #[] = o.tset.coeff.getD (σ i) #[] ∧ o'.yfit.getD i #[] = o.yfit.getD (σ i) #[] ∧
      o'.outmask.getD i #[] = o.outmask.getD (σ i) #[] :=
  tsetFit_perm solve inp σ hσ (tsXminmax_reorder inp σ hσ hsurj).1 (tsXminmax_reorder inp σ hσ hsurj).2 o o' h h' i hi

/-- the hypotheses of `tsetFit_perm_full` on `σ`, for the swap of two traces -/
example (inp : TsIn ℚ) (h2 : inp.xpos.size = 2) :
    (∀ i, i < inp.xpos.size → (fun i => 1 - i) i < inp.xpos.size) ∧
    (∀ k, k < inp.xpos.size → ∃ i, i < inp.xpos.size ∧ (fun i => 1 - i) i = k) := by
  rw [h2]
  refine ⟨fun i _ => by dsimp only; omega, fun k hk => ⟨1 - k, by omega, by dsimp only; omega⟩⟩

end loop

section values
attribute [-instance] Scalar.toAdd Scalar.toSub Scalar.toMul Scalar.toDiv Scalar.toNeg Scalar.toLT Scalar.toLE
  Scalar.instOfNat Scalar.instOfScientific Scalar.decLt Scalar.decLe
attribute [local instance] fieldScalar
open Finset

/-- fit → evaluate consistency: converting positions to a trace set (`TraceSet(xpos, ypos, …)`,
any weights, mask, xmin/xmax, with or without the x-jump) and evaluating it again at the same
positions (`xy(xpos)`) succeeds and returns exactly the fitted values `yfit`, for every trace.
`func` is one of poly/legendre/chebyshev (the functions `xy` knows), `ncoeff ≥ 1`; no assumption on `solve`. -/
theorem xy_of_fit (solve : Array (Array K) → Array K → R (Array K)) (inp : TsIn K) (o : TsOut K)
    (h : tsetFit solve inp = .ok o) (f : XIn K → ℕ → R (Array (Array K))) (hf : tsetFunc inp.func = some f)
    (hnc : 1 ≤ inp.ncoeff) :
    o.tset.xy (some inp.xpos) false = .ok (inp.xpos, o.yfit) := by
  obtain ⟨-, xmin, xmax, -, -, -, -, ⟨e1, e2, e3, -, -⟩, hcs, hys, -, -⟩ := tsetFit_ok solve inp o h
  obtain ⟨φ, hker, hφ0, hspec⟩ := tsetFunc_spec inp.func f hf
  rw [xy_of_rows o.tset (some inp.xpos) inp.xpos false (fun i => o.yfit.getD i #[]) rfl fun i hi => ?_]
  · -- `xpos` has exactly `nTrace` rows, so no row of zeros is appended
    refine congrArg (fun y => Except.ok (inp.xpos, y)) (Array.ext (by rw [tab_size, hys]) fun i h1 h2 => ?_)
    simp [tab, Array.getD, h2, hcs]
  · -- one trace: the row of `xy` is the row of `yfit` (both are the kernel sum with the coefficients of that `func_fit` call)
    rw [hcs] at hi
    obtain ⟨xvec, hxv, hfit, -⟩ := tsetFit_row_is_funcFit solve inp o h i hi
    rw [e3, Bool.not_false, Bool.and_true,
      xyRow_eq o.tset f φ (e1 ▸ hf) hspec (e2 ▸ hnc) inp.xpos _ i hi xvec hxv
        ((funcFit_sizes solve _ _ hfit).1.trans e2.symm), e2]
    exact congrArg Except.ok (funcFit_yfit solve _ _ hfit rfl φ hker hφ0).symm

/-- the call of `func_fit` for trace `i` -/
noncomputable def tsFitIn (inp : TsIn K) (xvec : Array K) (i : ℕ) : FitIn K :=
  { x := xvec, y := inp.ypos.getD i #[], ncoeff := inp.ncoeff, invvar := some (tsTempivar inp i), func := inp.func }

/-- `tsetFit_row_is_funcFit` with the call named `tsFitIn`, plus what `fitWeights` / `fitIa` return for it (`tempivar`; every
coefficient free) -/
theorem tsetFit_row_setup (solve : Array (Array K) → Array K → R (Array K)) (inp : TsIn K) (o : TsOut K)
    (h : tsetFit solve inp = .ok o) (i : ℕ) (hi : i < inp.xpos.size) :
    ∃ xvec, o.tset.xnorm (inp.xpos.getD i #[]) inp.xjumplo.isSome = .ok xvec ∧
      funcFit solve (tsFitIn inp xvec i) = .ok ⟨o.tset.coeff.getD i #[], o.yfit.getD i #[]⟩ ∧
      fitWeights (tsFitIn inp xvec i) = .ok (tsTempivar inp i) ∧
      ∃ ia, fitIa (tsFitIn inp xvec i) = .ok ia ∧ ∀ k, ia.getD k true = true := by
  obtain ⟨xvec, hx, hfit, -⟩ := tsetFit_row_is_funcFit solve inp o h i hi
  have hsz := (funcFit_sizes solve _ _ hfit).2.2.2 _ rfl
  refine ⟨xvec, hx, hfit, ?_, _, rfl, fun k => ?_⟩
  · unfold fitWeights tsFitIn
    dsimp only at hsz ⊢
    rw [if_neg (by simpa using hsz)]
    rfl
  · show (Array.replicate inp.ncoeff true).getD k true = true
    by_cases hk : k < inp.ncoeff <;> simp [hk]

theorem tsetFit_coeff_size (solve : Array (Array K) → Array K → R (Array K)) (inp : TsIn K) (o : TsOut K)
    (h : tsetFit solve inp = .ok o) (i : ℕ) (hi : i < inp.xpos.size) : (o.tset.coeff.getD i #[]).size = inp.ncoeff := by
  obtain ⟨xvec, -, hfit, -⟩ := tsetFit_row_is_funcFit solve inp o h i hi
  exact (funcFit_sizes solve _ _ hfit).1

/-- the final coefficients of every trace are the weighted-least-squares optimum over the kept points: with
weights `w = invvar * inmask ≥ 0` the coefficient row `i` of the trace set minimises `Σ_j w_j (ypos[i,j] - Σ_k c_k φ_k(xnorm x_ij))²`
over all coefficient vectors (the kept points are those of non-zero weight: nothing else is ever removed, `rejectCall_none`) -/
theorem tsetFit_optimum (solve : Array (Array K) → Array K → R (Array K)) (hsolve : SolveContract solve)
    (inp : TsIn K) (o : TsOut K) (h : tsetFit solve inp = .ok o) (i : ℕ) (hi : i < inp.xpos.size) :
    ∃ xvec, o.tset.xnorm (inp.xpos.getD i #[]) inp.xjumplo.isSome = .ok xvec ∧
      ∀ (legarr : Array (Array K)), 2 ≤ (goodIdx (tsTempivar inp i)).length →
        fitBasis (tsFitIn inp xvec i) (ncfit (tsFitIn inp xvec i) (tsTempivar inp i)) = .ok legarr →
        (∀ j, j < xvec.size → 0 ≤ at1 (tsTempivar inp i) j) →
        (∀ k, k < ncfit (tsFitIn inp xvec i) (tsTempivar inp i) →
          ∑ j ∈ range xvec.size, at2 legarr k j * (at2 legarr k j * at1 (tsTempivar inp i) j) ≠ 0) →
        ∀ z : ℕ → K,
          wssr xvec.size (ncfit (tsFitIn inp xvec i) (tsTempivar inp i)) (at2 legarr) (at1 (tsTempivar inp i))
              (at1 (inp.ypos.getD i #[])) (at1 (o.tset.coeff.getD i #[]))
            ≤ wssr xvec.size (ncfit (tsFitIn inp xvec i) (tsTempivar inp i)) (at2 legarr) (at1 (tsTempivar inp i))
              (at1 (inp.ypos.getD i #[])) z := by
  obtain ⟨xvec, hx, hfit, hw, ia, hia, hall⟩ := tsetFit_row_setup solve inp o h i hi
  exact ⟨xvec, hx, fun legarr hg hb hpos hnz z =>
    funcFit_optimum solve hsolve (tsFitIn inp xvec i) _ hfit _ _ legarr hw hia hg hb hpos
      (fun k hk _ => hnz k hk) z (fun k _ hf => by rw [hall k] at hf; cases hf)⟩

/-- a point masked by `inmask` or of zero inverse variance has weight 0 in the fit of its trace -/
theorem tsTempivar_zero (inp : TsIn K) (i j : ℕ) (hj : j < (inp.xpos.getD 0 #[]).size)
    (h0 : (∃ v, inp.invvar = some v ∧ at2 v i j = 0) ∨ (∃ m, inp.inmask = some m ∧ (m.getD i #[]).getD j false = false)) :
    at1 (tsTempivar inp i) j = 0 := by
  unfold tsTempivar
  rcases h0 with ⟨v, hv, hz⟩ | ⟨m, hm, hz⟩
  · rw [hv]
    have hz' : at1 (v.getD i #[]) j = 0 := hz
    cases inp.inmask <;> simp only [at1_tab _ _ _ hj, hz'] <;> exact zero_mul _
  · rw [hm]
    simp only [at1_tab _ _ _ hj, hz]
    rw [if_neg Bool.false_ne_true, scalar_zero]
    exact mul_zero _

/-- points of zero weight never influence the coefficients: replace `ypos` of trace `i` at points where
`invvar * inmask = 0` by anything (`y'`): the coefficients of the trace still satisfy the weighted normal equations of the
changed data (these determine them under `funcFit_exact`'s hypothesis; no theorem here combines the two) -/
theorem tsetFit_zero_weight (solve : Array (Array K) → Array K → R (Array K)) (hsolve : SolveContract solve)
    (inp : TsIn K) (o : TsOut K) (h : tsetFit solve inp = .ok o) (i : ℕ) (hi : i < inp.xpos.size) :
    ∃ xvec, o.tset.xnorm (inp.xpos.getD i #[]) inp.xjumplo.isSome = .ok xvec ∧
      ∀ (legarr : Array (Array K)), 2 ≤ (goodIdx (tsTempivar inp i)).length →
        fitBasis (tsFitIn inp xvec i) (ncfit (tsFitIn inp xvec i) (tsTempivar inp i)) = .ok legarr →
        (∀ k, k < ncfit (tsFitIn inp xvec i) (tsTempivar inp i) →
          ∑ j ∈ range xvec.size, at2 legarr k j * (at2 legarr k j * at1 (tsTempivar inp i) j) ≠ 0) →
        ∀ y' : ℕ → K, (∀ j, j < xvec.size → at1 (tsTempivar inp i) j ≠ 0 → y' j = at1 (inp.ypos.getD i #[]) j) →
          ∀ k, k < ncfit (tsFitIn inp xvec i) (tsTempivar inp i) →
            ∑ j ∈ range xvec.size, at1 (tsTempivar inp i) j * at2 legarr k j *
              (y' j - ∑ l ∈ range (ncfit (tsFitIn inp xvec i) (tsTempivar inp i)),
                at2 legarr l j * at1 (o.tset.coeff.getD i #[]) l) = 0 := by
  obtain ⟨xvec, hx, hfit, hw, ia, hia, hall⟩ := tsetFit_row_setup solve inp o h i hi
  exact ⟨xvec, hx, fun legarr hg hb hnz y' hy' k hk =>
    funcFit_zero_weight solve hsolve (tsFitIn inp xvec i) _ hfit _ _ legarr hw hia hg hb
      (fun k hk _ => hnz k hk) y' hy' k hk (hall k)⟩

/-- exact data are recovered, trace by trace: if the values of trace `i` are exactly a combination `Σ_k c0_k φ_k` of the
first `m = min(ngood, ncoeff)` basis functions at the normalised positions, and the weighted normal matrix is positive
definite, the coefficient row is `c0`, padded with zeros.  Not in the audited list; kept for C19's `fittedImg_const`, as is
`tsetFit_coeff_size` -/
theorem tsetFit_exact (solve : Array (Array K) → Array K → R (Array K)) (hsolve : SolveContract solve)
    (inp : TsIn K) (o : TsOut K) (h : tsetFit solve inp = .ok o) (i : ℕ) (hi : i < inp.xpos.size) :
    ∃ xvec, o.tset.xnorm (inp.xpos.getD i #[]) inp.xjumplo.isSome = .ok xvec ∧
      ∀ φ m, kernelOf inp.func = some φ → 2 ≤ (goodIdx (tsTempivar inp i)).length →
        m = min (goodIdx (tsTempivar inp i)).length inp.ncoeff →
        (∀ d : ℕ → K, ∑ j ∈ range xvec.size, at1 (tsTempivar inp i) j * (∑ k ∈ range m, φ (at1 xvec j) k * d k) ^ 2 = 0 →
          ∀ k, k < m → d k = 0) →
        ∀ c0 : ℕ → K, (∀ j, j < xvec.size → at1 (inp.ypos.getD i #[]) j = ∑ k ∈ range m, φ (at1 xvec j) k * c0 k) →
          (∀ k, k < m → at1 (o.tset.coeff.getD i #[]) k = c0 k) ∧ ∀ k, m ≤ k → at1 (o.tset.coeff.getD i #[]) k = 0 := by
  obtain ⟨xvec, hx, hfit, hw, ia, hia, hall⟩ := tsetFit_row_setup solve inp o h i hi
  refine ⟨xvec, hx, fun φ m hφ hg hm hpd c0 hex => ?_⟩
  obtain ⟨-, w', ia', hw', hia', hrest⟩ := funcFit_normal solve _ _ hfit
  obtain rfl := Except.ok.inj (hw.symm.trans hw')
  obtain ⟨legarr, hb, -, hpad, -, -⟩ := hrest hg
  obtain ⟨φ', hφ', hent⟩ := fitBasis_entry _ _ _ hb
  obtain rfl : φ = φ' := Option.some.inj (hφ.symm.trans hφ')
  have hm' : ncfit (tsFitIn inp xvec i) (tsTempivar inp i) = m := hm.symm
  rw [hm'] at hb hpad hent
  -- the design rows of this call are the kernel itself (no `inputfunc`)
  have hsum : ∀ (d : ℕ → K) j, j < xvec.size →
      ∑ k ∈ range m, at2 legarr k j * d k = ∑ k ∈ range m, φ (at1 xvec j) k * d k := fun d j hj =>
    Finset.sum_congr rfl fun k hk => by rw [hent k j (Finset.mem_range.mp hk) hj]; exact congrArg (· * d k) (mul_one _)
  refine ⟨?_, hpad⟩
  have := funcFit_exact solve hsolve (tsFitIn inp xvec i) _ hfit _ ia legarr hw hia hg (hm'.symm ▸ hb)
  rw [hm'] at this
  exact this
    (fun d _ hd => hpd d (Eq.trans (Finset.sum_congr rfl fun j hj => by rw [hsum d j (Finset.mem_range.mp hj)]) hd))
    c0 (fun k _ hf => by rw [hall k] at hf; cases hf)
    (fun j hj => (hex j hj).trans (hsum c0 j hj).symm)

/-- reading back what was stored evaluates identically: the record a trace set is stored as (`toRec`) is accepted by
the FITS constructor, and the trace set read back gives the same `xy` for every `xpos` (or the default grid) and either
`ignore_jump` - provided a set that has `xjumplo` also has `xjumphi` and `xjumpval` (as every BOSS file does) -/
theorem ofRec_toRec (t : TSet K) (hj : t.xjumplo.isSome = true → t.xjumphi.isSome = true ∧ t.xjumpval.isSome = true) :
    ∃ t', TSet.ofRec t.toRec = .ok t' ∧ t'.coeff = t.coeff ∧ t'.ncoeff = t.ncoeff ∧ t'.func = t.func ∧
      t'.xmin = t.xmin ∧ t'.xmax = t.xmax ∧ ∀ xpos ign, t'.xy xpos ign = t.xy xpos ign := by
  obtain ⟨func, xmin, xmax, coeff, ncoeff, lo, hi, v⟩ := t
  cases lo with
  | some lo =>
    obtain ⟨h1, h2⟩ := hj rfl
    obtain ⟨hi, rfl⟩ := Option.isSome_iff_exists.mp h1
    obtain ⟨v, rfl⟩ := Option.isSome_iff_exists.mp h2
    -- the seven columns are found by name: both sides evaluate to the same record
    exact ⟨_, rfl, rfl, rfl, rfl, rfl, rfl, fun _ _ => rfl⟩
  | none =>
    -- without XJUMPLO the other two jump fields are not stored; `xy` never reads them then
    refine ⟨⟨func, xmin, xmax, coeff, ncoeff, none, none, none⟩, rfl, rfl, rfl, rfl, rfl, rfl, fun xpos ign => ?_⟩
    have hrow : (⟨func, xmin, xmax, coeff, ncoeff, none, none, none⟩ : TSet K).xyRow =
        (⟨func, xmin, xmax, coeff, ncoeff, none, hi, v⟩ : TSet K).xyRow := by
      funext xp dj i
      cases dj <;> rfl
    simp only [TSet.xy, TSet.xyPos, TSet.grid, TSet.nx, hrow]

/-- the hypothesis of `ofRec_toRec` on a BOSS-style set (all three jump fields) -/
example : ∃ t', TSet.ofRec (⟨"legendre", 0, 4127, #[#[1, 2]], 2, some 2055.5, some 2057.5, some 0.25⟩ : TSet ℚ).toRec = .ok t' ∧
    t'.coeff = #[#[1, 2]] := by
  obtain ⟨t', h, hc, -⟩ := ofRec_toRec (⟨"legendre", 0, 4127, #[#[1, 2]], 2, some 2055.5, some 2057.5, some 0.25⟩ : TSet ℚ)
    (fun _ => ⟨rfl, rfl⟩)
  exact ⟨t', h, hc⟩

end values
end PydlVerif.C13
