/-
C05: `spheregroup` computes the friends-of-friends groups (Model/Fof.lean, Model/FofGrid.lean).  `groups` labels the connected
components of a closeness relation; `friendsoffriends` runs it per cell and merges the per-cell partitions with a union-find,
which is the component partition of all points as soon as every point lies in a cell and every close pair shares one
(`CoverFoF`); the grid that spheregroup builds meets `CoverFoF` (over ℝ, on the grid theorems of C04).
-/
import PydlVerif.Lemmas.FofConn
import PydlVerif.Lemmas.FofMerge
import PydlVerif.Lemmas.FofGridRun
import PydlVerif.Lemmas.FofGridEdge
import Mathlib.Tactic.IntervalCases
namespace PydlVerif.C05
open PydlVerif.Fof

/-- The rebuilt lists and the count (groups 478-490, friendsoffriends 353-363, spheregroup 570-582): for ANY labelling
with labels `< m`, `first[:] = -1; for i in n-1..0: next[i] = first[g[i]]; first[g[i]] = i` and the counting loop give
the exact sorted member lists and sizes; beyond the last group first is -1 and mult keeps its initial value
(0 in friendsoffriends / spheregroup). -/
theorem lists_of_labels (g : Arr Nat) (n m : Nat) (nx : Arr (Option Nat)) (mult0 : Arr Nat) (reset : Bool)
    (hlab : ∀ x, x < n → g.get x < m) (h0 : reset = false → ∀ c, mult0.get c = 0) :
    (∀ c, match (link g n ⟨Arr.const none, nx⟩).first.get c with
          | none => ∀ x, x < n → g.get x ≠ c
          | some y => y < n ∧ g.get y = c ∧ ∀ x, x < y → g.get x ≠ c) ∧
    (∀ x, x < n → match (link g n ⟨Arr.const none, nx⟩).next.get x with
          | none => ∀ z, x < z → z < n → g.get z ≠ g.get x
          | some y => x < y ∧ y < n ∧ g.get y = g.get x ∧ ∀ z, x < z → z < y → g.get z ≠ g.get x) ∧
    (∀ c, walkEnds (link g n ⟨Arr.const none, nx⟩).next n ((link g n ⟨Arr.const none, nx⟩).first.get c) = true ∧
          walk (link g n ⟨Arr.const none, nx⟩).next n ((link g n ⟨Arr.const none, nx⟩).first.get c)
            = (List.range n).filter (fun x => g.get x = c)) ∧
    (∀ c, c < m → (countAll n (link g n ⟨Arr.const none, nx⟩) reset m mult0).get c
            = ((List.range n).filter (fun x => g.get x = c)).length) ∧
    (∀ c, m ≤ c → (link g n ⟨Arr.const none, nx⟩).first.get c = none ∧
          (countAll n (link g n ⟨Arr.const none, nx⟩) reset m mult0).get c = mult0.get c) := by
  have hL := isLists_rebuild g n nx
  refine ⟨?_, ?_, ?_, ?_, ?_⟩
  · intro c
    split
    · rename_i hc
      exact fun x hx => hL.first_none c hc x (Nat.zero_le _) hx
    · rename_i y hc
      obtain ⟨_, b, c', d⟩ := hL.first_some c y hc
      exact ⟨b, c', fun x hx => d x (Nat.zero_le _) hx⟩
  · intro x hx
    split
    · rename_i hc
      exact hL.next_none x (Nat.zero_le _) hx hc
    · rename_i y hc
      exact hL.next_some x (Nat.zero_le _) hx y hc
  · intro c
    exact walk_first g n n _ hL (Nat.le_refl _) c
  · intro c hc
    rw [countAll_get, (walk_first g n n _ hL (Nat.le_refl _) c).2]
    cases reset with
    | true => simp [hc]
    | false => simp [hc, h0 rfl c]
  · intro c hc
    constructor
    · cases hf : (link g n ⟨Arr.const none, nx⟩).first.get c with
      | none => rfl
      | some y =>
        obtain ⟨_, b, c', _⟩ := hL.first_some c y hf
        have := hlab y b
        omega
    · rw [countAll_get]
      have : ¬ c < m := by omega
      simp [this]

/-- The renumbering pass (groups 464-474, spheregroup 557-566), run on the member lists of any labelling: it terminates,
keeps the partition, uses exactly the labels `0 … cnt-1`, and numbers the groups in order of their first member. -/
theorem renumber_first_appearance (g0 : Arr Nat) (n : Nat) (L : Lists) (hL : IsLists g0 0 n L) :
    (renumber n L g0).ok = true ∧
    (∀ x y, x < n → y < n → ((renumber n L g0).inG.get x = (renumber n L g0).inG.get y ↔ g0.get x = g0.get y)) ∧
    (∀ x, x < n → (renumber n L g0).inG.get x < (renumber n L g0).cnt) ∧
    (∀ c, c < (renumber n L g0).cnt → ∃ z, z < n ∧ (renumber n L g0).inG.get z = c) ∧
    (∀ x, x < n → ∀ c, c < (renumber n L g0).inG.get x → ∃ z, z < x ∧ (renumber n L g0).inG.get z = c) := by
  obtain ⟨hok, hcnt, hlab⟩ := renumber_rank g0 n L hL
  have hle : ∀ x, x < n → (firstMember g0 L).get x ≤ x := fun x hx => (firstMember_spec hL x hx).1
  refine ⟨hok, ?_, ?_, ?_, ?_⟩
  · intro x y hx hy
    rw [hlab x hx, hlab y hy, ← firstMember_eq_iff hL x y hx hy]
    exact ⟨nroots_inj _ _ _ (firstMember_root hL x hx) (firstMember_root hL y hy), fun e => by rw [e]⟩
  · intro x hx
    rw [hlab x hx, hcnt]
    exact nroots_lt _ _ _ (firstMember_root hL x hx) (by have := hle x hx; omega)
  · intro c hc
    rw [hcnt] at hc
    obtain ⟨r, hr, hroot, hrc⟩ := nroots_surj _ n c hc
    exact ⟨r, hr, by rw [hlab r hr, hroot, hrc]⟩
  · intro x hx c hc
    rw [hlab x hx] at hc
    obtain ⟨r, hr, hroot, hrc⟩ := nroots_surj _ _ c hc
    have := hle x hx
    exact ⟨r, by omega, by rw [hlab r (by omega), hroot, hrc]⟩

theorem renumber_cnt_eq (g0 : Arr Nat) (n : Nat) (L : Lists) (hL : IsLists g0 0 n L) (m : Nat)
    (hlt : ∀ x, x < n → g0.get x < m) (hsurj : ∀ c, c < m → ∃ x, x < n ∧ g0.get x = c) :
    (renumber n L g0).cnt = m := by
  rw [(renumber_rank g0 n L hL).2.1, nroots, ← List.length_map (f := g0.get), ← List.length_range (n := m)]
  apply List.Perm.length_eq
  rw [List.perm_ext_iff_of_nodup ?_ List.nodup_range]
  · intro c
    simp only [List.mem_map, List.mem_filter, List.mem_range, decide_eq_true_eq]
    constructor
    · rintro ⟨x, ⟨hx, _⟩, rfl⟩
      exact hlt x hx
    · intro hc
      obtain ⟨x, hx, rfl⟩ := hsurj c hc
      have := firstMember_spec hL x hx
      exact ⟨_, ⟨by omega, firstMember_root hL x hx⟩, this.2⟩
  · refine (List.nodup_range.filter _).map_on fun x hx y hy e => ?_
    simp only [List.mem_filter, List.mem_range, decide_eq_true_eq] at hx hy
    rw [← hx.2, ← hy.2]
    exact firstMember_congr g0 L e

/-- The second pass of the cross-chunk merge (friendsoffriends 341-350).  Under the design invariant `mapGroups[i] ≤ i`
a root carries the number of roots below it, every other provisional label the final number of the label it points to
(hence, along `i > mapGroups[i] > …`, of its root), and `nGroups` is the number of roots. -/
theorem resolve_roots (m : Arr Nat) (nMap : Nat) (hle : ∀ i, i < nMap → m.get i ≤ i) :
    (∀ i, i < nMap → m.get i = i → (resolve nMap m).1.get i = nroots m i) ∧
    (∀ i, i < nMap → m.get i ≠ i → (resolve nMap m).1.get i = (resolve nMap m).1.get (m.get i)) ∧
    (resolve nMap m).2 = nroots m nMap := by
  have h := resInv_all m nMap hle nMap (Nat.le_refl _)
  exact ⟨h.root, h.child, h.cnt⟩

/-- Class `groups`, all of `__init__`, for every size and every REFLEXIVE relation `close` (no symmetry needed).  Every
`while` loop of the constructor terminates (`ok`; that the labels stay `< nGroups ≤ i` during the main loop, so that no index
leaves the arrays, is part of the loop invariant `Fof.GInv` and not of this statement); the final `inGroup` has the partition
of the labelling at the end of the main loop, with labels exactly `0 … nGroups-1` in order of first member;
firstGroup/nextGroup are the sorted member lists, `multGroup[c]` the group sizes, `firstGroup[c] = -1` beyond the last group. -/
theorem groups_lists (n : Nat) (close : Nat → Nat → Bool) (hrefl : ∀ i, i < n → close i i = true) :
    (groupsRun n close).ok = true ∧
    (∀ x y, x < n → y < n → ((groupsRun n close).inG.get x = (groupsRun n close).inG.get y ↔
        (groupsLoop n close).inG.get x = (groupsLoop n close).inG.get y)) ∧
    (∀ x, x < n → (groupsRun n close).inG.get x < (groupsRun n close).nG) ∧
    (∀ c, c < (groupsRun n close).nG → ∃ z, z < n ∧ (groupsRun n close).inG.get z = c) ∧
    (∀ x, x < n → ∀ c, c < (groupsRun n close).inG.get x → ∃ z, z < x ∧ (groupsRun n close).inG.get z = c) ∧
    IsLists (groupsRun n close).inG 0 n (groupsRun n close).L ∧
    (∀ c, walk (groupsRun n close).L.next n ((groupsRun n close).L.first.get c)
            = (List.range n).filter (fun x => (groupsRun n close).inG.get x = c)) ∧
    (∀ c, c < (groupsRun n close).nG → (groupsRun n close).mult.get c
            = ((List.range n).filter (fun x => (groupsRun n close).inG.get x = c)).length) ∧
    (∀ c, (groupsRun n close).nG ≤ c → (groupsRun n close).L.first.get c = none) := by
  have h : GInv close n n (groupsLoop n close) := gInv_all n close hrefl n (Nat.le_refl _)
  obtain ⟨r1, r2, r3, r4, r5⟩ := renumber_first_appearance (groupsLoop n close).inG n (groupsLoop n close).L h.lists
  obtain ⟨_, _, l3, l4, l5⟩ := lists_of_labels (renumber n (groupsLoop n close).L (groupsLoop n close).inG).inG n
    (renumber n (groupsLoop n close).L (groupsLoop n close).inG).cnt (groupsLoop n close).L.next
    (groupsLoop n close).mult true r3 (fun e => by cases e)
  refine ⟨?_, r2, r3, r4, r5, isLists_rebuild _ _ _, fun c => (l3 c).2, l4, fun c hc => (l5 c hc).1⟩
  show ((groupsLoop n close).ok && (renumber n (groupsLoop n close).L (groupsLoop n close).inG).ok &&
    countOk n _ _) = true
  rw [h.ok, r1, countOk_of (isLists_rebuild _ _ _)]
  rfl

/-- Two points with the same final label are joined by a chain of close pairs.  `hsym` is not used: a chain may take a
close pair in either direction. -/
theorem groups_sound (n : Nat) (close : Nat → Nat → Bool) (hrefl : ∀ i, i < n → close i i = true)
    (hsym : ∀ a b, a < n → b < n → close a b = close b a) (a b : Nat) (ha : a < n) (hb : b < n)
    (e : (groupsRun n close).inG.get a = (groupsRun n close).inG.get b) : Conn close n a b := by
  have h : GInv close n n (groupsLoop n close) := gInv_all n close hrefl n (Nat.le_refl _)
  exact h.sound a b ha hb (((groups_lists n close hrefl).2.1 a b ha hb).1 e)

/-- Class `groups`: a close pair gets the same final label. -/
theorem groups_complete (n : Nat) (close : Nat → Nat → Bool) (hrefl : ∀ i, i < n → close i i = true)
    (hsym : ∀ a b, a < n → b < n → close a b = close b a) (a b : Nat) (ha : a < n) (hb : b < n)
    (hc : close a b = true) : (groupsRun n close).inG.get a = (groupsRun n close).inG.get b := by
  have h : GInv close n n (groupsLoop n close) := gInv_all n close hrefl n (Nat.le_refl _)
  exact ((groups_lists n close hrefl).2.1 a b ha hb).2 (h.compl hsym a b ha hb hc)

/-- The labelling computed by `groups` IS the partition into connected components of `close`; with `groups_lists`
this determines all four output arrays. -/
theorem groups_fof (n : Nat) (close : Nat → Nat → Bool) (hrefl : ∀ i, i < n → close i i = true)
    (hsym : ∀ a b, a < n → b < n → close a b = close b a) (a b : Nat) (ha : a < n) (hb : b < n) :
    (groupsRun n close).inG.get a = (groupsRun n close).inG.get b ↔ Conn close n a b := by
  constructor
  · exact groups_sound n close hrefl hsym a b ha hb
  · intro hconn
    induction hconn with
    | refl => rfl
    | tail _ hb' hc e ih =>
      rw [ih hb']
      rcases e with e | e
      · exact groups_complete n close hrefl hsym _ _ hb' hc e
      · exact (groups_complete n close hrefl hsym _ _ hc hb' e).symm

theorem groups_nG_le (n : Nat) (close : Nat → Nat → Bool) (hrefl : ∀ i, i < n → close i i = true) :
    (groupsRun n close).nG ≤ n := by
  have h : GInv close n n (groupsLoop n close) := gInv_all n close hrefl n (Nat.le_refl _)
  show (renumber n (groupsLoop n close).L (groupsLoop n close).inG).cnt ≤ n
  rw [(renumber_rank _ n _ h.lists).2.1]
  exact nroots_le _ n

/-- the value `spheregroup` returns (for n ≠ 1) -/
def sphereOut (n : Nat) (close : Nat → Nat → Bool) (chunks : List (Array Nat)) : Out :=
  let F := friendsRun n close chunks
  let r := renumber n F.L F.inG
  let L := link r.inG n ⟨Arr.const none, F.L.next⟩
  ⟨r.inG, countAll n L false F.nG (Arr.const 0), L, F.nG, F.ok && r.ok && countOk n L F.nG⟩

theorem sphereRun_eq (n : Nat) (close : Nat → Nat → Bool) (chunks : List (Array Nat)) (hn : n ≠ 1) :
    sphereRun n close chunks = .ok (sphereOut n close chunks) := by
  simp only [sphereRun, hn, if_false]; rfl

theorem friends_lists (n : Nat) (close : Nat → Nat → Bool) (chunks : List (Array Nat)) :
    IsLists (friendsRun n close chunks).inG 0 n (friendsRun n close chunks).L := by
  simp only [friendsRun, freeze_eq]
  exact isLists_rebuild _ _ _

/-- `spheregroup` 554-583 on top of friendsoffriends 353-363, for every size ≠ 1, every relation and ARBITRARY cell lists
(no `CoverFoF`): the final `ingroup` has the partition of the labelling produced by the cross-chunk merge, numbered in order
of first member, with exact firstgroup/nextgroup; multgroup[c] is the size of group c below the merge's group count and 0
beyond. -/
theorem sphere_lists_partial (n : Nat) (close : Nat → Nat → Bool) (chunks : List (Array Nat)) (hn : n ≠ 1) :
    ∃ o, sphereRun n close chunks = .ok o ∧
    (∀ x y, x < n → y < n → (o.inG.get x = o.inG.get y ↔
        (friendsRun n close chunks).inG.get x = (friendsRun n close chunks).inG.get y)) ∧
    (∀ x, x < n → ∀ c, c < o.inG.get x → ∃ z, z < x ∧ o.inG.get z = c) ∧
    IsLists o.inG 0 n o.L ∧
    (∀ c, walk o.L.next n (o.L.first.get c) = (List.range n).filter (fun x => o.inG.get x = c)) ∧
    (∀ c, o.mult.get c = if c < (friendsRun n close chunks).nG
        then ((List.range n).filter (fun x => o.inG.get x = c)).length else 0) := by
  have hF := friends_lists n close chunks
  obtain ⟨_, r2, _, _, r5⟩ := renumber_first_appearance _ n _ hF
  refine ⟨_, sphereRun_eq n close chunks hn, r2, r5, isLists_rebuild _ _ _, ?_, ?_⟩
  · intro c
    exact (walk_first _ n n _ (isLists_rebuild _ _ _) (Nat.le_refl _) c).2
  · intro c
    show (countAll n _ false _ (Arr.const 0)).get c = _
    rw [countAll_get, (walk_first _ n n _ (isLists_rebuild _ _ _) (Nat.le_refl _) c).2]
    simp only [Bool.false_eq_true, if_false, const_get, Nat.zero_add]
    rfl

/-- admissible cell lists: indices are points, no point twice in a cell, and the occupancy does not exceed the
`9*nPoints` provisional labels the code allocates (beyond that the code raises IndexError, the model answers `ok = false`) -/
structure Cells (n : Nat) (chunks : List (Array Nat)) : Prop where
  lt : ∀ ch, ch ∈ chunks → ∀ a, a < ch.size → cget ch a < n
  inj : ∀ ch, ch ∈ chunks → ∀ a b, a < ch.size → b < ch.size → cget ch a = cget ch b → a = b
  cap : (chunks.map Array.size).sum ≤ 9 * n

/-- the hypothesis on the grid: every point is in at least one cell and every close pair shares a cell -/
structure CoverFoF (n : Nat) (close : Nat → Nat → Bool) (chunks : List (Array Nat)) : Prop where
  cells : Cells n chunks
  every : ∀ p, p < n → ∃ ch, ch ∈ chunks ∧ ∃ a, a < ch.size ∧ cget ch a = p
  pair : ∀ p q, p < n → q < n → close p q = true →
    ∃ ch, ch ∈ chunks ∧ ∃ a b, a < ch.size ∧ b < ch.size ∧ cget ch a = p ∧ cget ch b = q

/-- one cell, what the merge needs of it: `groups` raises no flag on it; its groups (`chunkGroups`) are duplicate-free and
non-empty, at most as many as entries, and put two entries together iff `groups` gave them one label -/
theorem chunk_facts (close : Nat → Nat → Bool) (chunk : Array Nat)
    (hrefl : ∀ a, a < chunk.size → close (cget chunk a) (cget chunk a) = true)
    (hinj : ∀ a b, a < chunk.size → b < chunk.size → cget chunk a = cget chunk b → a = b) :
    (groupsRun chunk.size (cellClose close chunk)).ok = true ∧
    countOk chunk.size (groupsRun chunk.size (cellClose close chunk)).L
      (groupsRun chunk.size (cellClose close chunk)).nG = true ∧
    (∀ g, g ∈ chunkGroups close chunk → g.Nodup ∧ g ≠ []) ∧
    (chunkGroups close chunk).length ≤ chunk.size ∧
    (∀ x y, (∃ g, g ∈ chunkGroups close chunk ∧ x ∈ g ∧ y ∈ g) ↔ ∃ a b, a < chunk.size ∧ b < chunk.size ∧
      cget chunk a = x ∧ cget chunk b = y ∧ (groupsRun chunk.size (cellClose close chunk)).inG.get a =
        (groupsRun chunk.size (cellClose close chunk)).inG.get b) := by
  obtain ⟨g1, _, g3, g4, _, g6, g7, _, _⟩ := groups_lists chunk.size (cellClose close chunk) hrefl
  have hle := groups_nG_le chunk.size (cellClose close chunk) hrefl
  generalize hG : groupsRun chunk.size (cellClose close chunk) = G at g1 g3 g4 g6 g7 hle
  have hmem : ∀ k x, x ∈ walk G.L.next chunk.size (G.L.first.get k) ↔ x < chunk.size ∧ G.inG.get x = k :=
    fun k x => mem_walk_first G.inG chunk.size chunk.size G.L g6 (Nat.le_refl _) k x
  have hcg : chunkGroups close chunk = (List.range G.nG).map (fun k =>
      (walk G.L.next chunk.size (G.L.first.get k)).map (cget chunk)) := by
    unfold chunkGroups; rw [hG]
  refine ⟨g1, countOk_of g6 _, ?_, ?_, ?_⟩
  · intro g hg
    rw [hcg] at hg
    obtain ⟨k, hk, rfl⟩ := List.mem_map.1 hg
    constructor
    · rw [g7 k]
      refine (List.nodup_range.filter _).map_on (fun a ha b hb e => ?_)
      exact hinj a b (List.mem_range.1 (List.mem_filter.1 ha).1) (List.mem_range.1 (List.mem_filter.1 hb).1) e
    · obtain ⟨z, hz, hzk⟩ := g4 k (List.mem_range.1 hk)
      exact List.ne_nil_of_mem (List.mem_map.2 ⟨z, (hmem k z).2 ⟨hz, hzk⟩, rfl⟩)
  · rw [hcg, List.length_map, List.length_range]
    exact hle
  · intro x y
    rw [hcg]
    constructor
    · rintro ⟨g, hg, hx, hy⟩
      obtain ⟨k, _, rfl⟩ := List.mem_map.1 hg
      obtain ⟨a, ha, rfl⟩ := List.mem_map.1 hx
      obtain ⟨b, hb, rfl⟩ := List.mem_map.1 hy
      obtain ⟨a1, a2⟩ := (hmem k a).1 ha
      obtain ⟨b1, b2⟩ := (hmem k b).1 hb
      exact ⟨a, b, a1, b1, rfl, rfl, a2.trans b2.symm⟩
    · rintro ⟨a, b, ha, hb, rfl, rfl, hab⟩
      exact ⟨_, List.mem_map.2 ⟨G.inG.get a, List.mem_range.2 (g3 a ha), rfl⟩,
        List.mem_map.2 ⟨a, (hmem _ a).2 ⟨ha, rfl⟩, rfl⟩, List.mem_map.2 ⟨b, (hmem _ b).2 ⟨hb, hab.symm⟩, rfl⟩⟩

/-- the per-cell "same group" relation, on global indices -/
def SameCell (close : Nat → Nat → Bool) (chunks : List (Array Nat)) (x y : Nat) : Prop :=
  ∃ ch, ch ∈ chunks ∧ ∃ a b, a < ch.size ∧ b < ch.size ∧ cget ch a = x ∧ cget ch b = y ∧
    (groupsRun ch.size (cellClose close ch)).inG.get a = (groupsRun ch.size (cellClose close ch)).inG.get b

theorem mergeChunk_flat (n : Nat) (close : Nat → Nat → Bool) (s : MS) (chunk : Array Nat)
    (hrefl : ∀ a, a < chunk.size → close (cget chunk a) (cget chunk a) = true)
    (hinj : ∀ a b, a < chunk.size → b < chunk.size → cget chunk a = cget chunk b → a = b) :
    mergeChunk n close s chunk = (chunkGroups close chunk).foldl (mergeGroup n) s := by
  obtain ⟨c1, c2, _, c4, _⟩ := chunk_facts close chunk hrefl hinj
  rw [mergeChunk_eq, c1, c2]
  split
  · have hnil : chunkGroups close chunk = [] := List.eq_nil_of_length_eq_zero (by omega)
    rw [hnil]
    rfl
  · simp only [Bool.and_true]

/-- the partition generated by all per-cell groupings, cells in the loop order of the code -/
def joinAll (close : Nat → Nat → Bool) (chunks : List (Array Nat)) (J : Nat → Nat → Prop) : Nat → Nat → Prop :=
  (chunks.flatMap (chunkGroups close)).foldl Jn J

theorem mergeAll_flat (n : Nat) (close : Nat → Nat → Bool) (chunks : List (Array Nat))
    (hrefl : ∀ ch, ch ∈ chunks → ∀ a, a < ch.size → close (cget ch a) (cget ch a) = true)
    (hinj : ∀ ch, ch ∈ chunks → ∀ a b, a < ch.size → b < ch.size → cget ch a = cget ch b → a = b) (s : MS) :
    chunks.foldl (mergeChunk n close) s = (chunks.flatMap (chunkGroups close)).foldl (mergeGroup n) s := by
  induction chunks generalizing s with
  | nil => rfl
  | cons ch chunks ih =>
    rw [List.foldl_cons, List.flatMap_cons, List.foldl_append,
      mergeChunk_flat n close s ch (hrefl ch List.mem_cons_self) (hinj ch List.mem_cons_self),
      ih (fun c hc => hrefl c (List.mem_cons_of_mem _ hc)) (fun c hc => hinj c (List.mem_cons_of_mem _ hc))]

/-- the groups of all cells in loop order meet the hypotheses of `mergeGroups_fold`, and a point occurs in one iff in a cell -/
theorem allGroups_facts (close : Nat → Nat → Bool) (chunks : List (Array Nat))
    (hrefl : ∀ ch, ch ∈ chunks → ∀ a, a < ch.size → close (cget ch a) (cget ch a) = true)
    (hinj : ∀ ch, ch ∈ chunks → ∀ a b, a < ch.size → b < ch.size → cget ch a = cget ch b → a = b) :
    (∀ g, g ∈ chunks.flatMap (chunkGroups close) → g.Nodup ∧ g ≠ []) ∧
    (chunks.flatMap (chunkGroups close)).length ≤ (chunks.map Array.size).sum ∧
    (∀ x, (∃ g, g ∈ chunks.flatMap (chunkGroups close) ∧ x ∈ g) ↔
      ∃ ch, ch ∈ chunks ∧ ∃ a, a < ch.size ∧ cget ch a = x) := by
  have hcf := fun ch hch => chunk_facts close ch (hrefl ch hch) (hinj ch hch)
  refine ⟨fun g hg => ?_, ?_, fun x => ⟨?_, ?_⟩⟩
  · obtain ⟨ch, hch, hg'⟩ := List.mem_flatMap.1 hg
    exact (hcf ch hch).2.2.1 g hg'
  · clear hcf
    induction chunks with
    | nil => exact Nat.le_refl _
    | cons ch chunks ih =>
      have h1 := (chunk_facts close ch (hrefl ch List.mem_cons_self) (hinj ch List.mem_cons_self)).2.2.2.1
      have h2 := ih (fun c hc => hrefl c (List.mem_cons_of_mem _ hc)) (fun c hc => hinj c (List.mem_cons_of_mem _ hc))
      rw [List.flatMap_cons, List.length_append, List.map_cons, List.sum_cons]
      omega
  · rintro ⟨g, hg, hx⟩
    obtain ⟨ch, hch, hg'⟩ := List.mem_flatMap.1 hg
    obtain ⟨a, _, ha, _, e, _⟩ := ((hcf ch hch).2.2.2.2 x x).1 ⟨g, hg', hx, hx⟩
    exact ⟨ch, hch, a, ha, e⟩
  · rintro ⟨ch, hch, a, ha, e⟩
    obtain ⟨g, hg, hx, _⟩ := ((hcf ch hch).2.2.2.2 x x).2 ⟨a, a, ha, ha, e, e, rfl⟩
    exact ⟨g, List.mem_flatMap.2 ⟨ch, hch, hg⟩, hx⟩

theorem mergeAll_inv (n : Nat) (close : Nat → Nat → Bool) (chunks : List (Array Nat)) (hc : Cells n chunks)
    (hrefl : ∀ i, i < n → close i i = true) :
    MergeInv (mergeAll n close chunks) (joinAll close chunks (fun p q => p = q)) ∧
    (∀ x, ((mergeAll n close chunks).inG.get x).isSome = true ↔
      ∃ ch, ch ∈ chunks ∧ ∃ a, a < ch.size ∧ cget ch a = x) := by
  have hr : ∀ ch, ch ∈ chunks → ∀ a, a < ch.size → close (cget ch a) (cget ch a) = true :=
    fun ch hch a ha => hrefl _ (hc.lt ch hch a ha)
  obtain ⟨f1, f2, f3⟩ := allGroups_facts close chunks hr hc.inj
  -- before the first cell no point is labelled and no label allocated
  have h0 : MergeInv ⟨Arr.const none, Arr.const 0, 0, true⟩ (fun p q => p = q) :=
    ⟨fun l => Nat.zero_le _, fun p e h => by simp at h, fun p q e f h => by simp at h,
     fun p q h => Or.inl h, fun r hr _ => absurd hr (Nat.not_lt_zero r), rfl⟩
  obtain ⟨m1, _, m3⟩ := mergeGroups_fold n _ _ _ eq_equivalence h0 f1 (by have := hc.cap; show 0 + _ ≤ _; omega)
  unfold mergeAll
  rw [mergeAll_flat n close chunks hr hc.inj]
  exact ⟨m1, fun x => (m3 x).trans (by rw [f3 x]; simp)⟩

theorem mergedLabel_some (s : MS) (x e : Nat) (h : s.inG.get x = some e) :
    (mergedLabel s).get x = some ((resolve s.nMap s.mapG).1.get e) := by
  show (s.inG.get x).map _ = _
  rw [h]; rfl

theorem joinAll_finest (close : Nat → Nat → Bool) (chunks : List (Array Nat))
    (hrefl : ∀ ch, ch ∈ chunks → ∀ a, a < ch.size → close (cget ch a) (cget ch a) = true)
    (hinj : ∀ ch, ch ∈ chunks → ∀ a b, a < ch.size → b < ch.size → cget ch a = cget ch b → a = b) :
    Equivalence (joinAll close chunks (fun p q => p = q)) ∧
    (∀ x y, SameCell close chunks x y → joinAll close chunks (fun p q => p = q) x y) ∧
    (∀ R : Nat → Nat → Prop, Equivalence R → (∀ x y, SameCell close chunks x y → R x y) →
      ∀ p q, joinAll close chunks (fun p q => p = q) p q → R p q) := by
  obtain ⟨j1, _, j3, j4⟩ := jfold_props (chunks.flatMap (chunkGroups close)) _ eq_equivalence
  refine ⟨j1, ?_, ?_⟩
  · rintro x y ⟨ch, hch, a, b, ha, hb, rfl, rfl, hab⟩
    obtain ⟨_, _, _, _, c5⟩ := chunk_facts close ch (hrefl ch hch) (hinj ch hch)
    obtain ⟨g, hg, hx, hy⟩ := (c5 _ _).2 ⟨a, b, ha, hb, rfl, rfl, hab⟩
    exact j3 g (List.mem_flatMap.2 ⟨ch, hch, hg⟩) _ _ hx hy
  · intro R hR hsc p q hpq
    refine j4 R hR (fun p q e => e ▸ hR.refl p) ?_ p q hpq
    intro g hg x y hx hy
    obtain ⟨ch, hch, hg'⟩ := List.mem_flatMap.1 hg
    obtain ⟨_, _, _, _, c5⟩ := chunk_facts close ch (hrefl ch hch) (hinj ch hch)
    obtain ⟨a, b, ha, hb, ea, eb, hab⟩ := (c5 x y).1 ⟨g, hg', hx, hy⟩
    exact hsc x y ⟨ch, hch, a, b, ha, hb, ea, eb, hab⟩

/-- friendsoffriends 307-352: the first pass of the cross-chunk merge - per chunk group the root search for every already
labelled member, the minimum earlier root, the new label pointing to it and the path compression of every member's chain -
is a correct union-find.  For all admissible cell lists and every relation that is reflexive on the points: no loop hangs and
the label table does not overflow (`ok`), the design invariant `mapGroups[l] ≤ l` holds, a point is labelled iff it occurs
in a cell, and after the second pass two labelled points carry the same number IFF they are related by `joinAll … (=)`, the
FINEST equivalence containing every per-cell partition (`SameCell`). -/
theorem merge_refines (n : Nat) (close : Nat → Nat → Bool) (chunks : List (Array Nat)) (hc : Cells n chunks)
    (hrefl : ∀ i, i < n → close i i = true) :
    (mergeAll n close chunks).ok = true ∧
    (∀ l, l < (mergeAll n close chunks).nMap → (mergeAll n close chunks).mapG.get l ≤ l) ∧
    (∀ p e, (mergeAll n close chunks).inG.get p = some e → e < (mergeAll n close chunks).nMap) ∧
    (∀ p, ((mergeAll n close chunks).inG.get p).isSome = true ↔
      ∃ ch, ch ∈ chunks ∧ ∃ a, a < ch.size ∧ cget ch a = p) ∧
    Equivalence (joinAll close chunks (fun p q => p = q)) ∧
    (∀ x y, SameCell close chunks x y → joinAll close chunks (fun p q => p = q) x y) ∧
    (∀ R : Nat → Nat → Prop, Equivalence R → (∀ x y, SameCell close chunks x y → R x y) →
      ∀ p q, joinAll close chunks (fun p q => p = q) p q → R p q) ∧
    (∀ p q, ((mergeAll n close chunks).inG.get p).isSome = true →
      ((mergeAll n close chunks).inG.get q).isSome = true →
      ((mergedLabel (mergeAll n close chunks)).get p = (mergedLabel (mergeAll n close chunks)).get q ↔
        joinAll close chunks (fun p q => p = q) p q)) := by
  obtain ⟨m, hs⟩ := mergeAll_inv n close chunks hc hrefl
  obtain ⟨j1, j2, j3⟩ := joinAll_finest close chunks (fun ch hch a ha => hrefl _ (hc.lt ch hch a ha)) hc.inj
  refine ⟨m.ok, fun l _ => m.le l, m.lab, hs, j1, j2, j3, ?_⟩
  intro p q hp hq
  obtain ⟨e, he⟩ := Option.isSome_iff_exists.1 hp
  obtain ⟨f, hf⟩ := Option.isSome_iff_exists.1 hq
  rw [mergedLabel_some _ p e he, mergedLabel_some _ q f hf, Option.some.injEq,
    resolve_eq_iff _ _ m.le e f (m.lab p e he) (m.lab q f hf)]
  exact m.iff p q e f he hf

/-- friendsoffriends 341-352: the resolved labels are exactly `0 … nGroups-1` (every number is in use: a root label
always belongs to a non-empty chunk group whose members were all new). -/
theorem merge_ngroups (n : Nat) (close : Nat → Nat → Bool) (chunks : List (Array Nat)) (hc : Cells n chunks)
    (hrefl : ∀ i, i < n → close i i = true) :
    (∀ p v, (mergedLabel (mergeAll n close chunks)).get p = some v →
      v < (resolve (mergeAll n close chunks).nMap (mergeAll n close chunks).mapG).2) ∧
    (∀ c, c < (resolve (mergeAll n close chunks).nMap (mergeAll n close chunks).mapG).2 →
      ∃ p, p < n ∧ (mergedLabel (mergeAll n close chunks)).get p = some c) := by
  obtain ⟨m, hs⟩ := mergeAll_inv n close chunks hc hrefl
  generalize mergeAll n close chunks = s at m hs ⊢
  constructor
  · intro p v hv
    cases he : s.inG.get p with
    | none => rw [show (mergedLabel s).get p = (s.inG.get p).map _ from rfl, he] at hv; cases hv
    | some e =>
      rw [mergedLabel_some s p e he] at hv
      cases hv
      exact resolve_lt s.mapG s.nMap m.le e (m.lab p e he)
  · intro c hcl
    rw [(resolve_roots s.mapG s.nMap (fun i _ => m.le i)).2.2] at hcl
    obtain ⟨r, hr, hroot, hrc⟩ := nroots_surj s.mapG s.nMap c hcl
    obtain ⟨p, hp⟩ := m.surj r hr hroot
    obtain ⟨ch, hch, a, ha, e⟩ := (hs p).1 (by rw [hp]; rfl)
    refine ⟨p, e ▸ hc.lt ch hch a ha, ?_⟩
    rw [mergedLabel_some s p r hp, resolve_rootOf s.mapG s.nMap m.le r hr, rootOf_of_root s.mapG m.le r hroot, hrc]

/-- under `CoverFoF`: `friendsoffriends` returns for every point its merged label, and the renumbering of `spheregroup`
uses exactly the `nGroups` numbers of the merge -/
theorem friends_facts (n : Nat) (close : Nat → Nat → Bool) (chunks : List (Array Nat))
    (hcov : CoverFoF n close chunks) (hrefl : ∀ i, i < n → close i i = true) :
    (∀ x, x < n → (mergedLabel (mergeAll n close chunks)).get x = some ((friendsRun n close chunks).inG.get x)) ∧
    (renumber n (friendsRun n close chunks).L (friendsRun n close chunks).inG).cnt =
      (friendsRun n close chunks).nG := by
  obtain ⟨_, hs⟩ := mergeAll_inv n close chunks hcov.cells hrefl
  obtain ⟨g1, g2⟩ := merge_ngroups n close chunks hcov.cells hrefl
  have hlab : ∀ x, x < n → (mergedLabel (mergeAll n close chunks)).get x =
      some ((friendsRun n close chunks).inG.get x) := by
    intro x hx
    obtain ⟨e, he⟩ := Option.isSome_iff_exists.1 ((hs x).2 (hcov.every x hx))
    have hget : (friendsRun n close chunks).inG.get x = ((mergedLabel (mergeAll n close chunks)).get x).getD 0 := by
      simp only [friendsRun, freeze_eq]
    rw [hget, mergedLabel_some _ x e he]; rfl
  refine ⟨hlab, renumber_cnt_eq _ n _ (friends_lists n close chunks) _ (fun x hx => g1 x _ (hlab x hx)) fun c hc => ?_⟩
  obtain ⟨p, hp, hpc⟩ := g2 c hc
  exact ⟨p, hp, Option.some.inj ((hlab p hp).symm.trans hpc)⟩

theorem conn_map (close : Nat → Nat → Bool) (n : Nat) (ch : Array Nat) (hlt : ∀ a, a < ch.size → cget ch a < n)
    (a b : Nat) (h : Conn (cellClose close ch) ch.size a b) : Conn close n (cget ch a) (cget ch b) := by
  induction h with
  | refl => exact Conn.refl _
  | tail _ hb hc e ih => exact Conn.tail ih (hlt _ hb) (hlt _ hc) e

/-- `chunks.friendsoffriends` under `CoverFoF`: every point is labelled, and two points get one label iff a chain of
close pairs joins them. -/
theorem friends_fof (n : Nat) (close : Nat → Nat → Bool) (chunks : List (Array Nat))
    (hcov : CoverFoF n close chunks) (hrefl : ∀ i, i < n → close i i = true)
    (hsym : ∀ a b, a < n → b < n → close a b = close b a) :
    (friendsRun n close chunks).ok = true ∧
    ∀ x y, x < n → y < n →
      ((friendsRun n close chunks).inG.get x = (friendsRun n close chunks).inG.get y ↔ Conn close n x y) := by
  obtain ⟨m, hs⟩ := mergeAll_inv n close chunks hcov.cells hrefl
  obtain ⟨_, _, _, _, j1, j2, j3, m5⟩ := merge_refines n close chunks hcov.cells hrefl
  obtain ⟨hlab, _⟩ := friends_facts n close chunks hcov hrefl
  have hcell := fun ch hch => hcov.cells.lt ch hch
  constructor
  · show ((mergeAll n close chunks).ok && (List.range n).all (fun p =>
      ((mergedLabel (mergeAll n close chunks)).get p).isSome) &&
      countOk n (friendsRun n close chunks).L (friendsRun n close chunks).nG) = true
    rw [m.ok, countOk_of (friends_lists n close chunks)]
    simp only [Bool.true_and, Bool.and_true, List.all_eq_true, List.mem_range]
    intro x hx
    rw [hlab x hx]; rfl
  intro x y hx hy
  rw [← Option.some.injEq, ← hlab x hx, ← hlab y hy,
    m5 x y ((hs x).2 (hcov.every x hx)) ((hs y).2 (hcov.every y hy))]
  constructor
  · -- the groups of a cell are chains of close pairs
    refine j3 (fun a b => Conn close n a b) ⟨Conn.refl, Conn.symm, Conn.trans⟩ ?_ x y
    rintro a b ⟨ch, hch, a', b', ha', hb', rfl, rfl, hab⟩
    exact conn_map close n ch (hcell ch hch) a' b' (groups_sound ch.size (cellClose close ch)
      (fun i hi => hrefl _ (hcell ch hch i hi)) (fun a b ha hb => hsym _ _ (hcell ch hch a ha) (hcell ch hch b hb))
      a' b' ha' hb' hab)
  · -- a close pair shares a cell, in which `groups` joins it
    intro hconn
    have hpair : ∀ u v, u < n → v < n → close u v = true → joinAll close chunks (fun p q => p = q) u v := by
      intro u v hu hv huv
      obtain ⟨ch, hch, a', b', ha', hb', rfl, rfl⟩ := hcov.pair u v hu hv huv
      exact j2 _ _ ⟨ch, hch, a', b', ha', hb', rfl, rfl, groups_complete ch.size (cellClose close ch)
        (fun i hi => hrefl _ (hcell ch hch i hi)) (fun a b ha hb => hsym _ _ (hcell ch hch a ha) (hcell ch hch b hb))
        a' b' ha' hb' huv⟩
    induction hconn with
    | refl => exact j1.refl _
    | tail _ hb hc e ih =>
      refine j1.trans (ih hb) ?_
      rcases e with e | e
      · exact hpair _ _ hb hc e
      · exact j1.symm (hpair _ _ hc hb e)

/-- For n ≠ 1 points, every reflexive symmetric closeness relation and every cell list with `CoverFoF`, `spheregroup`
succeeds, no loop hangs and no index leaves the arrays (`ok`), and its output is exactly the friends-of-friends partition,
numbered in order of first member, with exact firstgroup/nextgroup and multgroup[c] for EVERY c (0 beyond the last group). -/
theorem spheregroup_fof (n : Nat) (close : Nat → Nat → Bool) (chunks : List (Array Nat)) (hn : n ≠ 1)
    (hcov : CoverFoF n close chunks) (hrefl : ∀ i, i < n → close i i = true)
    (hsym : ∀ a b, a < n → b < n → close a b = close b a) :
    ∃ o, sphereRun n close chunks = .ok o ∧ o.ok = true ∧
    (∀ x y, x < n → y < n → (o.inG.get x = o.inG.get y ↔ Conn close n x y)) ∧
    (∀ x, x < n → ∀ c, c < o.inG.get x → ∃ z, z < x ∧ o.inG.get z = c) ∧
    IsLists o.inG 0 n o.L ∧
    (∀ c, walk o.L.next n (o.L.first.get c) = (List.range n).filter (fun x => o.inG.get x = c)) ∧
    (∀ c, o.mult.get c = ((List.range n).filter (fun x => o.inG.get x = c)).length) := by
  obtain ⟨hFok, hF⟩ := friends_fof n close chunks hcov hrefl hsym
  obtain ⟨_, hcnt⟩ := friends_facts n close chunks hcov hrefl
  obtain ⟨o, ho, p1, p2, p3, p4, p5⟩ := sphere_lists_partial n close chunks hn
  rw [sphereRun_eq n close chunks hn] at ho
  cases ho
  obtain ⟨r1, _, r3, _, _⟩ := renumber_first_appearance _ n _ (friends_lists n close chunks)
  refine ⟨_, sphereRun_eq n close chunks hn, ?_, fun x y hx hy => (p1 x y hx hy).trans (hF x y hx hy), p2, p3, p4, ?_⟩
  · show ((friendsRun n close chunks).ok && (renumber n _ _).ok && countOk n _ _) = true
    rw [hFok, r1, countOk_of (isLists_rebuild _ _ _)]
    rfl
  · -- beyond the last group no point carries the label
    intro c
    rw [p5 c]
    split
    · rfl
    · symm
      rw [List.length_eq_zero_iff, List.filter_eq_nil_iff]
      intro x hx
      have hxc : (sphereOut n close chunks).inG.get x <
          (renumber n (friendsRun n close chunks).L (friendsRun n close chunks).inG).cnt :=
        r3 x (List.mem_range.1 hx)
      simp only [decide_eq_true_eq]
      omega

/-- The group count that `spheregroup` takes over from the merge (its counting loop runs over it) is exactly the number
of groups. -/
theorem spheregroup_ngroups (n : Nat) (close : Nat → Nat → Bool) (chunks : List (Array Nat))
    (hcov : CoverFoF n close chunks) (hrefl : ∀ i, i < n → close i i = true) (c : Nat) :
    c < (sphereOut n close chunks).nG ↔ ∃ x, x < n ∧ (sphereOut n close chunks).inG.get x = c := by
  obtain ⟨_, hcnt⟩ := friends_facts n close chunks hcov hrefl
  obtain ⟨_, _, r3, r4, _⟩ := renumber_first_appearance _ n _ (friends_lists n close chunks)
  constructor
  · intro hc
    exact r4 c (by rw [hcnt]; exact hc)
  · rintro ⟨x, hx, rfl⟩
    have := r3 x hx
    rw [hcnt] at this
    exact this

section grid
open PydlVerif.Sphere PydlVerif.FofGrid
attribute [local instance] realFns fieldScalar fieldTrig
attribute [-instance] Scalar.instOfNat Scalar.instOfScientific

theorem cget_toArray (l : List Nat) (a : Nat) (ha : a < l.length) : cget l.toArray a = l[a] := by
  simp [cget, Array.getD_eq_getD_getElem?, ha]

theorem cget_of_mem {l : List Nat} {k : Nat} (hk : k ∈ l) : ∃ b, b < l.toArray.size ∧ cget l.toArray b = k := by
  obtain ⟨b, hb, e⟩ := List.getElem_of_mem hk
  exact ⟨b, hb, by rw [cget_toArray _ b hb, e]⟩

theorem mem_cellLists (nDec : Nat) (nRa : Array Nat) (cl : Tab CellSt) (ch : Array Nat) :
    ch ∈ cellLists nDec nRa cl ↔ ∃ d r, d < nDec ∧ r < nRa.getD d 0 ∧ ch = (cl.get (d, r)).1.toArray := by
  simp only [cellLists, List.mem_flatMap, List.mem_map, List.mem_range]
  constructor
  · rintro ⟨d, hd, r, hr, e⟩; exact ⟨d, r, hd, hr, e.symm⟩
  · rintro ⟨d, r, hd, hr, e⟩; exact ⟨d, hd, r, hr, e.symm⟩

/-- the separation in degrees that the statement of the property speaks about -/
noncomputable def sepDeg (ra dec : Array ℝ) (i j : Nat) : ℝ :=
  gcircDeg (ra.getD i 0) (dec.getD i 0) (ra.getD j 0) (dec.getD j 0)

/-- The closeness test that `chunkfriendsoffriends` hands to `groups` (coordinates and linking length through `np.deg2rad`,
`gcirc(units=0) <= distance`) is `separation ≤ linklength` in degrees; it is reflexive for ll ≥ 0 and symmetric -/
theorem close_is_sep (ra dec : Array ℝ) (ll : ℝ) :
    (∀ i j, closeOf ra dec ll i j = true ↔ sepDeg ra dec i j ≤ ll) ∧
    (0 ≤ ll → ∀ i, closeOf ra dec ll i i = true) ∧
    (∀ i j, closeOf ra dec ll i j = closeOf ra dec ll j i) :=
  ⟨fun i j => closeOf_iff ra dec ll i j, fun h i => closeOf_refl ra dec ll h i, fun i j => closeOf_symm ra dec ll i j⟩

/-- Component `every` of `CoverFoF`, and `pair` below the linking length.  On the grid `chunks(ra, dec, ms)` +
`assign(ra, dec, ll)` of the SAME list every point i has a home cell - a cell of the loop
`for d in range(nDec): for r in range(nRa[d])` - that stores i and every point closer to i than ll. -/
theorem grid_own_cell_pair (ra dec : Array ℝ) (ms ll : ℝ) (g : Grid ℝ) (cl : Tab CellSt)
    (hg : chunksInit ra dec ms = .ok g) (hcl : assign g ra dec ll = .ok cl)
    (hdec : ∀ i, i < dec.size → |dec.getD i 0| < 90) (hll : 0 < ll) (hms : 4 * ll ≤ ms)
    (i : Nat) (hi : i < ra.size) :
    ∃ ch, ch ∈ cellLists g.nDec g.nRa cl ∧ (∃ a, a < ch.size ∧ cget ch a = i) ∧
      ∀ k, k < ra.size → sepDeg ra dec i k < ll → ∃ b, b < ch.size ∧ cget ch b = k := by
  have H := OwnGrid.of_init hg hdec hll hms
  obtain ⟨d, r, hget⟩ := H.home i hi
  obtain ⟨_, hd, _, hr⟩ := (get_ok_iff g _ _ d r).1 hget
  have hst : ∀ k, k < ra.size → sepDeg ra dec i k < ll → k ∈ (cl.get (d, r)).1 :=
    fun k hk hc => H.stored hcl k hk d r hd hr (H.cover i k hi hk hc d r hget)
  exact ⟨_, (mem_cellLists _ _ _ _).2 ⟨d, r, hd, hr, rfl⟩,
    cget_of_mem (hst i hi (by unfold sepDeg; rw [gcircDeg_self]; exact hll)), fun k hk hc => cget_of_mem (hst k hk hc)⟩

/-- Components `cells.lt` and `cells.inj` of `CoverFoF`: whatever ranges `getbounds` returns - also ranges that wrap onto the same
cell twice at the seam - the `chunkDone` bookkeeping of `assign` enters no point twice into one cell, and every entry
is a point of the list. -/
theorem grid_no_point_twice (ra dec : Array ℝ) (ll : ℝ) (g : Grid ℝ) (cl : Tab CellSt)
    (hcl : assign g ra dec ll = .ok cl) (ch : Array Nat) (hch : ch ∈ cellLists g.nDec g.nRa cl) :
    (∀ a, a < ch.size → cget ch a < ra.size) ∧
    (∀ a b, a < ch.size → b < ch.size → cget ch a = cget ch b → a = b) := by
  obtain ⟨d, r, _, _, rfl⟩ := (mem_cellLists _ _ _ _).1 hch
  obtain ⟨hnd, hlt⟩ := C04.assign_nodup g ra dec ll cl hcl (d, r)
  constructor
  · intro a ha
    rw [cget_toArray _ a ha]
    exact hlt _ (List.getElem_mem ha)
  · intro a b ha hb e
    rw [cget_toArray _ a ha, cget_toArray _ b hb] at e
    exact (List.Nodup.getElem_inj_iff hnd).1 e

/-- Component `cells.cap` of `CoverFoF`: the inequality the code relies on when it allocates `9*nPoints` provisional
labels ("The largest number of groups you can get … is 9 times the number of targets").  On the grid of spheregroup
`getbounds` returns for every point at most 3 declination bands (a band is exactly ms ≥ 4·ll high) and in each at most 3 RA
indices (the RA margin is at most half a minimal cell ms/cosDecMin, every cell is at least that wide or - band [0,360] - at
least the margin wide), so a point is entered into at most 9 cells. -/
theorem grid_occupancy_9n (ra dec : Array ℝ) (ms ll : ℝ) (g : Grid ℝ) (cl : Tab CellSt)
    (hg : chunksInit ra dec ms = .ok g) (hcl : assign g ra dec ll = .ok cl)
    (hdec : ∀ i, i < dec.size → |dec.getD i 0| < 90) (hll : 0 < ll) (hms : 4 * ll ≤ ms) :
    (∀ i, i < ra.size → (cellsOfPoint g ra dec ll 0 i).length ≤ 9) ∧
    ((cellLists g.nDec g.nRa cl).map Array.size).sum ≤ 9 * ra.size := by
  have H := OwnGrid.of_init hg hdec hll hms
  refine ⟨fun i hi => H.visit_le9 i hi, ?_⟩
  obtain ⟨_, rfl⟩ := assign_ok g ra dec ll cl hcl
  rw [occ_eq]
  exact assignAll_occ g.nDec g.nRa 9 ra.size _ _ _ (init_empty g.nRa) (fun i hi => H.visit_le9 i hi)

/-- Component `pair` of `CoverFoF`, the boundary included: two points of the list whose separation is at most ll -
also EXACTLY ll - are stored together in some cell.  At exactly ll the strict comparisons of `getbounds` can miss the cell of
the one point, but then the cell of the other is reached: the downward loops never need strictness (`Lemmas/FofGridEdge.lean`). -/
theorem grid_close_pair_shares_cell (ra dec : Array ℝ) (ms ll : ℝ) (g : Grid ℝ) (cl : Tab CellSt)
    (hg : chunksInit ra dec ms = .ok g) (hcl : assign g ra dec ll = .ok cl)
    (hdec : ∀ i, i < dec.size → |dec.getD i 0| < 90) (hll : 0 < ll) (hms : 4 * ll ≤ ms)
    (i k : Nat) (hi : i < ra.size) (hk : k < ra.size) (hclose : sepDeg ra dec i k ≤ ll) :
    ∃ ch, ch ∈ cellLists g.nDec g.nRa cl ∧ ∃ a b, a < ch.size ∧ b < ch.size ∧ cget ch a = i ∧ cget ch b = k := by
  rcases lt_or_eq_of_le hclose with hlt | heq
  · obtain ⟨ch, hch, ⟨a, ha, ea⟩, hall⟩ := grid_own_cell_pair ra dec ms ll g cl hg hcl hdec hll hms i hi
    obtain ⟨b, hb, eb⟩ := hall k hk hlt
    exact ⟨ch, hch, a, b, ha, hb, ea, eb⟩
  · have H := OwnGrid.of_init hg hdec hll hms
    obtain ⟨d, r, hd, hr, h1, h2⟩ := H.share_eq i k hi hk heq
    obtain ⟨a, ha, ea⟩ := cget_of_mem (H.stored hcl i hi d r hd hr h1)
    obtain ⟨b, hb, eb⟩ := cget_of_mem (H.stored hcl k hk d r hd hr h2)
    exact ⟨_, (mem_cellLists _ _ _ _).2 ⟨d, r, hd, hr, rfl⟩, a, b, ha, hb, ea, eb⟩

/-- `CoverFoF` HOLDS for the cell lists of the grid that spheregroup builds and the closeness relation `separation ≤ ll`
of the code. -/
theorem cover_fof_grid (ra dec : Array ℝ) (ms ll : ℝ) (g : Grid ℝ) (cl : Tab CellSt)
    (hg : chunksInit ra dec ms = .ok g) (hcl : assign g ra dec ll = .ok cl)
    (hdec : ∀ i, i < dec.size → |dec.getD i 0| < 90) (hll : 0 < ll) (hms : 4 * ll ≤ ms) :
    CoverFoF ra.size (closeOf ra dec ll) (cellLists g.nDec g.nRa cl) := by
  refine ⟨⟨?_, ?_, ?_⟩, ?_, ?_⟩
  · exact fun ch hch => (grid_no_point_twice ra dec ll g cl hcl ch hch).1
  · exact fun ch hch => (grid_no_point_twice ra dec ll g cl hcl ch hch).2
  · exact (grid_occupancy_9n ra dec ms ll g cl hg hcl hdec hll hms).2
  · intro p hp
    obtain ⟨ch, hch, ha, _⟩ := grid_own_cell_pair ra dec ms ll g cl hg hcl hdec hll hms p hp
    exact ⟨ch, hch, ha⟩
  · intro p q hp hq hc
    exact grid_close_pair_shares_cell ra dec ms ll g cl hg hcl hdec hll hms p q hp hq
      ((closeOf_iff ra dec ll p q).1 hc)

theorem groupChunkSize_ge (ll : ℝ) (chunksize : Option ℝ) : 4 * ll ≤ groupChunkSize ll chunksize := by
  unfold groupChunkSize
  simp only [scalar_lit, scalar_sci]
  push_cast
  split
  · split
    · exact le_refl _
    · rename_i hc; exact not_lt.1 hc
  · split
    · rename_i hc; exact hc.le
    · exact le_refl _

/-- THE STATEMENT OF C05 for the model of `spheregroup` end to end, no hypothesis about the grid.
`spheregroup ra dec ll chunksize` is the model of the whole function at ℝ (Model/FofGrid.lean: the n = 1 check, the chunk
size rule, `chunks(ra, dec, cs)`, `assign(ra, dec, ll)`, friendsoffriends on the cells in the loop order of the code,
renumbering, rebuilt lists, recount).  RA in [0,360), two lists of equal length and - over ℝ, where cos 90° = 0 - a grid that
is not clipped to a pole are guards of the model's constructor, hence consequences of `h`.  Whenever it returns: no loop hangs,
no index leaves an array, the label table of 9·n entries does not overflow (`ok`); two points get the same group number IFF a
chain of points joins them in which consecutive separations are ≤ ll (`close_is_sep`); the groups are numbered 0,1,2,… in
order of their first member; firstgroup/nextgroup are the sorted member lists, multgroup[c] the size of group c (0 beyond
the last group) - for ANY chunksize (the code raises it to 4·ll). -/
theorem spheregroup_fof_grid (ra dec : Array ℝ) (ll : ℝ) (chunksize : Option ℝ) (o : Out)
    (h : spheregroup ra dec ll chunksize = .ok o)
    (hdec : ∀ i, i < dec.size → |dec.getD i 0| < 90) (hll : 0 < ll) :
    o.ok = true ∧
    (∀ x y, x < ra.size → y < ra.size → (o.inG.get x = o.inG.get y ↔ Conn (closeOf ra dec ll) ra.size x y)) ∧
    (∀ x, x < ra.size → ∀ c, c < o.inG.get x → ∃ z, z < x ∧ o.inG.get z = c) ∧
    IsLists o.inG 0 ra.size o.L ∧
    (∀ c, walk o.L.next ra.size (o.L.first.get c) = (List.range ra.size).filter (fun x => o.inG.get x = c)) ∧
    (∀ c, o.mult.get c = ((List.range ra.size).filter (fun x => o.inG.get x = c)).length) := by
  unfold spheregroup at h
  simp -zeta only [bind, Except.bind] at h
  split at h
  · cases h
  · rename_i hn
    obtain ⟨g, hg, h⟩ := bind_ok h
    obtain ⟨cl, hcl, h⟩ := bind_ok h
    have hcov := cover_fof_grid ra dec _ ll g cl hg hcl hdec hll (groupChunkSize_ge ll chunksize)
    obtain ⟨o', ho', r⟩ := spheregroup_fof ra.size (closeOf ra dec ll) _ hn hcov
      (fun i _ => closeOf_refl ra dec ll hll.le i) (fun a b _ _ => closeOf_symm ra dec ll a b)
    rw [h] at ho'
    cases ho'
    exact r

/-- The hypothesis "the model's spheregroup returned" of `spheregroup_fof_grid` is satisfiable: it holds for every input
of two or more points whose declinations stay 4.5 chunk sizes away from the poles (then no declination edge is clipped to a
pole, every band has a positive cosine and `assign` accepts the margin ll < cs). -/
theorem spheregroup_returns (ra dec : Array ℝ) (ll : ℝ) (chunksize : Option ℝ)
    (hn : 2 ≤ ra.size) (hsz : ra.size = dec.size)
    (hra : ∀ i, i < ra.size → 0 ≤ ra.getD i 0 ∧ ra.getD i 0 < 360) (hll : 0 < ll)
    (hdec : ∀ i, i < dec.size → |dec.getD i 0| ≤ 90 - 9 / 2 * groupChunkSize ll chunksize) :
    ∃ o, spheregroup ra dec ll chunksize = .ok o := by
  have hcs := groupChunkSize_ge ll chunksize
  have hcs0 : 0 < groupChunkSize ll chunksize := by linarith only [hcs, hll]
  have hd : ∀ i, i < dec.size → -90 + 9 / 2 * groupChunkSize ll chunksize ≤ dec.getD i 0 ∧
      dec.getD i 0 ≤ 90 - 9 / 2 * groupChunkSize ll chunksize :=
    fun i hi => ⟨by linarith only [(abs_le.1 (hdec i hi)).1], (abs_le.1 (hdec i hi)).2⟩
  obtain ⟨g, hg⟩ := chunksInit_returns ra dec _ hcs0 (by omega) hsz hra hd
  have hF := chunksInit_facts ra dec _ g
    (fun i hi => ⟨by linarith only [(hd i hi).1, hcs0], by linarith only [(hd i hi).2, hcs0]⟩) hg
  unfold spheregroup
  simp -zeta only [bind, Except.bind]
  have hassign : ∃ cl, assign g ra dec ll = .ok cl := by
    unfold assign
    rw [if_neg (by rw [not_not, hF.minSize_eq]; linarith only [hcs, hll])]
    exact ⟨_, rfl⟩
  obtain ⟨cl, hcl⟩ := hassign
  simp only [if_neg (show ¬ ra.size = 1 by omega), hg, hcl]
  exact ⟨_, sphereRun_eq _ _ _ (by omega)⟩

/-- `spheregroup_returns` and `spheregroup_fof_grid` together, hypotheses ONLY about the inputs: the model of spheregroup
returns, and its output is the friends-of-friends partition with first-appearance numbering and exact
first/next/multiplicity. -/
theorem spheregroup_fof_total (ra dec : Array ℝ) (ll : ℝ) (chunksize : Option ℝ)
    (hn : 2 ≤ ra.size) (hsz : ra.size = dec.size)
    (hra : ∀ i, i < ra.size → 0 ≤ ra.getD i 0 ∧ ra.getD i 0 < 360) (hll : 0 < ll)
    (hdec : ∀ i, i < dec.size → |dec.getD i 0| ≤ 90 - 9 / 2 * groupChunkSize ll chunksize) :
    ∃ o, spheregroup ra dec ll chunksize = .ok o ∧ o.ok = true ∧
    (∀ x y, x < ra.size → y < ra.size → (o.inG.get x = o.inG.get y ↔ Conn (closeOf ra dec ll) ra.size x y)) ∧
    (∀ x, x < ra.size → ∀ c, c < o.inG.get x → ∃ z, z < x ∧ o.inG.get z = c) ∧
    IsLists o.inG 0 ra.size o.L ∧
    (∀ c, walk o.L.next ra.size (o.L.first.get c) = (List.range ra.size).filter (fun x => o.inG.get x = c)) ∧
    (∀ c, o.mult.get c = ((List.range ra.size).filter (fun x => o.inG.get x = c)).length) := by
  obtain ⟨o, ho⟩ := spheregroup_returns ra dec ll chunksize hn hsz hra hll hdec
  have hcs : 0 < groupChunkSize ll chunksize := by linarith only [groupChunkSize_ge ll chunksize, hll]
  exact ⟨o, ho, spheregroup_fof_grid ra dec ll chunksize o ho
    (fun i hi => lt_of_le_of_lt (hdec i hi) (by linarith only [hcs])) hll⟩

end grid

/-- labels 0,1,0,2,1 (first-appearance order): the hypotheses of `lists_of_labels` hold with m = 3 -/
example : ∀ x, x < 5 → (⟨fun i => [0, 1, 0, 2, 1].getD i 0⟩ : Arr Nat).get x < 3 := by decide

/-- the rebuilt lists of the labelling 7,3,7,2,3 satisfy the hypothesis of `renumber_first_appearance` -/
example : IsLists ⟨fun i => [7, 3, 7, 2, 3].getD i 0⟩ 0 5
    (link ⟨fun i => [7, 3, 7, 2, 3].getD i 0⟩ 5 ⟨Arr.const none, Arr.const none⟩) :=
  isLists_rebuild _ _ _

/-- a `mapGroups` table with the invariant: 0,1 roots, 2→0, 3→2, 4 root -/
example : ∀ i, i < 5 → (⟨fun i => [0, 1, 0, 2, 4].getD i 0⟩ : Arr Nat).get i ≤ i := by decide

/-- a reflexive symmetric relation on 4 points for `groups_lists` / `groups_fof` (edges 0-2, 1-3) -/
example : (∀ i, i < 4 → (fun a b => a == b || (a + 2 == b) || (b + 2 == a)) i i = true) ∧
    (∀ a b, a < 4 → b < 4 → (fun a b => a == b || (a + 2 == b) || (b + 2 == a)) a b =
      (fun a b => a == b || (a + 2 == b) || (b + 2 == a)) b a) :=
  ⟨by decide, fun a b ha hb => (by decide : ∀ a, a < 4 → ∀ b, b < 4 →
    (fun a b => a == b || (a + 2 == b) || (b + 2 == a)) a b =
      (fun a b => a == b || (a + 2 == b) || (b + 2 == a)) b a) a ha b hb⟩

example : Conn (fun a b => a == b || (a + 2 == b) || (b + 2 == a)) 4 0 2 :=
  Conn.single (by decide) (by decide) (Or.inl (by decide))

/-- a cell list meeting `CoverFoF` for that relation on 4 points: cells {0,2,1} and {1,3}; point 1 lies in both -/
example : CoverFoF 4 (fun a b => a == b || (a + 2 == b) || (b + 2 == a)) [#[0, 2, 1], #[1, 3]] := by
  refine ⟨⟨by decide, ?_, by decide⟩, by decide, ?_⟩
  · intro ch hch
    simp only [List.mem_cons, List.not_mem_nil, or_false] at hch
    rcases hch with rfl | rfl
    · exact fun a b ha hb => (by decide : ∀ a, a < 3 → ∀ b, b < 3 → cget #[0, 2, 1] a = cget #[0, 2, 1] b → a = b) a ha b hb
    · exact fun a b ha hb => (by decide : ∀ a, a < 2 → ∀ b, b < 2 → cget #[1, 3] a = cget #[1, 3] b → a = b) a ha b hb
  · have key : ∀ p, p < 4 → ∀ q, q < 4 → (fun a b => a == b || (a + 2 == b) || (b + 2 == a)) p q = true →
        (∃ a, a < 3 ∧ ∃ b, b < 3 ∧ cget #[0, 2, 1] a = p ∧ cget #[0, 2, 1] b = q) ∨
        (∃ a, a < 2 ∧ ∃ b, b < 2 ∧ cget #[1, 3] a = p ∧ cget #[1, 3] b = q) := by decide
    intro p q hp hq hc
    rcases key p hp q hq hc with ⟨a, ha, b, hb, h⟩ | ⟨a, ha, b, hb, h⟩
    · exact ⟨#[0, 2, 1], by simp, a, b, ha, hb, h⟩
    · exact ⟨#[1, 3], by simp, a, b, ha, hb, h⟩

section
open Real PydlVerif.Sphere PydlVerif.FofGrid
attribute [local instance] realFns fieldScalar fieldTrig
attribute [-instance] Scalar.instOfNat Scalar.instOfScientific

theorem ex_cs : groupChunkSize (0.1 : ℝ) none = 0.4 := by
  unfold groupChunkSize
  simp only [scalar_lit, scalar_sci]
  norm_num

/-- three points on the meridian RA = 10° at Dec 5°, 5.05°, 6°, linking length 0.1° (chunk size 0.4°; separations 0.05°,
1°, 0.95°): every hypothesis of `spheregroup_fof_total` holds, and the theorem puts the first two points into one group -/
example : ∃ o, spheregroup (#[10, 10, 10] : Array ℝ) #[5, 5.05, 6] 0.1 none = .ok o ∧ o.ok = true ∧
    o.inG.get 0 = o.inG.get 1 := by
  have hra : ∀ i, i < (#[10, 10, 10] : Array ℝ).size →
      0 ≤ (#[10, 10, 10] : Array ℝ).getD i 0 ∧ (#[10, 10, 10] : Array ℝ).getD i 0 < 360 := by
    intro i hi
    have : i < 3 := hi
    interval_cases i <;> norm_num [Array.getD]
  have hdec : ∀ i, i < (#[5, 5.05, 6] : Array ℝ).size →
      |(#[5, 5.05, 6] : Array ℝ).getD i 0| ≤ 90 - 9 / 2 * groupChunkSize (0.1 : ℝ) none := by
    intro i hi
    have : i < 3 := hi
    rw [ex_cs]
    interval_cases i <;> norm_num [Array.getD, abs_le]
  obtain ⟨o, ho, r1, r2, _⟩ := spheregroup_fof_total (#[10, 10, 10] : Array ℝ) #[5, 5.05, 6] 0.1 none
    (by show 2 ≤ 3; omega) rfl hra (by norm_num) hdec
  refine ⟨o, ho, r1, (r2 0 1 (by show 0 < 3; omega) (by show 1 < 3; omega)).2
    (Conn.single (by show 0 < 3; omega) (by show 1 < 3; omega) (Or.inl ?_))⟩
  rw [closeOf_iff]
  show gcircDeg (10 : ℝ) 5 10 5.05 ≤ 0.1
  rw [gcircDeg_same_ra _ _ _ (by norm_num [abs_le])]
  norm_num [abs_le]

end

end PydlVerif.C05
