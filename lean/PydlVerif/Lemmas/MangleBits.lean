/-
The use-mask of a Mangle polygon (`use_caps`, pydl/pydlutils/mangle.py) bit by bit: every operation of `set_use_caps` on the mask
has an equation "bit k of the result = Boolean expression of the bits before".
-/
import PydlVerif.Model.Mangle
import Mathlib.Data.Nat.Bitwise
namespace PydlVerif.C12
open PydlVerif PydlVerif.Mangle

theorem is_cap_used_testBit (u i : Nat) : isCapUsed u i = u.testBit i := by
  unfold isCapUsed
  rw [Nat.one_shiftLeft, Nat.and_two_pow]
  cases h : u.testBit i <;> simp

/-- `use_caps -= 1 << j` on a mask whose bit `j` is set clears that bit and no other -/
theorem sub_two_pow_testBit : ∀ (j u k : Nat), u.testBit j = true →
    (u - 2 ^ j).testBit k = (u.testBit k && decide (k ≠ j))
  | 0, u, k, h => by
    -- `u` is odd: `u - 1` is even and has the same half
    have h1 : u % 2 = 1 := of_decide_eq_true (Nat.testBit_zero u ▸ h)
    cases k with
    | zero => rw [Nat.testBit_zero, Nat.testBit_zero, show (u - 2 ^ 0) % 2 = 0 by omega]; simp
    | succ k => rw [Nat.testBit_succ, Nat.testBit_succ, show (u - 2 ^ 0) / 2 = u / 2 by omega]; simp
  | j + 1, u, k, h => by
    -- `u - 2 * 2 ^ j` has the low bit of `u`, and its half is `u / 2 - 2 ^ j`: the case `j` for `u / 2`
    have hge : 2 * 2 ^ j ≤ u := Nat.pow_succ' ▸ Nat.ge_two_pow_of_testBit h
    rw [Nat.pow_succ']
    cases k with
    | zero => rw [Nat.testBit_zero, Nat.testBit_zero, Nat.sub_mul_mod hge]; simp
    | succ k =>
      rw [Nat.testBit_succ] at h
      rw [Nat.testBit_succ, Nat.testBit_succ, Nat.sub_mul_div, sub_two_pow_testBit j (u / 2) k h]
      simp

theorem or_bits_testBit (idx : List Nat) (u j : Nat) :
    (orBits u idx).testBit j = (u.testBit j || decide (j ∈ idx)) := by
  unfold orBits
  induction idx generalizing u with
  | nil => simp
  | cons i rest ih =>
    simp only [List.foldl_cons]
    rw [ih, Nat.testBit_or, Nat.one_shiftLeft, Nat.testBit_two_pow]
    simp [Bool.or_assoc, @eq_comm _ i j]

theorem dedupInner_testBit (dup : Nat → Nat → Bool) (i : Nat) (js : List Nat) (u k : Nat) :
    (dedupInner dup i js u).testBit k = (u.testBit k && !(decide (k ∈ js) && dup i k)) := by
  unfold dedupInner
  induction js generalizing u with
  | nil => simp
  | cons j rest ih =>
    -- the step at `j` clears bit `j` when it is set and `j` is a double; it touches no other bit
    rw [List.foldl_cons, ih, is_cap_used_testBit, Nat.one_shiftLeft]
    by_cases hk : k = j
    · subst hk
      cases hu : u.testBit k <;> cases dup i k <;> simp [hu, sub_two_pow_testBit]
    · cases hu : u.testBit j <;> cases dup i j <;> simp [hu, hk, sub_two_pow_testBit]

/-- one pass of the outer loop of the doubles search (the body of the fold that `dedupLoop` is), named so that the loop
invariant can speak of it -/
def outerStep (dup : Nat → Nat → Bool) (n : Nat) (u i : Nat) : Nat :=
  if isCapUsed u i then dedupInner dup i (List.range' (i + 1) (n - (i + 1))) u else u

theorem outerStep_testBit (dup : Nat → Nat → Bool) (n u m k : Nat) :
    (outerStep dup n u m).testBit k = true ↔
      (u.testBit k = true ∧ ¬ (k < n ∧ m < k ∧ u.testBit m = true ∧ dup m k = true)) := by
  have e : (m + 1 ≤ k ∧ k < m + 1 + (n - (m + 1))) ↔ (k < n ∧ m < k) := by omega
  unfold outerStep
  rw [is_cap_used_testBit]
  cases u.testBit m
  · simp
  · simp only [if_true, dedupInner_testBit, List.mem_range'_1, e, Bool.and_eq_true, Bool.not_eq_true', ← Bool.not_eq_true,
      decide_eq_true_iff, true_and, and_assoc]

/-- invariant of the outer loop after the passes `i < m` -/
theorem outer_inv (dup : Nat → Nat → Bool) (n u0 m k : Nat) :
    ((List.range m).foldl (outerStep dup n) u0).testBit k = true ↔
      (u0.testBit k = true ∧ ¬ (k < n ∧ ∃ i, i < m ∧ i < k ∧
        ((List.range m).foldl (outerStep dup n) u0).testBit i = true ∧ dup i k = true)) := by
  induction m generalizing k with
  | zero => simp
  | succ m ih =>
    rw [List.range_succ, List.foldl_append]
    simp only [List.foldl_cons, List.foldl_nil]
    generalize (List.range m).foldl (outerStep dup n) u0 = u at ih ⊢
    -- pass `m` clears bits above `m` only
    have hlow : ∀ i, i ≤ m → ((outerStep dup n u m).testBit i = true ↔ u.testBit i = true) := fun i hi =>
      (outerStep_testBit dup n u m i).trans (and_iff_left fun h => by omega)
    -- among the passes `i < m + 1`, pass `m` is the new one
    have hex : (∃ i, i < m + 1 ∧ i < k ∧ (outerStep dup n u m).testBit i = true ∧ dup i k = true) ↔
        (∃ i, i < m ∧ i < k ∧ u.testBit i = true ∧ dup i k = true) ∨ (m < k ∧ u.testBit m = true ∧ dup m k = true) := by
      simp only [Nat.lt_succ_iff_lt_or_eq, or_and_right, exists_or, exists_eq_left, hlow m le_rfl]
      exact or_congr_left (exists_congr fun i => and_congr_right fun hi => by rw [hlow i hi.le])
    rw [outerStep_testBit, ih k, hex, and_assoc, and_or_left, not_or]

theorem dedupLoop_eq (dup : Nat → Nat → Bool) (n u : Nat) :
    dedupLoop dup n u = (List.range n).foldl (outerStep dup n) u := rfl

theorem dedupLoop_testBit (dup : Nat → Nat → Bool) (n u0 k : Nat) :
    (dedupLoop dup n u0).testBit k = true ↔
      (u0.testBit k = true ∧
        ¬ (k < n ∧ ∃ i, i < k ∧ (dedupLoop dup n u0).testBit i = true ∧ dup i k = true)) := by
  rw [dedupLoop_eq, outer_inv dup n u0 n k]
  refine and_congr_right fun _ => not_congr (and_congr_right fun hk => exists_congr fun i => ?_)
  exact ⟨fun h => h.2, fun h => ⟨Nat.lt_trans h.1 hk, h⟩⟩

end PydlVerif.C12
