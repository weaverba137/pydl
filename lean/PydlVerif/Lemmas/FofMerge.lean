/-
C05: the FIRST pass of the cross-chunk merge (friendsoffriends 307-336) is a union-find with path compression (invariant
`MergeInv`).  Its specification: `Jn J ps` is the equivalence `J` with the members of `ps` joined, and a fold of `Jn` over groups
the least equivalence in which every group is together (`jfold_props`).  After them: the second pass gives a label the number of
its root (`resolve_rootOf`, on `ResInv` of FofRen.lean), and the groups of one cell as the merge loop meets them (`chunkGroups`).
-/
import PydlVerif.Lemmas.FofRen
namespace PydlVerif.Fof

/-- the design invariant of the code comment: `mapGroups[l] ≤ l` (the model initialises with 0, so it holds
for every index, allocated or not) -/
def PointsDown (m : Arr Nat) : Prop := ∀ l, m.get l ≤ l

/-- the root reached by `while mapGroups[c] != c: c = mapGroups[c]` -/
def rootOf (m : Arr Nat) (c : Nat) : Nat := findRoot m c c

/-- with `m[l] ≤ l` the root search from `c` needs at most `c` steps -/
theorem findRoot_spec (m : Arr Nat) (hle : PointsDown m) :
    ∀ c f, c ≤ f → findRoot m f c = rootOf m c ∧ findRootOk m f c = true := by
  intro c
  induction c using Nat.strongRecOn with
  | _ c ih =>
    intro f hf
    cases f with
    | zero =>
      have : c = 0 := by omega
      subst this
      have : m.get 0 = 0 := by have := hle 0; omega
      simp [rootOf, findRoot, findRootOk, this]
    | succ f =>
      by_cases h : m.get c = c
      · cases c <;> simp [rootOf, findRoot, findRootOk, h]
      · have hlt : m.get c < c := by have := hle c; omega
        cases c with
        | zero => omega
        | succ c' =>
          simp only [rootOf, findRoot, findRootOk, h, if_false]
          exact ⟨by rw [(ih _ hlt f (by omega)).1, (ih _ hlt c' (by omega)).1], (ih _ hlt f (by omega)).2⟩

theorem rootOf_unfold (m : Arr Nat) (hle : PointsDown m) (c : Nat) :
    rootOf m c = if m.get c = c then c else rootOf m (m.get c) := by
  cases c with
  | zero =>
    have : m.get 0 = 0 := by have := hle 0; omega
    simp [rootOf, findRoot, this]
  | succ c' =>
    by_cases h : m.get (c'+1) = c'+1
    · simp [rootOf, findRoot, h]
    · have hlt : m.get (c'+1) < c'+1 := by have := hle (c'+1); omega
      simp only [rootOf, findRoot, h, if_false]
      exact (findRoot_spec m hle _ c' (by omega)).1

theorem rootOf_of_root (m : Arr Nat) (hle : PointsDown m) (c : Nat) (h : m.get c = c) : rootOf m c = c := by
  rw [rootOf_unfold m hle, if_pos h]

theorem rootOf_of_child (m : Arr Nat) (hle : PointsDown m) (c : Nat) (h : m.get c ≠ c) : rootOf m c = rootOf m (m.get c) := by
  rw [rootOf_unfold m hle, if_neg h]

theorem rootOf_spec (m : Arr Nat) (hle : PointsDown m) : ∀ c, rootOf m c ≤ c ∧ m.get (rootOf m c) = rootOf m c := by
  intro c
  induction c using Nat.strongRecOn with
  | _ c ih =>
    by_cases h : m.get c = c
    · rw [rootOf_of_root m hle c h]; exact ⟨Nat.le_refl _, h⟩
    · have hlt : m.get c < c := by have := hle c; omega
      rw [rootOf_of_child m hle c h]
      have := ih _ hlt
      exact ⟨by omega, this.2⟩

theorem rootOf_le (m : Arr Nat) (hle : PointsDown m) (c : Nat) : rootOf m c ≤ c := (rootOf_spec m hle c).1
theorem rootOf_root (m : Arr Nat) (hle : PointsDown m) (c : Nat) : m.get (rootOf m c) = rootOf m c := (rootOf_spec m hle c).2

theorem rootOf_upd_above (m : Arr Nat) (hle : PointsDown m) (j v d : Nat) (hd : d < j) : rootOf (upd m j v) d = rootOf m d := by
  -- the search from `d` reads entries `≤ d` only, with any fuel
  have h : ∀ f d, d < j → findRoot (upd m j v) f d = findRoot m f d := by
    intro f
    induction f with
    | zero => intro d _; rfl
    | succ f ih =>
      intro d hd
      have hne : d ≠ j := by omega
      simp only [findRoot, upd_get, hne, if_false]
      by_cases h : m.get d = d
      · simp [h]
      · simp only [h, if_false]
        exact ih _ (by have := hle d; omega)
  exact h d d hd

theorem le_upd {m : Arr Nat} (hle : PointsDown m) {j v : Nat} (h : v ≤ j) : PointsDown (upd m j v) := by
  intro l
  simp only [upd_get]
  split
  · omega
  · exact hle l

theorem rootOf_upd_new (m : Arr Nat) (hle : PointsDown m) (k rs : Nat) (h : rs = k ∨ (rs < k ∧ m.get rs = rs)) :
    PointsDown (upd m k rs) ∧ (∀ e, e < k → rootOf (upd m k rs) e = rootOf m e) ∧ rootOf (upd m k rs) k = rs := by
  have hle' : PointsDown (upd m k rs) := le_upd hle (by omega)
  refine ⟨hle', fun e he => rootOf_upd_above m hle _ _ e he, ?_⟩
  rcases h with h | ⟨h1, h2⟩
  · subst h
    exact rootOf_of_root _ hle' _ (by simp)
  · rw [rootOf_of_child _ hle' _ (by simp only [upd_get, if_true]; omega)]
    simp only [upd_get, if_true]
    rw [rootOf_upd_above m hle _ _ rs h1]
    exact rootOf_of_root m hle rs h2

/-- the labels the root search from `c` visits, `c` first, the root last (with enough fuel) -/
def chain (m : Arr Nat) : Nat → Nat → List Nat
  | 0, c => [c]
  | f+1, c => if m.get c = c then [c] else c :: chain m f (m.get c)

theorem chain_upd_above (m : Arr Nat) (hle : PointsDown m) (j v : Nat) :
    ∀ f d, d < j → chain (upd m j v) f d = chain m f d := by
  intro f
  induction f with
  | zero => intro d _; rfl
  | succ f ih =>
    intro d hd
    have hne : d ≠ j := by omega
    simp only [chain, upd_get, hne, if_false]
    by_cases h : m.get d = d
    · simp [h]
    · simp only [h, if_false]
      rw [ih _ (by have := hle d; omega)]

theorem chain_mem (m : Arr Nat) (hle : PointsDown m) :
    ∀ f c, c ≤ f → ∀ x, x ∈ chain m f c → x ≤ c ∧ rootOf m x = rootOf m c := by
  intro f
  induction f with
  | zero =>
    intro c _ x hx
    simp only [chain, List.mem_singleton] at hx
    subst hx; exact ⟨Nat.le_refl _, rfl⟩
  | succ f ih =>
    intro c hc x hx
    by_cases h : m.get c = c
    · simp only [chain, h, if_true, List.mem_singleton] at hx
      subst hx; exact ⟨Nat.le_refl _, rfl⟩
    · have hlt : m.get c < c := by have := hle c; omega
      simp only [chain, h, if_false, List.mem_cons] at hx
      rcases hx with hx | hx
      · subst hx; exact ⟨Nat.le_refl _, rfl⟩
      · have := ih _ (by omega) x hx
        exact ⟨by omega, by rw [this.2, ← rootOf_of_child m hle c h]⟩

theorem rootOf_mem_chain (m : Arr Nat) (hle : PointsDown m) : ∀ f c, c ≤ f → rootOf m c ∈ chain m f c := by
  intro f
  induction f with
  | zero =>
    intro c hc
    have : c = 0 := by omega
    subst this
    simp [chain, rootOf, findRoot]
  | succ f ih =>
    intro c hc
    by_cases h : m.get c = c
    · simp [chain, h, rootOf_of_root m hle c h]
    · have hlt : m.get c < c := by have := hle c; omega
      simp only [chain, h, if_false, List.mem_cons]
      right
      rw [rootOf_of_child m hle c h]
      exact ih _ (by omega)

theorem self_mem_chain (m : Arr Nat) (f c : Nat) : c ∈ chain m f c := by
  cases f with
  | zero => simp [chain]
  | succ f => by_cases h : m.get c = c <;> simp [chain, h]

/-- lines 330-334: exactly the labels on the chain are redirected to `minE` -/
theorem compress_spec (minE : Nat) : ∀ f (m : Arr Nat) c, PointsDown m → c ≤ f → minE ≤ rootOf m c →
    (∀ x, (compress minE f m c).get x = if x ∈ chain m f c then minE else m.get x) ∧
    compressOk minE f m c = true := by
  intro f
  induction f with
  | zero =>
    intro m c hle hc _
    have : c = 0 := by omega
    subst this
    have : m.get 0 = 0 := by have := hle 0; omega
    exact ⟨fun x => by simp [compress, chain], by simp [compressOk, this]⟩
  | succ f ih =>
    intro m c hle hc hmin
    by_cases h : m.get c = c
    · exact ⟨fun x => by simp [compress, chain, h], by simp [compressOk, h]⟩
    · have hlt : m.get c < c := by have := hle c; omega
      have hrc : rootOf m c ≤ c := rootOf_le m hle c
      have hr1 : rootOf (upd m c minE) (m.get c) = rootOf m c := by
        rw [rootOf_upd_above m hle c minE _ hlt, ← rootOf_of_child m hle c h]
      obtain ⟨i1, i2⟩ := ih (upd m c minE) (m.get c) (le_upd hle (by omega)) (by omega) (by rw [hr1]; exact hmin)
      simp only [compress, compressOk, chain, h, if_false, List.mem_cons]
      refine ⟨fun x => ?_, i2⟩
      rw [i1 x, chain_upd_above m hle c minE f _ hlt]
      simp only [upd_get]
      by_cases hx : x = c <;> simp [hx]

theorem compress_rootOf (minE f : Nat) (m : Arr Nat) (c : Nat) (hle : PointsDown m) (hc : c ≤ f)
    (hroot : m.get minE = minE) (hmin : minE ≤ rootOf m c) :
    PointsDown (compress minE f m c) ∧ (compress minE f m c).get minE = minE ∧
    ∀ l, rootOf (compress minE f m c) l = if rootOf m l = rootOf m c then minE else rootOf m l := by
  have hget := (compress_spec minE f m c hle hc hmin).1
  have hle' : PointsDown (compress minE f m c) := by
    intro l
    rw [hget l]
    split
    · rename_i hm
      have := chain_mem m hle f c hc l hm
      have := rootOf_le m hle l
      omega
    · exact hle l
  have hr' : (compress minE f m c).get minE = minE := by
    rw [hget minE]; split
    · rfl
    · exact hroot
  refine ⟨hle', hr', ?_⟩
  intro l
  induction l using Nat.strongRecOn with
  | _ l ih =>
    by_cases hm : l ∈ chain m f c
    · have h1 : (compress minE f m c).get l = minE := by rw [hget l, if_pos hm]
      have h2 := (chain_mem m hle f c hc l hm).2
      rw [if_pos h2, rootOf_unfold _ hle' l, h1]
      split
      · rename_i e; exact e.symm
      · exact rootOf_of_root _ hle' minE hr'
    · have h1 : (compress minE f m c).get l = m.get l := by rw [hget l, if_neg hm]
      by_cases hr : m.get l = l
      · have h3 : rootOf m l = l := rootOf_of_root m hle l hr
        have h4 : rootOf m l ≠ rootOf m c := by
          rw [h3]; intro e; exact hm (e ▸ rootOf_mem_chain m hle f c hc)
        rw [if_neg h4, h3]
        exact rootOf_of_root _ hle' l (by rw [h1, hr])
      · have hlt : m.get l < l := by have := hle l; omega
        rw [rootOf_of_child _ hle' l (by rw [h1]; exact hr), h1, ih _ hlt, ← rootOf_of_child m hle l hr]

/-- pass A (lines 315-321) over the members `l`: the running minimum ends at its start value or at the least root of a
member labelled before -/
theorem passA_fold (nMap : Nat) (mapG : Arr Nat) (hle : PointsDown mapG) (inG0 : Arr (Option Nat))
    (hlab : ∀ p e, inG0.get p = some e → e < nMap) :
    ∀ (l : List Nat) (g : Arr (Option Nat)) (mn : Nat) (b : Bool), l.Nodup →
    (∀ x, x ∈ l → g.get x = inG0.get x) →
    (∀ x, (l.foldl (passA nMap mapG) (g, mn, b)).1.get x =
        if x ∈ l ∧ inG0.get x = none then some nMap else g.get x) ∧
    (l.foldl (passA nMap mapG) (g, mn, b)).2.1 ≤ mn ∧
    ((l.foldl (passA nMap mapG) (g, mn, b)).2.1 = mn ∨ ∃ p, p ∈ l ∧ ∃ e, inG0.get p = some e ∧
        (l.foldl (passA nMap mapG) (g, mn, b)).2.1 = rootOf mapG e) ∧
    (∀ p, p ∈ l → ∀ e, inG0.get p = some e → (l.foldl (passA nMap mapG) (g, mn, b)).2.1 ≤ rootOf mapG e) ∧
    (l.foldl (passA nMap mapG) (g, mn, b)).2.2 = b := by
  intro l
  induction l with
  | nil => intro g mn b _ _; simp
  | cons p l ih =>
    intro g mn b hnd hag
    obtain ⟨hpl, hnd'⟩ := List.nodup_cons.1 hnd
    have hgp : g.get p = inG0.get p := hag p (List.mem_cons_self)
    rw [List.foldl_cons]
    cases hp : inG0.get p with
    | some e =>
      have he : e < nMap := hlab p e hp
      have hstep : passA nMap mapG (g, mn, b) p = (g, min mn (rootOf mapG e), b) := by
        have h1 : g.get p = some e := by rw [hgp, hp]
        simp only [passA, h1, findRoot_spec mapG hle e (nMap+1) (by omega), Bool.and_true]
      rw [hstep]
      obtain ⟨i1, i2, i3, i4, i5⟩ := ih g (min mn (rootOf mapG e)) b hnd'
        (fun x hx => hag x (List.mem_cons_of_mem _ hx))
      refine ⟨?_, by omega, ?_, ?_, i5⟩
      · intro x
        rw [i1 x]
        by_cases hxp : x = p
        · subst hxp; simp [hp, hpl]
        · simp [hxp]
      · rcases i3 with e3 | ⟨q, hq, e', he', e3⟩
        · by_cases hmn : mn ≤ rootOf mapG e
          · left; rw [e3]; omega
          · right; exact ⟨p, List.mem_cons_self, e, hp, by rw [e3]; omega⟩
        · right; exact ⟨q, List.mem_cons_of_mem _ hq, e', he', e3⟩
      · intro q hq e' he'
        rcases List.mem_cons.1 hq with e1 | hq
        · subst e1
          rw [hp] at he'; cases he'
          omega
        · exact i4 q hq e' he'
    | none =>
      have hstep : passA nMap mapG (g, mn, b) p = (upd g p (some nMap), mn, b) := by
        have h1 : g.get p = none := by rw [hgp, hp]
        simp only [passA, h1]
      rw [hstep]
      obtain ⟨i1, i2, i3, i4, i5⟩ := ih (upd g p (some nMap)) mn b hnd'
        (fun x hx => by
          have : x ≠ p := fun e => hpl (e ▸ hx)
          simp only [upd_get, this, if_false]
          exact hag x (List.mem_cons_of_mem _ hx))
      refine ⟨?_, i2, ?_, ?_, i5⟩
      · intro x
        rw [i1 x]
        by_cases hxp : x = p
        · subst hxp; simp [hp]
        · simp [hxp]
      · exact i3.imp_right fun ⟨q, hq, r⟩ => ⟨q, List.mem_cons_of_mem _ hq, r⟩
      · intro q hq e' he'
        rcases List.mem_cons.1 hq with e1 | hq
        · subst e1
          rw [hp] at he'; cases he'
        · exact i4 q hq e' he'

/-- the class of the label `x` in the table `m` contains the label of a member of `ps` -/
def HitsGroup (inG : Arr (Option Nat)) (m : Arr Nat) (ps : List Nat) (x : Nat) : Prop :=
  ∃ p, p ∈ ps ∧ ∃ e, inG.get p = some e ∧ rootOf m x = rootOf m e

/-- pass B (lines 329-334, one path compression per member) over the members `l` -/
theorem passB_fold (nMap minE : Nat) (inG : Arr (Option Nat)) :
    ∀ (l : List Nat) (m : Arr Nat) (b : Bool), PointsDown m → m.get minE = minE →
    (∀ p, p ∈ l → ∃ e, inG.get p = some e ∧ e ≤ nMap ∧ minE ≤ rootOf m e) →
    PointsDown (l.foldl (passB nMap minE inG) (m, b)).1 ∧ (l.foldl (passB nMap minE inG) (m, b)).2 = b ∧
    ∀ x, (HitsGroup inG m l x → rootOf (l.foldl (passB nMap minE inG) (m, b)).1 x = minE) ∧
      (¬ HitsGroup inG m l x → rootOf (l.foldl (passB nMap minE inG) (m, b)).1 x = rootOf m x) := by
  intro l
  induction l with
  | nil => intro m b hle _ _; exact ⟨hle, rfl, fun x => ⟨fun ⟨_, hp, _⟩ => (nomatch hp), fun _ => rfl⟩⟩
  | cons p l ih =>
    intro m b hle hroot hl
    obtain ⟨e, he, he1, hme⟩ := hl p List.mem_cons_self
    obtain ⟨c1, c2, c3⟩ := compress_rootOf minE (nMap+2) m e hle (by omega) hroot hme
    have hstep : passB nMap minE inG (m, b) p = (compress minE (nMap+2) m e, b) := by
      simp only [passB, he, (compress_spec minE (nMap+2) m e hle (by omega) hme).2, Bool.and_true]
    rw [List.foldl_cons, hstep]
    generalize compress minE (nMap+2) m e = m2 at c1 c2 c3 ⊢
    obtain ⟨i1, i2, i3⟩ := ih m2 b c1 c2 (fun q hq => by
      obtain ⟨f, hf, hf1, hf2⟩ := hl q (List.mem_cons_of_mem _ hq)
      refine ⟨f, hf, hf1, ?_⟩
      rw [c3 f]
      split
      · exact Nat.le_refl _
      · exact hf2)
    refine ⟨i1, i2, fun x => ⟨?_, fun hn => ?_⟩⟩
    · -- a class that is at `minE` after this compression stays there
      have hstay : rootOf m2 x = minE → rootOf (l.foldl (passB nMap minE inG) (m2, b)).1 x = minE := by
        intro h
        by_cases hh : HitsGroup inG m2 l x
        · exact (i3 x).1 hh
        · rw [(i3 x).2 hh, h]
      rintro ⟨q, hq, f, hf, hxf⟩
      rcases List.mem_cons.1 hq with rfl | hq
      · rw [he] at hf
        cases hf
        exact hstay (by rw [c3 x, if_pos hxf])
      · exact (i3 x).1 ⟨q, hq, f, hf, by rw [c3 x, c3 f, hxf]⟩
    · have hx2 : rootOf m2 x = rootOf m x := by
        rw [c3 x, if_neg (fun hxe => hn ⟨p, List.mem_cons_self, e, he, hxe⟩)]
      by_cases hh : HitsGroup inG m2 l x
      · -- in `m2` the class of `x` can contain a later label only if that label was moved to `minE`, where `x` was already
        rw [(i3 x).1 hh]
        obtain ⟨q, hq, f, hf, hxf⟩ := hh
        rw [hx2, c3 f] at hxf
        split at hxf
        · exact hxf.symm
        · exact absurd ⟨q, List.mem_cons_of_mem _ hq, f, hf, hxf⟩ hn
      · rw [(i3 x).2 hh, hx2]

/-- `p` is `J`-related to some member of `ps` -/
def Mem (J : Nat → Nat → Prop) (ps : List Nat) (p : Nat) : Prop := ∃ a, a ∈ ps ∧ J p a

/-- the equivalence generated by `J` and "all members of `ps` are together" (for an equivalence `J`) -/
def Jn (J : Nat → Nat → Prop) (ps : List Nat) (p q : Nat) : Prop := J p q ∨ (Mem J ps p ∧ Mem J ps q)

theorem mem_of_rel {J : Nat → Nat → Prop} (hJ : Equivalence J) {ps : List Nat} {p q : Nat} (h : J p q)
    (hq : Mem J ps q) : Mem J ps p := by
  obtain ⟨a, ha, hqa⟩ := hq
  exact ⟨a, ha, hJ.trans h hqa⟩

theorem jn_equiv {J : Nat → Nat → Prop} (hJ : Equivalence J) (ps : List Nat) : Equivalence (Jn J ps) := by
  refine ⟨fun p => Or.inl (hJ.refl p), ?_, ?_⟩
  · intro p q h
    rcases h with h | ⟨h1, h2⟩
    · exact Or.inl (hJ.symm h)
    · exact Or.inr ⟨h2, h1⟩
  · intro p q r h1 h2
    rcases h1 with h1 | ⟨a1, a2⟩ <;> rcases h2 with h2 | ⟨b1, b2⟩
    · exact Or.inl (hJ.trans h1 h2)
    · exact Or.inr ⟨mem_of_rel hJ h1 b1, b2⟩
    · exact Or.inr ⟨a1, mem_of_rel hJ (hJ.symm h2) a2⟩
    · exact Or.inr ⟨a1, b2⟩

theorem jn_members {J : Nat → Nat → Prop} (hJ : Equivalence J) (ps : List Nat) (a b : Nat) (ha : a ∈ ps)
    (hb : b ∈ ps) : Jn J ps a b :=
  Or.inr ⟨⟨a, ha, hJ.refl a⟩, ⟨b, hb, hJ.refl b⟩⟩

theorem jn_least {J R : Nat → Nat → Prop} (hR : Equivalence R) (ps : List Nat) (h1 : ∀ p q, J p q → R p q)
    (h2 : ∀ a b, a ∈ ps → b ∈ ps → R a b) (p q : Nat) (h : Jn J ps p q) : R p q := by
  rcases h with h | ⟨⟨a, ha, hpa⟩, ⟨b, hb, hqb⟩⟩
  · exact h1 p q h
  · exact hR.trans (h1 p a hpa) (hR.trans (h2 a b ha hb) (hR.symm (h1 q b hqb)))

theorem jfold_props : ∀ (gl : List (List Nat)) (J : Nat → Nat → Prop), Equivalence J →
    Equivalence (gl.foldl Jn J) ∧ (∀ p q, J p q → gl.foldl Jn J p q) ∧
    (∀ g, g ∈ gl → ∀ a b, a ∈ g → b ∈ g → gl.foldl Jn J a b) ∧
    (∀ R : Nat → Nat → Prop, Equivalence R → (∀ p q, J p q → R p q) →
      (∀ g, g ∈ gl → ∀ a b, a ∈ g → b ∈ g → R a b) → ∀ p q, gl.foldl Jn J p q → R p q) := by
  intro gl
  induction gl with
  | nil =>
    intro J hJ
    exact ⟨hJ, fun p q h => h, fun g hg => (nomatch hg), fun R _ h1 _ p q h => h1 p q h⟩
  | cons g gl ih =>
    intro J hJ
    obtain ⟨i1, i2, i3, i4⟩ := ih (Jn J g) (jn_equiv hJ g)
    rw [List.foldl_cons]
    refine ⟨i1, fun p q h => i2 p q (Or.inl h), ?_, ?_⟩
    · intro g' hg' a b ha hb
      rcases List.mem_cons.1 hg' with e | hg'
      · subst e; exact i2 a b (jn_members hJ g' a b ha hb)
      · exact i3 g' hg' a b ha hb
    · intro R hR h1 h2 p q h
      exact i4 R hR (jn_least hR g h1 (fun a b ha hb => h2 g List.mem_cons_self a b ha hb))
        (fun g' hg' => h2 g' (List.mem_cons_of_mem _ hg')) p q h

/-- the invariant of the first pass: `J` is the partition generated by the chunk groups processed so far -/
structure MergeInv (s : MS) (J : Nat → Nat → Prop) : Prop where
  le : PointsDown s.mapG
  lab : ∀ p e, s.inG.get p = some e → e < s.nMap
  iff : ∀ p q e f, s.inG.get p = some e → s.inG.get q = some f → (rootOf s.mapG e = rootOf s.mapG f ↔ J p q)
  /-- `J` relates only equal points or points that are labelled already -/
  sep : ∀ p q, J p q → p = q ∨ ((s.inG.get p).isSome = true ∧ (s.inG.get q).isSome = true)
  /-- every root among the allocated labels is the label of some point (so `nGroups` counts non-empty groups) -/
  surj : ∀ r, r < s.nMap → s.mapG.get r = r → ∃ p, s.inG.get p = some r
  ok : s.ok = true

theorem isSome_ite (o : Option Nat) (P : Prop) [Decidable P] (v : Nat) :
    (if P ∧ o = none then some v else o).isSome = true ↔ o.isSome = true ∨ P := by
  cases o <;> by_cases h : P <;> simp [h]

/-- the step of `MergeInv` from what one chunk group does to the roots; `rs` = root of the new label, itself new or the
root of a member labelled before -/
theorem mergeInv_of_step (s s' : MS) (J : Nat → Nat → Prop) (hJ : Equivalence J) (h : MergeInv s J) (ps : List Nat)
    (hin : ∀ x, s'.inG.get x = if x ∈ ps ∧ s.inG.get x = none then some s.nMap else s.inG.get x)
    (hnm : s'.nMap = s.nMap + 1) (hle' : PointsDown s'.mapG) (hok : s'.ok = true) (hne : ps ≠ []) (rs : Nat)
    (hrs : (rs = s.nMap ∧ ∀ p, p ∈ ps → s.inG.get p = none) ∨
      ∃ p, p ∈ ps ∧ ∃ e, s.inG.get p = some e ∧ rs = rootOf s.mapG e)
    (hnew : rootOf s'.mapG s.nMap = rs)
    (hold : ∀ x, x < s.nMap → (HitsGroup s.inG s.mapG ps x → rootOf s'.mapG x = rs) ∧
      (¬ HitsGroup s.inG s.mapG ps x → rootOf s'.mapG x = rootOf s.mapG x)) :
    MergeInv s' (Jn J ps) := by
  have hsome : ∀ x, (s'.inG.get x).isSome = true ↔ (s.inG.get x).isSome = true ∨ x ∈ ps :=
    fun x => by rw [hin x, isSome_ite]
  have hmemlab : ∀ p, Mem J ps p → (s'.inG.get p).isSome = true := by
    intro p ⟨a, ha, hpa⟩
    rcases h.sep p a hpa with e | ⟨e, _⟩
    · exact (hsome p).2 (Or.inr (e ▸ ha))
    · exact (hsome p).2 (Or.inl e)
  have hfwd : ∀ e, e < s.nMap → rootOf s'.mapG e = rs → HitsGroup s.inG s.mapG ps e := by
    intro e he hr
    apply Classical.byContradiction
    intro hn
    rw [(hold e he).2 hn] at hr
    rcases hrs with ⟨e1, _⟩ | ⟨p, hp, e1, hpe, e2⟩
    · have := rootOf_le s.mapG h.le e; omega
    · exact hn ⟨p, hp, e1, hpe, hr.trans e2⟩
  have hhit : ∀ p e, s.inG.get p = some e → (HitsGroup s.inG s.mapG ps e ↔ Mem J ps p) := by
    intro p e hpe
    constructor
    · rintro ⟨a, ha, e1, hae, hre⟩
      exact ⟨a, ha, (h.iff p a e e1 hpe hae).1 hre⟩
    · rintro ⟨a, ha, hpa⟩
      cases hae : s.inG.get a with
      | none =>
        rcases h.sep p a hpa with e1 | ⟨_, e2⟩
        · subst e1; rw [hpe] at hae; cases hae
        · rw [hae] at e2; cases e2
      | some e1 => exact ⟨a, ha, e1, hae, (h.iff p a e e1 hpe hae).2 hpa⟩
  have key : ∀ p e, s'.inG.get p = some e →
      (rootOf s'.mapG e = rs ↔ Mem J ps p) ∧ (¬ Mem J ps p → s.inG.get p = some e ∧ rootOf s'.mapG e = rootOf s.mapG e) := by
    intro p e hpe
    rw [hin p] at hpe
    split at hpe
    · rename_i hc
      have hM : Mem J ps p := ⟨p, hc.1, hJ.refl p⟩
      cases hpe
      exact ⟨⟨fun _ => hM, fun _ => hnew⟩, fun hn => absurd hM hn⟩
    · have he := h.lab p e hpe
      rw [← hhit p e hpe]
      exact ⟨⟨hfwd e he, (hold e he).1⟩, fun hn => ⟨hpe, (hold e he).2 hn⟩⟩
  refine ⟨hle', ?_, ?_, ?_, ?_, hok⟩
  rotate_right
  · -- a root is an old root, whose point keeps its label, or the new label of a group of new points
    intro r hr hroot
    rw [hnm] at hr
    have hrr := rootOf_of_root _ hle' r hroot
    by_cases hrn : r = s.nMap
    · rw [hrn] at hrr ⊢
      rcases hrs with ⟨_, hnone⟩ | ⟨p, _, e, hpe, e2⟩
      · cases ps with
        | nil => exact absurd rfl hne
        | cons p t => exact ⟨p, by rw [hin p, if_pos ⟨List.mem_cons_self, hnone p List.mem_cons_self⟩]⟩
      · have := rootOf_le s.mapG h.le e
        have := h.lab p e hpe
        omega
    · have hlt : r < s.nMap := by omega
      have hmr : s.mapG.get r = r := by
        by_cases hh : HitsGroup s.inG s.mapG ps r
        · have e1 : r = rs := hrr.symm.trans ((hold r hlt).1 hh)
          rcases hrs with ⟨e2, _⟩ | ⟨_, _, e, _, e2⟩
          · omega
          · rw [e1, e2]; exact rootOf_root s.mapG h.le e
        · rw [← hrr, (hold r hlt).2 hh]; exact rootOf_root s.mapG h.le r
      obtain ⟨p, hp⟩ := h.surj r hlt hmr
      exact ⟨p, by rw [hin p, if_neg (fun hc => by rw [hc.2] at hp; cases hp)]; exact hp⟩
  · intro p e hpe
    rw [hin p] at hpe
    rw [hnm]
    split at hpe
    · cases hpe; omega
    · have := h.lab p e hpe; omega
  · intro p q e f hpe hqf
    obtain ⟨kp1, kp2⟩ := key p e hpe
    obtain ⟨kq1, kq2⟩ := key q f hqf
    by_cases hMp : Mem J ps p <;> by_cases hMq : Mem J ps q
    · exact ⟨fun _ => Or.inr ⟨hMp, hMq⟩, fun _ => by rw [kp1.2 hMp, kq1.2 hMq]⟩
    · constructor
      · intro e1
        exact absurd (kq1.1 (by rw [← e1]; exact kp1.2 hMp)) hMq
      · intro hj
        rcases hj with hj | ⟨_, hj⟩
        · exact absurd (mem_of_rel hJ (hJ.symm hj) hMp) hMq
        · exact absurd hj hMq
    · constructor
      · intro e1
        exact absurd (kp1.1 (by rw [e1]; exact kq1.2 hMq)) hMp
      · intro hj
        rcases hj with hj | ⟨hj, _⟩
        · exact absurd (mem_of_rel hJ hj hMq) hMp
        · exact absurd hj hMp
    · obtain ⟨a1, a2⟩ := kp2 hMp
      obtain ⟨b1, b2⟩ := kq2 hMq
      rw [a2, b2, h.iff p q e f a1 b1]
      constructor
      · exact Or.inl
      · intro hj
        rcases hj with hj | ⟨hj, _⟩
        · exact hj
        · exact absurd hj hMp
  · intro p q hj
    rcases hj with hj | ⟨h1, h2⟩
    · rcases h.sep p q hj with e | ⟨e1, e2⟩
      · exact Or.inl e
      · exact Or.inr ⟨(hsome p).2 (Or.inl e1), (hsome q).2 (Or.inl e2)⟩
    · exact Or.inr ⟨hmemlab p h1, hmemlab q h2⟩

/-- one chunk group (lines 312-336) turns the partition `J` into the least equivalence above `J` joining all of `ps` -/
theorem mergeGroup_step (n : Nat) (s : MS) (J : Nat → Nat → Prop) (hJ : Equivalence J) (h : MergeInv s J)
    (ps : List Nat) (hnd : ps.Nodup) (hne : ps ≠ []) (hcap : s.nMap < 9*n) :
    MergeInv (mergeGroup n s ps) (Jn J ps) ∧ (mergeGroup n s ps).nMap = s.nMap + 1 ∧
    (∀ x, (mergeGroup n s ps).inG.get x =
      if x ∈ ps ∧ s.inG.get x = none then some s.nMap else s.inG.get x) := by
  obtain ⟨a1, _, a3, a4, a5⟩ := passA_fold s.nMap s.mapG h.le s.inG h.lab ps s.inG (9*n) true hnd
    (fun _ _ => rfl)
  simp only [mergeGroup, freeze_eq]
  generalize ps.foldl (passA s.nMap s.mapG) (s.inG, 9*n, true) = a at a1 a3 a4 a5 ⊢
  have hrtlt : ∀ e, e < s.nMap → rootOf s.mapG e < s.nMap := fun e he => by
    have := rootOf_le s.mapG h.le e; omega
  by_cases hm : a.2.1 = 9*n
  · -- no member was labelled before: the new label is a root
    rw [if_pos hm]
    obtain ⟨hle', hrt, hrn⟩ := rootOf_upd_new s.mapG h.le s.nMap s.nMap (Or.inl rfl)
    have hnone : ∀ p, p ∈ ps → s.inG.get p = none := by
      intro p hp
      cases hpe : s.inG.get p with
      | none => rfl
      | some e =>
        have := a4 p hp e hpe
        have := hrtlt e (h.lab p e hpe)
        omega
    refine ⟨mergeInv_of_step s _ J hJ h ps a1 rfl hle' ?_ hne s.nMap (Or.inl ⟨rfl, hnone⟩) hrn ?_, rfl, a1⟩
    · show (s.ok && a.2.2 && decide (s.nMap < 9*n)) = true
      rw [h.ok, a5]; simp [hcap]
    · intro x hx
      have hn : ¬ HitsGroup s.inG s.mapG ps x := fun ⟨p, hp, e, hpe, _⟩ => by rw [hnone p hp] at hpe; cases hpe
      exact ⟨fun hh => absurd hh hn, fun _ => hrt x hx⟩
  · -- the new label points to the least root `minE` of the members labelled before, then pass B
    rw [if_neg hm]
    obtain ⟨p0, hp0, e0, hpe0, hmin0⟩ := a3.resolve_left hm
    have he0 : e0 < s.nMap := h.lab p0 e0 hpe0
    have hmlt : a.2.1 < s.nMap := by rw [hmin0]; exact hrtlt e0 he0
    have hmroot : s.mapG.get a.2.1 = a.2.1 := by rw [hmin0]; exact rootOf_root s.mapG h.le e0
    obtain ⟨hle0, hrt0, hrn0⟩ := rootOf_upd_new s.mapG h.le s.nMap a.2.1 (Or.inr ⟨hmlt, hmroot⟩)
    have hroot0 : (upd s.mapG s.nMap a.2.1).get a.2.1 = a.2.1 := by
      rw [upd_get, if_neg (by omega)]; exact hmroot
    have hkeep : ∀ p e, s.inG.get p = some e → a.1.get p = some e := by
      intro p e hpe
      rw [a1 p, if_neg (fun hc => by rw [hc.2] at hpe; cases hpe)]; exact hpe
    have hmem : ∀ p e, a.1.get p = some e →
        (e = s.nMap ∧ s.inG.get p = none) ∨ (e < s.nMap ∧ s.inG.get p = some e) := by
      intro p e hpe
      rw [a1 p] at hpe
      split at hpe
      · rename_i hc; cases hpe; exact Or.inl ⟨rfl, hc.2⟩
      · exact Or.inr ⟨h.lab p e hpe, hpe⟩
    obtain ⟨b1, b2, b3⟩ := passB_fold s.nMap a.2.1 a.1 ps (upd s.mapG s.nMap a.2.1) true hle0 hroot0
      (fun p hp => by
        have hs : (a.1.get p).isSome = true := by rw [a1 p, isSome_ite]; exact Or.inr hp
        obtain ⟨e, hpe⟩ := Option.isSome_iff_exists.1 hs
        refine ⟨e, hpe, ?_⟩
        rcases hmem p e hpe with ⟨e1, _⟩ | ⟨e1, e2⟩
        · subst e1; exact ⟨Nat.le_refl _, by rw [hrn0]; exact Nat.le_refl _⟩
        · exact ⟨by omega, by rw [hrt0 e e1]; exact a4 p hp e e2⟩)
    generalize ps.foldl (passB s.nMap a.2.1 a.1) (upd s.mapG s.nMap a.2.1, true) = b at b1 b2 b3 ⊢
    refine ⟨mergeInv_of_step s _ J hJ h ps a1 rfl b1 ?_ hne a.2.1 (Or.inr ⟨p0, hp0, e0, hpe0, hmin0⟩) ?_ ?_, rfl, a1⟩
    · show (s.ok && a.2.2 && decide (s.nMap < 9*n) && b.2) = true
      rw [h.ok, a5, b2]; simp [hcap]
    · exact (b3 s.nMap).1 ⟨p0, hp0, e0, hkeep p0 e0 hpe0, by rw [hrn0, hrt0 e0 he0, hmin0]⟩
    · intro x hx
      constructor
      · rintro ⟨p, hp, e, hpe, hxe⟩
        exact (b3 x).1 ⟨p, hp, e, hkeep p e hpe, by rw [hrt0 x hx, hrt0 e (h.lab p e hpe), hxe]⟩
      · intro hn
        by_cases hh : HitsGroup a.1 (upd s.mapG s.nMap a.2.1) ps x
        · -- only through the new label, whose root `minE` is then the root of `x` already
          rw [(b3 x).1 hh]
          obtain ⟨p, hp, e, hpe, hxe⟩ := hh
          rw [hrt0 x hx] at hxe
          rcases hmem p e hpe with ⟨c1, _⟩ | ⟨c1, c2⟩
          · rw [c1, hrn0] at hxe; exact hxe.symm
          · rw [hrt0 e c1] at hxe; exact absurd ⟨p, hp, e, c2, hxe⟩ hn
        · rw [(b3 x).2 hh, hrt0 x hx]

theorem mergeGroups_fold (n : Nat) : ∀ (gl : List (List Nat)) (s : MS) (J : Nat → Nat → Prop), Equivalence J →
    MergeInv s J → (∀ g, g ∈ gl → g.Nodup ∧ g ≠ []) → s.nMap + gl.length ≤ 9*n →
    MergeInv (gl.foldl (mergeGroup n) s) (gl.foldl Jn J) ∧ (gl.foldl (mergeGroup n) s).nMap = s.nMap + gl.length ∧
    (∀ x, ((gl.foldl (mergeGroup n) s).inG.get x).isSome = true ↔
      (s.inG.get x).isSome = true ∨ ∃ g, g ∈ gl ∧ x ∈ g) := by
  intro gl
  induction gl with
  | nil => intro s J _ h _ _; exact ⟨h, rfl, fun x => by simp⟩
  | cons g gl ih =>
    intro s J hJ h hnd hcap
    simp only [List.length_cons] at hcap
    obtain ⟨m1, m2, m3⟩ := mergeGroup_step n s J hJ h g (hnd g List.mem_cons_self).1 (hnd g List.mem_cons_self).2
      (by omega)
    obtain ⟨i1, i2, i3⟩ := ih (mergeGroup n s g) (Jn J g) (jn_equiv hJ g) m1
      (fun g' hg' => hnd g' (List.mem_cons_of_mem _ hg')) (by rw [m2]; omega)
    rw [List.foldl_cons, List.foldl_cons]
    refine ⟨i1, by rw [i2, m2, List.length_cons]; omega, fun x => ?_⟩
    rw [i3 x, m3 x, isSome_ite]
    simp only [List.mem_cons, exists_eq_or_imp, or_assoc]

theorem resolve_rootOf (m : Arr Nat) (nMap : Nat) (hle : PointsDown m) :
    ∀ e, e < nMap → (resolve nMap m).1.get e = nroots m (rootOf m e) := by
  have h := resInv_all m nMap (fun i _ => hle i) nMap (Nat.le_refl _)
  intro e
  induction e using Nat.strongRecOn with
  | _ e ih =>
    intro he
    by_cases hr : m.get e = e
    · rw [rootOf_of_root m hle e hr]; exact h.root e he hr
    · have hlt : m.get e < e := by have := hle e; omega
      rw [rootOf_of_child m hle e hr, ← ih _ hlt (by omega)]
      exact h.child e he hr

theorem resolve_eq_iff (m : Arr Nat) (nMap : Nat) (hle : PointsDown m) (e f : Nat) (he : e < nMap) (hf : f < nMap) :
    (resolve nMap m).1.get e = (resolve nMap m).1.get f ↔ rootOf m e = rootOf m f := by
  rw [resolve_rootOf m nMap hle e he, resolve_rootOf m nMap hle f hf]
  constructor
  · exact nroots_inj m _ _ (rootOf_root m hle e) (rootOf_root m hle f)
  · intro h; rw [h]

theorem resolve_lt (m : Arr Nat) (nMap : Nat) (hle : PointsDown m) (e : Nat) (he : e < nMap) :
    (resolve nMap m).1.get e < (resolve nMap m).2 := by
  have h := resInv_all m nMap (fun i _ => hle i) nMap (Nat.le_refl _)
  have hc : (resolve nMap m).2 = nroots m nMap := h.cnt
  rw [resolve_rootOf m nMap hle e he, hc]
  exact nroots_lt m _ _ (rootOf_root m hle e) (by have := rootOf_le m hle e; omega)

/-- the closeness relation inside one cell (local indices) -/
def cellClose (close : Nat → Nat → Bool) (chunk : Array Nat) : Nat → Nat → Bool :=
  fun a b => close (cget chunk a) (cget chunk b)

/-- the groups of one cell as lists of global indices, in the order of the loop `for k in range(nGroups)` -/
def chunkGroups (close : Nat → Nat → Bool) (chunk : Array Nat) : List (List Nat) :=
  (List.range (groupsRun chunk.size (cellClose close chunk)).nG).map (fun k =>
    (walk (groupsRun chunk.size (cellClose close chunk)).L.next chunk.size
      ((groupsRun chunk.size (cellClose close chunk)).L.first.get k)).map (cget chunk))

theorem mergeChunk_eq (n : Nat) (close : Nat → Nat → Bool) (s : MS) (chunk : Array Nat) :
    mergeChunk n close s chunk = if chunk.size = 0 then s else
      { (chunkGroups close chunk).foldl (mergeGroup n) s with
        ok := ((chunkGroups close chunk).foldl (mergeGroup n) s).ok &&
          (groupsRun chunk.size (cellClose close chunk)).ok &&
          countOk chunk.size (groupsRun chunk.size (cellClose close chunk)).L
            (groupsRun chunk.size (cellClose close chunk)).nG } := by
  unfold mergeChunk chunkGroups
  rw [List.foldl_map]
  rfl

end PydlVerif.Fof
