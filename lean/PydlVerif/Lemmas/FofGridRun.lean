/-
C05: the model of `chunks.__init__` RETURNS over ℝ when every declination stays 4.5 chunk sizes away from the poles, so the
hypothesis "the model's spheregroup returned" of `spheregroup_fof_grid` is satisfiable.
-/
import PydlVerif.Lemmas.FofGridReal
namespace PydlVerif.FofGrid
open Real PydlVerif.Sphere
attribute [local instance] realFns fieldScalar fieldTrig
attribute [-instance] Scalar.instOfNat Scalar.instOfScientific

theorem cosDecMinOf_pos (b : Array ℝ) (i : Nat) (h1 : |b.getD i 0| < 90) (h2 : |b.getD (i + 1) 0| < 90) :
    0 < cosDecMinOf b i := by
  rw [cosDecMinOf_real]
  split
  · exact cos_deg_pos h1
  · exact cos_deg_pos h2

theorem mul_three_add_div (ms : ℝ) (hms : 0 < ms) (R : ℝ) : ms * (3 + R / ms) = 3 * ms + R := by
  have h : ms * (R / ms) = R := by rw [mul_comm]; exact div_mul_cancel₀ R hms.ne'
  rw [mul_add, h]; ring

/-- the declination extent `[m1, m1 + ms·n]` that the constructor computes from the range `[lo, hi]` is not clipped.
4.5 = the 3 chunk sizes within which an edge is clipped to the pole + the up to 1.5 chunk sizes by which the centred extent
(`ms·n ≤ 3·ms + (hi - lo)`) overshoots the range on either side -/
theorem dec_unclipped (ms lo hi : ℝ) (n : Nat) (hms : 0 < ms) (hle : lo ≤ hi)
    (hlo : -90 + 9 / 2 * ms ≤ lo) (hhi : hi ≤ 90 - 9 / 2 * ms) (hn : n = (3 + ⌊(hi - lo) / ms⌋).toNat)
    (m1 : ℝ) (h1 : m1 = lo - 0.5 * (ms * (n : ℝ) - hi + lo)) :
    0 < n ∧ ¬ m1 < -90 + 3 * ms ∧ ¬ 90 - 3 * ms < m1 + ms * (n : ℝ) ∧
      -90 < m1 ∧ m1 + ms * (n : ℝ) < 90 ∧ m1 < m1 + ms * (n : ℝ) := by
  obtain ⟨hn3, _, hn5⟩ := toNat_floor ((hi - lo) / ms) (div_nonneg (sub_nonneg.2 hle) hms.le) n hn
  have hD := mul_le_mul_of_nonneg_left hn5 hms.le
  rw [mul_three_add_div ms hms] at hD
  have hDpos : 0 < ms * (n : ℝ) := mul_pos hms (Nat.cast_pos.2 (by omega))
  rw [show (0.5 : ℝ) = 1 / 2 by norm_num] at h1
  have ha : -90 + 3 * ms ≤ m1 := by linarith only [h1, hD, hlo]
  have hb : m1 + ms * (n : ℝ) ≤ 90 - 3 * ms := by linarith only [h1, hD, hhi]
  have h3 : 0 < 3 * ms := mul_pos three_pos hms
  exact ⟨by omega, not_lt.2 ha, not_lt.2 hb, lt_of_lt_of_le (lt_add_of_pos_right _ h3) ha,
    lt_of_le_of_lt hb (sub_lt_self _ h3), lt_add_of_pos_right _ hDpos⟩

theorem abs_edge_lt {b : Array ℝ} {n : Nat} (he : EdgesOK b n) (h0 : -90 < b.getD 0 0) (hn : b.getD n 0 < 90)
    (k : Nat) (hk : k ≤ n) : |b.getD k 0| < 90 := by
  have h1 := he.mono 0 k (by omega) hk
  have h2 := he.mono k n hk (le_refl _)
  exact abs_lt.2 ⟨by linarith only [h0, h1], by linarith only [hn, h2]⟩

theorem chunksInit_returns (ra dec : Array ℝ) (ms : ℝ) (hms : 0 < ms)
    (hsz0 : ra.size ≠ 0) (hsz : ra.size = dec.size)
    (hra : ∀ i, i < ra.size → 0 ≤ ra.getD i 0 ∧ ra.getD i 0 < 360)
    (hdec : ∀ i, i < dec.size → -90 + 9 / 2 * ms ≤ dec.getD i 0 ∧ dec.getD i 0 ≤ 90 - 9 / 2 * ms) :
    ∃ g, chunksInit ra dec ms = .ok g := by
  unfold chunksInit
  simp -zeta only [scalar_lit, scalar_sci, scalar_ofNat, scalar_floor]
  simp -zeta only [Nat.cast_ofNat, Nat.cast_zero]
  extract_lets decMin0 decMax0 decRange0 nDec decRange decMin1 decMax1 decMin decMax decBounds0 decBounds
    c0 raRange nRa0 raB0 jp4 jp3 jp2 jp1
  -- `jp1 … jp4`: what the constructor goes on with after each of its four guards `if … then throw`
  have hdsz : dec.size ≠ 0 := by omega
  obtain ⟨hlo0, hhi0⟩ := amin_amax_bounds dec _ _ hdsz hdec
  obtain ⟨hn0, hc1, hc2, hlo, hhi, hlt⟩ :=
    dec_unclipped ms decMin0 decMax0 nDec hms (amin_le_amax dec hdsz) hlo0 hhi0 rfl decMin1 rfl
  have hmin : decMin = decMin1 := if_neg hc1
  have hmax : decMax = decMax1 := if_neg hc2
  have hlt' : decMin < decMax := by rw [hmin, hmax]; exact hlt
  have hlo' : -90 < decMin := by rw [hmin]; exact hlo
  have hhi' : decMax < 90 := by rw [hmax]; exact hhi
  obtain ⟨hE, hb0, hbN⟩ := linEdges_ok decMin decMax nDec hn0 hlt' decBounds
    (linEdges_set decMin decMax nDec hn0 decBounds0 rfl)
  have hbk := abs_edge_lt hE (lt_of_lt_of_eq hlo' hb0.symm) (lt_of_eq_of_lt hbN hhi')
  rw [if_neg (by rintro (h | h); exact hsz0 h; exact h hsz)]
  simp only [jp1]
  rw [if_neg (not_not.2 hms)]
  simp only [jp2]
  rw [if_neg (by
    rw [Array.any_eq_true]
    rintro ⟨i, hi, h⟩
    rw [decide_eq_true_eq] at h
    have := hra i hi
    rw [← Array.getElem_eq_getD (h := hi) 0] at this
    rcases h with h | h
    · exact not_lt.2 this.1 h
    · exact h this.2)]
  simp only [jp3]
  have hc0 : 0 < c0 := cosDecMinOf_pos _ _ (hbk 0 (by omega)) (hbk nDec (le_refl _))
  rw [if_neg (not_le.2 hc0)]
  simp -zeta only [jp4]
  -- every band has a positive cosine, so the loop over the bands collects `bandOf`
  exact ⟨_, (congrArg (fun x => x >>= _) ((forIn_collect nDec (fun i => cosDecMinOf decBounds i ≤ 0) _
    (bandOf ms _ _ decBounds) _ (fun i r => rfl) _).2
      ⟨fun k hk => not_le.2 (cosDecMinOf_pos _ _ (hbk k (by omega)) (hbk (k + 1) (by omega))), rfl⟩)).trans rfl⟩

end PydlVerif.FofGrid
