/-
Token level of the yanny reader: the decimal digits of an integer (`parseNat_fmtNat`, `fmtInt_chars`), the first token
of a text that starts with a bare word, the quote-parity bookkeeping behind `trailing_comment`, double-brace freedom.
-/
import PydlVerif.Lemmas.YannyChar
namespace PydlVerif.Yanny

theorem takeWhile_app_stop {α} (p : α → Bool) (l₁ : List α) (b : α) (l₂ : List α)
    (h₁ : ∀ a ∈ l₁, p a = true) (hb : p b = false) : (l₁ ++ b :: l₂).takeWhile p = l₁ := by
  rw [List.takeWhile_append_of_pos h₁, List.takeWhile_cons_of_neg (by simp [hb]), List.append_nil]

theorem dropWhile_app_stop {α} (p : α → Bool) (l₁ : List α) (b : α) (l₂ : List α)
    (h₁ : ∀ a ∈ l₁, p a = true) (hb : p b = false) : (l₁ ++ b :: l₂).dropWhile p = b :: l₂ := by
  rw [List.dropWhile_append_of_pos h₁, List.dropWhile_cons_of_neg (by simp [hb])]

theorem takeWhile_all {α} (p : α → Bool) (l : List α) (h : ∀ a ∈ l, p a = true) : l.takeWhile p = l := by
  simpa using List.takeWhile_append_of_pos (l₂ := []) h

theorem dropWhile_all {α} (p : α → Bool) (l : List α) (h : ∀ a ∈ l, p a = true) : l.dropWhile p = [] := by
  simpa using List.dropWhile_append_of_pos (l₂ := []) h

theorem dropWhile_head_false {α} (p : α → Bool) (a : α) (t : List α) (h : p a = false) :
    (a :: t).dropWhile p = a :: t :=
  List.dropWhile_cons_of_neg (by simp [h])

theorem dropWhile_head {α} (p : α → Bool) (l : List α) (h : ∀ c, l.head? = some c → p c = false) :
    l.dropWhile p = l := by
  cases l with
  | nil => rfl
  | cons a t => exact dropWhile_head_false _ _ _ (h a rfl)

theorem digitVal_digitChar : ∀ d < 10, digitVal (digitChar d) = some d := by decide

/-- a character the writer prints for an integer: `-` or a decimal digit -/
def intChar (c : Char) : Bool := c == '-' || ('0' ≤ c && c ≤ '9')

theorem natDigitsAux_all (P : Char → Prop) (hP : ∀ d < 10, P (digitChar d)) (f n : Nat) (acc : Str)
    (h : ∀ c ∈ acc, P c) : ∀ c ∈ natDigitsAux f n acc, P c := by
  induction f generalizing n acc with
  | zero => exact h
  | succ f ih =>
    unfold natDigitsAux
    split
    · rename_i hlt
      exact List.forall_mem_cons.mpr ⟨hP n hlt, h⟩
    · exact ih _ _ (List.forall_mem_cons.mpr ⟨hP _ (Nat.mod_lt _ (by decide)), h⟩)

theorem natDigitsAux_chars (f n : Nat) (acc : Str) (h : ∀ c ∈ acc, intChar c = true) :
    ∀ c ∈ natDigitsAux f n acc, intChar c = true :=
  natDigitsAux_all (intChar · = true) (by decide) f n acc h

theorem natDigitsAux_ne_nil (f n : Nat) (acc : Str) (h : acc ≠ [] ∨ 0 < f) : natDigitsAux f n acc ≠ [] := by
  induction f generalizing n acc with
  | zero => exact h.resolve_right (Nat.lt_irrefl 0)
  | succ f ih =>
    unfold natDigitsAux
    split
    · exact List.cons_ne_nil _ _
    · exact ih _ _ (Or.inl (List.cons_ne_nil _ _))

/-- what was read so far moves up by the number `L` of digits of `n` -/
theorem parse_natDigitsAux (f : Nat) : ∀ n, n < f → ∃ L : Nat, ∀ (acc : Str) (a : Nat),
    parseNatAux (natDigitsAux f n acc) a = parseNatAux acc (a * 10 ^ L + n) := by
  induction f with
  | zero => intro n h; exact absurd h (Nat.not_lt_zero n)
  | succ f ih =>
    intro n hn
    by_cases hlt : n < 10
    · refine ⟨1, fun acc a => ?_⟩
      simp [natDigitsAux, hlt, parseNatAux, digitVal_digitChar n hlt]
    · obtain ⟨L, hL⟩ := ih (n / 10) (by omega)
      refine ⟨L + 1, fun acc a => ?_⟩
      simp only [natDigitsAux, hlt, if_false]
      rw [hL]
      simp only [parseNatAux, digitVal_digitChar (n % 10) (Nat.mod_lt _ (by decide))]
      congr 1
      rw [Nat.pow_succ, Nat.add_mul, Nat.mul_assoc]
      omega

theorem parseNat_fmtNat (n : Nat) : parseNat (fmtNat n) = some n := by
  obtain ⟨L, hL⟩ := parse_natDigitsAux (n + 1) n (Nat.lt_succ_self n)
  unfold parseNat fmtNat
  rw [if_neg (by rw [List.isEmpty_iff]; exact natDigitsAux_ne_nil _ _ _ (Or.inr (Nat.succ_pos n))), hL [] 0]
  simp [parseNatAux]

theorem fmtNat_chars (n : Nat) : ∀ c ∈ fmtNat n, ('0' ≤ c && c ≤ '9') = true :=
  natDigitsAux_all (fun c => ('0' ≤ c && c ≤ '9') = true) (by decide) (n + 1) n [] (by simp)

theorem fmtInt_chars (n : Int) : ∀ c ∈ fmtInt n, intChar c = true := by
  cases n with
  | ofNat m => exact natDigitsAux_chars (m + 1) m [] (by simp)
  | negSucc m => exact List.forall_mem_cons.mpr ⟨by decide, natDigitsAux_chars (m + 2) (m + 1) [] (by simp)⟩

theorem getToken_bare (c : Char) (t : Str) (h1 : c ≠ '"') (h2 : c ≠ '{') :
    getToken (c :: t) =
      match (c :: t).dropWhile (fun x => !isSpace x) with
      | [] => .ok (c :: t, [])
      | r => .ok ((c :: t).takeWhile (fun x => !isSpace x), r.dropWhile isSpace) := by
  unfold getToken
  split
  · rename_i h; cases h
  · rename_i h; injection h with h _; exact absurd h h1
  · rename_i h; injection h with h _; exact absurd h h2
  · rename_i c' t' _ _ h; injection h with ha hb; subst ha; subst hb; rfl

theorem getToken_bareWord (w tail : Str) (hne : w ≠ []) (hsp : ∀ c ∈ w, isSpace c = false)
    (h1 : w.head? ≠ some '"') (h2 : w.head? ≠ some '{')
    (ht : ∀ c, tail.head? = some c → isSpace c = true) :
    getToken (w ++ tail) = .ok (w, tail.dropWhile isSpace) := by
  have hns : ∀ a ∈ w, (!isSpace a) = true := fun a ha => by simp [hsp a ha]
  obtain ⟨c, t, rfl⟩ := List.exists_cons_of_ne_nil hne
  rw [List.cons_append, getToken_bare c _ (fun e => h1 (e ▸ rfl)) (fun e => h2 (e ▸ rfl)),
    ← List.cons_append]
  cases tail with
  | nil => rw [List.append_nil, dropWhile_all _ _ hns]; rfl
  | cons x r =>
    have hx : (!isSpace x) = false := by simp [ht x rfl]
    rw [dropWhile_app_stop _ _ x r hns hx, takeWhile_app_stop _ _ x r hns hx]

theorem restOfLine_id (s : Str) (h : '\n' ∉ s) : restOfLine s = s :=
  takeWhile_all _ s fun _ ha => bne_iff_ne.mpr fun e => h (e ▸ ha)

theorem lstrip_id (s : Str) (h : ∀ c, s.head? = some c → isSpace c = false) : s.dropWhile isSpace = s :=
  dropWhile_head isSpace s h

/-- every `#` is met with an odd number of `"` before it (`q` = parity so far) -/
def hashInQ : Bool → Str → Bool
  | _, [] => true
  | q, c :: t =>
    if c == '"' then hashInQ (!q) t
    else if c == '#' then q && hashInQ q t
    else hashInQ q t

/-- parity of the number of `"` -/
def qpar : Str → Bool
  | [] => false
  | c :: t => if c == '"' then !qpar t else qpar t

/-- a piece of a line that leaves the quote state closed and has every `#` inside quotes -/
def good (p : Str) : Bool := hashInQ false p && !qpar p

theorem hashInQ_append (q : Bool) (a b : Str) :
    hashInQ q (a ++ b) = (hashInQ q a && hashInQ (q != qpar a) b) := by
  induction a generalizing q with
  | nil => simp [hashInQ, qpar]
  | cons c t ih =>
    simp only [List.cons_append, hashInQ, qpar, ih]
    by_cases h1 : c = '"'
    · simp [h1]
    · by_cases h2 : c = '#'
      · simp [h2, Bool.and_assoc]
      · simp [h1, h2]

theorem qpar_append (a b : Str) : qpar (a ++ b) = (qpar a != qpar b) := by
  induction a with
  | nil => simp [qpar]
  | cons c t ih =>
    simp only [List.cons_append, qpar, ih]
    by_cases h1 : c = '"'
    · simp [h1]
    · simp [h1]

theorem good_append (a b : Str) (ha : good a = true) (hb : good b = true) : good (a ++ b) = true := by
  simp only [good, Bool.and_eq_true, Bool.not_eq_true'] at ha hb ⊢
  rw [hashInQ_append, qpar_append, ha.2, hb.2]
  simp [ha.1, hb.1]

theorem hashInQ_noquote (s : Str) (h1 : '"' ∉ s) :
    qpar s = false ∧ ∀ q, hashInQ q s = (q || !s.contains '#') := by
  induction s with
  | nil => simp [hashInQ, qpar]
  | cons c t ih =>
    have hc : c ≠ '"' := fun e => h1 (by simp [e])
    obtain ⟨i1, i2⟩ := ih (fun h => h1 (List.mem_cons_of_mem _ h))
    refine ⟨by simp [qpar, hc, i1], fun q => ?_⟩
    by_cases h2 : c = '#'
    · cases q <;> simp [hashInQ, h2, i2]
    · simp [hashInQ, hc, h2, Ne.symm h2, i2]

theorem good_plain (s : Str) (h1 : '"' ∉ s) (h2 : '#' ∉ s) : good s = true := by
  obtain ⟨a, b⟩ := hashInQ_noquote s h1
  simp [good, a, b, h2]

theorem good_quoted (s : Str) (h1 : '"' ∉ s) : good ('"' :: (s ++ ['"'])) = true := by
  obtain ⟨a, b⟩ := hashInQ_noquote s h1
  simp [good, hashInQ, qpar, hashInQ_append, qpar_append, a, b]

theorem count_quote_qpar (s : Str) : (s.count '"' % 2 == 1) = qpar s := by
  induction s with
  | nil => rfl
  | cons c t ih =>
    simp only [qpar, List.count_cons, ← ih]
    by_cases h1 : c = '"'
    · rcases Nat.mod_two_eq_zero_or_one (List.count '"' t) with h | h
      · simp [h1, h, Nat.add_mod]
      · simp [h1, h, Nat.add_mod]
    · simp [h1]

theorem trailingComment_good (l : Str) (h : good l = true) : trailingComment l = l := by
  unfold trailingComment
  simp only
  split
  · rename_i hc
    -- `post` is what follows the last `#` of `l`, reversed
    obtain ⟨post, pre, hr, hp⟩ := List.eq_append_cons_of_mem (List.contains_iff_mem.mp hc)
    have hl : l = pre.reverse ++ '#' :: post.reverse := by simpa using congrArg List.reverse hr
    rw [hl] at h
    -- the parity before the `#` is odd and that of the whole line even: an odd number of `"` follows the `#`
    have hq : qpar post.reverse = true := by
      simp [good, hashInQ_append, qpar_append, hashInQ, qpar] at h
      exact h.2 ▸ h.1.2.1
    have hodd := count_quote_qpar post.reverse
    rw [hq, List.count_reverse] at hodd
    rw [hr, takeWhile_app_stop (· != '#') post '#' pre (fun _ ha => bne_iff_ne.mpr fun e => hp (e ▸ ha)) (by decide)]
    simp only [beq_iff_eq] at hodd
    simp [hodd]
  · rfl

theorem doubleBraces_dbFree (l : Str) (h : dbFree l = true) : doubleBraces l = l := by
  unfold doubleBraces
  induction l with
  | nil => rfl
  | cons c t ih =>
    simp only [dbFree, Bool.and_eq_true, Option.isNone_iff_eq_none] at h
    simp only [dbGo, h.1, ih h.2]

end PydlVerif.Yanny
