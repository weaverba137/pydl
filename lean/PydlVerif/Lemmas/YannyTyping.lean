/-
The typing functions of the reader (`basetype`, `isarray`, `array_length`, `char_length`, `convert`'s classification)
on the type text the writer produces for a column: a number, an enum column or a `char` column (`col_kinds`);
at the end `re.split` at commas on a stretch without comma (`splitCommaAux_noComma`, for the enum labels of any layout).
-/
import PydlVerif.Lemmas.YannyShape
namespace PydlVerif.YannyRT
open PydlVerif.Yanny
variable {F : Type}

theorem digit_facts (c : Char) (h : ('0' ≤ c && c ≤ '9') = true) : c.isDigit = true ∧ c ≠ '<' ∧ c ≠ '>' := by
  have hd : c.isDigit = true := by simpa [Char.isDigit, Char.le_def] using h
  have hw := scan_digit_word c hd
  exact ⟨hd, wordCh_ne hw (by decide), wordCh_ne hw (by decide)⟩

theorem wordOK_props (s : Str) (h : wordOK s = true) :
    s ≠ [] ∧ ∀ c ∈ s, isWordCh c = true ∧ c.toNat < 128 := by
  simp only [wordOK, Bool.and_eq_true, Bool.not_eq_true', List.all_eq_true, decide_eq_true_eq] at h
  refine ⟨?_, fun c hc => ⟨h.1.2 c hc, h.2 c hc⟩⟩
  intro e; subst e; simp at h

theorem wordOK_wordy (s : Str) (h : wordOK s = true) : wordy s :=
  ⟨(wordOK_props s h).1, fun c hc => ((wordOK_props s h).2 c hc).1⟩

theorem identOK_wordy (s : Str) (h : identOK s = true) : wordy s := by
  cases s with
  | nil => simp [identOK] at h
  | cons a t =>
    simp only [identOK, Bool.and_eq_true, List.all_eq_true] at h
    exact ⟨by simp, h.1.2⟩

theorem wordy_not_mem (s : Str) (h : wordy s) (d : Char) (hd : isWordCh d = false) : d ∉ s :=
  fun hm => wordCh_ne (h.2 d hm) hd rfl

theorem wordy_upper (s : Str) (h : wordy s) : wordy (upper s) :=
  ⟨fun e => h.1 (List.map_eq_nil_iff.mp e), List.forall_mem_map.mpr fun a ha => wordCh_toUpper a (h.2 a ha)⟩

theorem upper_noLower (s : Str) : ∀ c ∈ upper s, lowerCh c = false :=
  List.forall_mem_map.mpr fun a _ => toUpper_noLower a

theorem enumOK_props (e : EnumDecl) (h : enumOK e = true) :
    wordOK e.tyName = true ∧ e.labels ≠ [] ∧ ∀ l ∈ e.labels, wordOK l = true := by
  simp only [enumOK, Bool.and_eq_true, List.all_eq_true, Bool.not_eq_true'] at h
  obtain ⟨⟨⟨_, hw⟩, hne⟩, hl⟩ := h
  refine ⟨hw, ?_, hl⟩
  intro e'; rw [e'] at hne; simp at hne

theorem colOK_parts (c : Col) (hc : colOK c = true) : identOK c.name = true ∧ supported c.ty = true :=
  Bool.and_eq_true _ _ ▸ hc

def numWords : List Str := ["short".toList, "int".toList, "long".toList, "float".toList, "double".toList]

theorem numWords_facts : ∀ w ∈ numWords, wordy w ∧ 'c' ∉ w ∧ w.any lowerCh = true := by
  simp only [numWords, String.reduceToList, wordy]
  decide

/-- the array part of the suffix -/
def arrA (c : Col) : Str := if c.alen > 0 then brack c.alen else []

/-- a supported scalar type that is not `S`/`U` is numeric: its type word, its conversion, its record type -/
theorem numCol (enums : List EnumDecl) (c : Col) (hs : supported c.ty = true) (hn : strSize c.ty = none) :
    ∃ w ∈ numWords, ∃ t, cType c.ty = some w ∧ convOfBase w = convOfCol c ∧ rtOfBase w = some t ∧
      rtOfCol enums c = some t := by
  unfold convOfCol rtOfCol
  cases hty : c.ty <;> rw [hty] at hs hn <;>
    first
      | exact absurd hn (Option.some_ne_none _)
      | exact absurd hs (by decide)
      | (refine ⟨_, ?_, _, rfl, ?_, ?_, rfl⟩ <;> decide)

theorem strCol (enums : List EnumDecl) (c : Col) (s : Nat) (hs : strSize c.ty = some s) :
    convOfCol c = .str ∧ rtOfCol enums c = some (.S (match enums.find? (fun e => e.col == c.name) with
      | some e => maxLen e.labels
      | none => s)) := by
  unfold convOfCol rtOfCol
  cases hty : c.ty <;> rw [hty] at hs <;> first
    | (injection hs with hs; subst hs; exact ⟨rfl, by cases enums.find? (fun e => e.col == c.name) <;> rfl⟩)
    | exact absurd hs (Option.some_ne_none _).symm

/-- the three kinds of written column: a number, an enum column, a `char` column -/
theorem col_kinds (enums : List EnumDecl) (c : Col) (hs : supported c.ty = true) :
    (∃ w ∈ numWords, ∃ t, strSize c.ty = none ∧ cType c.ty = some w ∧ tyWord enums c = w ∧
      arrSuffix enums c = arrA c ∧ convOfBase w = convOfCol c ∧ rtOfBase w = some t ∧ rtOfCol enums c = some t) ∨
    (∃ s, strSize c.ty = some s ∧ convOfCol c = .str ∧
      ((∃ e, enums.find? (fun e => e.col == c.name) = some e ∧ tyWord enums c = upper e.tyName ∧
          arrSuffix enums c = arrA c ∧ rtOfCol enums c = some (.S (maxLen e.labels))) ∨
       (enums.find? (fun e => e.col == c.name) = none ∧ tyWord enums c = "char".toList ∧
          arrSuffix enums c = arrA c ++ brack s ∧ rtOfCol enums c = some (.S s)))) := by
  cases hss : strSize c.ty with
  | none =>
    obtain ⟨w, hw, t, hct, h1, h2, h3⟩ := numCol enums c hs hss
    exact Or.inl ⟨w, hw, t, rfl, hct, by simp only [tyWord, hss, hct, Option.getD_some],
      by simp only [arrSuffix, arrA, hss, List.append_nil], h1, h2, h3⟩
  | some s =>
    obtain ⟨h1, h2⟩ := strCol enums c s hss
    refine Or.inr ⟨s, rfl, h1, ?_⟩
    cases hf : enums.find? (fun e => e.col == c.name) with
    | some e =>
      exact Or.inl ⟨e, rfl, by simp only [tyWord, hss, hf], by simp only [arrSuffix, arrA, hss, hf, List.append_nil],
        by rw [h2, hf]⟩
    | none =>
      exact Or.inr ⟨rfl, by simp only [tyWord, hss, hf], by simp only [arrSuffix, arrA, hss, hf], by rw [h2, hf]⟩

theorem enumOK_of_find (enums : List EnumDecl) (he : ∀ e ∈ enums, enumOK e = true) (p : EnumDecl → Bool)
    (e : EnumDecl) (h : enums.find? p = some e) : wordy e.tyName ∧ e.labels ≠ [] ∧ ∀ l ∈ e.labels, wordy l := by
  obtain ⟨h2, h3, h4⟩ := enumOK_props e (he e (List.mem_of_find?_eq_some h))
  exact ⟨wordOK_wordy _ h2, h3, fun l hl => wordOK_wordy l (h4 l hl)⟩

theorem char_facts : wordy "char".toList ∧ 'c' ∈ "char".toList := by
  simp only [String.reduceToList, wordy]
  decide

theorem tyWord_wordy (enums : List EnumDecl) (c : Col) (hs : supported c.ty = true)
    (he : ∀ e ∈ enums, enumOK e = true) : wordy (tyWord enums c) := by
  rcases col_kinds enums c hs with ⟨w, hw, _, _, _, htw, _⟩ | ⟨s, _, _, ⟨e, hf, htw, _⟩ | ⟨_, htw, _⟩⟩
  · rw [htw]; exact (numWords_facts w hw).1
  · rw [htw]; exact wordy_upper _ (enumOK_of_find enums he _ e hf).1
  · rw [htw]; exact char_facts.1

theorem brack_chars (n : Nat) : ∀ x ∈ brack n, x = '[' ∨ x = ']' ∨ ('0' ≤ x && x ≤ '9') = true := by
  intro x hx
  simp only [brack, List.mem_cons, List.mem_append, List.mem_nil_iff, or_false] at hx
  rcases hx with h | h | h
  · exact Or.inl h
  · exact Or.inr (Or.inr (fmtNat_chars n x h))
  · exact Or.inr (Or.inl h)

theorem brack_arrOK (n : Nat) : arrOK (brack n) := by
  refine ⟨Or.inr ⟨rfl, ?_⟩, ?_⟩
  · exact List.getLast?_concat (l := '[' :: fmtNat n)
  · exact fun x hx => (brack_chars n x hx).imp_right (Or.imp_right fun h => (digit_facts x h).1)

theorem arrOK_nil : arrOK [] := ⟨Or.inl rfl, by simp⟩

theorem arrOK_append (a b : Str) (ha : arrOK a) (hb : arrOK b) : arrOK (a ++ b) := by
  refine ⟨?_, List.forall_mem_append.mpr ⟨ha.2, hb.2⟩⟩
  rcases ha.1 with rfl | ⟨h1, h2⟩
  · exact hb.1
  · rcases hb.1 with rfl | ⟨-, h4⟩
    · rw [List.append_nil]
      exact Or.inr ⟨h1, h2⟩
    · refine Or.inr ⟨?_, ?_⟩
      · rw [List.head?_append, h1]; rfl
      · rw [List.getLast?_append, h4]; rfl

theorem arrSuffix_arrOK (enums : List EnumDecl) (c : Col) : arrOK (arrSuffix enums c) := by
  unfold arrSuffix
  apply arrOK_append
  · split
    · exact brack_arrOK _
    · exact arrOK_nil
  · split
    · split
      · exact arrOK_nil
      · exact brack_arrOK _
    · exact arrOK_nil

theorem arrOK_not_mem (a : Str) (h : arrOK a) (d : Char) (hw : isWordCh d = false) (h1 : d ≠ '[')
    (h2 : d ≠ ']') : d ∉ a := by
  intro hm
  rcases h.2 d hm with e | e | e
  · exact h1 e
  · exact h2 e
  · rw [scan_digit_word d e] at hw; cases hw

theorem normB_arrOK (a : Str) (h : arrOK a) : normB a = a := by
  unfold normB
  refine (List.map_congr_left fun c hc => ?_).trans (List.map_id a)
  have h1 : c ≠ '<' := fun e => arrOK_not_mem a h '<' (by decide) (by decide) (by decide) (e ▸ hc)
  have h2 : c ≠ '>' := fun e => arrOK_not_mem a h '>' (by decide) (by decide) (by decide) (e ▸ hc)
  simp [h1, h2]

theorem typOf_eq (enums : List EnumDecl) (c : Col) : typOf enums c = tyWord enums c ++ arrSuffix enums c := by
  rw [typOf, normB_arrOK _ (arrSuffix_arrOK enums c)]

theorem wordy_noOpen (s : Str) (h : wordy s) : ∀ x ∈ s, (x != '[') = true :=
  fun x hx => bne_iff_ne.mpr (wordCh_ne (h.2 x hx) (by decide))

theorem baseType_typ (enums : List EnumDecl) (c : Col) (hc : colOK c = true)
    (he : ∀ e ∈ enums, enumOK e = true) : baseType (typOf enums c) = tyWord enums c := by
  have hc := colOK_parts c hc
  have hw := wordy_noOpen _ (tyWord_wordy enums c hc.2 he)
  rw [typOf_eq, baseType]
  rcases (arrSuffix_arrOK enums c).1 with h | ⟨h, -⟩
  · rw [h, List.append_nil]
    exact takeWhile_all _ _ hw
  · obtain ⟨t, ht⟩ := List.head?_eq_some_iff.mp h
    rw [ht]
    exact takeWhile_app_stop _ _ _ _ hw (by decide)

theorem noC_search (s : Str) (h : 'c' ∉ s) : searchCharArr s = false ∧ hasSub "char".toList s = false := by
  induction s with
  | nil => exact ⟨rfl, rfl⟩
  | cons x t ih =>
    have sp : stripPrefix "char".toList (x :: t) = none :=
      stripPrefix_head_ne 'c' _ x t (fun e => h (by simp [e]))
    obtain ⟨i1, i2⟩ := ih (fun hm => h (by simp [hm]))
    constructor
    · rw [searchCharArr, matchCharArr, sp, i1]; rfl
    · rw [hasSub, findSub, sp]
      rw [hasSub] at i2
      simpa using i2

theorem brack_noC (n : Nat) : 'c' ∉ brack n := by
  intro h
  rcases brack_chars n _ h with h | h | h
  · exact absurd h (by decide)
  · exact absurd h (by decide)
  · exact absurd h (by decide)

theorem arrA_noC (c : Col) : 'c' ∉ arrA c := by
  unfold arrA
  split
  · exact brack_noC _
  · simp

theorem fmtNat_digits (n : Nat) : ∀ a ∈ fmtNat n, a.isDigit = true :=
  fun a ha => (digit_facts a (fmtNat_chars n a ha)).1

theorem takeWhile_digits (l : Str) (d : Char) (r : Str) (hl : ∀ a ∈ l, a.isDigit = true) (hd : d.isDigit = false) :
    (l ++ d :: r).takeWhile (· != d) = l :=
  takeWhile_app_stop _ _ _ _ (fun a ha => bne_iff_ne.mpr fun e => by rw [← e, hl a ha] at hd; cases hd) (by simp)

theorem digitsThenClose_fmt (n : Nat) (r : Str) : digitsThenClose (fmtNat n ++ ']' :: r) = some r := by
  unfold digitsThenClose
  rw [dropWhile_app_stop Char.isDigit (fmtNat n) ']' r (fmtNat_digits n) (by decide)]
  rfl

theorem searchCharArr_of_match (s : Str) (h : matchCharArr s = true) : searchCharArr s = true := by
  cases s with
  | nil => exact absurd h (by decide)
  | cons x t => rw [searchCharArr, h]; rfl

/-- no `c` in the type word: a number or an enum type -/
theorem isArrayT_noC (W : Str) (c : Col) (hW : wordy W) (hc : 'c' ∉ W) :
    isArrayT (W ++ arrA c) = decide (c.alen > 0) := by
  have hnc : 'c' ∉ W ++ arrA c := fun hm => (List.mem_append.mp hm).elim hc (arrA_noC c)
  obtain ⟨h1, h2⟩ := noC_search _ hnc
  rw [isArrayT, h1, h2]
  have ho := wordy_not_mem W hW '[' (by decide)
  have hl := wordy_not_mem W hW '<' (by decide)
  unfold arrA
  split
  · rename_i h
    simp [h, brack]
  · rename_i h
    simp [h, ho, hl]

/-- `char`: the size alone is no array, `char[n][s]` is one -/
theorem isArrayT_char (c : Col) (s : Nat) :
    isArrayT ("char".toList ++ (arrA c ++ brack s)) = decide (c.alen > 0) := by
  unfold arrA
  split
  · rename_i h
    -- `char[n][s]` matches the expression for an array of strings
    have hm : matchCharArr ("char".toList ++ (brack c.alen ++ brack s)) = true := by
      rw [matchCharArr, stripPrefix_append]
      simp only [brack, List.cons_append, List.append_assoc, List.nil_append, digitsThenClose_fmt]
      rfl
    rw [isArrayT, searchCharArr_of_match _ hm, decide_eq_true h]
    rfl
  · rename_i h
    -- `char[s]` does not match it, at its head or further on, but contains the word `char`
    have hm : matchCharArr ("char".toList ++ brack s) = false := by
      rw [brack, matchCharArr, stripPrefix_append]
      simp only [digitsThenClose_fmt]
      rfl
    have h1 : searchCharArr ("char".toList ++ brack s) = false := by
      have e : "char".toList ++ brack s = 'c' :: (['h', 'a', 'r'] ++ brack s) := by
        simp only [String.reduceToList, List.cons_append, List.nil_append]
      rw [e] at hm ⊢
      rw [searchCharArr, hm, (noC_search _ _).1]
      · rfl
      · exact fun hm => (List.mem_append.mp hm).elim (by decide) (brack_noC s)
    have h2 : hasSub "char".toList ("char".toList ++ brack s) = true := by
      simp only [String.reduceToList, List.cons_append, List.nil_append, hasSub, findSub, stripPrefix,
        beq_self_eq_true, if_true, Option.isSome_some]
    rw [List.nil_append, isArrayT, h1, h2, decide_eq_false h]
    rfl

theorem isArrayT_typ (enums : List EnumDecl) (c : Col) (hc : colOK c = true)
    (he : ∀ e ∈ enums, enumOK e = true) : isArrayT (typOf enums c) = decide (c.alen > 0) := by
  have hs := (colOK_parts c hc).2
  rw [typOf_eq]
  rcases col_kinds enums c hs with ⟨w, hw, _, _, _, htw, hsuf, _⟩ | ⟨s, _, _, ⟨e, hf, htw, hsuf, _⟩ | ⟨_, htw, hsuf, _⟩⟩
  · rw [htw, hsuf]
    exact isArrayT_noC w c (numWords_facts w hw).1 (numWords_facts w hw).2.1
  · rw [htw, hsuf]
    have hu := (enumOK_of_find enums he _ e hf).1
    exact isArrayT_noC _ c (wordy_upper _ hu) (fun hm => absurd (upper_noLower _ _ hm) (by decide))
  · rw [htw, hsuf]
    exact isArrayT_char c s

theorem arrayLength_brack (W B : Str) (n : Nat) (hW : ∀ x ∈ W, (x != '[') = true) :
    arrayLength (W ++ '[' :: (fmtNat n ++ ']' :: B)) = .ok n := by
  rw [arrayLength, if_neg (by simp), dropWhile_app_stop _ _ '[' _ hW (by decide), List.drop_succ_cons, List.drop_zero,
    takeWhile_digits _ ']' B (fmtNat_digits _) (by decide), parseNat_fmtNat]

theorem arrayLength_typ (enums : List EnumDecl) (c : Col) (hc : colOK c = true)
    (he : ∀ e ∈ enums, enumOK e = true) (h : c.alen > 0) : arrayLength (typOf enums c) = .ok c.alen := by
  obtain ⟨B, hB⟩ : ∃ B, arrSuffix enums c = '[' :: (fmtNat c.alen ++ ']' :: B) := by
    rw [arrSuffix, if_pos h, brack]
    exact ⟨_, by rw [List.cons_append, List.append_assoc]; rfl⟩
  rw [typOf_eq, hB]
  exact arrayLength_brack _ B _ (wordy_noOpen _ (tyWord_wordy enums c (colOK_parts c hc).2 he))

theorem charLength_typ (enums : List EnumDecl) (c : Col) (s : Nat) (hs : strSize c.ty = some s)
    (hn : enums.find? (fun e => e.col == c.name) = none) (data : List (Cell F)) :
    charLength (typOf enums c) data = .ok s := by
  rw [typOf_eq]
  have hsuf : arrSuffix enums c = arrA c ++ brack s := by simp only [arrSuffix, hs, hn, arrA]
  have hr : (tyWord enums c ++ arrSuffix enums c).reverse =
      ']' :: ((fmtNat s).reverse ++ '[' :: (tyWord enums c ++ arrA c).reverse) := by
    rw [hsuf]; simp [brack]
  rw [charLength, lastBracket, hr, dropWhile_head_false _ _ _ (by decide), List.drop_succ_cons, List.drop_zero,
    takeWhile_digits _ '[' _ (fun a ha => fmtNat_digits s a (List.mem_reverse.mp ha)) (by decide),
    List.reverse_reverse, parseNat_fmtNat]

theorem upper_ne (s w : Str) (hw : w.any lowerCh = true) : upper s ≠ w := by
  intro e
  obtain ⟨x, hx, hl⟩ := List.any_eq_true.mp hw
  rw [upper_noLower s x (e ▸ hx)] at hl
  cases hl

theorem upper_not_numWord (s : Str) : upper s ∉ numWords :=
  fun hm => upper_ne s _ (numWords_facts _ hm).2.2 rfl

theorem convOfBase_other (b : Str) (h : b ∉ numWords) : convOfBase b = .str := by
  simp only [numWords, List.mem_cons, List.mem_nil_iff, or_false, not_or] at h
  obtain ⟨h1, h2, h3, h4, h5⟩ := h
  simp only [convOfBase, beq_false_of_ne h1, beq_false_of_ne h2, beq_false_of_ne h3, beq_false_of_ne h4,
    beq_false_of_ne h5, Bool.or_false, Bool.false_eq_true, if_false]

theorem convOfBase_tyWord (enums : List EnumDecl) (c : Col) (hc : colOK c = true) :
    convOfBase (tyWord enums c) = convOfCol c := by
  have hs := (colOK_parts c hc).2
  rcases col_kinds enums c hs with ⟨w, _, _, _, _, htw, _, hcv, _⟩ | ⟨s, _, hcv, ⟨e, _, htw, _⟩ | ⟨_, htw, _⟩⟩
  · rw [htw, hcv]
  · rw [htw, hcv]
    exact convOfBase_other _ (upper_not_numWord _)
  · rw [htw, hcv]
    exact convOfBase_other _ (fun hm => (numWords_facts _ hm).2.1 char_facts.2)

theorem splitCommaAux_noComma (w rest cur : Str) (h : ',' ∉ w) :
    splitCommaAux (w ++ rest) cur = splitCommaAux rest (w.reverse ++ cur) := by
  induction w generalizing cur with
  | nil => rfl
  | cons x w ih =>
    rw [List.mem_cons, not_or] at h
    rw [List.cons_append, splitCommaAux, if_neg (by simpa using Ne.symm h.1), ih _ h.2]
    simp

end PydlVerif.YannyRT
