/-
skymask (C17): `smooth(badmask*width, width, edge_truncate=True) > 0` dilates the flagged pixels by `ngrow`.  On a signal
with values 0 and `width` every window sum is `width` times a count, so an entry of the smoothed signal is positive
iff its window holds a flagged entry.
-/
import PydlVerif.Model.Reject
import PydlVerif.Lemmas.ListBasics
import Mathlib.Algebra.Order.Ring.Int

namespace PydlVerif.Reject

theorem sum_zero_or (w : Int) (hw : 0 < w) (l : List Int) (hl : ∀ x ∈ l, x = 0 ∨ x = w) :
    l.sum = w * l.count w := by
  induction l with
  | nil => rw [List.sum_nil, List.count_nil, Nat.cast_zero, mul_zero]
  | cons a l ih =>
    rw [List.sum_cons, ih (fun x hx => hl x (List.mem_cons_of_mem _ hx))]
    rcases hl a List.mem_cons_self with rfl | rfl
    · rw [List.count_cons_of_ne (ne_of_lt hw), zero_add]
    · rw [List.count_cons_self, Nat.cast_succ, mul_add, mul_one, add_comm]

/-- one value of smooth(): slice sum plus a non-negative multiple of a value inside the slice,
divided by the width, is positive iff the slice contains a flagged (`= w`) entry -/
theorem slice_pos (s : List Int) (w : Int) (hw : 0 < w) (hs : ∀ x ∈ s, x = 0 ∨ x = w)
    (lo len : Nat) (c : Int) (hc : 0 ≤ c) (e : Nat) (he : lo ≤ e ∧ e < lo + len) :
    0 < Int.tdiv (sumL ((s.drop lo).take len) + c * s.getD e 0) w ↔
      ∃ j, lo ≤ j ∧ j < lo + len ∧ s[j]? = some w := by
  rw [← mem_slice, ← List.count_pos_iff, sumL,
    sum_zero_or w hw _ fun x hx => hs x (List.mem_of_mem_drop (List.mem_of_mem_take hx))]
  -- the extra term is zero, or `c` further copies of a `w` that the slice already counts
  have hE : s.getD e 0 = 0 ∨ (s.getD e 0 = w ∧ 0 < ((s.drop lo).take len).count w) := by
    rw [List.getD_eq_getElem?_getD]
    cases hse : s[e]? with
    | none => exact Or.inl rfl
    | some v =>
      rcases hs v (List.mem_of_getElem? hse) with rfl | rfl
      · exact Or.inl rfl
      · exact Or.inr ⟨rfl, List.count_pos_iff.2 ((mem_slice s v lo len).2 ⟨e, he.1, he.2, hse⟩)⟩
  rcases hE with hE | ⟨hE, hpos⟩
  · rw [hE, mul_zero, add_zero, Int.mul_tdiv_cancel_left _ (ne_of_gt hw), Int.natCast_pos]
  · rw [hE, mul_comm c w, ← mul_add, Int.mul_tdiv_cancel_left _ (ne_of_gt hw)]
    exact ⟨fun _ => hpos, fun _ => by omega⟩

/-- `slice_pos` for the window of `smooth()` around `i`: a slice that starts at `i - g` and, as far as the array
goes, ends at `i + g` -/
theorem window_pos (s : List Int) (w : Int) (hw : 0 < w) (hs : ∀ x ∈ s, x = 0 ∨ x = w) (i g len : Nat)
    (hlen : ∀ j, j < s.length → (j < i - g + len ↔ j ≤ i + g)) (c : Int) (hc : 0 ≤ c) (e : Nat)
    (he : i - g ≤ e ∧ e < i - g + len) :
    0 < Int.tdiv (sumL ((s.drop (i - g)).take len) + c * s.getD e 0) w ↔
      ∃ j, i ≤ j + g ∧ j ≤ i + g ∧ s[j]? = some w := by
  rw [slice_pos s w hw hs (i - g) len c hc e he]
  refine exists_congr fun j => ⟨fun ⟨h1, h2, h3⟩ => ?_, fun ⟨h1, h2, h3⟩ => ?_⟩
  · exact ⟨by omega, (hlen j (List.getElem?_eq_some_iff.1 h3).1).1 h2, h3⟩
  · exact ⟨by omega, (hlen j (List.getElem?_eq_some_iff.1 h3).1).2 h2, h3⟩

theorem smoothInt_pos (s : List Int) (g : Nat) (hg : 0 < g)
    (hs : ∀ x ∈ s, x = 0 ∨ x = ((2 * g + 1 : Nat) : Int)) (i : Nat) (hi : i < s.length) :
    ∃ v, (smoothInt s (2 * g + 1) true)[i]? = some v ∧
      (0 < v ↔ ∃ j, i ≤ j + g ∧ j ≤ i + g ∧ s[j]? = some ((2 * g + 1 : Nat) : Int)) := by
  have hw : (0 : Int) < ((2 * g + 1 : Nat) : Int) := by omega
  have e1 : ((2 * g + 1) % 2 == 0) = false := by rw [Nat.mul_add_mod, Nat.mod_eq_of_lt (by omega)]; rfl
  unfold smoothInt
  simp only [e1, Bool.false_eq_true, if_false]
  rw [if_neg (by omega), List.getElem?_map, List.getElem?_range hi]
  have hh : (2 * g + 1 - 1) / 2 = g ∧ (2 * g + 1) / 2 = g ∧ (2 * g + 1 + 1) / 2 = g + 1 := by omega
  simp only [Option.map_some, if_true, hh.1, hh.2.1, hh.2.2]
  -- out of the way of `omega`, which would go through the divisions at every call
  clear hh e1
  refine ⟨_, rfl, ?_⟩
  -- left edge (the first entry counted `g - i` more times), right edge (the last entry likewise), interior
  split
  · rename_i h
    have := window_pos s _ hw hs i g (g + i + 1) (fun j _ => by omega) ((g - i : Nat) : Int) (by omega) 0
      (by omega)
    rw [Nat.sub_eq_zero_of_le (Nat.le_of_lt h), List.drop_zero] at this
    exact this
  · split
    · have := window_pos s _ hw hs i g s.length (fun j hj => by omega)
        ((i : Int) - ((s.length : Int) - ((g + 1 : Nat) : Int))) (by omega) (s.length - 1) (by omega)
      rw [List.take_of_length_le (by rw [List.length_drop]; omega)] at this
      exact this
    · have := window_pos s _ hw hs i g (2 * g + 1) (fun j _ => by omega) 0 (le_refl _) i (by omega)
      rw [zero_mul, add_zero] at this
      exact this

theorem smoothInt_dilate (b : List Int) (hb : ∀ x ∈ b, x = 0 ∨ x = 1) (g : Nat) (hg : 0 < g)
    (i : Nat) (hi : i < b.length) :
    ∃ v, (smoothInt (b.map (· * ((2 * g + 1 : Nat) : Int))) (2 * g + 1) true)[i]? = some v ∧
      (0 < v ↔ ∃ j, i ≤ j + g ∧ j ≤ i + g ∧ b[j]? = some 1) := by
  have hw : ((2 * g + 1 : Nat) : Int) ≠ 0 := by omega
  have hs : ∀ x ∈ b.map (· * ((2 * g + 1 : Nat) : Int)), x = 0 ∨ x = ((2 * g + 1 : Nat) : Int) := by
    intro x hx
    obtain ⟨y, hy, rfl⟩ := List.mem_map.1 hx
    rcases hb y hy with h | h
    · left; rw [h, zero_mul]
    · right; rw [h, one_mul]
  have hget : ∀ j : Nat, (b.map (· * ((2 * g + 1 : Nat) : Int)))[j]? = some ((2 * g + 1 : Nat) : Int) ↔
      b[j]? = some 1 := by
    intro j
    rw [List.getElem?_map]
    cases hbj : b[j]? with
    | none => simp
    | some y =>
      simp only [Option.map_some, Option.some.injEq]
      exact ⟨fun h => (mul_eq_right₀ hw).1 h, fun h => by rw [h, one_mul]⟩
  obtain ⟨v, hv, hiff⟩ := smoothInt_pos _ g hg hs i (by rw [List.length_map]; exact hi)
  exact ⟨v, hv, by simpa only [hget] using hiff⟩

end PydlVerif.Reject
