/-
C05: the grid that `spheregroup` builds - `chunks(ra, dec, cs)` then `assign(ra, dec, ll)` of the SAME list, 4·ll ≤ cs - over ℝ,
from the grid theorems of C04 with list 2 = list 1 (`OwnGrid`): every point is stored in its own cell with every point closer
to it than ll, and is entered into at most 3 bands × 3 RA indices = 9 cells.
-/
import PydlVerif.Props.C04
import PydlVerif.Lemmas.FofGridCount
namespace PydlVerif.FofGrid
open Real PydlVerif.Sphere

attribute [local instance] realFns fieldScalar fieldTrig
attribute [-instance] Scalar.instOfNat Scalar.instOfScientific

/-- a margin of at most one cell: each loop of `getbounds`, started in the cell of `x`, moves at most one step (the edge
below the cell, and the edge above the next cell, are a whole cell away from `x`) -/
theorem loops_one_step {b : Array ℝ} {n : Nat} (he : EdgesOK b n) (x M : ℝ) (c f : Nat) (hc : c < n) (hf : c + f ≤ n)
    (hx : b.getD c 0 ≤ x ∧ x ≤ b.getD (c + 1) 0) (hM : M ≤ (b.getD n 0 - b.getD 0 0) / (n : ℝ)) :
    c - 1 ≤ decDown b x M c ∧ (c : Int) - 1 ≤ raDown b x M c ∧ decUp b x M c f ≤ c + 1 := by
  have hdown : ∀ c', c = c' + 1 → ¬ x - b.getD c' 0 < M := fun c' e =>
    not_lt.2 (by subst e; linarith only [he.step c' (by omega), hx.1, hM])
  refine ⟨?_, ?_, ?_⟩
  · by_contra h
    exact hdown (c - 1) (by omega) ((decDown_le_iff b x M c (c - 2)).1 (by omega) (c - 1) (by omega) (by omega))
  · by_contra h
    have := raDown_ge b x M c
    exact hdown (c - 1) (by omega)
      ((raDown_le_iff b x M c ((c : Int) - 2) (by omega)).1 (by omega) (c - 1) (by omega) (by omega))
  · by_contra h
    have hle := decUp_le b x M c f
    have := (le_decUp_iff b x M c f (c + 2) (by omega)).1 (by omega) (c + 1) (by omega) (by omega)
    linarith only [this, he.step (c + 1) (by omega), hx.2, hM]

theorem gcircDeg_same_ra (a d1 d2 : ℝ) (h : |d2 - d1| ≤ 180) : gcircDeg a d1 a d2 = |d2 - d1| := by
  -- `erw`: the lemma is stated at `realTrig`, the goal at the local instance (`realTrig_eq`)
  erw [gcircDeg_real]
  have hpi := Real.pi_pos
  have hu0 : 0 ≤ |d2 - d1| * (π / 180) / 2 := div_nonneg (mul_nonneg (abs_nonneg _) deg_pos.le) (by norm_num)
  have hu1 : |d2 - d1| * (π / 180) / 2 ≤ π / 2 := by linarith only [deg_le_pi h]
  have hE : havExpr (d1 * (π / 180)) (d2 * (π / 180)) (a * (π / 180) - a * (π / 180)) =
      sin (|d2 - d1| * (π / 180) / 2) ^ 2 := by
    have e : |d2 - d1| * (π / 180) / 2 = |(d2 * (π / 180) - d1 * (π / 180)) / 2| := by
      rw [← sub_mul, abs_div, abs_mul, abs_of_pos deg_pos, abs_two]
    unfold havExpr
    rw [sub_self, zero_div, Real.sin_zero, e, Real.sin_sq |_|, Real.cos_abs, ← Real.sin_sq]
    ring
  unfold havAngle
  rw [hE, Real.sqrt_sq (Real.sin_nonneg_of_nonneg_of_le_pi hu0 (by linarith only [hu1, hpi])),
    Real.arcsin_sin (by linarith only [hu0, hpi]) hu1, mul_div_cancel₀ _ two_ne_zero, deg_mul_cancel]

theorem gcircDeg_self (a d : ℝ) : gcircDeg a d a d = 0 := by
  rw [gcircDeg_same_ra a d d (by rw [sub_self, abs_zero]; norm_num), sub_self, abs_zero]

theorem gcircRad_real (a1 d1 a2 d2 : ℝ) :
    gcircRad (deg2rad a1) (deg2rad d1) (deg2rad a2) (deg2rad d2) =
      havAngle (d1 * (π / 180)) (d2 * (π / 180)) (a2 * (π / 180) - a1 * (π / 180)) := by
  unfold gcircRad deg2rad havAngle havExpr
  simp only [scalar_lit]
  push_cast
  simp only [sq, mul_assoc]
  rfl

/-- `sphereradec(x_i, x_j) <= deg2rad(linkSep)` on the converted coordinates IS
`separation in degrees ≤ linklength` -/
theorem closeOf_iff (ra dec : Array ℝ) (ll : ℝ) (i j : Nat) :
    closeOf ra dec ll i j = true ↔
      gcircDeg (ra.getD i 0) (dec.getD i 0) (ra.getD j 0) (dec.getD j 0) ≤ ll := by
  unfold closeOf
  rw [decide_eq_true_iff]
  simp only [scalar_zero]
  rw [gcircRad_real]
  erw [gcircDeg_real]
  have hll : deg2rad ll = ll * (π / 180) := by
    unfold deg2rad
    simp only [scalar_lit]
    push_cast
    rfl
  rw [hll]
  have hpi := Real.pi_pos
  have hk : 0 < 180 / π := by positivity
  rw [← le_div_iff₀ hk]
  have : ll / (180 / π) = ll * (π / 180) := by field_simp
  rw [this]

theorem gcircDeg_comm (a1 d1 a2 d2 : ℝ) : gcircDeg a1 d1 a2 d2 = gcircDeg a2 d2 a1 d1 := by
  erw [gcircDeg_real, gcircDeg_real]
  congr 1
  unfold havAngle
  rw [Sphere.havExpr_comm, neg_sub]

theorem closeOf_refl (ra dec : Array ℝ) (ll : ℝ) (hll : 0 ≤ ll) (i : Nat) : closeOf ra dec ll i i = true := by
  rw [closeOf_iff, gcircDeg_self]; exact hll

theorem closeOf_symm (ra dec : Array ℝ) (ll : ℝ) (i j : Nat) : closeOf ra dec ll i j = closeOf ra dec ll j i := by
  rw [Bool.eq_iff_iff, closeOf_iff, closeOf_iff, gcircDeg_comm]

/-- the grid of `spheregroup`: the list that is assigned is the list the grid was built from -/
structure OwnGrid (g : Grid ℝ) (ra dec : Array ℝ) (ms ll : ℝ) : Prop where
  hF : GridFacts ra dec ms g
  hR : GridRoom ra dec ms g
  hW : GridWidth ms g
  hsz : ra.size = dec.size
  hll : 0 < ll
  hms : 4 * ll ≤ ms
  hra : ∀ i, i < ra.size → 0 ≤ ra.getD i 0 ∧ ra.getD i 0 < 360
  hdec : ∀ i, i < ra.size → |dec.getD i 0| < 90

section own
variable {g : Grid ℝ} {ra dec : Array ℝ} {ms ll : ℝ}

theorem OwnGrid.ms_pos (H : OwnGrid g ra dec ms ll) : 0 < ms := by linarith [H.hll, H.hms]

theorem OwnGrid.edges (H : OwnGrid g ra dec ms ll) (d : Nat) (hd : d < g.nDec) :
    EdgesOK (g.raBounds.getD d #[]) (g.nRa.getD d 0) := (H.hF.band d hd).edges

/-- over ℝ the constructor returns only for chunk sizes below 30° (no edge within 3 chunk sizes of a pole) -/
theorem OwnGrid.ms_lt (H : OwnGrid g ra dec ms ll) : ms < 30 := by
  obtain ⟨hlo3, hhi3⟩ := not_clipped g ra dec ms H.hF H.hR
  have := H.hF.dec_edges.lt
  linarith only [hlo3, hhi3, this]

theorem OwnGrid.in_extent (H : OwnGrid g ra dec ms ll) (i : Nat) (hi : i < ra.size) :
    g.decBounds.getD 0 0 ≤ dec.getD i 0 ∧ dec.getD i 0 ≤ g.decBounds.getD g.nDec 0 :=
  H.hF.dec_extent i (H.hsz ▸ hi) _ (abs_lt.1 (H.hdec i hi)).1.le (abs_lt.1 (H.hdec i hi)).2.le
    (by rw [sub_self, abs_zero]; exact H.ms_pos.le)

/-- C04 `seam_room`, the point being its own partner at separation 0 < ll -/
theorem OwnGrid.room (H : OwnGrid g ra dec ms ll) (i : Nat) (hi : i < ra.size) (d : Nat) (hd : d < g.nDec)
    (hv : visitedBand g (dec.getD i 0) ll d) :
    BandRoom g d (fmod360 (ra.getD i 0 + g.raOffset)) (dec.getD i 0) ll :=
  C04.seam_room g ra dec ms ll H.hF H.hR H.hsz H.hll H.hms i hi (H.hra i hi).1 (H.hra i hi).2 (H.hdec i hi)
    _ _ (H.hra i hi).1 (H.hra i hi).2 (H.hdec i hi) (by rw [gcircDeg_self]; exact H.hll) d hd hv

theorem OwnGrid.margin (H : OwnGrid g ra dec ms ll) (i : Nat) (hi : i < ra.size) (d : Nat) (hd : d < g.nDec)
    (hv : visitedBand g (dec.getD i 0) ll d) :
    raMarginOf (cosDecMinOf g.decBounds d) (dec.getD i 0) ll ≤ 1 / 2 * (ms / cosDecMinOf g.decBounds d) :=
  (visited_margin H.hF H.hR H.hll H.hms _ (H.in_extent i hi) d hd hv).2.2

theorem OwnGrid.bounds (H : OwnGrid g ra dec ms ll) (i : Nat) (hi : i < ra.size) :
    ∃ B, getbounds g (fmod360 (ra.getD i 0 + g.raOffset)) (dec.getD i 0) ll = .ok B := by
  have hin := H.in_extent i hi
  exact getbounds_returns g H.hF.dec_edges H.edges _ _ ll hin
    (fun d hd hv => (H.room i hi d hd hv).1)

theorem OwnGrid.band_height (H : OwnGrid g ra dec ms ll) (d : Nat) (hd : d < g.nDec) :
    g.decBounds.getD (d + 1) 0 - g.decBounds.getD d 0 = ms := by
  obtain ⟨hlo3, hhi3⟩ := not_clipped g ra dec ms H.hF H.hR
  have hms0 := H.ms_pos
  have hwid : g.decBounds.getD g.nDec 0 - g.decBounds.getD 0 0 = ms * (g.nDec : ℝ) := by
    rcases H.hW.dec_width with h | h | h
    · linarith only [h, hlo3, hms0]
    · linarith only [h, hhi3, hms0]
    · exact h
  have hn : (g.nDec : ℝ) ≠ 0 := Nat.cast_ne_zero.2 (by omega)
  rw [H.hF.dec_edges.step d hd, hwid]
  field_simp

theorem OwnGrid.dec_span (H : OwnGrid g ra dec ms ll) (i : Nat) (B : Bounds)
    (hB : getbounds g (fmod360 (ra.getD i 0 + g.raOffset)) (dec.getD i 0) ll = .ok B) :
    B.ra.length ≤ 3 ∧
    ∀ d, B.decMin ≤ d → d ≤ B.decMax → d < g.nDec ∧ visitedBand g (dec.getD i 0) ll d := by
  obtain ⟨d0, hd0, hd0n, hmin, hmax, hlen, _⟩ := getbounds_inv g _ _ ll B hB
  obtain ⟨hb1, hb2, _⟩ := decIndex_bracket g H.hF.dec_edges _ d0 hd0n hd0
  have hpos : 0 < g.nDec := by omega
  have h3 := decUp_le g.decBounds (dec.getD i 0) ll d0 (g.nDec - 1 - d0)
  -- a band is `ms ≥ 4·ll` high
  obtain ⟨h1, -, h2⟩ := loops_one_step H.hF.dec_edges (dec.getD i 0) ll d0 (g.nDec - 1 - d0) hd0n (by omega) ⟨hb1, hb2⟩
    (by rw [← H.hF.dec_edges.step 0 hpos, H.band_height 0 hpos]; linarith only [H.hll, H.hms])
  exact ⟨by omega, fun d hd1 hd2 => ⟨by omega, (visitedBand_iff hB d).2 ⟨hd1, hd2⟩⟩⟩

theorem OwnGrid.margin_le_cell (H : OwnGrid g ra dec ms ll) (i : Nat) (hi : i < ra.size) (d : Nat) (hd : d < g.nDec)
    (hv : visitedBand g (dec.getD i 0) ll d) :
    raMarginOf (cosDecMinOf g.decBounds d) (dec.getD i 0) ll ≤
      ((g.raBounds.getD d #[]).getD (g.nRa.getD d 0) 0 - (g.raBounds.getD d #[]).getD 0 0) / (g.nRa.getD d 0 : ℝ) := by
  have hB := H.hF.band d hd
  have hms0 := H.ms_pos
  have hc0 : 0 < cosDecMinOf g.decBounds d := hB.cpos
  have hw : 0 < ms / cosDecMinOf g.decBounds d := div_pos hms0 hc0
  have hnpos : (0 : ℝ) < (g.nRa.getD d 0 : ℝ) := by exact_mod_cast hB.edges.pos
  have hstep := hB.edges.step 0 hB.edges.pos
  rcases hB.extent with ⟨e0, en⟩ | ⟨e0, en⟩
  · -- a band that embraces the circle: the room at the seam says that the margin is at most the first cell
    have hs := (H.room i hi d hd hv).2
    unfold SeamOK at hs
    rcases hs with ⟨_, _, h⟩ | h
    · rw [← hstep]; exact h
    · rw [e0, en] at h
      have hlt := hB.edges.lt
      have : 0 ≤ ((g.raBounds.getD d #[]).getD (g.nRa.getD d 0) 0 - (g.raBounds.getD d #[]).getD 0 0) /
          (g.nRa.getD d 0 : ℝ) := div_nonneg (sub_nonneg.2 hlt.le) hnpos.le
      linarith only [h, this]
  · -- a band inside the circle: a cell is at least ms / cosDecMin wide, and the margin at most half of that
    have hM := H.margin i hi d hd hv
    rcases H.hW.ra_width d hd with ⟨z, _⟩ | hwid
    · rw [z] at e0; linarith only [e0, hw]
    · have : ms / cosDecMinOf g.decBounds d ≤
          ((g.raBounds.getD d #[]).getD (g.nRa.getD d 0) 0 - (g.raBounds.getD d #[]).getD 0 0) /
            (g.nRa.getD d 0 : ℝ) := by
        rw [le_div_iff₀ hnpos]; exact hwid
      linarith only [hM, this, hw]

theorem OwnGrid.visit_le9 (H : OwnGrid g ra dec ms ll) (i : Nat) (hi : i < ra.size) :
    (cellsOfPoint g ra dec ll 0 i).length ≤ 9 := by
  obtain ⟨B, hB⟩ := H.bounds i hi
  obtain ⟨hlen3, hvis⟩ := H.dec_span i B hB
  obtain ⟨d0, _, _, _, _, hlen, hband⟩ := getbounds_inv g _ _ ll B hB
  rw [cellsOfPoint_ok 0 hB]
  apply cellsOfRange_length g.nRa B hlen3
  intro x hx
  obtain ⟨k, hklen, hk⟩ := List.mem_iff_getElem.1 hx
  obtain ⟨r0, hr0, hr0n, hxk⟩ := hband (k + B.decMin) (by omega) (by omega)
  rw [Nat.add_sub_cancel, List.getElem?_eq_getElem hklen, hk] at hxk
  cases hxk
  obtain ⟨hdn, hv⟩ := hvis (k + B.decMin) (by omega) (by omega)
  have he := (H.hF.band (k + B.decMin) hdn).edges
  have hq := cellIndex_bracket he _ r0 hr0n hr0
  obtain ⟨-, h1, h2⟩ := loops_one_step he _ _ r0 (g.nRa.getD (k + B.decMin) 0 - r0) hr0n (by omega) ⟨hq.1, hq.2.le⟩
    (H.margin_le_cell i hi _ hdn hv)
  rw [← raUp_eq_decUp] at h2
  omega

theorem OwnGrid.home (H : OwnGrid g ra dec ms ll) (i : Nat) (hi : i < ra.size) :
    ∃ d r, Sphere.get g (fmod360 (ra.getD i 0 + g.raOffset)) (dec.getD i 0) = .ok (d, r) := by
  obtain ⟨B, hB⟩ := H.bounds i hi
  obtain ⟨d0, hd0, hd0n, hmin, hmax, _, hband⟩ := getbounds_inv g _ _ ll B hB
  have h1 := decDown_le g.decBounds (dec.getD i 0) ll d0
  have h2 := decUp_ge g.decBounds (dec.getD i 0) ll d0 (g.nDec - 1 - d0)
  obtain ⟨r0, hr0, hr0n, _⟩ := hband d0 (by omega) (by omega)
  exact ⟨d0, r0, (get_ok_iff g _ _ d0 r0).2 ⟨hd0, hd0n, hr0, hr0n⟩⟩

/-- `Sphere.close_visited` with list 2 = list 1, margin = ll -/
theorem OwnGrid.cover (H : OwnGrid g ra dec ms ll) (i k : Nat) (hi : i < ra.size) (hk : k < ra.size)
    (hclose : gcircDeg (ra.getD i 0) (dec.getD i 0) (ra.getD k 0) (dec.getD k 0) < ll)
    (d r : Nat) (hget : Sphere.get g (fmod360 (ra.getD i 0 + g.raOffset)) (dec.getD i 0) = .ok (d, r)) :
    (d, r) ∈ cellsOfPoint g ra dec ll 0 k := by
  obtain ⟨B, hB, hmem⟩ := close_visited g ra dec ms ll H.hF H.hsz (by linarith only [H.hll, H.hms])
    (by linarith only [H.ms_lt, H.hms]) i hi (H.hra i hi).1 (H.hra i hi).2 (H.hdec i hi)
    _ _ (H.hra k hk).1 (H.hra k hk).2 (H.hdec k hk) hclose (H.room k hk) d r hget
  rw [cellsOfPoint_ok 0 hB]
  exact hmem

/-- every index `r` of the RA range that `getbounds` returns for the point `k` in a visited band `d` wraps onto a cell listed
for `k` -/
theorem OwnGrid.visits (H : OwnGrid g ra dec ms ll) (k : Nat) (hk : k < ra.size) (d : Nat)
    (hv : visitedBand g (dec.getD k 0) ll d) :
    ∃ r0 : Nat, cellIndex (g.raBounds.getD d #[]) (g.nRa.getD d 0) (fmod360 (ra.getD k 0 + g.raOffset)) = (r0 : Int) ∧
      r0 < g.nRa.getD d 0 ∧
      ∀ r : Int, raDown (g.raBounds.getD d #[]) (fmod360 (ra.getD k 0 + g.raOffset))
            (raMarginOf (cosDecMinOf g.decBounds d) (dec.getD k 0) ll) r0 ≤ r →
        r ≤ ((raUp (g.raBounds.getD d #[]) (fmod360 (ra.getD k 0 + g.raOffset))
            (raMarginOf (cosDecMinOf g.decBounds d) (dec.getD k 0) ll) r0 (g.nRa.getD d 0 - r0) : Nat) : Int) →
        (d, (r % (g.nRa.getD d 0 : Int)).toNat) ∈ cellsOfPoint g ra dec ll 0 k := by
  obtain ⟨B, hB⟩ := H.bounds k hk
  obtain ⟨_, _, _, _, _, _, hband⟩ := getbounds_inv g _ _ ll B hB
  rw [visitedBand_iff hB] at hv
  obtain ⟨r0, hr0, hr0n, hkk⟩ := hband d hv.1 hv.2
  refine ⟨r0, hr0, hr0n, fun r h1 h2 => ?_⟩
  rw [cellsOfPoint_ok 0 hB]
  exact mem_cellsOfRange g.nRa B d _ _ _ r hv.1 hv.2 hkk h1 h2 (wrapIdx_eq _ (by omega) r)

theorem OwnGrid.of_init {g : Grid ℝ} {ra dec : Array ℝ} {ms ll : ℝ} (hg : chunksInit ra dec ms = .ok g)
    (hdec : ∀ i, i < dec.size → |dec.getD i 0| < 90) (hll : 0 < ll) (hms : 4 * ll ≤ ms) :
    OwnGrid g ra dec ms ll := by
  obtain ⟨_, hsz, hra⟩ := chunksInit_guards ra dec ms g hg
  exact ⟨chunksInit_facts ra dec ms g (fun i hi => ⟨(abs_lt.1 (hdec i hi)).1.le, (abs_lt.1 (hdec i hi)).2.le⟩) hg,
    chunksInit_room ra dec ms g hg, chunksInit_width ra dec ms g hg, hsz, hll, hms, hra, fun i hi => hdec i (hsz ▸ hi)⟩

theorem OwnGrid.stored (H : OwnGrid g ra dec ms ll) {cl : Tab CellSt} (hcl : assign g ra dec ll = .ok cl)
    (k : Nat) (hk : k < ra.size) (d r : Nat) (hd : d < g.nDec) (hr : r < g.nRa.getD d 0)
    (h : (d, r) ∈ cellsOfPoint g ra dec ll 0 k) : k ∈ (cl.get (d, r)).1 :=
  C04.assign_mem g ra dec ll cl hcl k hk (d, r) h (by rw [H.hF.nRa_size]; exact hd) hr

end own

end PydlVerif.FofGrid
