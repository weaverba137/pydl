/-
The typedef expression of `_parse` (`matchTypedef`, `tdFind`, `tdRemove`): `noMatchIn kw X B` (no match starts inside
`X`, whatever follows) and `Cuts` (what the two scans find in and leave of a stretch, closed under `++`).
-/
import PydlVerif.Lemmas.YannyShape
namespace PydlVerif.YannyRT
open PydlVerif.Yanny

theorem lastNlLen_zero (run : Str) (h : '\n' ∉ run) : lastNlLen run = 0 := by
  unfold lastNlLen
  rw [dropWhile_all]
  · rfl
  · intro a ha
    exact bne_iff_ne.mpr fun e => h (e ▸ List.mem_reverse.mp ha)

theorem takeWhile_append_of_not_all {α} (p : α → Bool) (l r : List α) (h : l.all p = false) :
    (l ++ r).takeWhile p = l.takeWhile p := by
  rw [List.takeWhile_append, if_neg]
  intro e
  rw [← (List.takeWhile_sublist p).eq_of_length e, List.all_takeWhile] at h
  cases h

theorem stripPrefix_some_eq (p s r : Str) (h : stripPrefix p s = some r) : s = p ++ r := by
  induction p generalizing s with
  | nil => cases s <;> exact Option.some.inj h
  | cons a ps ih =>
    cases s with
    | nil => cases h
    | cons c cs =>
      simp only [stripPrefix] at h
      split at h
      · rename_i hac
        rw [eq_of_beq hac, ih cs h, List.cons_append]
      · cases h

theorem prefix_of_not_mem (x y pre post : Str) (c : Char) (h : x ++ y = pre ++ c :: post) (hc : c ∉ x) :
    ∃ z, pre = x ++ z := by
  rcases List.append_eq_append_iff.mp h with ⟨a, e, -⟩ | ⟨a, rfl, e⟩
  · exact ⟨a, e⟩
  · cases a with
    | nil => exact ⟨[], by simp⟩
    | cons d a' => exact absurd (by simp [(List.cons.inj e).1]) hc

theorem stripPrefix_cut (p x y : Str) (c : Char) (h : stripPrefix p x = none) (hc : c ∉ p) :
    stripPrefix p (x ++ c :: y) = none := by
  cases hs : stripPrefix p (x ++ c :: y) with
  | none => rfl
  | some r =>
    obtain ⟨z, rfl⟩ := prefix_of_not_mem p r x y c (stripPrefix_some_eq _ _ _ hs).symm hc
    rw [stripPrefix_append] at h
    cases h

theorem stripPrefix_some_append (p x y : Str) (r : Str) (h : stripPrefix p x = some r) :
    stripPrefix p (x ++ y) = some (r ++ y) := by
  rw [stripPrefix_some_eq p x r h, List.append_assoc]
  exact stripPrefix_append p (r ++ y)

theorem typedef_chars : "typedef".toList = ['t', 'y', 'p', 'e', 'd', 'e', 'f'] := String.toList_ofList

theorem noTypedef_cons (c : Char) (t : Str) (h : noTypedef (c :: t) = true) :
    stripPrefix "typedef".toList (c :: t) = none ∧ noTypedef t = true := by
  unfold noTypedef hasSub at h ⊢
  rw [findSub] at h
  split at h
  · cases h
  · rename_i hs
    exact ⟨Option.not_isSome_iff_eq_none.mp hs, by simpa using h⟩

theorem noTypedef_cons_intro (c : Char) (t : Str) (h1 : stripPrefix "typedef".toList (c :: t) = none)
    (h2 : noTypedef t = true) : noTypedef (c :: t) = true := by
  simp only [noTypedef, hasSub, findSub, Bool.not_eq_true'] at h2 ⊢
  rw [h1]
  simpa using h2

theorem stripPrefix_typedef_nt (c : Char) (t : Str) (hc : c ≠ 't') :
    stripPrefix "typedef".toList (c :: t) = none := by
  rw [typedef_chars, stripPrefix, if_neg (by simpa using Ne.symm hc)]

theorem noTypedef_left (ws X : Str) (hws : ∀ c ∈ ws, c ≠ 't') (h : noTypedef X = true) : noTypedef (ws ++ X) = true := by
  induction ws with
  | nil => exact h
  | cons c t ih =>
    exact noTypedef_cons_intro c _ (stripPrefix_typedef_nt c _ (hws c (by simp))) (ih (fun x hx => hws x (by simp [hx])))

theorem noTypedef_no_t (s : Str) (h : 't' ∉ s) : noTypedef s = true := by
  simpa using noTypedef_left s [] (fun c hc e => h (e ▸ hc)) rfl

theorem noTypedef_glue (x y : Str) (c : Char) (hx : noTypedef x = true) (hy : noTypedef y = true)
    (hc : c ∉ "typedef".toList) : noTypedef (x ++ c :: y) = true := by
  induction x with
  | nil =>
    refine noTypedef_left [c] y (fun d hd e => hc ?_) hy
    rw [← List.mem_singleton.mp hd, e]
    decide
  | cons a t ih =>
    obtain ⟨h1, h2⟩ := noTypedef_cons a t hx
    rw [List.cons_append]
    exact noTypedef_cons_intro _ _ (stripPrefix_cut _ (a :: t) y c h1 hc) (ih h2)

theorem noTypedef_right (X ws : Str) (hws : ∀ c ∈ ws, c ∉ "typedef".toList) (h : noTypedef X = true) :
    noTypedef (X ++ ws) = true := by
  cases ws with
  | nil => simpa using h
  | cons c t =>
    exact noTypedef_glue X t c h (noTypedef_no_t t fun hm => hws 't' (by simp [hm]) (by decide)) (hws c (by simp))

theorem hasSub_prefix (sub x y : Str) (h : hasSub sub (x ++ y) = false) : hasSub sub x = false := by
  induction x with
  | nil =>
    cases hs : sub with
    | nil =>
      subst hs
      cases y <;> simp [hasSub, findSub, stripPrefix] at h
    | cons a t => simp [hasSub, findSub]
  | cons c t ih =>
    simp only [hasSub, List.cons_append, findSub] at h ⊢
    cases hp : stripPrefix sub (c :: t) with
    | some r =>
      rw [← List.cons_append, stripPrefix_some_append sub (c :: t) y r hp] at h
      cases h
    | none =>
      split at h
      · cases h
      · simpa [hasSub] using ih (by simpa [hasSub] using h)

theorem noTypedef_prefix (x y : Str) (h : noTypedef (x ++ y) = true) : noTypedef x = true := by
  simp only [noTypedef, Bool.not_eq_true'] at h ⊢
  exact hasSub_prefix _ x y h

theorem hasSub_suffix (sub x y : Str) (h : hasSub sub (x ++ y) = false) : hasSub sub y = false := by
  induction x with
  | nil => simpa using h
  | cons c t ih =>
    apply ih
    simp only [hasSub, List.cons_append, findSub] at h ⊢
    split at h
    · simp at h
    · simpa using h

theorem noTypedef_suffix (x y : Str) (h : noTypedef (x ++ y) = true) : noTypedef y = true := by
  simp only [noTypedef, Bool.not_eq_true'] at h ⊢
  exact hasSub_suffix _ x y h

/-- no nonempty suffix `v` of `X` starts a match in `X ++ B` -/
def noMatchIn (kw X B : Str) : Prop := ∀ u v, X = u ++ v → v ≠ [] → matchTypedef kw (v ++ B) = none

theorem noMatchIn_nil (kw B : Str) : noMatchIn kw [] B :=
  fun _ _ e hv => absurd (List.append_eq_nil_iff.mp e.symm).2 hv

theorem noMatchIn_cons (kw : Str) (c : Char) (X B : Str)
    (h0 : matchTypedef kw (c :: X ++ B) = none) (h : noMatchIn kw X B) : noMatchIn kw (c :: X) B := by
  intro u v e hv
  cases u with
  | nil =>
    obtain rfl : c :: X = v := e
    exact h0
  | cons a u' => exact h u' v (List.cons.inj e).2 hv

theorem noMatchIn_uncons {kw : Str} {c : Char} {X B : Str} (h : noMatchIn kw (c :: X) B) :
    matchTypedef kw (c :: (X ++ B)) = none ∧ noMatchIn kw X B :=
  ⟨h [] (c :: X) rfl (List.cons_ne_nil _ _), fun u v e hv => h (c :: u) v (congrArg (c :: ·) e) hv⟩

theorem noMatchIn_append (kw X Y B : Str) (h1 : noMatchIn kw X (Y ++ B)) (h2 : noMatchIn kw Y B) :
    noMatchIn kw (X ++ Y) B := by
  induction X with
  | nil => exact h2
  | cons c t ih =>
    have h := noMatchIn_uncons h1
    rw [← List.append_assoc] at h
    exact noMatchIn_cons _ _ (t ++ Y) _ h.1 (ih h.2)

theorem matchTypedef_of_strip_none (kw s : Str) (h : stripPrefix "typedef".toList s = none) :
    matchTypedef kw s = none := by
  unfold matchTypedef
  rw [h]

theorem noMatchIn_cons_of_ne_t (kw : Str) (c : Char) (X B : Str) (hc : c ≠ 't') (h : noMatchIn kw X B) :
    noMatchIn kw (c :: X) B :=
  noMatchIn_cons _ _ _ _ (matchTypedef_of_strip_none _ _ (stripPrefix_typedef_nt c _ hc)) h

theorem noMatchIn_t_cons_of_ne_y (kw : Str) (c : Char) (X B : Str) (hc : c ≠ 'y') (h : noMatchIn kw (c :: X) B) :
    noMatchIn kw ('t' :: c :: X) B := by
  apply noMatchIn_cons _ _ _ _ _ h
  apply matchTypedef_of_strip_none
  simp only [typedef_chars, List.cons_append, stripPrefix, beq_self_eq_true, if_true, beq_iff_eq,
    Ne.symm hc, if_false]

/-- `B` is empty or starts with a character that is no letter of `typedef`, so no occurrence straddles the boundary -/
theorem noMatchIn_piece (kw l B : Str) (hl : noTypedef l = true)
    (hB : B = [] ∨ ∃ c B', B = c :: B' ∧ c ∉ "typedef".toList) : noMatchIn kw l B := by
  induction l with
  | nil => exact noMatchIn_nil _ _
  | cons a t ih =>
    obtain ⟨h1, h2⟩ := noTypedef_cons a t hl
    refine noMatchIn_cons _ _ _ _ (matchTypedef_of_strip_none _ _ ?_) (ih h2)
    rcases hB with rfl | ⟨c, B', rfl, hc⟩
    · rw [List.append_nil]
      exact h1
    · exact stripPrefix_cut _ (a :: t) B' c h1 hc

theorem tdFind_noMatch (kw X B : Str) (h : noMatchIn kw X B) : tdFind kw 0 (X ++ B) = tdFind kw 0 B := by
  induction X with
  | nil => rfl
  | cons c t ih =>
    have h := noMatchIn_uncons h
    simp only [List.cons_append, tdFind, h.1, ih h.2]

theorem tdRemove_noMatch (kw X B : Str) (h : noMatchIn kw X B) : tdRemove kw 0 (X ++ B) = X ++ tdRemove kw 0 B := by
  induction X with
  | nil => rfl
  | cons c t ih =>
    have h := noMatchIn_uncons h
    simp only [List.cons_append, tdRemove, h.1, ih h.2]

theorem tdFind_skip (kw x y : Str) : tdFind kw x.length (x ++ y) = tdFind kw 0 y := by
  induction x with
  | nil => rfl
  | cons a t ih => simpa [tdFind] using ih

theorem tdRemove_skip (kw x y : Str) : tdRemove kw x.length (x ++ y) = tdRemove kw 0 y := by
  induction x with
  | nil => rfl
  | cons a t ih => simpa [tdRemove] using ih

/-- in front of any text `B`, the typedef expression for `kw` finds the definitions `defs` in `X` and
leaves `X'` of it -/
def Cuts (kw X : Str) (defs : List TDef) (X' : Str) : Prop :=
  ∀ B, tdFind kw 0 (X ++ B) = defs ++ tdFind kw 0 B ∧ tdRemove kw 0 (X ++ B) = X' ++ tdRemove kw 0 B

theorem Cuts.nil (kw : Str) : Cuts kw [] [] [] := fun _ => ⟨rfl, rfl⟩

theorem Cuts.append {kw X Y X' Y' : Str} {d e : List TDef} (h1 : Cuts kw X d X') (h2 : Cuts kw Y e Y') :
    Cuts kw (X ++ Y) (d ++ e) (X' ++ Y') := by
  intro B
  rw [List.append_assoc, (h1 _).1, (h1 _).2, (h2 B).1, (h2 B).2, List.append_assoc, List.append_assoc]
  exact ⟨rfl, rfl⟩

theorem Cuts.whole {kw X X' : Str} {d : List TDef} (h : Cuts kw X d X') :
    tdFind kw 0 X = d ∧ tdRemove kw 0 X = X' := by
  simpa [tdFind, tdRemove] using h []

theorem Cuts.of_noMatch {kw X : Str} (h : ∀ B, noMatchIn kw X B) : Cuts kw X [] X :=
  fun B => ⟨tdFind_noMatch kw X B (h B), tdRemove_noMatch kw X B (h B)⟩

theorem Cuts.at_match {kw X body name : Str} (hX : X ≠ [])
    (hm : ∀ B, matchTypedef kw (X ++ B) = some (X.length - 1, body, name)) : Cuts kw X [⟨X, body, name⟩] [] := by
  obtain ⟨c, t, rfl⟩ := List.exists_cons_of_ne_nil hX
  intro B
  have hm := hm B
  simp only [List.cons_append, List.length_cons, Nat.add_sub_cancel] at hm
  simp only [List.cons_append, tdFind, tdRemove, hm, tdFind_skip, tdRemove_skip, List.take_succ_cons, List.take_left',
    List.nil_append, and_self]

theorem isKw_chars (K : Str) (h : isKw K) : K = ['s', 't', 'r', 'u', 'c', 't'] ∨ K = ['e', 'n', 'u', 'm'] :=
  h.imp (·.trans String.toList_ofList) (·.trans String.toList_ofList)

theorem isKw_wordy (K : Str) (hK : isKw K) : wordy K := by
  rcases isKw_chars K hK with rfl | rfl
  · exact ⟨by decide, by decide⟩
  · exact ⟨by decide, by decide⟩

theorem mem_takeWhile_p {α} (p : α → Bool) (l : List α) (a : α) (h : a ∈ l.takeWhile p) : p a = true :=
  List.all_eq_true.mp List.all_takeWhile a h

theorem matchTypedef_pre (kw s : Str) (res : Nat × Str × Str) (h : matchTypedef kw s = some res) :
    ∃ pre post, s = pre ++ '{' :: post ∧
      ∀ c ∈ pre, c ∈ "typedef".toList ∨ isSpace c = true ∨ c ∈ kw := by
  unfold matchTypedef at h
  split at h
  · cases h
  · rename_i r1 h1
    split at h
    · cases h
    · rename_i c r1'
      split at h
      · cases h
      · split at h
        · cases h
        · rename_i r3 h3
          split at h
          · rename_i r5 h5
            refine ⟨"typedef".toList ++ (List.takeWhile isSpace (c :: r1') ++ (kw ++ List.takeWhile isSpace r3)),
              r5, ?_, ?_⟩
            · rw [stripPrefix_some_eq _ _ _ h1, List.append_assoc, List.append_assoc, List.append_assoc, ← h5,
                List.takeWhile_append_dropWhile, ← stripPrefix_some_eq _ _ _ h3, List.takeWhile_append_dropWhile]
            · intro x hx
              simp only [List.mem_append] at hx
              rcases hx with hx | hx | hx | hx
              · exact Or.inl hx
              · exact Or.inr (Or.inl (mem_takeWhile_p _ _ _ hx))
              · exact Or.inr (Or.inr hx)
              · exact Or.inr (Or.inl (mem_takeWhile_p _ _ _ hx))
          · cases h

theorem noMatchIn_noBrace (kw T B : Str) (hkw : isKw kw) (hT : '{' ∉ T) (hlast : T.getLast? = some ';') :
    noMatchIn kw T B := by
  intro u v e hv
  -- a match runs up to its `{` over letters of `typedef`, blanks and the keyword only; the suffix `v` of `T`
  -- has no `{`, so that stretch would cover all of `v`, and `v` holds the final `;`
  have hv1 : '{' ∉ v := fun hm => hT (e ▸ List.mem_append_right _ hm)
  have hv2 : ';' ∈ v := by
    obtain ⟨a, w, rfl⟩ := List.exists_cons_of_ne_nil hv
    rw [e, List.getLast?_append, List.getLast?_cons, Option.some_or] at hlast
    exact List.mem_of_getLast? (List.getLast?_cons.trans hlast)
  cases hm : matchTypedef kw (v ++ B) with
  | none => rfl
  | some res =>
    obtain ⟨pre, post, e1, e2⟩ := matchTypedef_pre kw _ res hm
    obtain ⟨z, hz⟩ := prefix_of_not_mem v B pre post '{' e1 hv1
    rcases e2 ';' (hz ▸ List.mem_append_left _ hv2) with h | h | h
    · exact absurd (typedef_chars ▸ h) (by decide)
    · exact absurd h (by decide)
    · exact absurd ((isKw_wordy kw hkw).2 _ h) (by decide)

end PydlVerif.YannyRT
