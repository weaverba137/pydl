/-
What the definitions of Model/SpecOrder.lean compute that has nothing to do with files: padding, `x[j]` for a sorting
permutation `j` of the read positions (which puts the rows back in request order), `np.unique`, numpy's index rule with
its one wrap, the optional tables of successive passes (`catOpt`), broadcasting (`bcast`, for `normalize`).  Core Lean only.
-/
import PydlVerif.Model.SpecOrder
import PydlVerif.Lemmas.ListBasics
namespace PydlVerif.C16
open PydlVerif PydlVerif.SpecOrder

theorem getElem?_replicate_getD {α} (z : α) (n p : Nat) : (List.replicate n z)[p]?.getD z = z := by
  rw [List.getElem?_replicate]; split <;> rfl

theorem range_filterMap_getElem? {β} (l : List β) : (List.range l.length).filterMap (l[·]?) = l := by
  cases l with
  | nil => rfl
  | cons d t =>
    rw [filterMap_getElem?_eq_map _ d _ (fun k => List.mem_range.mp)]
    exact map_range_getD _ d

theorem map_range_spec {β} (g : Nat → β) (n : Nat) :
    ((List.range n).map g).length = n ∧ ∀ i, i < n → ((List.range n).map g)[i]? = some (g i) :=
  ⟨by rw [List.length_map, List.length_range], fun i hi => by rw [List.getElem?_map, List.getElem?_range hi]; rfl⟩

/-- cell (i, p) of a 2-d array (`z` outside) -/
def cell {α} (z : α) (s : Img α) (i p : Nat) : α := ((s.rows[i]?).getD [])[p]?.getD z

/-- every row has `npix` cells (a rectangular numpy array) -/
def Img.WF {α} (s : Img α) : Prop := ∀ r ∈ s.rows, r.length = s.npix

def padTo {α} (z : α) (w : Nat) (r : List α) : List α := r ++ List.replicate (w - r.length) z

theorem place_zero {α} (z : α) (w : Nat) (r : List α) : place z w 0 r = padTo z w r := by
  simp [place, padTo]

theorem place_length {α} (z : α) (w nadd : Nat) (r : List α) (h : nadd + r.length ≤ w) :
    (place z w nadd r).length = w := by
  simp only [place, List.length_append, List.length_replicate]; omega

theorem place_get {α} (z : α) (w nadd : Nat) (r : List α) (p : Nat) :
    (place z w nadd r)[p]?.getD z = if nadd ≤ p ∧ p < nadd + r.length then r[p - nadd]?.getD z else z := by
  unfold place
  rw [List.append_assoc]
  by_cases h1 : p < nadd
  · rw [if_neg (fun h => Nat.lt_irrefl _ (Nat.lt_of_lt_of_le h1 h.1)),
      List.getElem?_append_left (by rwa [List.length_replicate]), getElem?_replicate_getD]
  · have h1 := Nat.le_of_not_lt h1
    rw [List.getElem?_append_right (by rwa [List.length_replicate]), List.length_replicate]
    by_cases h2 : p - nadd < r.length
    · rw [if_pos ⟨h1, (Nat.sub_lt_iff_lt_add' h1).mp h2⟩, List.getElem?_append_left h2]
    · rw [if_neg (fun h => h2 ((Nat.sub_lt_iff_lt_add' h1).mpr h.2)),
        List.getElem?_append_right (Nat.le_of_not_lt h2), getElem?_replicate_getD]

theorem padTo_length {α} (z : α) (w : Nat) (r : List α) : (padTo z w r).length = max w r.length := by
  rw [padTo, List.length_append, List.length_replicate, Nat.add_comm, Nat.sub_add_eq_max]

theorem padTo_padTo {α} (z : α) (w1 w2 : Nat) (r : List α) :
    padTo z w2 (padTo z w1 r) = padTo z (max w1 w2) r := by
  unfold padTo
  rw [List.append_assoc, List.replicate_append_replicate, List.length_append, List.length_replicate,
    ← Nat.sub_sub, Nat.add_comm (w1 - _), Nat.sub_add_eq_max, Nat.sub_max_sub_right, Nat.max_comm]

theorem padTo_of_length {α} (z : α) (w : Nat) (r : List α) (h : w ≤ r.length) : padTo z w r = r := by
  simp [padTo, Nat.sub_eq_zero_of_le h]

theorem padTo_get {α} (z : α) (w : Nat) (r : List α) (p : Nat) :
    (padTo z w r)[p]?.getD z = r[p]?.getD z := by
  rw [← place_zero, place_get, Nat.zero_add, Nat.sub_zero]
  split
  · rfl
  · rw [List.getElem?_eq_none (by omega)]; rfl

theorem nadd1_eq (ps : Int) : nadd1 ps = (-ps).toNat := by
  unfold nadd1
  by_cases h : ps = 0
  · simp [h]
  · by_cases h' : ps < 0 <;> simp [h, h'] <;> omega

theorem nadd2_eq (ps : Int) : nadd2 ps = ps.toNat := by
  unfold nadd2
  by_cases h : ps = 0
  · simp [h]
  · by_cases h' : ps < 0 <;> simp [h, h'] <;> omega

theorem specAppend_eq {α} (z : α) (s1 s2 : Img α) (ps : Int) :
    specAppend z s1 s2 ps = ⟨max (s1.npix + (-ps).toNat) (s2.npix + ps.toNat),
      s1.rows.map (place z (max (s1.npix + (-ps).toNat) (s2.npix + ps.toNat)) (-ps).toNat) ++
      s2.rows.map (place z (max (s1.npix + (-ps).toNat) (s2.npix + ps.toNat)) ps.toNat)⟩ := by
  simp only [specAppend, nadd1_eq, nadd2_eq]

theorem cell_of_lt {α} (z : α) (s : Img α) {i : Nat} (hi : i < s.rows.length) (p : Nat) :
    cell z s i p = s.rows[i][p]?.getD z := by
  rw [cell, List.getElem?_eq_getElem hi]; rfl

theorem cell_append_left {α} (z : α) (w : Nat) (f : List α → List α) (A B : List (List α)) {i : Nat}
    (hi : i < A.length) (p : Nat) : cell z ⟨w, A.map f ++ B⟩ i p = (f A[i])[p]?.getD z := by
  rw [cell, List.getElem?_append_left (by rwa [List.length_map]), List.getElem?_map, List.getElem?_eq_getElem hi]; rfl

theorem cell_append_right {α} (z : α) (w : Nat) (g f : List α → List α) (A B : List (List α)) {i : Nat}
    (hi : i < B.length) (p : Nat) : cell z ⟨w, A.map g ++ B.map f⟩ (A.length + i) p = (f B[i])[p]?.getD z := by
  rw [cell, List.getElem?_append_right (by rw [List.length_map]; omega), List.length_map, Nat.add_sub_cancel_left,
    List.getElem?_map, List.getElem?_eq_getElem hi]; rfl

/-- the contract of `np.argsort`: it returns *a* permutation of the positions that sorts the values -/
def IsArgsort (argsort : List Nat → List Nat) : Prop :=
  ∀ a, (argsort a).Perm (List.range a.length) ∧ ((argsort a).filterMap (a[·]?)).Pairwise (· ≤ ·)

/-- If `a` (the request positions in the order the files were read) is a permutation of
`0..n-1`, then gathering by ANY sorting permutation `j` of `a` undoes it: `a[j[i]] = i` for all i. -/
theorem argsort_perm_inverse (a j : List Nat) (ha : a.Perm (List.range a.length))
    (hj : j.Perm (List.range a.length)) (hs : (j.filterMap (a[·]?)).Pairwise (· ≤ ·)) :
    j.filterMap (a[·]?) = List.range a.length := by
  have h1 : (j.filterMap (a[·]?)).Perm (List.range a.length) := by
    have := hj.filterMap (a[·]?)
    rw [range_filterMap_getElem?] at this
    exact this.trans ha
  have h2 : (List.range a.length).Pairwise (· ≤ ·) :=
    List.Pairwise.imp (fun h => Nat.le_of_lt h) List.pairwise_lt_range
  exact List.Perm.eq_of_pairwise (fun x y _ _ hxy hyx => Nat.le_antisymm hxy hyx) hs h2 h1

/-- the contract `IsArgsort` is not vacuous: the stand-in used by the driver meets it -/
theorem argsortImpl_isArgsort : IsArgsort argsortImpl := by
  intro a
  have hp : (argsortImpl a).Perm (List.range a.length) := List.mergeSort_perm _ _
  refine ⟨hp, ?_⟩
  have hmem : ∀ k ∈ argsortImpl a, k < a.length := fun k hk => List.mem_range.mp (hp.mem_iff.mp hk)
  rw [filterMap_getElem?_eq_map a 0 _ hmem, List.pairwise_map]
  have := List.pairwise_mergeSort (le := fun i k => decide (a.getD i 0 ≤ a.getD k 0))
    (fun x y z hxy hyz => decide_eq_true (Nat.le_trans (of_decide_eq_true hxy) (of_decide_eq_true hyz)))
    (fun x y => by rw [Bool.or_eq_true, decide_eq_true_eq, decide_eq_true_eq]; exact Nat.le_total _ _)
    (List.range a.length)
  exact this.imp of_decide_eq_true

theorem gather_map {β} (idx : List Nat) (g : Nat → β) (j : List Nat)
    (hj : j.Perm (List.range idx.length)) (hinv : j.filterMap (idx[·]?) = List.range idx.length) :
    gather (idx.map g) j = .ok ((List.range idx.length).map g) := by
  have hall : j.all (· < (idx.map g).length) = true := by
    simp only [List.all_eq_true, decide_eq_true_eq, List.length_map]
    exact fun k hk => List.mem_range.mp (hj.mem_iff.mp hk)
  simp only [gather, hall, if_true]
  have : (fun (k : Nat) => (idx.map g)[k]?) = fun (k : Nat) => (idx[k]?).map g := by funext k; simp
  rw [this, ← List.map_filterMap, hinv]
  rfl

theorem gatherOpt_map {β γ} (xt : Option γ) (idx : List Nat) (g : γ → Nat → β) (j : List Nat)
    (hj : j.Perm (List.range idx.length)) (hinv : j.filterMap (idx[·]?) = List.range idx.length) :
    gatherOpt (xt.map (fun t => idx.map (g t))) j = .ok (xt.map (fun t => (List.range idx.length).map (g t))) := by
  cases xt with
  | none => rfl
  | some t =>
    simp only [gatherOpt, Option.map_some]
    rw [gather_map _ _ _ hj hinv]
    rfl

theorem mem_insertU (a x : Nat) (l : List Nat) : a ∈ insertU x l ↔ a = x ∨ a ∈ l := by
  induction l with
  | nil => simp [insertU]
  | cons y ys ih =>
    unfold insertU
    split
    · exact List.mem_cons
    · split
      · rename_i h
        exact ⟨Or.inr, fun h' => h'.elim (fun e => e ▸ h ▸ List.mem_cons_self) id⟩
      · rw [List.mem_cons, ih, List.mem_cons]
        exact or_left_comm

theorem pairwise_insertU (x : Nat) (l : List Nat) (h : l.Pairwise (· < ·)) : (insertU x l).Pairwise (· < ·) := by
  induction l with
  | nil => simp [insertU]
  | cons y ys ih =>
    have hy := List.pairwise_cons.mp h
    unfold insertU
    split
    · refine List.pairwise_cons.mpr ⟨?_, h⟩
      intro b hb
      rcases List.mem_cons.mp hb with rfl | hb
      · assumption
      · exact Nat.lt_trans ‹x < y› (hy.1 b hb)
    · split
      · exact h
      · refine List.pairwise_cons.mpr ⟨?_, ih hy.2⟩
        intro b hb
        rcases (mem_insertU b x ys).mp hb with rfl | hb
        · omega
        · exact hy.1 b hb

theorem mem_uniq (a : Nat) (l : List Nat) : a ∈ uniq l ↔ a ∈ l := by
  induction l with
  | nil => simp [uniq]
  | cons y ys ih =>
    have : uniq (y :: ys) = insertU y (uniq ys) := rfl
    rw [this, mem_insertU, ih]; simp

theorem pairwise_uniq (l : List Nat) : (uniq l).Pairwise (· < ·) := by
  induction l with
  | nil => simp [uniq]
  | cons y ys ih => exact pairwise_insertU y _ ih

theorem nodup_uniq (l : List Nat) : (uniq l).Nodup :=
  (pairwise_uniq l).imp (fun h => Nat.ne_of_lt h)

theorem uniq_perm (l : List Nat) (h : l.Nodup) : (uniq l).Perm l :=
  (List.perm_ext_iff_of_nodup (nodup_uniq l) h).mpr fun a => mem_uniq a l

/-- `np.unique(x)[0]` of a constant non-empty column, as `countFor` takes it -/
theorem uniq_headD (v : Nat) (l : List Nat) (hv : v ∈ l) (h : ∀ x ∈ l, x = v) : (uniq l).headD 0 = v := by
  cases hu : uniq l with
  | nil => exact absurd ((mem_uniq v l).mpr hv) (hu ▸ List.not_mem_nil)
  | cons a t => exact h a ((mem_uniq a l).mp (hu ▸ List.mem_cons_self))

theorem sum_insertU (nf : Nat → Nat) (x : Nat) (l : List Nat) (h : l.Pairwise (· < ·)) :
    ((insertU x l).map nf).sum = if x ∈ l then (l.map nf).sum else nf x + (l.map nf).sum := by
  induction l with
  | nil => rw [if_neg List.not_mem_nil]; rfl
  | cons y ys ih =>
    have hy := List.pairwise_cons.mp h
    unfold insertU
    by_cases h1 : x < y
    · -- `x` is below the whole sorted list
      have hn : x ∉ y :: ys := fun hm => (List.mem_cons.mp hm).elim (fun e => Nat.lt_irrefl _ (e ▸ h1))
        (fun e => Nat.lt_asymm h1 (hy.1 x e))
      rw [if_pos h1, if_neg hn]
      rfl
    · rw [if_neg h1]
      by_cases h2 : x = y
      · rw [if_pos h2, if_pos (h2 ▸ List.mem_cons_self)]
      · rw [if_neg h2, List.map_cons, List.sum_cons, ih hy.2]
        by_cases hm : x ∈ ys
        · rw [if_pos hm, if_pos (List.mem_cons_of_mem _ hm)]
          rfl
        · rw [if_neg hm, if_neg (fun h => (List.mem_cons.mp h).elim h2 hm), Nat.add_left_comm]
          rfl

theorem sum_uniq_le (nf : Nat → Nat) (ps : List Nat) : ((uniq ps).map nf).sum ≤ (ps.map nf).sum := by
  induction ps with
  | nil => simp [uniq]
  | cons x xs ih =>
    have : uniq (x :: xs) = insertU x (uniq xs) := rfl
    rw [this, sum_insertU nf x _ (pairwise_uniq xs)]
    simp only [List.map_cons, List.sum_cons]
    split <;> omega

/-- `np.unique` drops fibres: with a repeated plate the filled part is shorter than `total_fibers` -/
theorem sum_uniq_lt (nf : Nat → Nat) (ps : List Nat) (hd : ¬ ps.Nodup) (hpos : ∀ p ∈ ps, 0 < nf p) :
    ((uniq ps).map nf).sum < (ps.map nf).sum := by
  induction ps with
  | nil => exact absurd List.nodup_nil hd
  | cons x xs ih =>
    have : uniq (x :: xs) = insertU x (uniq xs) := rfl
    rw [this, sum_insertU nf x _ (pairwise_uniq xs)]
    simp only [List.map_cons, List.sum_cons]
    have hx := hpos x (by simp)
    have hle := sum_uniq_le nf xs
    by_cases hm : x ∈ xs
    · rw [if_pos ((mem_uniq x xs).mpr hm)]; omega
    · rw [if_neg (fun h => hm ((mem_uniq x xs).mp h))]
      have hd' : ¬ xs.Nodup := fun h => hd (List.nodup_cons.mpr ⟨hm, h⟩)
      have := ih hd' (fun p hp => hpos p (by simp [hp]))
      omega

theorem npIndex_cases (n : Nat) (k : Int) :
    (0 ≤ k ∧ k < n → npIndex n k = some k.toNat) ∧
    (-(n : Int) ≤ k ∧ k < 0 → npIndex n k = some (k + n).toNat) ∧
    (k < -(n : Int) ∨ (n : Int) ≤ k → npIndex n k = none) := by
  unfold npIndex
  refine ⟨fun h => if_pos h, fun h => ?_, fun h => ?_⟩
  · rw [if_neg (fun h' => Int.lt_irrefl _ (Int.lt_of_le_of_lt h'.1 h.2)), if_pos ⟨h.2, h.1⟩]
  · rw [if_neg (by omega), if_neg (by omega)]

/-- The numpy index `fibre - 1` exactly: fibres 1..nfib are rows 0..nfib-1; fibre x with `-nfib < x ≤ 0` WRAPS to row
`nfib - 1 + x` (fibre 0 = the last row, fibre -1 = the row before it, ...); everything else is an IndexError. -/
theorem rowIndex_cases (nfib : Nat) (x : Int) :
    (1 ≤ x ∧ x ≤ nfib → rowIndex nfib x = some (x - 1).toNat) ∧
    (-(nfib : Int) < x ∧ x ≤ 0 → rowIndex nfib x = some ((nfib : Int) - 1 + x).toNat ∧ rowIndex nfib x = rowIndex nfib (x + nfib)) ∧
    (x ≤ -(nfib : Int) ∨ (nfib : Int) < x → rowIndex nfib x = none) := by
  have hx := npIndex_cases nfib (x - 1)
  refine ⟨fun h => hx.1 ⟨Int.sub_nonneg_of_le h.1, Int.sub_one_lt_of_le h.2⟩, fun h => ?_,
    fun h => hx.2.2 (h.imp Int.sub_one_lt_of_le Int.le_sub_one_of_lt)⟩
  have e : x - 1 + nfib = nfib - 1 + x := by omega
  have e' : x + nfib - 1 = nfib - 1 + x := by omega
  have := hx.2.1 ⟨Int.le_sub_one_of_lt h.1, Int.sub_one_lt_of_le h.2⟩
  rw [e] at this
  refine ⟨this, this.trans ?_⟩
  rw [← e']
  exact ((npIndex_cases nfib (x + nfib - 1)).1 (by omega)).symm

/-- The numpy index of `znum=k` exactly: with `q = (fibre-1)*nper + k - 1`, rows `0 ≤ q < nrows` are read as they are,
`-nrows ≤ q < 0` wraps to row `nrows + q` (e.g. fibre 1, znum 0 = the LAST row of the table), anything else is an IndexError.
In particular `znum = nper + 1` on fibre f silently reads fit 1 of fibre f+1 (q stays inside the table) unless f is the last. -/
theorem zIndex_cases {τ : Type} (z : ZAll τ) (k fiber : Int) :
    let q := (fiber - 1) * (z.nper : Int) + k - 1
    (0 ≤ q ∧ q < z.nrows → zIndex z k fiber = some q.toNat) ∧
    (-(z.nrows : Int) ≤ q ∧ q < 0 → zIndex z k fiber = some (q + z.nrows).toNat) ∧
    (q < -(z.nrows : Int) ∨ (z.nrows : Int) ≤ q → zIndex z k fiber = none) :=
  npIndex_cases z.nrows _

theorem zIndex_valid {τ} (z : ZAll τ) (nfib : Nat) (k x : Int) (hrows : z.nrows = nfib * z.nper)
    (hk1 : 1 ≤ k) (hk2 : k ≤ z.nper) (hx1 : 1 ≤ x) (hx2 : x ≤ nfib) :
    zIndex z k x = some ((x - 1).toNat * z.nper + (k - 1).toNat) := by
  -- in naturals: fibre r+1 < nfib+1, fit j+1 < nper+1, index r*nper + j < nfib*nper
  obtain ⟨r, hr⟩ := Int.eq_ofNat_of_zero_le (Int.sub_nonneg_of_le hx1)
  obtain ⟨j, hj⟩ := Int.eq_ofNat_of_zero_le (Int.sub_nonneg_of_le hk1)
  have hr' : r < nfib := Int.ofNat_lt.mp (hr ▸ Int.sub_one_lt_of_le hx2)
  have hj' : j < z.nper := Int.ofNat_lt.mp (hj ▸ Int.sub_one_lt_of_le hk2)
  have hlt : r * z.nper + j < z.nrows :=
    hrows ▸ Nat.lt_of_lt_of_le (Nat.add_lt_add_left hj' _) (Nat.succ_mul r _ ▸ Nat.mul_le_mul_right _ hr')
  have e : (x - 1) * (z.nper : Int) + k - 1 = ((r * z.nper + j : Nat) : Int) := by
    rw [Int.add_sub_assoc, hr, hj, Int.natCast_add, Int.natCast_mul]
  rw [zIndex, e, (npIndex_cases _ _).1 ⟨Int.natCast_nonneg _, Int.ofNat_lt.mpr hlt⟩, hr, hj]
  rfl

/-- a vectorised numpy lookup `x[a]` all of whose indices are valid: no IndexError, and the positions it reads -/
theorem indices_valid (R : Int → Option Nat) (a : Nat → Int) (r : Nat → Nat) (idx : List Nat)
    (h : ∀ i ∈ idx, R (a i) = some (r i)) :
    (idx.map a).all (fun x => (R x).isSome) = true ∧ (idx.map a).map (fun x => (R x).getD 0) = idx.map r := by
  constructor
  · rw [List.all_map, List.all_eq_true]
    exact fun i hi => congrArg Option.isSome (h i hi)
  · rw [List.map_map]
    exact List.map_congr_left fun i hi => congrArg (·.getD 0) (h i hi)

theorem catOpt_none_left {τ} (x : Option (List τ)) : catOpt none x = x := by cases x <;> rfl

theorem catOpt_none_right {τ} (x : Option (List τ)) : catOpt x none = x := by cases x <;> rfl

theorem catOpt_map {β τ} (xt : Option β) (A B : β → List τ) :
    catOpt (xt.map A) (xt.map B) = xt.map (fun t => A t ++ B t) := by cases xt <;> rfl

theorem catOpt_some_length {τ} (x : Option (List τ)) (l : List τ) :
    ∃ l', catOpt x (some l) = some l' ∧ l'.length = (x.getD []).length + l.length := by
  cases x with
  | none => exact ⟨l, rfl, (Nat.zero_add _).symm⟩
  | some a => exact ⟨a ++ l, rfl, List.length_append⟩

theorem bcast_same {β} (n : Nat) (l : List β) (h : l.length = n) : bcast n l = .ok l := by
  simp [bcast, h]; rfl

theorem bcast_one {β} (n : Nat) (v : β) : bcast n [v] = .ok (List.replicate n v) := by
  unfold bcast
  split
  · rename_i h
    have : 1 = n := by simpa using h
    subst this; rfl
  · rfl

end PydlVerif.C16
