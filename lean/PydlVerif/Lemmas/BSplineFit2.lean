/-
The two-dimensional fit (x2 given, npoly ≥ 1): the `npoly`-blocked flat-index scatter of `bspline.fit` (`assembleP`,
`itop = k*npoly`) builds the band of the normal matrix of the TENSOR design matrix.
-/
import PydlVerif.Model.BSplineFit2
import PydlVerif.Lemmas.BSplineFit
namespace PydlVerif.BSplineFit2Lemmas
open PydlVerif PydlVerif.BSpline PydlVerif.BSplineFit PydlVerif.BSplineFit2 PydlVerif.BSplineFitLemmas Finset

-- not every lemma under the `variable` line uses the order and the floor
set_option linter.unusedSectionVars false
variable {K : Type} [Field K] [LinearOrder K] [IsStrictOrderedRing K] [FloorRing K]

namespace AtField
scoped notation "assemblePK" => @assembleP _ (fieldScalar _)
scoped notation "normalSystemPK" => @normalSystemP _ (fieldScalar _)
end AtField
open PydlVerif.AtField PydlVerif.BSplineFit2Lemmas.AtField

theorem assembleP_eq_assembleAt {α : Type} [Scalar α] (np : ℕ) (a1 : ℕ → ℕ → α) (y w : ℕ → α) (lower upper : Array ℤ)
    (nx bw nseg : ℕ) :
    assembleP np a1 y w lower upper nx bw nseg = assembleAt (fun k => k * np) a1 y w lower upper nx bw nseg := rfl

/-- with `npoly = 1` the blocked assembly IS the 1-D assembly of Model/BSplineFit.lean -/
theorem assembleP_one (a1 : ℕ → ℕ → K) (y w : ℕ → K) (lower upper : Array ℤ) (nx bw nseg : ℕ) :
    assemblePK 1 a1 y w lower upper nx bw nseg = assembleK a1 y w lower upper nx bw nseg := by
  unfold assembleP assemble
  simp only [Nat.mul_one]

/-- the design matrix of the blocked fit: point `p` of segment `iv p` has its `bw` values in the columns
`iv p * np .. iv p * np + bw - 1` -/
def designP (np : ℕ) (a1 : ℕ → ℕ → K) (iv : ℕ → ℕ) (bw p c : ℕ) : K := design a1 (fun q => iv q * np) bw p c

/-- the `npoly`-blocked scatter builds the lower band of `AᵀWA` and `AᵀWy`, `A = designP` -/
theorem assembleP_is_normal (np : ℕ) (a1 : ℕ → ℕ → K) (y w : ℕ → K) (lower upper : Array ℤ) (iv : ℕ → ℕ) (nx bw nseg : ℕ)
    (hrows : Rows lower upper iv nx nseg) :
    (∀ c r, r < bw → (assemblePK np a1 y w lower upper nx bw nseg).1 (c * bw + r) =
      ∑ p ∈ range nx, designP np a1 iv bw p c * (designP np a1 iv bw p (c + r) * w p)) ∧
    (∀ c, (assemblePK np a1 y w lower upper nx bw nseg).2 c = ∑ p ∈ range nx, y p * (designP np a1 iv bw p c * w p)) := by
  rw [@assembleP_eq_assembleAt K (fieldScalar K)]
  exact assembleAt_is_normal (fun k => k * np) a1 y w lower upper iv nx bw nseg hrows

/-- column `ii*np + jj` of the matrix `action(x, x2=...)` returns: `bf1[p][ii] * temppoly[p][jj]` -/
def tensorAct (np : ℕ) (bf P : ℕ → ℕ → K) (p a : ℕ) : K := bf p (a / np) * P p (a % np)

theorem block_lt {j b np l : ℕ} (hl : l < np) : j * np + l < b * np ↔ j < b := by
  rw [← Nat.div_lt_iff_lt_mul (by omega), mul_add_div_of_lt _ _ _ hl]

theorem block_le {a j np l : ℕ} (hl : l < np) : a * np ≤ j * np + l ↔ a ≤ j := by
  rw [← not_lt, ← not_lt, block_lt hl]

/-- column `j*np + l` of the blocked design matrix of the tensor action matrix holds `B_j(x_p) · P_l(x2_p)` -/
theorem tensor_design (np nord : ℕ) (bf P : ℕ → ℕ → K) (iv : ℕ → ℕ) (p j l : ℕ) (hl : l < np) :
    designP np (tensorAct np bf P) iv (nord * np) p (j * np + l) = design bf iv nord p j * P p l := by
  unfold designP design tensorAct
  simp only [← Nat.add_mul, block_le hl, block_lt hl]
  by_cases h : iv p ≤ j ∧ j < iv p + nord
  · have e : j * np + l - iv p * np = (j - iv p) * np + l := by
      have := Nat.mul_le_mul_right np h.1
      rw [Nat.sub_mul]
      omega
    rw [if_pos h, if_pos h, e, mul_add_div_of_lt _ _ _ hl, Nat.mul_add_mod_of_lt hl]
  · rw [if_neg h, if_neg h, zero_mul]

theorem sum_blocks (f : ℕ → K) (m np : ℕ) :
    ∑ c ∈ range (m * np), f c = ∑ j ∈ range m, ∑ l ∈ range np, f (j * np + l) := by
  induction m with
  | zero => simp
  | succ m ih => rw [Nat.succ_mul, Finset.sum_range_add, ih, Finset.sum_range_succ]

end PydlVerif.BSplineFit2Lemmas
