/-
C03 on C01's document domain: the hypotheses `history_content_partial` makes on every step (FrontStable, `RestNl`,
RenderLoop) as theorems about documents.  The object's text is always a written document followed by whole appended
lines (`linesText`): such a text has the front half of the written document, reads as a document of the same
declarations, tables and columns (`view_of_loop`), is re-written by `write()` as C01's `textOf` of a document
(`renderView_doc`), and keeps this form under `append()` (`chunk_domain`).
-/
import PydlVerif.Lemmas.YannyHist
namespace PydlVerif.Yanny
open PydlVerif.YannyRT PydlVerif.C01

variable {F : Type}

/-- the statement of `C03.front_stable` -/
theorem front_stable (io : FloatIO F) (h2 : H2 io) (d : Doc F) (hd : docOK io d = true)
    (ls cl : List Str) (hls : ∀ l ∈ ls, LineOK l) (hcl : ∀ l ∈ cl, LineOK l) :
    frontStable (textOf io d ++ linesText ls) (linesText cl) = true := by
  unfold frontStable
  rw [List.append_assoc, ← linesText_append,
    front_appended io h2 d hd (ls ++ cl) (List.forall_mem_append.mpr ⟨hls, hcl⟩),
    front_appended io h2 d hd ls hls]
  simp [linesText_append]

theorem getLast_nl_lines (L : List Str) : ('\n' :: linesText L).getLast? = some '\n' := by
  rcases List.eq_nil_or_concat L with rfl | ⟨L', l, rfl⟩
  · rfl
  · simp [linesText, List.getLast?_cons, List.getLast?_append]

/-- the text left for the line loop ends its last line (hypothesis `RestNl` of `parse_append`) -/
theorem restNl_appended (io : FloatIO F) (h2 : H2 io) (d : Doc F) (hd : docOK io d = true)
    (ls : List Str) (hls : ∀ l ∈ ls, LineOK l) : RestNl (textOf io d ++ linesText ls) := by
  unfold RestNl
  rw [front_appended io h2 d hd ls hls]
  refine .inr (List.getLast?_eq_some_iff.mp ?_)
  unfold restOf
  simp only [List.append_assoc, dataText_lines, List.getLast?_append, getLast_nl_lines, Option.some_or]

/-- `viewOfDoc` in terms of C01's shape functions (`structsOf`, `enumBlocks`, `rcolCanon`); what `_parse` leaves comes
out in this form.  The model's `viewOfDoc` is written with the model's own `structTexts` / `enumText` (what
`dtype_to_struct` produces) because a model file, which the driver evaluates, cannot mention the shape functions of the
lemma files.  On the domain the two are equal (`viewOfDoc_eq`); the lemmas of this file are about `viewRT`, the
statements of Props/C03 about `viewOfDoc`. -/
def viewRT (raw : Bool) (D : Doc F) : View F :=
  ⟨structsOf D, blocksOf "enum".toList (enumBlocks D),
   D.tables.map (fun t => (upper t.name, t.cols.map (·.name))),
   D.hdr.map (fun kv => (kv.1, strip kv.2)),
   D.tables.map (fun t => ⟨upper t.name, t.cols.map (·.name),
     if raw then none else some (t.cols.map (rcolCanon D.enums)), t.rows⟩)⟩

theorem viewOfDoc_eq (raw : Bool) (D : Doc F) (he : ∀ e ∈ D.enums, enumOK e = true)
    (hsup : ∀ t ∈ D.tables, ∀ c ∈ t.cols, supported c.ty = true) : viewOfDoc raw D = viewRT raw D := by
  have hst := structTexts_shape D.enums D.tables hsup
  have hen := enumTexts_shape D he
  unfold viewOfDoc viewRT
  rw [hst, hen]
  rfl

theorem shape_map {β : Type} (f : Str → List Col → β) (A B : List (TableD F))
    (h : A.map (fun t => (t.name, t.cols)) = B.map (fun t => (t.name, t.cols))) :
    A.map (fun t => f t.name t.cols) = B.map (fun t => f t.name t.cols) := by
  have := congrArg (List.map fun p : Str × List Col => f p.1 p.2) h
  rw [List.map_map, List.map_map] at this
  exact this

theorem shape_facts (d D : Doc F) (h : shapeOf D = shapeOf d) :
    structBlocks D = structBlocks d ∧ enumBlocks D = enumBlocks d ∧ docSpecs D = docSpecs d ∧
    D.tables.map (fun t => (upper t.name, t.cols.map (·.name))) =
      d.tables.map (fun t => (upper t.name, t.cols.map (·.name))) := by
  simp only [shapeOf, Prod.mk.injEq] at h
  obtain ⟨he, ht⟩ := h
  have hemp : D.tables.isEmpty = d.tables.isEmpty := by
    simpa using congrArg List.isEmpty ht
  refine ⟨?_, ?_, ?_, ?_⟩
  · unfold structBlocks; rw [he]
    exact shape_map (fun n c => (structBody (c.map (member d.enums)), upper n)) _ _ ht
  · unfold enumBlocks; rw [he, hemp]
  · exact shape_map (fun n c => (upper n, (Except.ok (c.map specOfCol) : Except String (List ColSpec)))) _ _ ht
  · exact shape_map (fun n c => (upper n, c.map (·.name))) _ _ ht

theorem rawOK_shape (raw : Bool) (d D : Doc F) (h : shapeOf D = shapeOf d) : rawOK raw D = rawOK raw d := by
  -- "no float32 column" per table is a function of the columns, hence the same list of booleans for both
  have := congrArg (List.all · id)
    (shape_map (fun _ c => c.all (fun c => c.ty != NpT.f4)) D.tables d.tables (congrArg Prod.snd h))
  simp only [List.all_map, Function.comp_def, id] at this
  unfold rawOK
  rw [this]

theorem rawSpec_id (c : Col) (h : c.ty ≠ NpT.f4) : rawSpec (specOfCol c) = specOfCol c := by
  unfold rawSpec specOfCol convOfCol
  cases hty : c.ty with
  | f4 => exact absurd hty h
  | _ => rfl

theorem rawOK_cols (raw : Bool) (D : Doc F) (h : rawOK raw D = true) (t : TableD F) (ht : t ∈ D.tables) :
    (if raw then (t.cols.map specOfCol).map rawSpec else t.cols.map specOfCol) = t.cols.map specOfCol := by
  cases raw with
  | false => rfl
  | true =>
    simp only [rawOK, Bool.not_true, Bool.false_or, List.all_eq_true, bne_iff_ne, ne_eq] at h
    simp only [if_true, List.map_map]
    apply List.map_congr_left
    intro c hc
    exact rawSpec_id c (h t ht c hc)

theorem specs_doc (io : FloatIO F) (d : Doc F) (hd : docOK io d = true) (raw : Bool)
    (hr : rawOK raw d = true) (E : List TDef) (R : Str) :
    specsOf ⟨tdefsOf "struct".toList (structBlocks d), E,
      d.tables.map (fun t => (upper t.name, t.cols.map (·.name))), R⟩ raw = docSpecs d := by
  unfold specsOf docSpecs
  simp only [texts_written, List.map_map]
  apply List.map_congr_left
  intro t hm
  simp only [Function.comp, (typing_render io d hd t hm).1, rawOK_cols raw d hr t hm]

theorem loop_of_doc (io : FloatIO F) (h1 : H1 io) (h2 : H2 io) (d : Doc F) (hd : docOK io d = true)
    (raw : Bool) (hr : rawOK raw d = true) : loopOf io raw (textOf io d) = .ok (docLoop d) := by
  unfold loopOf
  simp only [front_render io h2 d hd, specs_doc io d hd raw hr, initSt, List.map_map, Function.comp_def]
  exact loop_render io h1 h2 d hd

theorem rawTables_doc (D : Doc F) (hnd : nodup (D.tables.map (fun t => upper t.name)) = true)
    (hne : ∀ t ∈ D.tables, ∀ r ∈ t.rows, r ≠ []) :
    rawTables (D.tables.map (fun t => (upper t.name, t.rows)))
      (D.tables.map (fun t => (upper t.name, t.cols.map (·.name)))) =
      D.tables.map (fun t => ⟨upper t.name, t.cols.map (·.name), none, t.rows⟩) := by
  unfold rawTables
  rw [List.map_map]
  apply List.map_congr_left
  intro t hm
  have hfind := find_by_key D.tables (fun t => upper t.name) (fun t => t.rows) hnd t hm
  have hf : t.rows.filter (fun r => !r.isEmpty) = t.rows :=
    List.filter_eq_self.mpr fun r hr => by simp [hne t hm r hr]
  simp only [Function.comp, rowsOf, hfind, hf]

theorem finishView_doc (io : FloatIO F) (D : Doc F) (hD : docOK io D = true) (raw : Bool) (R : Str) :
    finishView ⟨tdefsOf "struct".toList (structBlocks D), tdefsOf "enum".toList (enumBlocks D),
      D.tables.map (fun t => (upper t.name, t.cols.map (·.name))), R⟩ raw (docLoop D) =
      .ok (viewRT raw D) := by
  obtain ⟨_, _, _, ht, htn, _, _, _⟩ := docOK_props io D hD
  have hen : (tdefsOf "enum".toList (enumBlocks D)).map (·.text) = blocksOf "enum".toList (enumBlocks D) :=
    List.map_map
  unfold finishView
  cases raw with
  | true =>
    have hne : ∀ t ∈ D.tables, ∀ r ∈ t.rows, r ≠ [] := by
      intro t hm r hr
      obtain ⟨_, hc, _, _, hrows⟩ := tableOK_props io D.enums t (ht t hm)
      have := hrows r hr
      simp only [rowOK, Bool.and_eq_true] at this
      exact cellsOK_ne_nil D.enums t.cols r hc this.1
    simp only [if_true, texts_written, hen, docLoop, rawTables_doc D htn hne]
    rfl
  | false =>
    have hfin := finish_render io D hD
    unfold docCache at hfin
    have hcan : (canon D).tables.map ofRTable = (viewRT false D).tables := by
      simp [canon, ofRTable, viewRT, rcolCanon, List.map_map, Function.comp_def]
    simp only [Bool.false_eq_true, if_false, texts_written, hen, docLoop, hfin, hcan]
    rfl

/-- the view `_parse` leaves for a text "written document `d` + appended lines" whose line loop read
the document `D` (same declarations, tables and columns as `d`, itself in the domain) -/
theorem view_of_loop (io : FloatIO F) (h2 : H2 io) (d D : Doc F) (hd : docOK io d = true)
    (hD : docOK io D = true) (hsh : shapeOf D = shapeOf d) (raw : Bool)
    (ls : List Str) (hls : ∀ l ∈ ls, LineOK l)
    (hloop : loopOf io raw (textOf io d ++ linesText ls) = .ok (docLoop D)) :
    parseView io raw (textOf io d ++ linesText ls) = .ok (viewRT raw D) := by
  obtain ⟨s1, s2, _, s4⟩ := shape_facts d D hsh
  unfold parseView
  rw [hloop, front_appended io h2 d hd ls hls, ← s1, ← s2, ← s4]
  exact finishView_doc io D hD raw _

theorem renderView_doc (io : FloatIO F) (raw : Bool) (D : Doc F) (block : Str) :
    renderView io (viewRT raw D) block = textOf io (writeDoc D block) := by
  have e1 : enumBlocks (writeDoc D block) = enumBlocks D := rfl
  have e2 : structBlocks (writeDoc D block) = structBlocks D := rfl
  have e3 : ((viewRT raw D).tables.map (tableLines io)).flatten = (D.tables.map (rowLines io)).flatten := by
    simp only [viewRT, List.map_map]
    rfl
  unfold renderView textOf headText dataText
  rw [e1, e2, e3, blocksOf_struct]
  simp only [viewRT, writeDoc, pairLine_eq, List.append_assoc, List.cons_append, List.nil_append]

theorem lstrip_lstrip (s : Str) : lstrip (lstrip s) = lstrip s := by
  unfold lstrip
  induction s with
  | nil => rfl
  | cons a t ih => by_cases h : isSpace a = true <;> simp [h, ih]

theorem rstrip_rstrip (s : Str) : rstrip (rstrip s) = rstrip s := by
  have := lstrip_lstrip s.reverse
  unfold lstrip at this
  unfold rstrip
  rw [List.reverse_reverse, this]

/-- so a header value the object holds is written and read back unchanged -/
theorem strip_strip (s : Str) : strip (strip s) = strip s := by
  unfold strip
  rw [lstrip_rstrip_comm, lstrip_lstrip, rstrip_rstrip]

theorem docLoop_writeDoc (D : Doc F) (block : Str) : docLoop (writeDoc D block) = docLoop D := by
  simp [docLoop, writeDoc, List.map_map, Function.comp_def, strip_strip]

theorem setPair_strip (l : List (Str × Str)) (k v : Str) :
    (setPair l k v).map (fun kv => (kv.1, strip kv.2)) =
      setPair (l.map (fun kv => (kv.1, strip kv.2))) k (strip v) := by
  unfold setPair
  simp only [List.any_map, Function.comp_def]
  split
  · simp [List.map_map, Function.comp_def, apply_ite (fun p : Str × Str => (p.1, strip p.2))]
  · simp

theorem foldPairs_strip (ps l : List (Str × Str)) :
    (ps.foldl (fun acc kv => setPair acc kv.1 kv.2) l).map (fun kv => (kv.1, strip kv.2)) =
      ps.foldl (fun acc kv => setPair acc kv.1 (strip kv.2)) (l.map (fun kv => (kv.1, strip kv.2))) :=
  (List.foldl_hom _ fun l kv => (setPair_strip l kv.1 kv.2).symm).symm

theorem shape_appendDoc (D : Doc F) (ps : List (Str × Str)) (gs : List (Str × List (List (Cell F)))) :
    shapeOf (appendDoc D ps gs) = shapeOf D := by
  simp [shapeOf, appendDoc, List.map_map, Function.comp_def]

theorem docLoop_appendDoc (D : Doc F) (ps : List (Str × Str)) (gs : List (Str × List (List (Cell F)))) :
    docLoop (appendDoc D ps gs) = applyAppend (docLoop D) ps gs := by
  simp only [docLoop, appendDoc, applyAppend, foldPairs_strip, applyRows_eq, List.map_map]
  rfl

theorem header_lineOK (stamp : Str) (h : stampOK stamp = true) : '\n' ∉ stamp ∧ LineOK (headerLine stamp) := by
  simp only [stampOK, Bool.and_eq_true, Bool.not_eq_true', List.contains_eq_mem, decide_eq_false_iff_not] at h
  refine ⟨h.1, h.2, headerLine_noNl stamp h.1, noCont_of_last _ ?_⟩
  -- the line ends with `.`, neither a space nor a backslash
  intro c hc
  simp only [headerLine, List.getLast?_append, List.getLast?_singleton, Option.some_or, Option.some.injEq] at hc
  subst hc
  exact ⟨by decide, by decide⟩

/-- under `appendOK`, every pair and every group of rows taken from the dictionary meets the hypotheses of
`chunk_loop` (`PairOK`, `GroupOK`) and every line of the chunk is a `LineOK` line -/
theorem chunk_domain (io : FloatIO F) (h2 : H2 io) (v : View F) (D : Doc F)
    (data : List (Str × AVal F)) (stamp : Str) (ps : List (Str × Str))
    (gs : List (Str × List (List (Cell F))))
    (hg : appendTables io v data (D.tables.map (fun t => (upper t.name, t.cols.map (·.name)))) = .ok gs)
    (hok : appendOK io D stamp ps gs = true) :
    '\n' ∉ stamp ∧ (∀ kv ∈ ps, PairOK (docSpecs D) kv) ∧ (∀ g ∈ gs, GroupOK io (docSpecs D) g) ∧
    ∀ l ∈ chunkLines io stamp ps gs, LineOK l := by
  simp only [appendOK, Bool.and_eq_true, List.all_eq_true] at hok
  obtain ⟨⟨hst, hps⟩, hD'⟩ := hok
  obtain ⟨hnl, hhl⟩ := header_lineOK stamp hst
  have hpl : ∀ kv ∈ ps, PairOK (docSpecs D) kv := pairOK_docSpecs D ps hps
  -- every group belongs to a table of the document; with the appended rows that table is a table of
  -- the new document, which is in the domain and has the symbol table of `D`, and the group's rows are
  -- among its rows
  have hT := doc_groupOK io _ hD'
  rw [(shape_facts D _ (shape_appendDoc D ps gs)).2.2.1] at hT
  have hR := (docOK_front io h2 _ hD').2.2.2.2
  have hgrp : ∀ g ∈ gs, GroupOK io (docSpecs D) g ∧ ∀ r ∈ g.2, LineOK (fmtRow io g.1 r) := by
    intro g hgm
    have : g.1 ∈ (D.tables.map (fun t => (upper t.name, t.cols.map (·.name)))).map (·.1) := by
      rw [← appendTables_names io _ data _ gs hg]
      exact List.mem_map.mpr ⟨g, hgm, rfl⟩
    simp only [List.map_map, List.mem_map, Function.comp] at this
    obtain ⟨t, htm, hte⟩ := this
    have hm : (⟨t.name, t.cols, t.rows ++ extraRows gs (upper t.name)⟩ : TableD F) ∈ (appendDoc D ps gs).tables :=
      List.mem_map.mpr ⟨t, htm, rfl⟩
    have hsub : ∀ r ∈ g.2, r ∈ t.rows ++ extraRows gs (upper t.name) := by
      refine fun r hr => List.mem_append_right _ ?_
      simp only [extraRows, List.mem_flatMap, List.mem_filter]
      exact ⟨g, ⟨hgm, by simp [hte]⟩, hr⟩
    obtain ⟨b1, b2, sch, b3, b4⟩ := hT _ hm
    unfold GroupOK
    rw [← hte]
    exact ⟨⟨b1, b2, sch, b3, fun r hr => b4 r (hsub r hr)⟩, fun r hr => hR _ hm r (hsub r hr)⟩
  refine ⟨hnl, hpl, fun g hgm => (hgrp g hgm).1, fun l hl => ?_⟩
  simp only [chunkLines, List.mem_cons, List.mem_append, List.mem_map, List.mem_flatMap] at hl
  rcases hl with rfl | ⟨kv, hkv, rfl⟩ | ⟨g, hgm, r, hr, rfl⟩
  · exact hhl
  · exact pair_lineOK _ kv (hps kv hkv)
  · exact (hgrp g hgm).2 r hr

end PydlVerif.Yanny
