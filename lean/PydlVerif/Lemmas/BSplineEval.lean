/-
What the body of `value` computes: `splineAt` at every point in the caller's order, which is the combination
`Σ_j c_j · B_{j,k}(x)` of the Cox-de Boor pieces on the interval of `x`; at the end the object `bEx` of the examples of C08 and C09.
-/
import PydlVerif.Lemmas.CoxDeBoor
import PydlVerif.Lemmas.BSplineIntrv
import Mathlib.Data.Rat.Floor
namespace PydlVerif.C08
open PydlVerif PydlVerif.BSpline PydlVerif.AtField

variable {K : Type} [Field K] [LinearOrder K] [IsStrictOrderedRing K] [FloorRing K]

theorem foldl_listSet_spec {β : Type} (l : List (ℕ × β)) (init : List β) (hnd : (l.map Prod.fst).Nodup) :
    ∀ kv ∈ l, kv.1 < init.length →
      (l.foldl (fun (yy : List β) (pv : ℕ × β) => yy.set pv.1 pv.2) init)[kv.1]? = some kv.2 := by
  induction l generalizing init with
  | nil => simp
  | cons a l ih =>
    rw [List.map_cons, List.nodup_cons] at hnd
    rw [List.forall_mem_cons, List.foldl_cons]
    exact ⟨fun hlt => by rw [foldl_set_not_mem _ _ _ hnd.1, List.getElem?_set_self hlt],
      fun kv h hlt => ih (init.set a.1 a.2) hnd.2 kv h (by rw [List.length_set]; exact hlt)⟩

/-- `yy[xsort] = yfit` of `value` -/
theorem unsort_spec {β : Type} (perm : List ℕ) (yfit : List β) (hperm : perm.Perm (List.range yfit.length)) :
    (unsortK perm yfit).length = yfit.length ∧
      ∀ p (hp : p < perm.length), (unsortK perm yfit)[perm[p]]? = yfit[p]? := by
  have hlen : perm.length = yfit.length := by rw [hperm.length_eq, List.length_range]
  have h2 := foldl_listSet_spec (perm.zip yfit) yfit
    (by rw [List.map_fst_zip (by omega)]; exact hperm.nodup_iff.2 List.nodup_range)
  refine ⟨foldl_set_length _ yfit, fun p hp => ?_⟩
  have hmem : (perm[p], yfit[p]'(by omega)) ∈ perm.zip yfit :=
    List.mem_iff_getElem.2 ⟨p, by rw [List.length_zip]; omega, List.getElem_zip⟩
  exact (h2 _ hmem (List.mem_range.1 ((hperm.mem_iff).1 (List.getElem_mem hp)))).trans
    (List.getElem?_eq_getElem _).symm

section fill
variable {β : Type} (G : ℕ → Prop) [DecidablePred G] (P : ℕ → ℕ → Prop) [∀ i p, Decidable (P i p)] (f : ℕ → ℕ → β)

theorem foldl_fill_length (is : List ℕ) (y : List β) :
    (is.foldl (fun y i => if G i then y.mapIdx (fun p v => if P i p then f i p else v) else y) y).length
      = y.length := by
  induction is generalizing y with
  | nil => rfl
  | cons i is ih =>
    rw [List.foldl_cons, ih]
    split
    · rw [List.length_mapIdx]
    · rfl

/-- invariant `h`: `y[p]` already holds the value or `i0` is still to come -/
theorem foldl_fill_get (is : List ℕ) (y : List β) (p i0 : ℕ) (hp : p < y.length) (hG : ∀ i, P i p → G i)
    (huniq : ∀ i ∈ is, P i p → i = i0) (hP : P i0 p) (h : y[p]? = some (f i0 p) ∨ i0 ∈ is) :
    (is.foldl (fun y i => if G i then y.mapIdx (fun p v => if P i p then f i p else v) else y) y)[p]?
      = some (f i0 p) := by
  induction is generalizing y with
  | nil => exact h.resolve_right List.not_mem_nil
  | cons i is ih =>
    rw [List.foldl_cons]
    refine ih _ ?_ (fun i' hi' => huniq i' (List.mem_cons_of_mem _ hi')) ?_
    · split
      · rw [List.length_mapIdx]; exact hp
      · exact hp
    · by_cases hPi : P i p
      · left
        rw [← huniq i List.mem_cons_self hPi, if_pos (hG i hPi), List.getElem?_mapIdx, List.getElem?_eq_getElem hp,
          Option.map_some, if_pos hPi]
      · refine h.imp (fun h => ?_) (fun h => (List.mem_cons.1 h).resolve_left (fun e => hPi (by rw [← e]; exact hP)))
        rw [← h]
        split
        · rw [List.getElem?_mapIdx, List.getElem?_eq_getElem hp, Option.map_some, if_neg hPi]
        · rfl
end fill

theorem fillRows_spec (rows : List (List K)) (c : ℕ → K) (lower upper : Array ℤ) (m nx p i0 : ℕ)
    (hp : p < nx) (hi0 : i0 < m)
    (H : ∀ i, i < m → ((lower[i]! ≤ (p:ℤ) ∧ (p:ℤ) ≤ upper[i]!) ↔ i = i0)) :
    (fillRowsK rows c lower upper m nx)[p]? = some (dotK c (rows.getD p []) i0) := by
  unfold fillRows
  exact foldl_fill_get _ _ _ _ _ p i0 (by rw [List.length_replicate]; exact hp) (fun i h => by omega)
    (fun i hi h => (H i (List.mem_range.1 hi)).1 h) ((H i0 hi0).2 rfl) (Or.inr (List.mem_range.2 hi0))

theorem fillRows_length (rows : List (List K)) (c : ℕ → K) (lower upper : Array ℤ) (m nx : ℕ) :
    (fillRowsK rows c lower upper m nx).length = nx := by
  unfold fillRows
  rw [foldl_fill_length, List.length_replicate]

theorem perm_map_ne_nil {β γ : Type} {l : List β} (hl : l ≠ []) {perm : List ℕ}
    (hperm : perm.Perm (List.range l.length)) (f : ℕ → γ) : perm.map f ≠ [] := by
  intro h
  have := congrArg List.length h
  rw [List.length_map, hperm.length_eq, List.length_range] at this
  exact hl (List.length_eq_zero_iff.1 this)

/-- the body of `value` (`fillRows` over the rows of `bsplvn` at the sorted
points, then `yy[xsort] = yfit`) returns, in the caller's order, for every point `x` the number
`Σ_m bsplvn(x)[m]·coeff[indx(x)-k+1+m]` (`splineAt`), for every sorting permutation `perm`.
General form over ANY `lower/upper` that satisfy `RowsOf`; `value_spec` has those of `action`. -/
theorem value_spec_partial (t c : ℕ → K) (k n : ℕ) (hk : 1 ≤ k) (hkn : k ≤ n) (xs : List K) (perm : List ℕ)
    (hperm : perm.Perm (List.range xs.length))
    (hsorted : (perm.map (fun p => xs.getD p 0)).Pairwise (· ≤ ·))
    (lower upper : Array ℤ)
    (hrows : RowsOf lower upper (scanK t n (perm.map (fun p => xs.getD p 0)) (k-1)) k (n-k+1)) :
    unsortK perm (fillRowsK (List.zipWith (fun x i => bsplvnK t k x i) (perm.map (fun p => xs.getD p 0))
        (scanK t n (perm.map (fun p => xs.getD p 0)) (k-1))) c lower upper (n-k+1) xs.length)
      = xs.map (splineAtK t c k n) := by
  have hplen : perm.length = xs.length := by rw [hperm.length_eq, List.length_range]
  rw [intrv_pointwise t k n _ hsorted] at hrows ⊢
  generalize hR : List.zipWith (fun x i => bsplvnK t k x i) _ _ = rows
  have hflen := fillRows_length rows c lower upper (n-k+1) xs.length
  apply List.ext_getElem?
  intro q
  by_cases hq : q < xs.length
  · -- caller position `q` is `perm[p]`; sorted position `p` holds the point `xs[q]`
    obtain ⟨p, hp, rfl⟩ := List.mem_iff_getElem.1 ((hperm.mem_iff).2 (List.mem_range.2 hq))
    have hx : (perm.map (fun p => xs.getD p 0))[p]? = some xs[perm[p]] := by
      rw [List.getElem?_map, List.getElem?_eq_getElem hp, Option.map_some, getD_lt xs 0 _ hq]
    have hi : ((perm.map (fun p => xs.getD p 0)).map (intrvOfK t k n))[p]? = some (intrvOfK t k n xs[perm[p]]) := by
      rw [List.getElem?_map, hx, Option.map_some]
    have hle := intrvOf_le t k n xs[perm[p]] hk hkn
    rw [(unsort_spec perm _ (by rw [hflen]; exact hperm)).2 p hp,
      fillRows_spec _ c lower upper (n-k+1) xs.length p (intrvOfK t k n xs[perm[p]] + 1 - k) (by omega) (by omega)
        (fun i hi' => by
          have := hrows p (by rw [List.length_map, List.length_map]; exact hp) i hi'
          rwa [List.getD_eq_getElem?_getD, hi, Option.getD_some] at this),
      ← hR, List.getD_eq_getElem?_getD, List.getElem?_zipWith, hx, hi, List.getElem?_map, List.getElem?_eq_getElem hq]
    rfl
  · rw [List.getElem?_eq_none (by rw [(unsort_spec perm _ (by rw [hflen]; exact hperm)).1, hflen]; omega),
      List.getElem?_eq_none (by rw [List.length_map]; omega)]

/-- `value_spec_partial` with the `lower`/`upper` that `action` computes: no hypothesis on them is left (`rowsOf_action`) -/
theorem value_spec (t c : ℕ → K) (k n : ℕ) (hk : 1 ≤ k) (hkn : k ≤ n) (xs : List K) (hne : xs ≠ []) (perm : List ℕ)
    (hperm : perm.Perm (List.range xs.length))
    (hsorted : (perm.map (fun p => xs.getD p 0)).Pairwise (· ≤ ·)) :
    unsortK perm (fillRowsK (List.zipWith (fun x i => bsplvnK t k x i) (perm.map (fun p => xs.getD p 0))
        (scanK t n (perm.map (fun p => xs.getD p 0)) (k-1))) c
        (lowerUpper k n (scanK t n (perm.map (fun p => xs.getD p 0)) (k-1)).toArray).1
        (lowerUpper k n (scanK t n (perm.map (fun p => xs.getD p 0)) (k-1)).toArray).2 (n-k+1) xs.length)
      = xs.map (splineAtK t c k n) :=
  value_spec_partial t c k n hk hkn xs perm hperm hsorted _ _
    (rowsOf_action t k n hk hkn _ (perm_map_ne_nil hne hperm _) hsorted)

theorem dot_eq_sum (c : ℕ → K) (row : List K) (off : ℕ) :
    dotK c row off = ∑ a ∈ Finset.range row.length, row.getD a 0 * c (off + a) := by
  induction row generalizing off with
  | nil => simp only [dotFrom, List.length_nil, Finset.range_zero, Finset.sum_empty]; exact scalar_zero
  | cons v vs ih =>
    simp only [dotFrom, sc_add, sc_mul, List.length_cons]
    rw [ih, Finset.sum_range_succ', List.getD_cons_zero, Nat.add_zero, add_comm]
    congr 1
    apply Finset.sum_congr rfl
    intro a _
    rw [List.getD_cons_succ, show off + 1 + a = off + (a + 1) by omega]

theorem dot_range (c g : ℕ → K) (k off : ℕ) :
    dotK c ((List.range k).map g) off = ((List.range k).map (fun m => g m * c (off + m))).sum := by
  rw [dot_eq_sum, List.length_map, List.length_range]
  show _ = ∑ m ∈ Finset.range k, g m * c (off + m)
  exact Finset.sum_congr rfl fun a ha => by rw [getD_map_range_lt k a g 0 (Finset.mem_range.1 ha)]

theorem splineAt_eq_sum (t c : ℕ → K) (k n : ℕ) (x : K) (hk : 1 ≤ k) :
    splineAtK t c k n x = ∑ a ∈ Finset.range k,
      (bsplvnK t k x (intrvOfK t k n x)).getD a 0 * c (intrvOfK t k n x + 1 - k + a) := by
  unfold splineAt
  simp only []
  rw [dot_eq_sum, bsplvn_length t k _ x hk]

theorem dot_of_const (c : ℕ → K) (v : K) (row : List K) (off : ℕ) (hc : ∀ a, a < row.length → c (off + a) = v) :
    dotK c row off = row.sum * v := by
  induction row generalizing off with
  | nil => rw [List.sum_nil, zero_mul]; exact scalar_zero
  | cons w ws ih =>
    simp only [dotFrom, sc_add, sc_mul]
    rw [ih (off+1) fun a ha => by rw [Nat.add_right_comm, Nat.add_assoc]; exact hc (a+1) (Nat.succ_lt_succ ha),
      show c off = v from hc 0 (Nat.succ_pos _), List.sum_cons, add_mul]

theorem splineAt_of_const (t c : ℕ → K) (k n : ℕ) (x v : K) (hk : 1 ≤ k) (hkn : k ≤ n) (hc : ∀ j, j < n → c j = v)
    (hsum : (bsplvnK t k x (intrvOfK t k n x)).sum = 1) : splineAtK t c k n x = v := by
  have hle := intrvOf_le t k n x hk hkn
  have hge := intrvOf_ge t k n x
  unfold splineAt
  simp only []
  rw [dot_of_const c v _ _ fun a ha => hc _ (by rw [bsplvn_length t k _ x hk] at ha; omega), hsum, one_mul]

theorem intrv_isBracket (t : ℕ → K) (k n : ℕ) (x : K) (hk : 1 ≤ k) (hkn : k ≤ n)
    (hmono : ∀ a b, a ≤ b → b ≤ n + k - 1 → t a ≤ t b) (hfirst : t (k-1) < t k)
    (hlo : t (k-1) ≤ x) (hhi : x ≤ t n) : Bracket t k (intrvOfK t k n x) x := by
  obtain ⟨h1, h2, h3, h4, h5⟩ := intrv_bracket t k n x hk hkn hlo hhi
  exact ⟨hk, by omega, fun a b hab hb => hmono a b hab (by omega), h3, h4, h5 hfirst⟩

/-- for non-decreasing knots with `t[k-1] < t[k]` and a point of the
breakpoint range, the number `value` computes for `x` is `Σ_{j<n} c_j · B_{j,k}(x)` with
`B_{j,k}` the Cox-de Boor function taken on the knot interval `i = intrv(x)` (`t_i ≤ x ≤ t_{i+1}`, `t_i < t_{i+1}`) -/
theorem splineAt_eq_coxDeBoorAt (t c : ℕ → K) (k n : ℕ) (x : K) (hk : 1 ≤ k) (hkn : k ≤ n)
    (hmono : ∀ a b, a ≤ b → b ≤ n + k - 1 → t a ≤ t b) (hfirst : t (k-1) < t k)
    (hlo : t (k-1) ≤ x) (hhi : x ≤ t n) :
    splineAtK t c k n x = ((List.range n).map (fun j => c j * cdbAtK t (intrvOfK t k n x) k j x)).sum := by
  have hB := intrv_isBracket t k n x hk hkn hmono hfirst hlo hhi
  have hle := intrvOf_le t k n x hk hkn
  simp only [splineAt]
  generalize intrvOfK t k n x = i at *
  have hik := hB.hik
  rw [bsplvn_eq_coxDeBoorAt t k i x hk hik hB.mono hB.strict, dot_range,
    sum_range_support _ n (i + 1 - k) k (by omega)]
  · apply congrArg
    apply List.map_congr_left
    intro m _
    ring
  · intro j _ hj
    rw [cdbAt_zero t i x k j (by omega), mul_zero]

/-- order 2, breakpoints 0,1,2,3, nothing masked: the hypotheses of C08 `value_is_spline` and C09 `fit_is_optimum` hold of it -/
def bEx : BS ℚ := ⟨2, #[0, 1, 2, 3], #[true, true, true, true], #[1, 2]⟩
theorem bEx_gb : @BS.gb ℚ (fieldScalar ℚ) bEx = #[0, 1, 2, 3] := by
  simp only [BS.gb, bEx, goodIdx]
  decide

end PydlVerif.C08
