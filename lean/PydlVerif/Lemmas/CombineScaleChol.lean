/-
`cholesky_band` and `cholesky_solve` (Model/BSplineFit.lean) commute with the scaling of the normal system `A ↦ A/c²`, `b ↦ b/c` (`c > 0`):
the same columns are reported bad, the factor is divided by `c`, the solution multiplied by `c`.  The homogeneity of the LAPACK pair is
assumed (`KernelScale`); the fallback loop of `cholesky_band`, which works in place on one array holding the finished columns of the factor
and the not yet eliminated part of the matrix at once, is followed entry by entry (`MRel`) with a factor that depends on the position
(`colFactor`).
-/
import PydlVerif.Model.BSplineFit
import PydlVerif.Lemmas.ScalarField
import PydlVerif.Lemmas.Except
import PydlVerif.Lemmas.ListBasics
import Mathlib.Tactic.FieldSimp
import Mathlib.Tactic.Positivity
namespace PydlVerif.CombineScale
open PydlVerif PydlVerif.BSpline PydlVerif.BSplineFit

set_option linter.unusedSectionVars false

section field
variable {K : Type} [Field K] [LinearOrder K] [IsStrictOrderedRing K] [FloorRing K]
attribute [local instance] fieldScalar
attribute [-instance] Scalar.instOfNat Scalar.instOfScientific

/-- the `Inhabited` instance the model's `arr[i]!` reads use (default `Scalar.ofNat 0`), as in Props/C09 -/
noncomputable local instance instInhabitedKS : Inhabited K := @PydlVerif.instInhabitedOfScalar K (fieldScalar K)

theorem default0 : (default : K) = 0 := Nat.cast_zero

theorem arr_get_map (a : Array K) (g : K → K) (hg : g 0 = 0) (i : ℕ) : (a.map g)[i]! = g (a[i]!) :=
  getElem!_map a g (by rw [default0]; exact hg) i

/-- entry `(r, col)` of a ragged matrix, `none` outside its shape -/
def ent (M : Array (Array K)) (r col : ℕ) : Option K := M[r]? >>= (·[col]?)

theorem get2_ent (M : Array (Array K)) (r col : ℕ) : get2 M r col = (ent M r col).getD 0 := by
  unfold get2 ent
  rw [getElem!_def, getElem!_def]
  cases M[r]? with
  | none => exact default0
  | some row =>
    show (match row[col]? with | some e => e | none => default) = (row[col]?).getD 0
    cases row[col]? with
    | none => exact default0
    | some v => rfl

theorem ent_modify2 (M : Array (Array K)) (r col : ℕ) (g : K → K) (r' col' : ℕ) :
    ent (modify2 M r col g) r' col' = if r' = r ∧ col' = col then (ent M r col).map g else ent M r' col' := by
  unfold ent modify2
  rw [Array.getElem?_modify]
  by_cases hr : r = r'
  · subst hr
    cases M[r]? with
    | none => simp
    | some row =>
      simp only [if_true, true_and, Option.map_some, Option.bind_eq_bind, Option.bind_some, Array.getElem?_modify]
      by_cases hcol : col = col'
      · subst hcol; simp
      · rw [if_neg hcol, if_neg (Ne.symm hcol)]
  · rw [if_neg hr, if_neg (fun h => hr h.1.symm)]

def sc2 (k : K) (M : Array (Array K)) : Array (Array K) := M.map (fun row => row.map (k * ·))

theorem ent_sc2 (k : K) (M : Array (Array K)) (r col : ℕ) : ent (sc2 k M) r col = (ent M r col).map (k * ·) := by
  unfold ent sc2
  rw [Array.getElem?_map]
  cases M[r]? with
  | none => rfl
  | some row => exact Array.getElem?_map ..

theorem getD_map_mul (k : K) (o : Option K) : (o.map (k * ·)).getD 0 = k * o.getD 0 := by
  cases o with
  | none => exact (mul_zero k).symm
  | some v => rfl

theorem get2_sc2 (k : K) (M : Array (Array K)) (r col : ℕ) : get2 (sc2 k M) r col = k * get2 M r col := by
  rw [get2_ent, get2_ent, ent_sc2, getD_map_mul]

theorem size_sc2 (k : K) (M : Array (Array K)) : (sc2 k M).size = M.size := by unfold sc2; rw [Array.size_map]

theorem rowsize_sc2 (k : K) (M : Array (Array K)) (r : ℕ) : ((sc2 k M)[r]!).size = (M[r]!).size := by
  unfold sc2
  rw [getElem!_def, getElem!_def, Array.getElem?_map]
  cases M[r]? with
  | none => rfl
  | some row => simp only [Option.map_some, Array.size_map]

/-- in rows `≤ kn`, `M'` has the shape of `M` and its entry `(r, col)` is `Φ r col` times that of `M` -/
def MRel (kn : ℕ) (Φ : ℕ → ℕ → K) (M M' : Array (Array K)) : Prop :=
  ∀ r col, r ≤ kn → ent M' r col = (ent M r col).map (Φ r col * ·)

theorem MRel.get2 {kn : ℕ} {Φ : ℕ → ℕ → K} {M M' : Array (Array K)} (h : MRel kn Φ M M') (r col : ℕ) (hr : r ≤ kn) :
    get2 M' r col = Φ r col * get2 M r col := by
  rw [get2_ent, get2_ent, h r col hr, getD_map_mul]

theorem MRel.modify2 {kn : ℕ} {Φ Φ' : ℕ → ℕ → K} {M M' : Array (Array K)} (h : MRel kn Φ M M') (r col : ℕ) (g g' : K → K)
    (hg : ∀ v, g' (Φ r col * v) = Φ' r col * g v) (hΦ : ∀ r' col', ¬ (r' = r ∧ col' = col) → Φ' r' col' = Φ r' col') :
    MRel kn Φ' (BSplineFit.modify2 M r col g) (BSplineFit.modify2 M' r col g') := by
  intro r' col' hr'
  rw [ent_modify2, ent_modify2]
  by_cases hp : r' = r ∧ col' = col
  · obtain ⟨rfl, rfl⟩ := hp
    rw [if_pos ⟨rfl, rfl⟩, if_pos ⟨rfl, rfl⟩, h r' col' hr', Option.map_map, Option.map_map]
    exact congrArg (Option.map · _) (funext hg)
  · rw [if_neg hp, if_neg hp, h r' col' hr', hΦ r' col' hp]

theorem MRel.congr {kn : ℕ} {Φ Φ' : ℕ → ℕ → K} {M M' : Array (Array K)} (h : MRel kn Φ M M')
    (hΦ : ∀ r col, r ≤ kn → Φ' r col = Φ r col) : MRel kn Φ' M M' :=
  fun r col hr => by rw [hΦ r col hr]; exact h r col hr

/-- the factors while the fallback loop of `cholesky_band` works on column `j`: columns `< j`, and rows `< t` of column `j`, hold
the factor `L` (multiplied by `1/c`), the rest the not yet eliminated part of `A` (multiplied by `1/c²`) -/
def colFactor (c : K) (j t : ℕ) : ℕ → ℕ → K := fun r col => if col < j ∨ (col = j ∧ r < t) then c⁻¹ else (c ^ 2)⁻¹

theorem divideCol_rel (c : K) (hc : c ≠ 0) (kn j : ℕ) (d : K) : ∀ (t : ℕ) (M M' : Array (Array K)), MRel kn (colFactor c j 1) M M' →
    MRel kn (colFactor c j (t+1)) ((List.range t).foldl (fun m s => BSplineFit.modify2 m (s+1) j (fun v => v / d)) M)
      ((List.range t).foldl (fun m s => BSplineFit.modify2 m (s+1) j (fun v => v / (d / c))) M') := by
  intro t
  induction t with
  | zero => intro M M' h; exact h
  | succ t ih =>
    intro M M' h
    rw [List.range_succ, List.foldl_append, List.foldl_append]
    refine (ih M M' h).modify2 (t+1) j _ _ (fun v => ?_) fun r' col' hne => if_congr (by omega) rfl rfl
    rw [show colFactor c j (t+1) (t+1) j = (c ^ 2)⁻¹ from if_neg (by omega),
      show colFactor c j (t+1+1) (t+1) j = c⁻¹ from if_pos (by omega)]
    field_simp

theorem eliminate_rel (c : K) (hc : c ≠ 0) (j kn : ℕ) (x : Array K) (Φ : ℕ → ℕ → K) (hΦ : ∀ r col, j < col → Φ r col = (c ^ 2)⁻¹)
    (M M' : Array (Array K)) (h : MRel kn Φ M M') :
    MRel kn Φ ((List.range kn).foldl (fun m i =>
        (List.range (kn - i)).foldl (fun m r => BSplineFit.modify2 m r (j+1+i) (fun v => v - x[i]! * x[i+r]!)) m) M)
      ((List.range kn).foldl (fun m i =>
        (List.range (kn - i)).foldl (fun m r => BSplineFit.modify2 m r (j+1+i)
          (fun v => v - (x.map (c⁻¹ * ·))[i]! * (x.map (c⁻¹ * ·))[i+r]!)) m) M') := by
  refine List.foldl_rel (r := MRel kn Φ) h fun i _ M M' h => ?_
  refine List.foldl_rel (r := MRel kn Φ) h fun r _ M M' h => ?_
  refine h.modify2 r (j+1+i) _ _ (fun v => ?_) (fun _ _ _ => rfl)
  rw [hΦ r (j+1+i) (by omega), arr_get_map _ _ (mul_zero c⁻¹), arr_get_map _ _ (mul_zero c⁻¹)]
  field_simp

/-- the contract of the kernel parameters under which the fit is scale equivariant (`c > 0`) -/
structure KernelScale (Kn : Kernels K) (c : K) : Prop where
  /-- `np.sqrt` is positively homogeneous of degree 1/2 -/
  sqrt : ∀ v, Kn.sqrt (v / c ^ 2) = Kn.sqrt v / c
  /-- `np.isfinite` does not change under multiplication by a non-zero number (an exact field: everything is finite) -/
  fin : ∀ k v, k ≠ 0 → Kn.isFinite (k * v) = Kn.isFinite v
  /-- `cholesky_banded(A/c²) = cholesky_banded(A)/c`, failing alike -/
  chol : ∀ bw n A, Kn.cholFactor bw n (sc2 (c ^ 2)⁻¹ A) = (Kn.cholFactor bw n A).map (sc2 c⁻¹)
  /-- `cho_solve_banded(L/c, b/c) = c·cho_solve_banded(L, b)` -/
  solve : ∀ bw n L b, Kn.cholSolve bw n (sc2 c⁻¹ L) (b.map (c⁻¹ * ·)) = (Kn.cholSolve bw n L b).map (c * ·)

theorem fallbackCol_rel (Kn : Kernels K) (c : K) (hc : 0 < c) (hK : KernelScale Kn c) (kn j : ℕ)
    (M M' : Array (Array K)) (h : MRel kn (colFactor c j 0) M M') :
    Option.Rel (MRel kn (colFactor c j (kn+1))) (fallbackCol Kn kn j M) (fallbackCol Kn kn j M') := by
  have hc0 : c ≠ 0 := ne_of_gt hc
  unfold fallbackCol
  extract_lets d L1 L2 x d' L1' L2' x'
  have hd : d' = d / c := by
    show Kn.sqrt (get2 M' 0 j) = Kn.sqrt (get2 M 0 j) / c
    rw [h.get2 0 j (Nat.zero_le kn), show colFactor c j 0 0 j = (c ^ 2)⁻¹ from if_neg (by omega), ← hK.sqrt, div_eq_inv_mul]
  -- the diagonal entry, then the column below it, get the factor `1/c` of the finished columns
  have h1 : MRel kn (colFactor c j 1) L1 L1' := by
    refine h.modify2 0 j _ _ (fun _ => ?_) fun r' col' hne => if_congr (by omega) rfl rfl
    show d' = colFactor c j 1 0 j * d
    rw [hd, show colFactor c j 1 0 j = c⁻¹ from if_pos (by omega), div_eq_inv_mul]
  have h2 : MRel kn (colFactor c j (kn+1)) L2 L2' := by
    have := divideCol_rel c hc0 kn j d kn L1 L1' h1
    rwa [← hd] at this
  have hx : x' = x.map (c⁻¹ * ·) := by
    show (List.map _ _).toArray = Array.map _ (List.map _ _).toArray
    rw [List.map_toArray, List.map_map]
    congr 1
    apply List.map_congr_left
    intro s hs
    have hs := List.mem_range.1 hs
    rw [Function.comp, h2.get2 (s+1) j hs, show colFactor c j (kn+1) (s+1) j = c⁻¹ from if_pos (by omega)]
  have hcond : (decide (0 < d') && x'.all Kn.isFinite) = (decide (0 < d) && x.all Kn.isFinite) := by
    rw [hx, Array.all_map, hd, decide_eq_decide.2 (div_pos_iff_of_pos_right hc)]
    congr 2
    funext v
    exact hK.fin _ v (inv_ne_zero hc0)
  rw [scalar_zero, hcond]
  cases decide (0 < d) && x.all Kn.isFinite with
  | false => exact .none
  | true =>
    rw [hx]
    exact .some (eliminate_rel c hc0 j kn x _ (fun r col hcol => if_neg (by omega)) L2 L2' h2)

theorem fallbackLoop_rel (Kn : Kernels K) (c : K) (hc : 0 < c) (hK : KernelScale Kn c) (kn : ℕ) :
    ∀ (m j : ℕ) (M M' : Array (Array K)), MRel kn (colFactor c j 0) M M' →
    Sum.LiftRel Eq (MRel kn (colFactor c (j + m) 0)) (fallbackLoop Kn kn (List.range' j m) M)
      (fallbackLoop Kn kn (List.range' j m) M') := by
  intro m
  induction m with
  | zero => intro j M M' h; exact .inr h
  | succ m ih =>
    intro j M M' h
    rw [List.range'_succ]
    simp only [fallbackLoop]
    have hcol := fallbackCol_rel Kn c hc hK kn j M M' h
    generalize fallbackCol Kn kn j M = A at hcol ⊢
    generalize fallbackCol Kn kn j M' = A' at hcol ⊢
    cases hcol with
    | none => exact .inl rfl
    | some hN =>
      -- in the rows `≤ kn` the whole of column `j` is divided: the column is finished
      have := ih (j+1) _ _ (hN.congr fun r col hr => if_congr (by omega) rfl rfl)
      rwa [show j + 1 + m = j + (m + 1) by omega] at this

def scaleChol (c : K) : CholRes K → CholRes K
  | .factor L => .factor (sc2 c⁻¹ L)
  | .bad idx s => .bad idx s

theorem padBand_rel (k : K) {bw n : ℕ} (nn : ℕ) {M M' : Array (Array K)}
    (h : ∀ r col, r < bw → col < n → get2 M' r col = k * get2 M r col) :
    padBand bw n nn M' = sc2 k (padBand bw n nn M) := by
  unfold padBand sc2
  simp only [List.map_toArray, List.map_map, Function.comp_def]
  congr 1
  apply List.map_congr_left
  intro r hr
  congr 1
  apply List.map_congr_left
  intro col _
  split
  · rename_i hcol; exact h r col (List.mem_range.1 hr) hcol
  · rw [scalar_zero, mul_zero]

theorem sc2_extract (k : K) (a : Array (Array K)) (n : ℕ) :
    (sc2 k a).map (fun row => row.extract 0 n) = sc2 k (a.map (fun row => row.extract 0 n)) := by
  unfold sc2
  simp only [Array.map_map, Function.comp_def, Array.map_extract]

theorem choleskyBand_scale (Kn : Kernels K) (c : K) (hc : 0 < c) (hK : KernelScale Kn c) (l : Array (Array K)) (mininf : K) :
    choleskyBand Kn (sc2 (c ^ 2)⁻¹ l) ((c ^ 2)⁻¹ * mininf) = (choleskyBand Kn l mininf).map (scaleChol c) := by
  have hk : (0 : K) < (c ^ 2)⁻¹ := by positivity
  have hall : (sc2 (c ^ 2)⁻¹ l).all (fun row => row.all Kn.isFinite) = l.all (fun row => row.all Kn.isFinite) := by
    unfold sc2
    simp only [Array.all_map, Function.comp_def, hK.fin _ _ (ne_of_gt hk)]
  rw [size_sc2] at hall
  unfold choleskyBand
  -- sizes, the screening of the diagonal against `mininf` and the finiteness test are those of `l`
  simp only [size_sc2, rowsize_sc2, get2_sc2, mul_le_mul_iff_right₀ hk, hall]
  by_cases hbw : l.size = 0
  · rw [if_pos hbw, if_pos hbw]; rfl
  rw [if_neg hbw, if_neg hbw]
  refine ite_map rfl (ite_map rfl ?_)
  rw [sc2_extract, hK.chol]
  cases Kn.cholFactor l.size ((l[0]!).size - l.size) (l.map (fun row => row.extract 0 ((l[0]!).size - l.size))) with
  | some L => exact congrArg (fun A => Except.ok (CholRes.factor A)) (padBand_rel c⁻¹ _ (fun r col _ _ => get2_sc2 _ _ _ _))
  | none =>
    have h0 : MRel (l.size - 1) (colFactor c 0 0) l (sc2 (c ^ 2)⁻¹ l) := fun r col _ => by
      rw [ent_sc2, show colFactor c 0 0 r col = (c ^ 2)⁻¹ from if_neg (by omega)]
    have := fallbackLoop_rel Kn c hc hK (l.size - 1) ((l[0]!).size - l.size) 0 l _ h0
    rw [← List.range_eq_range'] at this
    dsimp only [Option.map_none]
    generalize fallbackLoop Kn (l.size - 1) _ l = A at this ⊢
    generalize fallbackLoop Kn (l.size - 1) _ (sc2 (c ^ 2)⁻¹ l) = A' at this ⊢
    cases this with
    | inl hi => cases hi; rfl
    | inr hN =>
      -- all columns below `n` are finished: factor `1/c`
      refine congrArg (fun A => Except.ok (CholRes.factor A)) (padBand_rel c⁻¹ _ (fun r col hr hcol => ?_))
      rw [hN.get2 r col (by omega)]
      exact congrArg (· * _) (if_pos (by omega))

theorem choleskySolve_scale (Kn : Kernels K) (c : K) (hK : KernelScale Kn c) (a : Array (Array K)) (bb : Array K) :
    choleskySolve Kn (sc2 c⁻¹ a) (bb.map (c⁻¹ * ·)) = (choleskySolve Kn a bb).map (c * ·) := by
  unfold choleskySolve
  simp only [size_sc2, Array.size_map]
  rw [sc2_extract, ← Array.map_extract, hK.solve]
  simp only [List.map_toArray, List.map_map, Function.comp_def]
  congr 1
  apply List.map_congr_left
  intro i _
  simp only [arr_get_map _ _ (mul_zero c), scalar_zero, mul_ite, mul_zero]

end field
end PydlVerif.CombineScale
