/-
djs_maskinterp1 (C17; combine1fiber calls it too), over an ordered field, on samples in increasing abscissa order.  The code
is `np.interp` over the unmasked samples `goodPts`, so the proofs read the shape of `goodPts` off the mask and pick the
branch of the code.  `interpCore_map`: the routine is natural in the sample values; that the values under the mask do not
matter and that scaling the flux scales the result are its instances.
-/
import PydlVerif.Model.Interp
import PydlVerif.Lemmas.ScalarField
import PydlVerif.Lemmas.ListBasics
import PydlVerif.Lemmas.NpInterp

namespace PydlVerif.Interp

section lengths
variable {α : Type} [Scalar α]

theorem interpCore_length (t : List (Pt α)) (const : Bool) : (interpCore t const).length = t.length := by
  unfold interpCore
  by_cases h : t.all (fun p => !p.bad) = true
  · rw [if_pos h, List.length_map]
  rw [if_neg h]
  rcases goodPts t with _ | ⟨⟨x0, f0⟩, rest⟩
  · exact List.length_map _
  · dsimp only
    by_cases he : rest.isEmpty = true
    · rw [if_pos he, List.length_map]
    · rw [if_neg he]
      cases const
      · exact List.length_map _
      · rw [if_pos rfl, constEnds, List.length_map, List.length_range, List.length_map]

theorem maskinterp1_length (y : List α) (bad : List Bool) (const : Bool) :
    (maskinterp1 y bad const).length = y.length := by
  rw [maskinterp1, interpCore_length, ptsIdx, List.length_map, List.length_range]

end lengths

section mask
variable {α : Type}

theorem goodPts_all_bad (l : List (Pt α)) (h : ∀ p ∈ l, p.bad = true) : goodPts l = [] := by
  simp only [goodPts, List.map_eq_nil_iff, List.filter_eq_nil_iff]
  intro p hp; simp [h p hp]

theorem goodPts_mem (t : List (Pt α)) (q : α × α) (hq : q ∈ goodPts t) :
    ∃ k, ∃ hk : k < t.length, t[k].bad = false ∧ q = (t[k].x, t[k].y) := by
  simp only [goodPts, List.mem_map, List.mem_filter] at hq
  obtain ⟨p, ⟨hp, hb⟩, rfl⟩ := hq
  obtain ⟨k, hk, rfl⟩ := List.getElem_of_mem hp
  exact ⟨k, hk, by simpa using hb, rfl⟩

theorem goodPts_mem_of_good (t : List (Pt α)) (i : Nat) (hi : i < t.length) (g : t[i].bad = false) :
    (t[i].x, t[i].y) ∈ goodPts t := by
  simp only [goodPts, List.mem_map, List.mem_filter]
  exact ⟨t[i], ⟨List.getElem_mem hi, by simp [g]⟩, rfl⟩

theorem goodPts_at (t : List (Pt α)) (a : Nat) (ha : a < t.length) (ga : t[a].bad = false) :
    goodPts t = goodPts (t.take a) ++ (t[a].x, t[a].y) :: goodPts (t.drop (a + 1)) := by
  conv_lhs => rw [← List.take_append_drop a t, List.drop_eq_getElem_cons ha]
  rw [goodPts, List.filter_append, List.filter_cons_of_pos (by rw [ga]; rfl), List.map_append, List.map_cons]
  rfl

theorem goodPts_take_bad (t : List (Pt α)) (a : Nat) (ha : a ≤ t.length)
    (h : ∀ k (hk : k < a), (t[k]'(by omega)).bad = true) : goodPts (t.take a) = [] := by
  refine goodPts_all_bad _ fun p hp => ?_
  obtain ⟨k, hk, rfl⟩ := List.getElem_of_mem hp
  rw [List.length_take] at hk
  rw [List.getElem_take]
  exact h k (by omega)

theorem goodPts_drop_bad (t : List (Pt α)) (b : Nat)
    (h : ∀ k (_ : b < k) (hk : k < t.length), t[k].bad = true) : goodPts (t.drop (b + 1)) = [] := by
  refine goodPts_all_bad _ fun p hp => ?_
  obtain ⟨k, hk, rfl⟩ := List.getElem_of_mem hp
  rw [List.length_drop] at hk
  rw [List.getElem_drop]
  exact h (b + 1 + k) (by omega) (by omega)

theorem goodPts_split (t : List (Pt α)) (a b : Nat) (hab : a < b) (hb : b < t.length)
    (ga : (t[a]'(by omega)).bad = false) (gb : t[b].bad = false)
    (hmid : ∀ k (_ : a < k) (h2 : k < b), (t[k]'(by omega)).bad = true) :
    goodPts t = goodPts (t.take a) ++ ((t[a]'(by omega)).x, (t[a]'(by omega)).y) :: (t[b].x, t[b].y) ::
      goodPts (t.drop (b + 1)) := by
  -- `goodPts_at` at `a`, then at `b` in what follows `a`
  obtain ⟨d, rfl⟩ : ∃ d, b = a + 1 + d := ⟨b - a - 1, by omega⟩
  have hd : d < (t.drop (a + 1)).length := by rw [List.length_drop]; omega
  rw [goodPts_at t a (by omega) ga, goodPts_at (t.drop (a + 1)) d hd (by rw [List.getElem_drop]; exact gb),
    goodPts_take_bad (t.drop (a + 1)) d (le_of_lt hd)
      (fun k hk => by rw [List.getElem_drop]; exact hmid (a + 1 + k) (by omega) (by omega)),
    List.nil_append, List.getElem_drop, List.drop_drop]
  rfl

/-! `igood[0]` and `igood[-1]` as `interpCore` computes them: `findIdx` from the front, and from the front of the reversed list -/

theorem firstGood_le (t : List (Pt α)) (a : Nat) (ha : a < t.length) (ga : t[a].bad = false) :
    t.findIdx (fun p => !p.bad) ≤ a := by
  by_contra h
  have := List.not_of_lt_findIdx (not_le.1 h)
  simp [ga] at this

theorem lastGood_ge (t : List (Pt α)) (b : Nat) (hb : b < t.length) (gb : t[b].bad = false) :
    b ≤ t.length - 1 - t.reverse.findIdx (fun p => !p.bad) := by
  by_contra h
  have hlt : t.length - 1 - b < t.reverse.findIdx (fun p => !p.bad) := by omega
  have := List.not_of_lt_findIdx hlt
  rw [List.getElem_reverse] at this
  have e : t.length - 1 - (t.length - 1 - b) = b := by omega
  simp only [e, gb] at this
  simp at this

theorem firstGood_eq (t : List (Pt α)) (a : Nat) (ha : a < t.length) (ga : t[a].bad = false)
    (hpre : ∀ k (hk : k < a), (t[k]'(by omega)).bad = true) : t.findIdx (fun p => !p.bad) = a :=
  (List.findIdx_eq ha).2 ⟨by rw [ga]; rfl, fun j hj => by rw [hpre j hj]; rfl⟩

theorem lastGood_eq (t : List (Pt α)) (b : Nat) (hb : b < t.length) (gb : t[b].bad = false)
    (hpost : ∀ k (_ : b < k) (hk : k < t.length), t[k].bad = true) :
    t.length - 1 - t.reverse.findIdx (fun p => !p.bad) = b := by
  have e : t.length - 1 - (t.length - 1 - b) = b := by omega
  rw [(List.findIdx_eq (show t.length - 1 - b < t.reverse.length by rw [List.length_reverse]; omega)).2
    ⟨?_, fun j hj => ?_⟩, e]
  · simp only [List.getElem_reverse, e, gb, Bool.not_false]
  · rw [List.getElem_reverse, hpost (t.length - 1 - j) (by omega) (by omega)]; rfl

theorem all_false_of_bad (t : List (Pt α)) (h : ∃ p ∈ t, p.bad = true) :
    t.all (fun p => !p.bad) = false := by
  rw [List.all_eq_false]
  obtain ⟨p, hp, hb⟩ := h
  exact ⟨p, hp, by simp [hb]⟩

end mask

section field
variable {K : Type} [Field K] [LinearOrder K] [IsStrictOrderedRing K] [FloorRing K]
attribute [local instance] fieldScalar
attribute [-instance] Scalar.instOfNat Scalar.instOfScientific

theorem npInterp_mid (x xa fa xb fb : K) (pre post : List (K × K)) (hxa : xa < x) (hxb : x < xb)
    (hpre : ∀ q ∈ pre, q.1 ≤ x) (x0 f0 : K) (rest : List (K × K))
    (h : (x0, f0) :: rest = pre ++ (xa, fa) :: (xb, fb) :: post) :
    npInterp x0 f0 rest x = (fb - fa) / (xb - xa) * (x - xa) + fa := by
  -- the samples up to `(xa, fa)`, without the head `(x0, f0)`
  obtain ⟨l, hl, hx0, hlx, hlast⟩ : ∃ l, rest = l ++ (xb, fb) :: post ∧ x0 ≤ x ∧ (∀ q ∈ l, q.1 ≤ x) ∧
      ((x0, f0) :: l).getLast (List.cons_ne_nil _ _) = (xa, fa) := by
    cases pre with
    | nil =>
      rw [List.nil_append, List.cons.injEq, Prod.mk.injEq] at h
      obtain ⟨⟨rfl, rfl⟩, rfl⟩ := h
      exact ⟨[], rfl, le_of_lt hxa, fun _ hq => (List.not_mem_nil hq).elim, rfl⟩
    | cons q pre' =>
      rw [List.cons_append, List.cons.injEq] at h
      obtain ⟨rfl, rfl⟩ := h
      refine ⟨pre' ++ [(xa, fa)], by rw [List.append_assoc]; rfl, hpre _ List.mem_cons_self, fun q hq => ?_,
        List.getLast_append_singleton ((x0, f0) :: pre')⟩
      rcases List.mem_append.1 hq with hq | hq
      · exact hpre q (List.mem_cons_of_mem _ hq)
      · rw [List.mem_singleton.1 hq]; exact le_of_lt hxa
  have hne : Scalar.beq xa x = false := Bool.eq_false_iff.2 fun hb => ne_of_lt hxa ((scalar_beq xa x).1 hb)
  rw [npInterp, if_neg (not_lt.2 hx0), hl, interpGo_append x _ l x0 f0 hlx, hlast, interpGo, if_pos hxb, hne]
  rfl

/-- samples in strictly increasing abscissa order -/
def Sorted (t : List (Pt K)) : Prop :=
  ∀ k l (hkl : k < l) (hl : l < t.length), (t[k]'(by omega)).x < t[l].x

theorem constEnds_get (first last : Nat) (out : List K) (i : Nat) (hi : i < out.length) :
    (constEnds first last out)[i]? =
      some (if i < first then out.getD first 0 else if last < i then out.getD last 0 else out.getD i 0) := by
  rw [constEnds, List.getElem?_map, List.getElem?_range hi]
  simp only [Option.map_some, scalar_lit, Nat.cast_zero]

theorem constEnds_mid (c : Bool) (first last : Nat) (out : List K) (i : Nat) (h1 : first ≤ i) (h2 : i ≤ last) :
    (if c then constEnds first last out else out)[i]? = out[i]? := by
  cases c
  · rfl
  rw [if_pos rfl]
  by_cases hi : i < out.length
  · rw [constEnds_get _ _ _ i hi, if_neg (by omega), if_neg (by omega), getD_lt _ _ i hi, List.getElem?_eq_getElem hi]
  · rw [List.getElem?_eq_none (by rw [constEnds, List.length_map, List.length_range]; omega),
      List.getElem?_eq_none (by omega)]

omit [LinearOrder K] [IsStrictOrderedRing K] [FloorRing K] in
theorem map_getD_good (t : List (Pt K)) (G : K → K) (a : Nat) (ha : a < t.length) (ga : t[a].bad = false) :
    (t.map (fun p => if p.bad then G p.x else p.y)).getD a 0 = t[a].y := by
  rw [List.getD_eq_getElem?_getD, List.getElem?_map, List.getElem?_eq_getElem ha, Option.map_some,
    Option.getD_some, ga]
  rfl

theorem constEnds_map {g : K → K} (hg : g 0 = 0) (first last : Nat) (out : List K) :
    constEnds first last (out.map g) = (constEnds first last out).map g := by
  have hd : ∀ i, (out.map g).getD i 0 = g (out.getD i 0) := fun i => by
    have := getD_map_default g out 0 i
    rwa [hg] at this
  unfold constEnds
  simp only [scalar_lit, Nat.cast_zero, List.length_map, List.map_map]
  refine List.map_congr_left fun i _ => ?_
  simp only [Function.comp, hd, apply_ite g]

theorem interpCore_none (t : List (Pt K)) (const : Bool) (h : ∀ p ∈ t, p.bad = true) :
    interpCore t const = t.map (·.y) := by
  rw [interpCore, goodPts_all_bad t h, ite_self]

/-- the one-sample branch: `zeros + y[igood[0]]` -/
theorem interpCore_single (t : List (Pt K)) (const : Bool) (x0 f0 : K) (hg : goodPts t = [(x0, f0)])
    (hbad : ∃ p ∈ t, p.bad = true) (i : Nat) (hi : i < t.length) : (interpCore t const)[i]? = some f0 := by
  unfold interpCore
  simp only [all_false_of_bad t hbad, Bool.false_eq_true, if_false, hg, List.isEmpty_nil, if_true, scalar_lit,
    Nat.cast_zero, zero_add]
  rw [List.getElem?_map, List.getElem?_eq_getElem hi]
  rfl

theorem interpCore_general_eq (t : List (Pt K)) (const : Bool) (x0 f0 : K) (r1 : K × K)
    (rest : List (K × K)) (hg : goodPts t = (x0, f0) :: r1 :: rest) (hbad : ∃ p ∈ t, p.bad = true) :
    interpCore t const =
      if const then constEnds (t.findIdx (fun p => !p.bad))
        (t.length - 1 - t.reverse.findIdx (fun p => !p.bad))
        (t.map (fun p => if p.bad then npInterp x0 f0 (r1 :: rest) p.x else p.y))
      else t.map (fun p => if p.bad then npInterp x0 f0 (r1 :: rest) p.x else p.y) := by
  unfold interpCore
  simp only [all_false_of_bad t hbad, Bool.false_eq_true, if_false, hg, List.isEmpty_cons]

theorem core_linear (t : List (Pt K)) (hs : Sorted t) (const : Bool) (a i b : Nat) (hai : a < i)
    (hib : i < b) (hb : b < t.length) (ga : (t[a]'(by omega)).bad = false) (gb : t[b].bad = false)
    (hmid : ∀ k (_ : a < k) (h2 : k < b), (t[k]'(by omega)).bad = true) :
    (interpCore t const)[i]? = some ((t[b].y - (t[a]'(by omega)).y) / (t[b].x - (t[a]'(by omega)).x) *
      ((t[i]'(by omega)).x - (t[a]'(by omega)).x) + (t[a]'(by omega)).y) := by
  have ha : a < t.length := by omega
  have hi : i < t.length := by omega
  have hsplit := goodPts_split t a b (by omega) hb ga gb hmid
  have hibad := hmid i hai hib
  obtain ⟨⟨x0, f0⟩, r1, rest, hg⟩ : ∃ q r1 rest, goodPts t = q :: r1 :: rest := by
    rw [hsplit]
    match goodPts (t.take a) with
    | [] => exact ⟨_, _, _, rfl⟩
    | [q] => exact ⟨q, _, _, rfl⟩
    | q :: r :: l => exact ⟨q, r, _, rfl⟩
  rw [interpCore_general_eq t const x0 f0 r1 rest hg ⟨t[i], List.getElem_mem hi, hibad⟩,
    constEnds_mid _ _ _ _ i (le_trans (firstGood_le t a ha ga) (le_of_lt hai))
      (le_trans (le_of_lt hib) (lastGood_ge t b hb gb)),
    List.getElem?_map, List.getElem?_eq_getElem hi]
  simp only [Option.map_some, hibad, if_true, Option.some.injEq]
  refine npInterp_mid _ _ _ _ _ (goodPts (t.take a)) _ (hs a i hai hi) (hs i b hib hb) ?_ x0 f0 (r1 :: rest)
    (by rw [← hg, hsplit])
  intro q hq
  obtain ⟨k, hk, _, rfl⟩ := goodPts_mem _ q hq
  rw [List.length_take] at hk
  rw [List.getElem_take]
  exact le_of_lt (hs k i (by omega) hi)

theorem core_only_masked (t : List (Pt K)) (const : Bool) (i : Nat) (hi : i < t.length)
    (g : t[i].bad = false) : (interpCore t const)[i]? = some t[i].y := by
  by_cases hall : t.all (fun p => !p.bad) = true
  · unfold interpCore
    rw [if_pos hall, List.getElem?_map, List.getElem?_eq_getElem hi]
    rfl
  · have hbad : ∃ p ∈ t, p.bad = true := by simpa using hall
    match hg : goodPts t, goodPts_mem_of_good t i hi g with
    | [(x0, f0)], hmem =>
      rw [List.mem_singleton, Prod.mk.injEq] at hmem
      rw [interpCore_single t const x0 f0 hg hbad i hi, hmem.2]
    | (x0, f0) :: r1 :: rest, _ =>
      rw [interpCore_general_eq t const x0 f0 r1 rest hg hbad,
        constEnds_mid _ _ _ _ i (firstGood_le t i hi g) (lastGood_ge t i hi g)]
      simp [List.getElem?_eq_getElem hi, g]

theorem core_single_good (t : List (Pt K)) (const : Bool) (a : Nat) (ha : a < t.length)
    (ga : t[a].bad = false) (honly : ∀ k (hk : k < t.length), k ≠ a → t[k].bad = true)
    (i : Nat) (hi : i < t.length) : (interpCore t const)[i]? = some t[a].y := by
  by_cases hia : i = a
  · subst hia
    exact core_only_masked t const i hi ga
  · have hg : goodPts t = [(t[a].x, t[a].y)] := by
      rw [goodPts_at t a ha ga, goodPts_take_bad t a (by omega) (fun k hk => honly k (by omega) (by omega)),
        goodPts_drop_bad t a (fun k h1 hk => honly k hk (by omega)), List.nil_append]
    exact interpCore_single t const _ _ hg ⟨t[i], List.getElem_mem hi, honly i hi hia⟩ i hi

theorem core_left_end (t : List (Pt K)) (hs : Sorted t) (const : Bool) (a : Nat) (ha : a < t.length)
    (ga : t[a].bad = false) (hpre : ∀ k (hk : k < a), (t[k]'(by omega)).bad = true)
    (i : Nat) (hi : i < a) : (interpCore t const)[i]? = some t[a].y := by
  have hil : i < t.length := by omega
  have hbad : ∃ p ∈ t, p.bad = true := ⟨t[i], List.getElem_mem hil, hpre i hi⟩
  have hg : goodPts t = (t[a].x, t[a].y) :: goodPts (t.drop (a + 1)) := by
    rw [goodPts_at t a ha ga, goodPts_take_bad t a (by omega) hpre, List.nil_append]
  cases hG : goodPts (t.drop (a + 1)) with
  | nil =>
    rw [hG] at hg
    exact interpCore_single t const _ _ hg hbad i hil
  | cons r1 rest =>
    rw [hG] at hg
    rw [interpCore_general_eq t const _ _ r1 rest hg hbad]
    cases const
    · -- `np.interp` left of its first sample
      rw [if_neg Bool.false_ne_true, List.getElem?_map, List.getElem?_eq_getElem hil, Option.map_some, hpre i hi,
        if_pos rfl, npInterp, if_pos (hs i a hi ha)]
    · rw [if_pos rfl, constEnds_get _ _ _ i (by rw [List.length_map]; exact hil), firstGood_eq t a ha ga hpre, if_pos hi,
        map_getD_good t _ a ha ga]

theorem core_right_end (t : List (Pt K)) (hs : Sorted t) (const : Bool) (b : Nat) (hb : b < t.length)
    (gb : t[b].bad = false) (hpost : ∀ k (_ : b < k) (hk : k < t.length), t[k].bad = true)
    (i : Nat) (hbi : b < i) (hi : i < t.length) : (interpCore t const)[i]? = some t[b].y := by
  have hbad : ∃ p ∈ t, p.bad = true := ⟨t[i], List.getElem_mem hi, hpost i hbi hi⟩
  have hg : goodPts t = goodPts (t.take b) ++ [(t[b].x, t[b].y)] := by
    rw [goodPts_at t b hb gb, goodPts_drop_bad t b hpost]
  have hall : ∀ q ∈ goodPts t, q.1 < t[i].x := by
    intro q hq
    obtain ⟨k, hk, hgk, rfl⟩ := goodPts_mem _ q hq
    have : k ≤ b := by
      by_contra hn
      have := hpost k (by omega) hk
      rw [hgk] at this; simp at this
    exact hs k i (by omega) hi
  match hG : goodPts (t.take b) with
  | [] =>
    rw [hG, List.nil_append] at hg
    exact interpCore_single t const _ _ hg hbad i hi
  | (x0, f0) :: l =>
    obtain ⟨r1, rest, hR⟩ : ∃ r1 rest, l ++ [(t[b].x, t[b].y)] = r1 :: rest := by
      cases l with
      | nil => exact ⟨_, _, rfl⟩
      | cons r l' => exact ⟨r, _, rfl⟩
    have hg' : goodPts t = (x0, f0) :: r1 :: rest := by rw [hg, hG, List.cons_append, hR]
    rw [interpCore_general_eq t const x0 f0 r1 rest hg' hbad]
    cases const
    · -- `np.interp` right of all its samples: the last value
      rw [if_neg Bool.false_ne_true, List.getElem?_map, List.getElem?_eq_getElem hi, Option.map_some, hpost i hbi hi,
        if_pos rfl, npInterp, if_neg (not_lt.2 (le_of_lt (hall (x0, f0) (by rw [hg']; exact List.mem_cons_self)))),
        interpGo_last _ _ _ _ (fun q hq => le_of_lt (hall q (by rw [hg']; exact List.mem_cons_of_mem _ hq)))]
      simp only [← hg', hg, List.getLast_append_singleton]
    · rw [if_pos rfl, constEnds_get _ _ _ i (by rw [List.length_map]; exact hi), lastGood_eq t b hb gb hpost,
        if_neg (not_lt.2 (le_trans (firstGood_le t b hb gb) (le_of_lt hbi))), if_pos hbi, map_getD_good t _ b hb gb]

/-- `djs_maskinterp1` is natural in the sample values: changing the values of the unmasked samples by `g` (a map that
`np.interp` commutes with, `g 0 = 0`) and those of the masked samples in any way changes the result by `g` - as long as
one sample is unmasked (with none the input comes back, masked values included) -/
theorem interpCore_map (φ : Pt K → Pt K) (g : K → K) (hx : ∀ p, (φ p).x = p.x) (hb : ∀ p, (φ p).bad = p.bad)
    (hy : ∀ p, p.bad = false → (φ p).y = g p.y) (hg0 : g 0 = 0)
    (hI : ∀ x0 f0 rest x, npInterp x0 (g f0) (rest.map fun q => (q.1, g q.2)) x = g (npInterp x0 f0 rest x))
    (t : List (Pt K)) (const : Bool) (h : (∃ p ∈ t, p.bad = false) ∨ ∀ p, (φ p).y = g p.y) :
    interpCore (t.map φ) const = (interpCore t const).map g := by
  -- every test of the code (all good, how many good, first and last good) reads only `bad`
  have hgood : ((fun p : Pt K => !p.bad) ∘ φ) = fun p => !p.bad := funext fun p => congrArg (!·) (hb p)
  have hgp : goodPts (t.map φ) = (goodPts t).map fun q => (q.1, g q.2) := by
    rw [goodPts, goodPts, List.filter_map, hgood, List.map_map, List.map_map]
    refine List.map_congr_left fun p hp => ?_
    have hpb : p.bad = false := by simpa using (List.mem_filter.1 hp).2
    simp only [Function.comp, hx, hy p hpb]
  unfold interpCore
  rw [List.all_map, hgood, hgp, List.findIdx_map, hgood, ← List.map_reverse, List.findIdx_map, hgood, List.length_map]
  -- the branches are taken one by one: `split` on this goal is slow
  by_cases hall : t.all (fun p => !p.bad) = true
  · rw [if_pos hall, if_pos hall, List.map_map, List.map_map]
    exact List.map_congr_left fun p hp => hy p (by simpa using List.all_eq_true.1 hall p hp)
  rw [if_neg hall, if_neg hall]
  cases hgo : goodPts t with
  | nil =>
    show (t.map φ).map _ = (t.map _).map g
    rw [List.map_map, List.map_map]
    refine List.map_congr_left fun p _ => ?_
    rcases h with ⟨q, hq, hqb⟩ | h
    · obtain ⟨k, hk, rfl⟩ := List.getElem_of_mem hq
      have := goodPts_mem_of_good t k hk hqb
      rw [hgo] at this
      cases this
    · exact h p
  | cons q rest =>
    obtain ⟨x0, f0⟩ := q
    rw [List.map_cons]
    dsimp only
    rw [List.isEmpty_map]
    have hout : (t.map φ).map (fun p => if p.bad then npInterp x0 (g f0) (rest.map fun q => (q.1, g q.2)) p.x else p.y) =
        (t.map fun p => if p.bad then npInterp x0 f0 rest p.x else p.y).map g := by
      rw [List.map_map, List.map_map]
      refine List.map_congr_left fun p _ => ?_
      cases hpb : p.bad
      · simp only [Function.comp, hb, hpb, Bool.false_eq_true, if_false, hy p hpb]
      · simp only [Function.comp, hb, hpb, if_true, hx, hI]
    by_cases he : rest.isEmpty = true
    · rw [if_pos he, if_pos he]
      simp only [List.map_map, Function.comp_def, scalar_lit, Nat.cast_zero, zero_add]
    · rw [if_neg he, if_neg he, hout]
      cases const
      · rfl
      · exact constEnds_map hg0 _ _ _

theorem core_erase (t : List (Pt K)) (const : Bool) (hgood : ∃ p ∈ t, p.bad = false) :
    interpCore (t.map fun p => if p.bad then ⟨p.x, 0, true⟩ else p) const = interpCore t const := by
  have := interpCore_map (fun p : Pt K => if p.bad then ⟨p.x, 0, true⟩ else p) id
    (fun p => by split <;> rfl) (fun p => by cases hp : p.bad <;> simp [hp]) (fun p hp => by simp [hp]) rfl
    (fun x0 f0 rest x => by simp) t const (Or.inl hgood)
  rwa [List.map_id] at this

theorem core_indep (X : Nat → K) (y y' : List K) (bad : List Bool) (l : List Nat) (const : Bool)
    (hsame : ∀ k ∈ l, bad.getD k false = false → y.getD k 0 = y'.getD k 0)
    (hgood : ∃ k ∈ l, bad.getD k false = false) :
    interpCore (l.map fun k => ⟨X k, y.getD k 0, bad.getD k false⟩) const =
      interpCore (l.map fun k => ⟨X k, y'.getD k 0, bad.getD k false⟩) const := by
  obtain ⟨g, hg, hgb⟩ := hgood
  rw [← core_erase _ const ⟨_, List.mem_map_of_mem hg, hgb⟩,
    ← core_erase (l.map fun k => ⟨X k, y'.getD k 0, bad.getD k false⟩) const ⟨_, List.mem_map_of_mem hg, hgb⟩,
    List.map_map, List.map_map]
  refine congrArg (interpCore · const) (List.map_congr_left fun k hk => ?_)
  cases hb : bad.getD k false
  · simp only [Function.comp, hb, Bool.false_eq_true, if_false, hsame k hk hb]
  · simp only [Function.comp, hb, if_true]

end field
end PydlVerif.Interp
