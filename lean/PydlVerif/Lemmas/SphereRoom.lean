/-
C04: the room at the seam (`BandRoom`) from the grid facts, over ℝ: with chunksize ≥ 4·matchlength and declination edges at
least 3·chunksize away from the poles, the RA margin of `getbounds` in any band near the point is at most HALF a minimal cell
`minSize / cosDecMin`.
-/
import PydlVerif.Lemmas.SphereComplete
import Mathlib.Analysis.SpecialFunctions.Trigonometric.Bounds
import Mathlib.Analysis.Convex.SpecificFunctions.Deriv
import Mathlib.Analysis.Real.Pi.Bounds
namespace PydlVerif.Sphere
open Real

attribute [local instance] realFns fieldScalar fieldTrig
attribute [-instance] Scalar.instOfNat Scalar.instOfScientific

theorem sin_scale (lam x : ℝ) (h0 : 0 ≤ lam) (h1 : lam ≤ 1) (hx0 : 0 ≤ x) (hx : x ≤ π) :
    lam * sin x ≤ sin (lam * x) := by
  have h := strictConcaveOn_sin_Icc.concaveOn.2 (show (0 : ℝ) ∈ Set.Icc 0 π from ⟨le_refl _, Real.pi_pos.le⟩)
    (show x ∈ Set.Icc 0 π from ⟨hx0, hx⟩) (by linarith : 0 ≤ 1 - lam) h0 (by ring : 1 - lam + lam = 1)
  simpa [smul_eq_mul] using h

/-- Jordan's inequality, in degrees -/
theorem arcsin_deg_le (u : ℝ) (h0 : 0 ≤ u) (h1 : u ≤ 1) : arcsin u * (180 / π) ≤ 90 * u := by
  have h := Real.mul_le_sin (Real.arcsin_nonneg.2 h0) (Real.arcsin_le_pi_div_two u)
  rw [Real.sin_arcsin (neg_one_lt_zero.le.trans h0) h1] at h
  calc arcsin u * (180 / π) = 90 * (2 / π * arcsin u) := by ring
    _ ≤ 90 * u := mul_le_mul_of_nonneg_left h (by norm_num)

/-- a declination within 2·ml of a band whose extreme edge `e` is at least 3·ms ≥ 12·ml away from
the pole: its cosine is at least 5/6 of the band's `cosDecMin`, which is at least ms/30 -/
theorem cos_ge_near (e δ ml ms : ℝ) (hml : 0 < ml) (hms : 4 * ml ≤ ms) (he : |e| ≤ 90 - 3 * ms)
    (hδ : |δ| ≤ |e| + 2 * ml) :
    5 / 6 * cos (e * (π / 180)) ≤ cos (δ * (π / 180)) ∧ ms / 30 ≤ cos (e * (π / 180)) := by
  have hpi := Real.pi_pos
  have hsin : ∀ x : ℝ, cos (x * (π / 180)) = sin ((90 - x) * (π / 180)) := fun x => by
    rw [← Real.sin_pi_div_two_sub]; congr 1; ring
  -- in terms of the co-latitude 90 - |e| of the edge, in radians: 12 ml ≤ 3 ms ≤ 90 - |e| ≤ 90
  rw [← Real.cos_abs (e * (π / 180)), abs_mul, abs_of_pos deg_pos, hsin]
  have hE0 : 0 ≤ 90 - |e| := by linarith only [hml, hms, he]
  set E := (90 - |e|) * (π / 180) with hE
  have hEk0 : 0 ≤ E := mul_nonneg hE0 deg_pos.le
  have hEk1 : E ≤ π / 2 := deg_le_pi_div_two (sub_le_self _ (abs_nonneg e))
  have h0 : 0 ≤ |e| + 2 * ml := by linarith only [abs_nonneg e, hml]
  constructor
  · calc 5 / 6 * sin E ≤ sin (5 / 6 * E) :=
          sin_scale _ _ (by norm_num) (by norm_num) hEk0 (by linarith only [hEk1, hpi])
      _ ≤ sin ((90 - (|e| + 2 * ml)) * (π / 180)) := by
          rw [hE, ← mul_assoc]
          apply Real.sin_le_sin_of_le_of_le_pi_div_two
          · have := mul_nonneg (mul_nonneg (by norm_num : (0 : ℝ) ≤ 5 / 6) hE0) deg_pos.le
            linarith only [this, hpi]
          · exact deg_le_pi_div_two (sub_le_self _ h0)
          · exact mul_le_mul_of_nonneg_right (by linarith only [hml, hms, he]) deg_pos.le
      _ = cos ((|e| + 2 * ml) * (π / 180)) := (hsin _).symm
      _ ≤ cos (δ * (π / 180)) :=
          cos_deg_le δ _ (by rwa [abs_of_nonneg h0]) (by rw [abs_of_nonneg h0]; linarith only [hml, hms, he])
  · -- Jordan: sin E ≥ (2/π) E = (90 - |e|) / 90 ≥ ms / 30
    have h := Real.mul_le_sin hEk0 hEk1
    rw [hE, show 2 / π * ((90 - |e|) * (π / 180)) = (90 - |e|) / 90 * (π / π) by ring,
      div_self hpi.ne', mul_one] at h
    linarith only [h, he]

/-- the RA margin of `getbounds` is at most half a minimal cell `ms / c0` of a band with `cosDecMin = c0`, when the two
cosines that enter it are at least 5/6·c0 (`cos_ge_near`) -/
theorem raMargin_le_half (c0 c' δq ml ms : ℝ) (hml : 0 < ml) (hms : 4 * ml ≤ ms)
    (hc0 : ms / 30 ≤ c0) (hc' : 5 / 6 * c0 ≤ c') (hcq : 5 / 6 * c0 ≤ cos (δq * (π / 180))) :
    raMarginOf c' δq ml ≤ 1 / 2 * (ms / c0) := by
  have hpi := Real.pi_pos
  have hms0 : 0 < ms := lt_of_lt_of_le (mul_pos (by norm_num) hml) hms
  have hc0p : 0 < c0 := lt_of_lt_of_le (div_pos hms0 (by norm_num)) hc0
  have h56 : 0 < 5 / 6 * c0 := mul_pos (by norm_num) hc0p
  have hw0 : 0 < ms / c0 := div_pos hms0 hc0p
  have hms30 : ms ≤ c0 * 30 := (div_le_iff₀ (by norm_num)).1 hc0
  have hw30 : ms / c0 ≤ 30 := (div_le_comm₀ (by norm_num) hc0p).1 hc0
  have hcq1 := Real.cos_le_one (δq * (π / 180))
  erw [raMarginOf_real]
  generalize cos (δq * (π / 180)) = cq at hcq hcq1 ⊢
  -- x is half the margin in radians, u the argument of arcsin
  set x := 0.5 * ml * (π / 180) with hx
  set u := sin x / sqrt (c' * cq)
  have hS : 5 / 6 * c0 ≤ sqrt (c' * cq) := by
    rw [Real.le_sqrt' h56, sq]
    exact mul_le_mul hc' hcq h56.le (h56.le.trans hc')
  have hx0 : 0 < x := mul_pos (mul_pos (by norm_num) hml) deg_pos
  have hxpi : x ≤ π := deg_le_pi (by linarith only [hms, hms30, hcq, hcq1])
  -- u ≤ x / (5/6 c0) = (π/300) (ml/c0) ≤ (π/1200) (ms/c0) ≤ π/40 < 1
  have hu : u ≤ π / 1200 * (ms / c0) :=
    calc u ≤ x / (5 / 6 * c0) := div_le_div₀ hx0.le (Real.sin_le hx0.le) h56 hS
      _ = π / 300 * (ml / c0) := by rw [hx]; ring
      _ ≤ π / 300 * (ms / 4 / c0) :=
          mul_le_mul_of_nonneg_left (div_le_div_of_nonneg_right (by linarith only [hms]) hc0p.le) (by positivity)
      _ = π / 1200 * (ms / c0) := by ring
  have hu0 : 0 ≤ u :=
    div_nonneg (Real.sin_nonneg_of_nonneg_of_le_pi hx0.le hxpi) (Real.sqrt_nonneg _)
  have hu1 : u < 1 :=
    calc u ≤ π / 1200 * 30 := hu.trans (mul_le_mul_of_nonneg_left hw30 (by positivity))
      _ < 1 := by linarith only [Real.pi_lt_four]
  rw [if_pos hu1]
  -- Jordan: the margin 2·arcsin u in degrees is at most 180 u ≤ (3π/20) (ms/c0)
  calc 2 * (arcsin u * (180 / π)) ≤ 2 * (90 * (π / 1200 * (ms / c0))) :=
        mul_le_mul_of_nonneg_left ((arcsin_deg_le _ hu0 hu1.le).trans
          (mul_le_mul_of_nonneg_left hu (by norm_num))) (by norm_num)
    _ = 3 * π / 20 * (ms / c0) := by ring
    _ ≤ 1 / 2 * (ms / c0) := mul_le_mul_of_nonneg_right (by linarith only [Real.pi_lt_d2]) hw0.le

theorem visited_near (g : Grid ℝ) (hdec : EdgesOK g.decBounds g.nDec) (δq m : ℝ) (hm : 0 < m)
    (hin : g.decBounds.getD 0 0 ≤ δq ∧ δq ≤ g.decBounds.getD g.nDec 0)
    (d : Nat) (hd : d < g.nDec) (hv : visitedBand g δq m d) :
    g.decBounds.getD d 0 - m < δq ∧ δq < g.decBounds.getD (d + 1) 0 + m := by
  obtain ⟨d0, hd0, hd0n⟩ := decIndex_range g hdec δq hin.1 hin.2
  obtain ⟨hb1, hb2, _⟩ := decIndex_bracket g hdec δq d0 hd0n hd0
  rw [visitedBand_index hd0] at hv
  rcases Nat.lt_trichotomy d d0 with hlt | heq | hgt
  · have := (decDown_le_iff g.decBounds δq m d0 d).1 hv.1 (d + 1) (Nat.lt_succ_self d) hlt
    have hmono := hdec.mono d d0 (by omega) (by omega)
    exact ⟨by linarith only [hmono, hb1, hm], by linarith only [this]⟩
  · subst heq
    exact ⟨by linarith only [hb1, hm], by linarith only [hb2, hm]⟩
  · have := (le_decUp_iff g.decBounds δq m d0 _ d (by omega)).1 hv.2 (d - 1) (by omega) (by omega)
    rw [Nat.sub_add_cancel (by omega)] at this
    have hmono := hdec.mono (d0 + 1) (d + 1) (by omega) (by omega)
    exact ⟨by linarith only [this], by linarith only [hmono, hb2, hm]⟩

theorem cosDecMin_pole (b : Array ℝ) (d : Nat) (h1 : |b.getD d 0| ≤ 90) (h2 : |b.getD (d + 1) 0| ≤ 90)
    (h : |b.getD d 0| = 90 ∨ |b.getD (d + 1) 0| = 90) : cosDecMinOf b d = 0 := by
  obtain ⟨e, he, e1, e2, e3⟩ := cosDecMin_edge b d
  have h90 : |e| = 90 := by
    apply le_antisymm
    · rcases e3 with rfl | rfl <;> assumption
    · rcases h with h | h <;> rw [← h] <;> assumption
  rw [he, ← Real.cos_abs, abs_mul, abs_of_pos deg_pos, h90, show (90 : ℝ) * (π / 180) = π / 2 by ring,
    Real.cos_pi_div_two]

theorem GridFacts.abs_edge_le {g : Grid ℝ} {ra dec : Array ℝ} {ms : ℝ} (hF : GridFacts ra dec ms g)
    (k : Nat) (hk : k ≤ g.nDec) : |g.decBounds.getD k 0| ≤ 90 :=
  abs_le.2 ⟨hF.dec_range.1.trans (hF.dec_edges.mono 0 k (Nat.zero_le k) hk),
    (hF.dec_edges.mono k g.nDec hk (le_refl _)).trans hF.dec_range.2⟩

/-- over ℝ the constructor returns only grids whose declination edges are NOT clipped to the
poles (cos 90° = 0 makes it raise), so they stay 3·minSize away from them -/
theorem not_clipped (g : Grid ℝ) (ra dec : Array ℝ) (ms : ℝ) (hF : GridFacts ra dec ms g)
    (hR : GridRoom ra dec ms g) :
    -90 + 3 * ms ≤ g.decBounds.getD 0 0 ∧ g.decBounds.getD g.nDec 0 ≤ 90 - 3 * ms := by
  have hn := hF.nDec_ge
  constructor
  · refine hR.dec_lo3.resolve_left fun h => ?_
    have hc := (hF.band 0 (by omega)).cpos
    rw [cosDecMin_pole _ 0 (hF.abs_edge_le 0 (by omega)) (hF.abs_edge_le 1 (by omega))
      (Or.inl (by rw [h, abs_neg, abs_of_pos (by norm_num)]))] at hc
    exact lt_irrefl _ hc
  · refine hR.dec_hi3.resolve_left fun h => ?_
    have hc := (hF.band (g.nDec - 1) (by omega)).cpos
    have hidx : g.nDec - 1 + 1 = g.nDec := by omega
    rw [cosDecMin_pole _ _ (hF.abs_edge_le _ (by omega)) (hF.abs_edge_le _ (by omega))
      (Or.inr (by rw [hidx, h, abs_of_pos (by norm_num)]))] at hc
    exact lt_irrefl _ hc

theorem edges_clear {g : Grid ℝ} {ra dec : Array ℝ} {ms : ℝ} (hF : GridFacts ra dec ms g) (hR : GridRoom ra dec ms g)
    (d : Nat) (hd : d < g.nDec) :
    -90 + 3 * ms ≤ g.decBounds.getD d 0 ∧ g.decBounds.getD d 0 ≤ g.decBounds.getD (d + 1) 0 ∧
      g.decBounds.getD (d + 1) 0 ≤ 90 - 3 * ms := by
  obtain ⟨hlo3, hhi3⟩ := not_clipped g ra dec ms hF hR
  exact ⟨hlo3.trans (hF.dec_edges.mono 0 d (Nat.zero_le d) hd.le), hF.dec_edges.mono d (d + 1) (Nat.le_succ d) hd,
    (hF.dec_edges.mono (d + 1) g.nDec hd (le_refl _)).trans hhi3⟩

theorem cosDecMin_near {g : Grid ℝ} {ra dec : Array ℝ} {ms : ℝ} (hF : GridFacts ra dec ms g) (hR : GridRoom ra dec ms g)
    {ml : ℝ} (hml : 0 < ml) (hms : 4 * ml ≤ ms) (d : Nat) (hd : d < g.nDec) (δ : ℝ)
    (h1 : g.decBounds.getD d 0 - 2 * ml ≤ δ) (h2 : δ ≤ g.decBounds.getD (d + 1) 0 + 2 * ml) :
    5 / 6 * cosDecMinOf g.decBounds d ≤ cos (δ * (π / 180)) ∧ ms / 30 ≤ cosDecMinOf g.decBounds d := by
  obtain ⟨hlo, hmono, hhi⟩ := edges_clear hF hR d hd
  obtain ⟨e, hce, he1, he2, he3⟩ := cosDecMin_edge g.decBounds d
  rw [hce]
  refine cos_ge_near e δ ml ms hml hms ?_ (abs_le_near _ _ e δ (2 * ml) he1 he2 h1 h2)
  rcases he3 with rfl | rfl <;> rw [abs_le] <;> constructor <;> linarith

theorem visited_margin {g : Grid ℝ} {ra dec : Array ℝ} {ms : ℝ} (hF : GridFacts ra dec ms g) (hR : GridRoom ra dec ms g)
    {ml : ℝ} (hml : 0 < ml) (hms : 4 * ml ≤ ms) (δq : ℝ)
    (hin : g.decBounds.getD 0 0 ≤ δq ∧ δq ≤ g.decBounds.getD g.nDec 0) (d : Nat) (hd : d < g.nDec)
    (hv : visitedBand g δq ml d) :
    (∀ δ, |δ - δq| < ml → 5 / 6 * cosDecMinOf g.decBounds d ≤ cos (δ * (π / 180))) ∧
      ms / 30 ≤ cosDecMinOf g.decBounds d ∧
      raMarginOf (cosDecMinOf g.decBounds d) δq ml ≤ 1 / 2 * (ms / cosDecMinOf g.decBounds d) := by
  obtain ⟨hn1, hn2⟩ := visited_near g hF.dec_edges δq ml hml hin d hd hv
  have hcos : ∀ δ, |δ - δq| < ml → 5 / 6 * cosDecMinOf g.decBounds d ≤ cos (δ * (π / 180)) := fun δ h =>
    (cosDecMin_near hF hR hml hms d hd δ (by linarith only [hn1, (abs_lt.1 h).1]) (by linarith only [hn2, (abs_lt.1 h).2])).1
  obtain ⟨-, hc30⟩ := cosDecMin_near hF hR hml hms d hd δq (by linarith only [hn1, hml]) (by linarith only [hn2, hml])
  have h30 : 0 < ms / 30 := div_pos (lt_of_lt_of_le (mul_pos (by norm_num) hml) hms) (by norm_num)
  exact ⟨hcos, hc30, raMargin_le_half _ _ δq ml ms hml hms hc30 (by linarith only [hc30, h30])
    (hcos δq (by rw [sub_self, abs_zero]; exact hml))⟩

/-- p keeps a cell `w` away from both ends of a band [lo, hi] that keeps `w` away from the seam; q within half a cell of p on the
circle lies inside the band -/
theorem near_inside (lo hi w p q Δ : ℝ) (hw : 0 < w) (hlo : w < lo) (hhi : hi < 360 - w)
    (hp1 : lo + w ≤ p) (hp2 : p + w ≤ hi) (hq0 : 0 ≤ q) (hq1 : q < 360)
    (hΔ : Δ = |q - p| ∨ Δ = 360 - |q - p|) (hΔw : Δ < 1 / 2 * w) : lo ≤ q ∧ q < hi := by
  rcases hΔ with rfl | rfl
  · obtain ⟨h1, h2⟩ := abs_lt.1 hΔw
    exact ⟨by linarith only [h1, hp1, hw], by linarith only [h2, hp2, hw]⟩
  · -- p keeps 2w away from 0 and from 360, so the way round through the seam is longer than 2w
    have : |q - p| < 360 - 2 * w :=
      abs_lt.2 ⟨by linarith only [hq0, hp2, hhi], by linarith only [hq1, hp1, hlo]⟩
    linarith only [this, hΔw, hw]

theorem seamOK_of_half (g : Grid ℝ) (ra : Array ℝ) (ms : ℝ) (d : Nat) (hms : 0 < ms)
    (hB : BandFacts ms g d) (hRd : BandRoomFacts ra ms g d)
    (hw30 : ms / cosDecMinOf g.decBounds d ≤ 30) (δq m : ℝ)
    (hM : raMarginOf (cosDecMinOf g.decBounds d) δq m ≤ 1 / 2 * (ms / cosDecMinOf g.decBounds d)) :
    SeamOK g d δq m := by
  have hw : 0 < ms / cosDecMinOf g.decBounds d := div_pos hms hB.cpos
  rcases hB.extent with ⟨e0, en⟩ | ⟨e0, en⟩
  · refine Or.inl ⟨e0, en, hM.trans ?_⟩
    have hnpos : (0 : ℝ) < (g.nRa.getD d 0 : ℝ) := by exact_mod_cast hB.edges.pos
    rw [hB.edges.lin 1 hB.edges.pos, e0, en, Nat.cast_one, add_sub_cancel_left, le_div_iff₀ hnpos]
    have hcw : cosDecMinOf g.decBounds d * 360 / ms * (ms / cosDecMinOf g.decBounds d) = 360 := by
      rw [mul_div_right_comm, mul_right_comm, div_mul_div_cancel₀ hms.ne', div_self hB.cpos.ne', one_mul]
    have hnw := mul_le_mul_of_nonneg_right hRd.ncells hw.le
    rw [add_mul, hcw] at hnw
    -- with w = ms / cosDecMin ≤ 30: n · w/2 ≤ (3w + 360)/2 ≤ 225 ≤ 360, so w/2 is at most one of the n cells
    linarith only [hnw, hw30]
  · exact Or.inr (hM.trans (by linarith only [e0, en, hw]))

/-- the statement of `C04.seam_room`: `BandRoom` from the grid facts -/
theorem bandRoom_holds (g : Grid ℝ) (ra1 dec1 : Array ℝ) (ms ml : ℝ)
    (hF : GridFacts ra1 dec1 ms g) (hR : GridRoom ra1 dec1 ms g) (hsz : ra1.size = dec1.size)
    (hml : 0 < ml) (hms : 4 * ml ≤ ms)
    (i : Nat) (hi : i < ra1.size) (h10 : 0 ≤ ra1.getD i 0) (h1 : ra1.getD i 0 < 360)
    (hp : |dec1.getD i 0| < 90)
    (a2 δq : ℝ) (h20 : 0 ≤ a2) (h2 : a2 < 360) (hq : |δq| < 90)
    (hclose : gcircDeg (ra1.getD i 0) (dec1.getD i 0) a2 δq < ml)
    (d : Nat) (hd : d < g.nDec) (hv : visitedBand g δq ml d) :
    BandRoom g d (fmod360 (a2 + g.raOffset)) δq ml := by
  have hms0 : 0 < ms := lt_of_lt_of_le (mul_pos (by norm_num) hml) hms
  obtain ⟨ho0, ho⟩ := hF.off_range
  -- the declinations differ by less than ml, so q lies inside the declination extent
  have hdd : |δq - dec1.getD i 0| < ml := lt_of_le_of_lt (ddec_le_gcirc _ _ _ _ hp hq) hclose
  obtain ⟨hq1, hq2⟩ := abs_lt.1 hq
  have hin := hF.dec_extent i (hsz ▸ hi) δq hq1.le hq2.le
    (hdd.le.trans (by linarith only [hml, hms]))
  obtain ⟨hcos, hc30, hM⟩ := visited_margin hF hR hml hms δq hin d hd hv
  have hcq := hcos δq (by rw [sub_self, abs_zero]; exact hml)
  have hcp := hcos (dec1.getD i 0) (abs_sub_comm δq _ ▸ hdd)
  have hB := hF.band d hd
  have hc0 : 0 < cosDecMinOf g.decBounds d := hB.cpos
  have hw30 : ms / cosDecMinOf g.decBounds d ≤ 30 := (div_le_comm₀ (by norm_num) hc0).1 hc30
  refine ⟨?_, seamOK_of_half g ra1 ms d hms0 hB (hR.band d hd) hw30 δq ml hM⟩
  obtain ⟨-, ⟨q0, q1⟩, Δ, hΔ0, hΔ1, hΔe, hΔs⟩ := circ_diff (ra1.getD i 0) a2 g.raOffset h10 h1 h20 h2 ho0 ho
  obtain ⟨e0, en⟩ | ⟨e0, en⟩ := hB.extent
  · rw [e0, en]; exact ⟨q0, q1⟩
  · have hw : 0 < ms / cosDecMinOf g.decBounds d := div_pos hms0 hc0
    obtain ⟨r0, -⟩ | hroom := (hR.band d hd).room
    · rw [r0] at e0; exact absurd e0 (not_lt.2 hw.le)
    · -- p keeps a minimal cell away from both ends of the band, q is within half of one of p
      obtain ⟨hr1, hr2⟩ := hroom i hi
      have h56 : 0 < 5 / 6 * cosDecMinOf g.decBounds d := mul_pos (by norm_num) hc0
      -- the margin with `c = 5/6·cosDecMin d`: p need not lie in band `d`, only within ml of q, where the cosine is that large (`hcp`)
      have hΔM := C04.ra_cover_fixed _ (ra1.getD i 0) (dec1.getD i 0) a2 δq ml Δ h56 hcp
        (lt_of_lt_of_le h56 hcq) hΔ0 hΔ1 (by
          have := (div_le_iff₀ (by norm_num)).1 hc30
          linarith only [hms, this, hcq, Real.cos_le_one (δq * (π / 180))]) hΔs hclose
      have hM' := raMargin_le_half _ _ δq ml ms hml hms hc30 (le_refl _) hcq
      exact near_inside _ _ _ _ _ Δ hw e0 en hr1 hr2 q0 q1 hΔe (lt_of_lt_of_le hΔM hM')

end PydlVerif.Sphere
