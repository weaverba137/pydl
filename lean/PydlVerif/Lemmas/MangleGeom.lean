/-
Two facts about unit vectors of ℝ³ in coordinates, for users that each have their own model of vectors and dot products.
-/
import Mathlib.Analysis.SpecialFunctions.Trigonometric.Basic

namespace PydlVerif.MangleGeom
open Real

/-- Cauchy-Schwarz for unit vectors: `0 ≤ |u ± v|² = 2 ± 2 u·v` -/
theorem unit_dot_bounds (a b c x y z : ℝ) (hu : a * a + b * b + c * c = 1) (hv : x * x + y * y + z * z = 1) :
    -1 ≤ a * x + b * y + c * z ∧ a * x + b * y + c * z ≤ 1 := by
  constructor
  · linarith [mul_self_nonneg (a + x), mul_self_nonneg (b + y), mul_self_nonneg (c + z)]
  · linarith [mul_self_nonneg (a - x), mul_self_nonneg (b - y), mul_self_nonneg (c - z)]

theorem polar_unit (p t : ℝ) :
    (cos p * sin t) * (cos p * sin t) + (sin p * sin t) * (sin p * sin t) + cos t * cos t = 1 := by
  linear_combination (sin t) ^ 2 * (sin_sq_add_cos_sq p) + sin_sq_add_cos_sq t

end PydlVerif.MangleGeom
