/-
Under the trace-set model (Model/Trace.lean): arrays read by position, sums as `Finset.range` sums, and the
least-squares algebra `func_fit` rests on, with some coefficients held fixed (the `range`-indexed form of Lemmas/Lsq.lean).
-/
import PydlVerif.Model.Trace
import PydlVerif.Lemmas.ScalarField
import PydlVerif.Lemmas.Lsq
import PydlVerif.Lemmas.ListBasics
import PydlVerif.Lemmas.FinsetSums
open Finset
namespace PydlVerif.Trace

section arrays
variable {α : Type} [Scalar α] {β : Type}

@[simp] theorem tab_size (n : Nat) (f : Nat → β) : (tab n f).size = n := by simp [tab]

theorem tab_getD (n : Nat) (f : Nat → β) (i : Nat) (d : β) :
    (tab n f).getD i d = if i < n then f i else d := by
  unfold tab
  by_cases h : i < n <;> simp [Array.getD, h]

theorem tab_congr (n : ℕ) (f g : ℕ → β) (h : ∀ i, i < n → f i = g i) : tab n f = tab n g := by
  unfold tab
  apply Array.ext
  · simp
  · intro i h1 h2
    simp only [Array.getElem_ofFn]
    exact h i (by simpa using h1)

theorem replicate_eq_tab (n : ℕ) (v : β) : Array.replicate n v = tab n (fun _ => v) := by
  unfold tab
  apply Array.ext
  · simp
  · intro i h1 h2
    simp

theorem mem_tab (n : Nat) (f : Nat → β) (r : β) : r ∈ tab n f ↔ ∃ i, i < n ∧ f i = r := by
  unfold tab
  rw [Array.mem_ofFn]
  exact ⟨fun ⟨i, h⟩ => ⟨i, i.2, h⟩, fun ⟨i, hi, h⟩ => ⟨⟨i, hi⟩, h⟩⟩

theorem at1_tab (n : Nat) (f : Nat → α) (i : Nat) (h : i < n) : at1 (tab n f) i = f i := by
  unfold at1; rw [tab_getD]; simp [h]

theorem at2_tab (m : Nat) (f : Nat → Array α) (k i : Nat) (h : k < m) :
    at2 (tab m f) k i = at1 (f k) i := by
  unfold at2 at1; rw [tab_getD]; simp [h]

theorem at2_tab_tab (m n : Nat) (f : Nat → Nat → α) (k i : Nat) (hk : k < m) (hi : i < n) :
    at2 (tab m fun k => tab n (f k)) k i = f k i := by
  rw [at2_tab _ _ _ _ hk, at1_tab _ _ _ hi]

theorem at1_map (xs : Array α) (g : α → α) (i : Nat) (h : i < xs.size) :
    at1 (xs.map g) i = g (at1 xs i) := by
  simp [at1, Array.getD, h]

theorem at2_rows (φ : α → Nat → α) (xs : Array α) (m k i : Nat) (hk : k < m) (hi : i < xs.size) :
    at2 (rows φ xs m) k i = φ (at1 xs i) k := by
  unfold rows
  rw [at2_tab _ _ _ _ hk, at1_map _ _ _ hi]

omit [Scalar α] in
theorem rows_size (φ : α → Nat → α) (xs : Array α) (m : Nat) : (rows φ xs m).size = m := by
  simp [rows]

theorem at1_replicate (n : Nat) (v : α) (i : Nat) (h : i < n) : at1 (Array.replicate n v) i = v := by
  simp [at1, Array.getD, h]
end arrays

section field
variable {K : Type} [Field K] [LinearOrder K] [IsStrictOrderedRing K] [FloorRing K]

theorem sumN_eq (n : Nat) (f : Nat → K) : @sumN K (fieldScalar K) n f = ∑ i ∈ range n, f i := by
  unfold sumN
  rw [foldl_add_range, scalar_lit, Nat.cast_zero, zero_add]

omit [LinearOrder K] [IsStrictOrderedRing K] [FloorRing K] in
theorem sum_filter_idx (p : Nat → Bool) (n : Nat) (G : Nat → K) :
    ∑ b ∈ range ((List.range n).filter p).length, G (((List.range n).filter p).getD b 0)
      = ∑ k ∈ range n, if p k then G k else 0 := by
  induction n with
  | zero => rfl
  | succ n ih =>
    rw [List.range_succ, List.filter_append, Finset.sum_range_succ, ← ih]
    cases h : p n
    · rw [List.filter_cons_of_neg (by rw [h]; exact Bool.false_ne_true), List.filter_nil, List.append_nil]
      exact (add_zero _).symm
    · -- the new last position holds `n`; the earlier positions are those of the shorter list
      rw [List.filter_cons_of_pos h, List.filter_nil, List.length_append, List.length_singleton, Finset.sum_range_succ,
        getD_append, if_neg (Nat.lt_irrefl _), Nat.sub_self]
      refine congrArg₂ _ (Finset.sum_congr rfl fun b hb => ?_) rfl
      rw [getD_append, if_pos (Finset.mem_range.mp hb)]

omit [LinearOrder K] [IsStrictOrderedRing K] [FloorRing K] in
/-- algebra of func_fit: if the solved block satisfies `alpha · sol = beta`, the residual of the
full coefficient vector is W-orthogonal to every free basis row -/
theorem normal_core (n m : ℕ) (L : ℕ → ℕ → K) (w y ans sol : ℕ → K) (iaf : ℕ → Bool)
    (hsol : ∀ a, a < ((List.range m).filter iaf).length →
      ∑ b ∈ range ((List.range m).filter iaf).length,
        (∑ i ∈ range n, L (((List.range m).filter iaf).getD a 0) i *
          (L (((List.range m).filter iaf).getD b 0) i * w i)) * sol b
      = ∑ i ∈ range n, (y i - ∑ j ∈ range m, L j i * (ans j * (if iaf j then 0 else 1))) * w i *
          L (((List.range m).filter iaf).getD a 0) i)
    (k : ℕ) (hk : k < m) (hf : iaf k = true) :
    ∑ i ∈ range n, w i * L k i *
      (y i - ∑ j ∈ range m, L j i *
        (if iaf j then sol (((List.range m).filter iaf).idxOf j) else ans j)) = 0 := by
  set free := (List.range m).filter iaf with hfree
  have hmem : k ∈ free := by simp [hfree, List.mem_filter, hk, hf]
  have ha : free.idxOf k < free.length := List.idxOf_lt_length_iff.mpr hmem
  have hget : free.getD (free.idxOf k) 0 = k := by
    rw [getD_lt _ _ _ ha]; exact List.getElem_idxOf ha
  have hnodup : free.Nodup := (List.nodup_range (n := m)).filter _
  have hidx : ∀ b, b < free.length → free.idxOf (free.getD b 0) = b := by
    intro b hb; rw [getD_lt _ _ _ hb]; exact hnodup.idxOf_getElem b hb
  have hs := hsol _ ha
  rw [hget] at hs
  -- `A · res` at one point: the free coefficients, numbered by their position in `free`, and the fixed ones
  have hpoint : ∀ i, ∑ j ∈ range m, L j i * (if iaf j then sol (free.idxOf j) else ans j)
      = ∑ b ∈ range free.length, L (free.getD b 0) i * sol b
        + ∑ j ∈ range m, L j i * (ans j * (if iaf j then 0 else 1)) := by
    intro i
    have h1 := sum_filter_idx iaf m (fun j => L j i * sol (free.idxOf j))
    have h2 : ∑ b ∈ range free.length, L (free.getD b 0) i * sol b
        = ∑ b ∈ range free.length, (fun j => L j i * sol (free.idxOf j)) (free.getD b 0) :=
      Finset.sum_congr rfl (fun b hb => by simp only; rw [hidx b (Finset.mem_range.mp hb)])
    rw [h2, h1, ← Finset.sum_add_distrib]
    apply Finset.sum_congr rfl
    intro j _
    cases iaf j <;> simp
  have hterm : ∀ i, w i * L k i * (y i - ∑ j ∈ range m, L j i * (if iaf j then sol (free.idxOf j) else ans j))
      = (y i - ∑ j ∈ range m, L j i * (ans j * (if iaf j then 0 else 1))) * w i * L k i
        - ∑ b ∈ range free.length, (L k i * (L (free.getD b 0) i * w i)) * sol b := by
    intro i
    rw [hpoint i]
    have : w i * L k i * ∑ b ∈ range free.length, L (free.getD b 0) i * sol b
        = ∑ b ∈ range free.length, (L k i * (L (free.getD b 0) i * w i)) * sol b := by
      rw [Finset.mul_sum]; apply Finset.sum_congr rfl; intros; ring
    rw [← this]; ring
  -- what is left is row `idxOf k` of `alpha · sol = beta`, with the sums over `i` and `b` exchanged
  rw [Finset.sum_congr rfl fun i _ => hterm i, Finset.sum_sub_distrib, ← hs, Finset.sum_comm, sub_eq_zero]
  exact Finset.sum_congr rfl fun b _ => Finset.sum_mul _ _ _

/-- weighted sum of squared residuals of the coefficient vector `c`: `Lsq.Q` in range form with `L` transposed (`Lsq.Q_range`) -/
def wssr (n m : ℕ) (L : ℕ → ℕ → K) (w y c : ℕ → K) : K :=
  ∑ i ∈ range n, w i * (y i - ∑ j ∈ range m, L j i * c j) ^ 2

omit [LinearOrder K] [IsStrictOrderedRing K] [FloorRing K] in
/-- Pythagoras (`Lsq.Q_expand`, range-indexed): the cross term vanishes when `c` satisfies the normal equations on the
free coefficients and `z` agrees with `c` on the others -/
theorem wssr_pythagoras (n m : ℕ) (L : ℕ → ℕ → K) (w y c z : ℕ → K) (free : ℕ → Bool)
    (hN : ∀ k, k < m → free k = true →
      ∑ i ∈ range n, w i * L k i * (y i - ∑ j ∈ range m, L j i * c j) = 0)
    (hz : ∀ k, k < m → free k = false → z k = c k) :
    wssr n m L w y z = wssr n m L w y c + ∑ i ∈ range n, w i * (∑ j ∈ range m, L j i * (c j - z j)) ^ 2 := by
  have hx : ∑ k ∈ range m, (c k - z k) * ∑ i ∈ range n, w i * L k i * (y i - ∑ j ∈ range m, L j i * c j) = 0 :=
    Finset.sum_eq_zero fun k hk => by
      cases hf : free k with
      | false => rw [hz k (Finset.mem_range.mp hk) hf, sub_self, zero_mul]
      | true => rw [hN k (Finset.mem_range.mp hk) hf, mul_zero]
  have e := Lsq.Q_expand (fun (i : Fin n) (j : Fin m) => L j i) (fun i => w i) (fun i => y i) (fun j => c j)
    (fun j => z j)
  simp only [wssr, Finset.sum_range] at hx ⊢
  rw [hx, mul_zero, add_zero] at e
  exact e

omit [FloorRing K] in
theorem wls_optimum_fixed (n m : ℕ) (L : ℕ → ℕ → K) (w y c z : ℕ → K) (free : ℕ → Bool)
    (hw : ∀ i, i < n → 0 ≤ w i)
    (hN : ∀ k, k < m → free k = true →
      ∑ i ∈ range n, w i * L k i * (y i - ∑ j ∈ range m, L j i * c j) = 0)
    (hz : ∀ k, k < m → free k = false → z k = c k) :
    wssr n m L w y c ≤ wssr n m L w y z := by
  rw [wssr_pythagoras n m L w y c z free hN hz]
  exact le_add_of_nonneg_right
    (Finset.sum_nonneg fun i hi => mul_nonneg (hw i (Finset.mem_range.mp hi)) (sq_nonneg _))

omit [FloorRing K] in
theorem wls_unique_fixed (n m : ℕ) (L : ℕ → ℕ → K) (w y c c' : ℕ → K) (free : ℕ → Bool)
    (hpd : ∀ d : ℕ → K, (∀ k, k < m → free k = false → d k = 0) →
      ∑ i ∈ range n, w i * (∑ j ∈ range m, L j i * d j) ^ 2 = 0 → ∀ k, k < m → d k = 0)
    (hN : ∀ k, k < m → free k = true →
      ∑ i ∈ range n, w i * L k i * (y i - ∑ j ∈ range m, L j i * c j) = 0)
    (hN' : ∀ k, k < m → free k = true →
      ∑ i ∈ range n, w i * L k i * (y i - ∑ j ∈ range m, L j i * c' j) = 0)
    (hfix : ∀ k, k < m → free k = false → c k = c' k) :
    ∀ k, k < m → c k = c' k := by
  -- Pythagoras around `c` and around `c'`: the square term is its own negative
  have e := wssr_pythagoras n m L w y c c' free hN fun k hk hf => (hfix k hk hf).symm
  have e' := wssr_pythagoras n m L w y c' c free hN' hfix
  have hneg : ∀ i, ∑ j ∈ range m, L j i * (c' j - c j) = -∑ j ∈ range m, L j i * (c j - c' j) := fun i => by
    rw [← Finset.sum_neg_distrib]
    exact Finset.sum_congr rfl fun j _ => by ring
  simp only [hneg, neg_sq] at e'
  rw [e, add_assoc, left_eq_add, ← two_mul] at e'
  have hS := (mul_eq_zero.mp e').resolve_left two_ne_zero
  exact fun k hk => sub_eq_zero.mp
    (hpd (fun k => c k - c' k) (fun k hk hf => sub_eq_zero.mpr (hfix k hk hf)) hS k hk)
end field
end PydlVerif.Trace
