/-
Lists and arrays read by position with a default (`List.getD`, `l.toArray[i]!`, `a[i]!`), the form in which the models
index numpy arrays (a slice, `x[j]`, `x[argsort]` as tables of reads), and what the models' index arithmetic and scans
need of core lists.  Core Lean only (Mathlib's `Data.List.GetD` has some of the `getD` facts; the files without Mathlib
use them from here).
-/
namespace PydlVerif
universe u v w

theorem getD_lt {β : Type u} (l : List β) (d : β) (i : Nat) (hi : i < l.length) : l.getD i d = l[i] := by
  rw [List.getD_eq_getElem?_getD, List.getElem?_eq_getElem hi, Option.getD_some]

theorem getD_ge {β : Type u} (l : List β) (d : β) (i : Nat) (hi : l.length ≤ i) : l.getD i d = d := by
  rw [List.getD_eq_getElem?_getD, List.getElem?_eq_none hi, Option.getD_none]

theorem getD_mem {β : Type u} (l : List β) (d : β) (i : Nat) (hi : i < l.length) : l.getD i d ∈ l := by
  rw [getD_lt l d i hi]
  exact List.getElem_mem hi

/-- inside the list the two defaults are unrelated -/
theorem getD_map {β : Type u} {γ : Type v} (f : β → γ) (l : List β) (d : β) (e : γ) (i : Nat) (hi : i < l.length) :
    (l.map f).getD i e = f (l.getD i d) := by
  rw [getD_lt _ e i (by rw [List.length_map]; exact hi), List.getElem_map, getD_lt l d i hi]

theorem getD_map_default {β : Type u} {γ : Type v} (f : β → γ) (l : List β) (d : β) (i : Nat) :
    (l.map f).getD i (f d) = f (l.getD i d) := by
  rw [List.getD_eq_getElem?_getD, List.getD_eq_getElem?_getD, List.getElem?_map]
  cases l[i]? <;> rfl

theorem getD_map_range {β : Type u} (g : Nat → β) (n i : Nat) (d : β) :
    ((List.range n).map g).getD i d = if i < n then g i else d := by
  rw [List.getD_eq_getElem?_getD, List.getElem?_map]
  split
  · rw [List.getElem?_range ‹_›]
    rfl
  · rw [List.getElem?_eq_none (by rw [List.length_range]; exact Nat.le_of_not_lt ‹_›)]
    rfl

theorem getD_map_range_lt {β : Type u} (n i : Nat) (g : Nat → β) (d : β) (h : i < n) :
    ((List.range n).map g).getD i d = g i := by
  rw [getD_map_range, if_pos h]

theorem getD_replicate {β : Type u} (n i : Nat) (v d : β) (hi : i < n) : (List.replicate n v).getD i d = v := by
  rw [getD_lt _ d i (by rw [List.length_replicate]; exact hi), List.getElem_replicate]

theorem getD_append {β : Type u} (a b : List β) (d : β) (i : Nat) :
    (a ++ b).getD i d = if i < a.length then a.getD i d else b.getD (i - a.length) d := by
  simp only [List.getD_eq_getElem?_getD, List.getElem?_append]
  split <;> rfl

theorem map_range_getD {β : Type u} (l : List β) (d : β) : (List.range l.length).map (fun i => l.getD i d) = l := by
  apply List.ext_getElem (by rw [List.length_map, List.length_range])
  intro i _ h2
  rw [List.getElem_map, List.getElem_range, getD_lt l d i h2]

theorem drop_take_eq_map_getD {β : Type u} (a : List β) (d : β) (s k : Nat) (h : s + k ≤ a.length) :
    (a.drop s).take k = (List.range k).map fun j => a.getD (s + j) d := by
  apply List.ext_getElem
  · rw [List.length_take, List.length_drop, List.length_map, List.length_range]
    omega
  · intro j _ h2
    rw [List.length_map, List.length_range] at h2
    rw [List.getElem_take, List.getElem_drop, List.getElem_map, List.getElem_range, getD_lt a d _ (by omega)]

theorem mem_slice {β : Type u} (s : List β) (w : β) (lo len : Nat) :
    w ∈ (s.drop lo).take len ↔ ∃ j, lo ≤ j ∧ j < lo + len ∧ s[j]? = some w := by
  rw [List.mem_iff_getElem?]
  constructor
  · rintro ⟨k, hk⟩
    rw [List.getElem?_take] at hk
    split at hk
    · rw [List.getElem?_drop] at hk
      exact ⟨lo + k, by omega, by omega, hk⟩
    · simp at hk
  · rintro ⟨j, h1, h2, h3⟩
    refine ⟨j - lo, ?_⟩
    rw [List.getElem?_take, if_pos (by omega), List.getElem?_drop]
    rw [show lo + (j - lo) = j by omega]; exact h3

theorem perm_length (τ : List Nat) (n : Nat) (hτ : τ.Perm (List.range n)) : τ.length = n := by
  rw [hτ.length_eq, List.length_range]

theorem perm_mem_lt (τ : List Nat) (n : Nat) (hτ : τ.Perm (List.range n)) : ∀ i ∈ τ, i < n :=
  fun _ hi => List.mem_range.1 (hτ.mem_iff.1 hi)

theorem map_getD_perm {β : Type u} (l : List β) (d : β) (τ : List Nat) (hτ : τ.Perm (List.range l.length)) :
    (τ.map fun i => l.getD i d).Perm l := by
  have h := hτ.map fun i => l.getD i d
  rwa [map_range_getD] at h

/-- numpy's `x[j]` as `filterMap` of the partial reads is the table of the defaulted reads when `j` is in range -/
theorem filterMap_getElem?_eq_map {β : Type u} (l : List β) (d : β) (j : List Nat) (h : ∀ k ∈ j, k < l.length) :
    j.filterMap (l[·]?) = j.map (l.getD · d) := by
  induction j with
  | nil => rfl
  | cons k ks ih =>
    rw [List.filterMap_cons, List.getElem?_eq_getElem (h k List.mem_cons_self), List.map_cons,
      getD_lt l d k (h k List.mem_cons_self), ih fun x hx => h x (List.mem_cons_of_mem _ hx)]

theorem toArray_getElem! {β : Type u} [Inhabited β] (l : List β) (i : Nat) : l.toArray[i]! = l.getD i default := by
  rw [List.getElem!_toArray, List.getElem!_eq_getElem?_getD, List.getD_eq_getElem?_getD]

theorem getElem!_map {β : Type u} {γ : Type v} [Inhabited β] [Inhabited γ] (a : Array β) (f : β → γ)
    (hf : f default = default) (i : Nat) : (a.map f)[i]! = f a[i]! := by
  rw [getElem!_def, getElem!_def, Array.getElem?_map]
  cases a[i]? with
  | none => exact hf.symm
  | some v => rfl

theorem getElem!_setIfInBounds_ne {β : Type u} [Inhabited β] (a : Array β) (p i : Nat) (v : β) (h : p ≠ i) :
    (a.setIfInBounds p v)[i]! = a[i]! := by
  rw [getElem!_def, getElem!_def, Array.getElem?_setIfInBounds_ne h]

theorem mul_add_div_of_lt (a w r : Nat) (hr : r < w) : (a * w + r) / w = a := by
  rw [Nat.mul_comm, Nat.mul_add_div (Nat.zero_lt_of_lt hr), Nat.div_eq_of_lt hr, Nat.add_zero]

theorem flat_lt (i j b0 b1 : Nat) (hi : i < b0) (hj : j < b1) : i * b1 + j < b0 * b1 := by
  have : (i + 1) * b1 ≤ b0 * b1 := Nat.mul_le_mul_right _ hi
  rw [Nat.add_mul, Nat.one_mul] at this
  omega

/-- element `(R, C)` of an outer product laid out row by row -/
theorem flatMap_map_get {β : Type u} {γ : Type v} {δ : Type w} (l2 : List γ) (f : β → γ → δ) :
    ∀ (l1 : List β) (R C : Nat) (hR : R < l1.length) (hC : C < l2.length),
      (l1.flatMap fun r => l2.map (f r))[R * l2.length + C]? = some (f l1[R] l2[C]) := by
  intro l1
  induction l1 with
  | nil => intro R C hR; simp at hR
  | cons x l1 ih =>
    intro R C hR hC
    rw [List.flatMap_cons]
    cases R with
    | zero =>
      rw [List.getElem?_append_left (by simp; omega)]
      simp [hC]
    | succ R =>
      rw [List.getElem?_append_right (by simp [Nat.add_mul]; omega)]
      have e : (R + 1) * l2.length + C - (l2.map (f x)).length = R * l2.length + C := by
        simp [Nat.add_mul]; omega
      rw [e, ih R C (by simpa using hR) hC]
      simp

theorem flatMap_map_length {β : Type u} {γ : Type v} {δ : Type w} (l2 : List γ) (f : β → γ → δ) (l1 : List β) :
    (l1.flatMap fun r => l2.map (f r)).length = l1.length * l2.length := by
  induction l1 with
  | nil => simp
  | cons x l1 ih => rw [List.flatMap_cons, List.length_append, ih]; simp [Nat.add_mul]; omega

theorem half_pred (h : Nat) : (2 * h + 1 - 1) / 2 = h := by omega

theorem half_odd (h : Nat) : (2 * h + 1) / 2 = h := by omega

theorem half_odd_succ (h : Nat) : (2 * h + 1 + 1) / 2 = h + 1 := by omega

theorem span_append {β : Type u} (p : β → Bool) {l r : List β} (hl : ∀ a ∈ l, p a = true)
    (hr : ∀ c, r.head? = some c → p c = false) : ((l ++ r).takeWhile p, (l ++ r).dropWhile p) = (l, r) := by
  rw [List.takeWhile_append_of_pos hl, List.dropWhile_append_of_pos hl]
  cases r with
  | nil => rw [List.takeWhile_nil, List.dropWhile_nil, List.append_nil]
  | cons c t =>
    have hc : ¬ p c = true := by rw [hr c rfl]; exact Bool.false_ne_true
    rw [List.takeWhile_cons_of_neg hc, List.dropWhile_cons_of_neg hc, List.append_nil]

theorem zip_map_get {β : Type u} {γ : Type v} {δ : Type w} (l1 : List β) (l2 : List γ) (hlen : l2.length = l1.length)
    (f : β × γ → δ) (i : Nat) (hi : i < l1.length) :
    ((l1.zip l2).map f)[i]? = some (f (l1[i], l2[i]'(by omega))) := by
  have hz : (l1.zip l2)[i]? = some (l1[i], l2[i]'(by omega)) :=
    List.getElem?_zip_eq_some.2 ⟨List.getElem?_eq_getElem hi, List.getElem?_eq_getElem _⟩
  rw [List.getElem?_map, hz, Option.map_some]

theorem zipWith_beq_all {β : Type u} (f : β → Bool) (l : List Bool) (px : List β)
    (h : l.length = px.length) :
    List.all (List.zipWith (fun a p => a == f p) l px) id = true ↔ l = px.map f := by
  induction l generalizing px with
  | nil => cases px <;> simp_all
  | cons a l ih =>
    cases px with
    | nil => simp at h
    | cons p px =>
      simp only [List.length_cons, Nat.add_right_cancel_iff] at h
      simp [ih px h]

theorem zipIdx_reverse {β : Type u} (l : List β) :
    l.reverse.zipIdx = l.zipIdx.reverse.map fun p => (p.1, l.length - 1 - p.2) := by
  refine List.ext_getElem (by simp) fun t h1 _ => ?_
  have ht : t < l.length := by simpa using h1
  simp only [List.getElem_zipIdx, List.getElem_map, List.getElem_reverse, List.length_zipIdx, Nat.zero_add]
  congr 1; omega

theorem foldl_max_replicate_zero (m : Nat) : (List.replicate m 0).foldl max 0 = 0 := by
  induction m with
  | zero => rfl
  | succ m ih => simpa [List.replicate_succ] using ih

/-- `a[idx] = vals` as the models write it, one `set` per (position, value): lengths stay, and so does every position that is not
written -/
theorem foldl_set_length {β : Type u} (l : List (Nat × β)) (init : List β) :
    (l.foldl (fun a (iv : Nat × β) => a.set iv.1 iv.2) init).length = init.length := by
  induction l generalizing init with
  | nil => rfl
  | cons a l ih => rw [List.foldl_cons, ih, List.length_set]

theorem foldl_set_not_mem {β : Type u} (l : List (Nat × β)) (init : List β) (q : Nat) (hq : q ∉ l.map Prod.fst) :
    (l.foldl (fun a (iv : Nat × β) => a.set iv.1 iv.2) init)[q]? = init[q]? := by
  induction l generalizing init with
  | nil => rfl
  | cons a l ih =>
    rw [List.map_cons, List.mem_cons, not_or] at hq
    rw [List.foldl_cons, ih _ hq.2, List.getElem?_set_ne (Ne.symm hq.1)]

theorem zipWith_mem_imp {β : Type u} {γ : Type v} {δ : Type w} (g : β → γ → δ) (P : δ → Prop) (l1 : List β) (l2 : List γ)
    (h : ∀ a, ∀ b ∈ l2, P (g a b)) : ∀ v ∈ List.zipWith g l1 l2, P v := by
  induction l1 generalizing l2 with
  | nil => simp
  | cons a l1 ih =>
    cases l2 with
    | nil => simp
    | cons b l2 =>
      rw [List.zipWith_cons_cons, List.forall_mem_cons]
      exact ⟨h a b List.mem_cons_self, ih l2 fun a b hb => h a b (List.mem_cons_of_mem _ hb)⟩

theorem length_induction {α : Type u} {β : Type v} {motive : ∀ (l : List α) (l' : List β), l.length = l'.length → Prop}
    (nil : motive [] [] rfl)
    (cons : ∀ a l b l' (h : l.length = l'.length), motive l l' h → motive (a :: l) (b :: l') (congrArg (· + 1) h)) :
    ∀ l l' (h : l.length = l'.length), motive l l' h
  | [], [], _ => nil
  | a :: l, b :: l', h => cons a l b l' (Nat.succ.inj h) (length_induction nil cons l l' (Nat.succ.inj h))
  | [], _ :: _, h => by simp at h
  | _ :: _, [], h => by simp at h

end PydlVerif
