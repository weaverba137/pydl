/-
The end-to-end model of filter_thru (Model/WaveFit.lean): its entries are `bandFlux` on the rows of the fitted image, a constant
fitted pixel size cancels in the band mean, numpy's pairwise sums give the same numbers; the Legendre fit of constant data returns
the constant (through C13's `tsetFit_exact`), and its normal matrix is positive definite for five or more pixels.
-/
import PydlVerif.Model.WaveFit
import PydlVerif.Lemmas.Wave
import PydlVerif.Props.C13
import PydlVerif.Lemmas.Idl

set_option linter.unusedSectionVars false

namespace PydlVerif.C19
open PydlVerif PydlVerif.Wave PydlVerif.WaveFit PydlVerif.Trace

section
variable {K : Type} [Field K] [LinearOrder K] [IsStrictOrderedRing K] [FloorRing K]
attribute [local instance] fieldScalar
attribute [local instance 5] Scalar.instOfNat Scalar.instOfScientific

theorem filterRows_entry (curves : List (List (K × K))) (lds ws : List (List K)) (ms : List (Option (List Bool)))
    (fs rs : List (List K)) (h : filterRows curves lds ws ms fs = .ok rs) (t : ℕ) (row : List K)
    (ht : rs[t]? = some row) :
    ∃ ld w m f, lds[t]? = some ld ∧ ws[t]? = some w ∧ ms[t]? = some m ∧ fs[t]? = some f ∧
      filterThruRow ld curves w m f = .ok row := by
  fun_induction filterRows curves lds ws ms fs generalizing rs t with
  | case1 ld lds w ws m ms f fs ih =>
    obtain ⟨r, hr, h⟩ := bind_ok h
    obtain ⟨rs', hrs, h⟩ := bind_ok h
    cases h
    cases t with
    | zero =>
      simp only [List.getElem?_cons_zero, Option.some.injEq] at ht
      subst ht
      exact ⟨ld, w, m, f, rfl, rfl, rfl, rfl, hr⟩
    | succ t =>
      simp only [List.getElem?_cons_succ] at ht ⊢
      exact ih rs' hrs t ht
  | case2 =>
    cases h
    simp at ht
  | case3 => cases h

theorem filterThruRow_entry (ld : List K) (curves : List (List (K × K))) (w : List K) (m : Option (List Bool))
    (f row : List K) (h : filterThruRow ld curves w m f = .ok row) (b : ℕ) (v : K) (hb : row[b]? = some v) :
    ∃ c, curves[b]? = some c ∧ bandFlux ld c w m f = .ok v := by
  unfold filterThruRow at h
  obtain ⟨hlen, hent⟩ := mapM_ok _ _ _ h
  obtain ⟨hb', rfl⟩ := List.getElem?_eq_some_iff.1 hb
  have hbc : b < curves.length := by omega
  exact ⟨curves[b], List.getElem?_eq_getElem hbc, hent b hbc hb'⟩

theorem filterMean_scale (a : K) (ha : 0 < a) (r f : List K) (hs : 0 < r.sum) :
    filterMean (r.map (a * ·)) f = (List.zipWith (· * ·) f r).sum / r.sum := by
  have e : List.zipWith (· * ·) f (r.map (a * ·)) = (List.zipWith (· * ·) f r).map (a * ·) := by
    simp only [List.zipWith_map_right, List.map_zipWith, mul_left_comm]
  have hs' : 0 < (r.map (a * ·)).sum := by rw [List.sum_map_mul_left]; exact mul_pos ha (by simpa using hs)
  rw [filterMean_pos _ _ hs', e, List.sum_map_mul_left, List.sum_map_mul_left, List.map_id', List.map_id']
  field_simp

theorem weightsOf_const (c x0 f0 : K) (rest : List (K × K)) (w : List K) :
    weightsOf (List.replicate w.length c) x0 f0 rest w = (w.map (npInterp x0 f0 rest)).map (|c| * ·) := by
  unfold weightsOf
  induction w with
  | nil => simp
  | cons x xs ih =>
    simp only [List.length_cons, List.replicate_succ, List.zipWith_cons_cons, List.map_cons, absS_eq] at ih ⊢
    rw [ih]

theorem zipWith_tail_affine (c0 c1 : K) (lw : List K) (h : ∀ i (hi : i < lw.length), lw[i] = c0 + c1 * (i : K)) :
    List.zipWith (fun a b => b - a) lw lw.tail = List.replicate (lw.length - 1) c1 := by
  apply List.ext_getElem
  · simp
  · intro i h1 h2
    simp only [List.getElem_zipWith, List.getElem_tail, List.getElem_replicate]
    rw [h, h]
    push_cast
    ring

theorem filterMeanPw_eq (r f : List K) : filterMeanPw r f = filterMean r f := by
  simp only [filterMeanPw, C14.npSum_eq_sum, filterMean, sumFrom_eq, scalar_ofNat, Nat.cast_zero, zero_add]

theorem filterRowsG_filterMean (curves : List (List (K × K))) (lds ws : List (List K))
    (ms : List (Option (List Bool))) (fs : List (List K)) :
    filterRowsG filterMean curves lds ws ms fs = filterRows curves lds ws ms fs := by
  fun_induction filterRows curves lds ws ms fs with
  | case1 ld lds w ws m ms f fs ih =>
    simp only [filterRowsG, ih]
    rfl
  | case2 => rfl
  | case3 lds ws ms fs h1 h2 =>
    unfold filterRowsG
    split
    · exact (h1 _ _ _ _ _ _ _ _ rfl rfl rfl rfl).elim
    · exact (h2 rfl rfl rfl rfl).elim
    · rfl

theorem filterThruG_filterMeanPw (toair : Bool) (lds : List (List K)) (curves : List (List (K × K)))
    (wave : List (List K)) (masks : Option (List (List Bool))) (flux : List (List K)) :
    filterThruG filterMeanPw toair lds curves wave masks flux = filterThru toair lds curves wave masks flux := by
  have : (filterMeanPw : List K → List K → K) = filterMean :=
    funext fun r => funext fun f => filterMeanPw_eq r f
  rw [this]
  unfold filterThruG filterThru
  simp only [filterRowsG_filterMean]

end

section fit
variable {K : Type} [Field K] [LinearOrder K] [IsStrictOrderedRing K] [FloorRing K]
-- as in Props/C13.lean, whose theorems are applied here: the operation instances of `Scalar` are switched off, so
-- that arithmetic written in a statement is the field's own and the statements match C13's syntactically
attribute [-instance] Scalar.toAdd Scalar.toSub Scalar.toMul Scalar.toDiv Scalar.toNeg Scalar.toLT Scalar.toLE
  Scalar.instOfNat Scalar.instOfScientific Scalar.decLt Scalar.decLe
attribute [local instance] fieldScalar
open Finset

/-- the normalised abscissae the differences are fitted on: pixels `0 .. nx-2` mapped by
`xnorm` with `xmin = 0`, `xmax = nx-1` -/
noncomputable def fitAbscissae (nx : ℕ) : Array K :=
  (tab (nx - 1) fun j => (Scalar.ofNat j : K)).map
    (xnorm1 (Scalar.ofNat 0 : K) (Scalar.ofNat (nx - 1) : K) none)

/-- positive definiteness of the normal matrix of the fit in filter_thru (Legendre rows `0 .. min(nx-1,4)-1`
at the `nx-1` fitted pixels) -/
def FitPD (nx : ℕ) : Prop :=
  ∀ d : ℕ → K, ∑ i ∈ range (nx - 1),
      (∑ j ∈ range (min (nx - 1) 4), legK (at1 (fitAbscissae (K := K) nx) i) j * d j) ^ 2 = 0 →
    ∀ k, k < min (nx - 1) 4 → d k = 0

/-- `3 ≤ nx`: the fit of a trace needs at least two of its `nx - 1` differences (`tsetFit_exact`) -/
theorem fittedImg_const (log10 : K → K) (solve : Array (Array K) → Array K → R (Array K))
    (hsolve : C13.SolveContract solve) (nx : ℕ) (hnx : 3 ≤ nx) (nw : List (List K)) (c1 : ℕ → K)
    (hdy : ∀ t (ht : t < nw.length), logDiffY log10 nw[t] = List.replicate (nx - 1) (c1 t))
    (hpd : FitPD (K := K) nx) (lds : List (List K)) (h : fittedImg log10 solve nx nw = .ok lds) :
    lds.length = nw.length ∧ ∀ t (ht : t < lds.length), lds[t] = List.replicate nx (c1 t) := by
  unfold fittedImg at h
  rw [if_neg (by omega)] at h
  obtain ⟨o, ho, h⟩ := bind_ok h
  obtain ⟨p, hp, h⟩ := bind_ok h
  cases h
  set inp := diffSetIn nx (nw.map (logDiffY log10))
  have hsize : inp.xpos.size = nw.length := by
    show (diffX _ nx).size = _
    rw [diffX, tab_size, List.length_map]
  have hrow : ∀ k, k < nw.length → inp.xpos.getD k #[] = tab (nx - 1) fun j => (Scalar.ofNat j : K) := fun k hk => by
    show (diffX _ nx).getD k #[] = _
    rw [diffX, tab_getD, List.length_map, if_pos hk]
  -- of the fitted set: `xmin`, `xmax` are the ones given (`e1`, `e2`), function, order and jump are copied from the input (`hTf`, `hTn`,
  -- `hTj`), one coefficient row per trace (`hTc`)
  obtain ⟨-, xmin, xmax, hxmin, hxmax, e1, e2, ⟨hTf, hTn, hTj, -, -⟩, hTc, -, -, -⟩ := C13.tsetFit_ok solve _ o ho
  cases hxmin
  cases hxmax
  rw [hsize] at hTc
  have hnc : 1 ≤ o.tset.ncoeff := by rw [hTn]; exact Nat.le_of_ble_eq_true rfl
  -- the fit: trace `i` has coefficients `[c1 i, 0, 0, 0]`, since its data are `c1 i · P₀`
  have hcoef : ∀ i, i < nw.length → at1 (o.tset.coeff.getD i #[]) 0 = c1 i ∧
      ∀ k, 1 ≤ k → at1 (o.tset.coeff.getD i #[]) k = 0 := fun i hi => by
    obtain ⟨xvec, hxv, hex⟩ := C13.tsetFit_exact solve hsolve _ o ho i (by rw [hsize]; exact hi)
    rw [hrow i hi, show inp.xjumplo.isSome = false from rfl, C13.xnorm_nojump, e1, e2] at hxv
    obtain rfl : fitAbscissae nx = xvec := Except.ok.inj hxv
    have hsz : (fitAbscissae (K := K) nx).size = nx - 1 := by simp [fitAbscissae]
    have hrow0 : (inp.xpos.getD 0 #[]).size = nx - 1 := by rw [hrow 0 (by omega), tab_size]
    have hw1 : ∀ j, j < nx - 1 → at1 (tsTempivar inp i) j = 1 := fun j hj =>
      C13.tsTempivar_default _ rfl rfl i j (by rw [hrow0]; exact hj)
    have hgood : (goodIdx (tsTempivar inp i)).length = nx - 1 := by
      rw [C13.goodIdx_of_pos _ fun j hj => ?_, List.length_range, C13.tsTempivar_size, hrow0]
      rw [hw1 j (by rwa [C13.tsTempivar_size, hrow0] at hj)]
      exact one_pos
    rw [hsz] at hex
    -- `tsetFit_exact` asks for: the kernel, the order `m` fitted, kernel of `func`, two good points, `m = min ngood ncoeff`, definiteness,
    -- the coefficients claimed, and that the data are that combination
    obtain ⟨hlo, hhi⟩ := hex legK (min (nx - 1) 4) (by unfold C13.kernelOf; simp [inp, diffSetIn]) (by rw [hgood]; omega)
      (by rw [hgood]; rfl)
      (fun d hd => hpd d ((Finset.sum_congr rfl fun j hj => by rw [hw1 j (Finset.mem_range.mp hj), one_mul]).symm.trans hd))
      (fun k => if k = 0 then c1 i else 0)
      (fun j hj => by
        rw [C13.sum_kernel_const _ (C13.fleg_bonnet _ 0).1 _ (fun k hk => if_neg (by omega)) _ (by omega), if_pos rfl]
        show at1 (((nw.map (logDiffY log10)).map List.toArray).toArray.getD i #[]) j = c1 i
        simp [at1, Array.getD, hi, hdy i hi, hj])
    refine ⟨by rw [hlo 0 (by omega), if_pos rfl], fun k hk => ?_⟩
    by_cases hkm : k < min (nx - 1) 4
    · rw [hlo k hkm, if_neg (by omega)]
    · exact hhi k (by omega)
  -- the evaluation on the default grid `0 .. nx-1`
  obtain ⟨g, hg, hgs, hgrows, -⟩ := C13.default_grid o.tset (nx - 1) (by rw [e1, e2]; simp [Scalar.ofNat])
  rw [hTc] at hgs hgrows
  rw [C13.xy_of_rows o.tset none g false (fun i => tab nx fun _ => c1 i) hg fun i hi => ?_] at hp
  · cases hp
    rw [hgs]
    refine ⟨by simp, fun t ht => ?_⟩
    simp [tab, hTc]
  · rw [hTc] at hi
    rw [show (o.tset.xjumplo.isSome && !false) = false by rw [hTj]; rfl,
      C13.xyRow_eq o.tset flegendre legK (by rw [hTf]; unfold tsetFunc; simp [inp, diffSetIn]) (fun xs m => rfl) hnc
        g false i (by rw [hgs]; exact hi) _ (C13.xnorm_nojump _ _)
        ((C13.tsetFit_coeff_size solve _ o ho i (by rw [hsize]; exact hi)).trans hTn.symm)]
    refine congrArg Except.ok (Eq.trans (by rw [Array.size_map, (hgrows i hi).1, Nat.sub_add_cancel (by omega)])
      (tab_congr _ _ _ fun j _ => ?_))
    rw [C13.sum_kernel_const _ (C13.fleg_bonnet _ 0).1 _ (hcoef i hi).2 _ hnc, (hcoef i hi).1]

theorem fitAbscissae_at (nx i : ℕ) (hi : i < nx - 1) :
    at1 (fitAbscissae (K := K) nx) i = 2 / ((nx - 1 : ℕ) : K) * (i : K) - 1 := by
  have hN : ((nx - 1 : ℕ) : K) ≠ 0 := by exact_mod_cast (by omega : nx - 1 ≠ 0)
  unfold fitAbscissae
  rw [at1_map _ _ _ (by rw [tab_size]; exact hi), at1_tab _ _ _ hi]
  unfold xnorm1
  simp only [scalar_lit, scalar_sci, scalar_ofNat]
  have h5 : (OfScientific.ofScientific 5 true 1 : K) = 1 / 2 := by norm_num
  rw [h5]
  simp only [Nat.cast_zero, zero_add, sub_zero]
  generalize ((nx - 1 : ℕ) : K) = N at hN ⊢
  generalize (i : K) = t
  field_simp
  push_cast
  ring

theorem legK_cubic (d : ℕ → K) (x : K) : ∑ j ∈ range 4, legK x j * d j
    = d 0 + x * d 1 + (3 * x ^ 2 - 1) / 2 * d 2 + (5 * x ^ 3 - 3 * x) / 2 * d 3 := by
  simp only [Finset.sum_range_succ, Finset.sum_range_zero, legK, scalar_ofNat, scalar_one, zero_add]
  push_cast
  ring

/-- a cubic in the Legendre basis that vanishes at four equally spaced points `a·i - 1` is zero: third, second
and first finite differences -/
theorem legendre_cubic_zero {a d0 d1 d2 d3 : K} (ha : a ≠ 0)
    (h : ∀ i : ℕ, i < 4 → d0 + (a * i - 1) * d1 + (3 * (a * i - 1) ^ 2 - 1) / 2 * d2
      + (5 * (a * i - 1) ^ 3 - 3 * (a * i - 1)) / 2 * d3 = 0) :
    d0 = 0 ∧ d1 = 0 ∧ d2 = 0 ∧ d3 = 0 := by
  have h0 := h 0 (by norm_num)
  have h1 := h 1 (by norm_num)
  have h2 := h 2 (by norm_num)
  have h3 := h 3 (by norm_num)
  push_cast at h0 h1 h2 h3
  obtain rfl : d3 = 0 :=
    (mul_eq_zero.1 (by linear_combination h3 - 3 * h2 + 3 * h1 - h0 : 15 * a ^ 3 * d3 = 0)).resolve_left
      (mul_ne_zero (by norm_num) (pow_ne_zero 3 ha))
  obtain rfl : d2 = 0 :=
    (mul_eq_zero.1 (by linear_combination h2 - 2 * h1 + h0 : 3 * a ^ 2 * d2 = 0)).resolve_left
      (mul_ne_zero (by norm_num) (pow_ne_zero 2 ha))
  obtain rfl : d1 = 0 := (mul_eq_zero.1 (by linear_combination h1 - h0 : a * d1 = 0)).resolve_left ha
  exact ⟨by linear_combination h0, rfl, rfl, rfl⟩

/-- a cubic in the Legendre basis that vanishes at the first four fitted pixels (distinct, equally spaced) is zero -/
theorem fitPD (nx : ℕ) (hnx : 5 ≤ nx) : FitPD (K := K) nx := by
  intro d hsum k hk
  have hm : min (nx - 1) 4 = 4 := by omega
  rw [hm] at hsum hk
  have hz := (Finset.sum_eq_zero_iff_of_nonneg (fun i _ => sq_nonneg _)).mp hsum
  have hN : ((nx - 1 : ℕ) : K) ≠ 0 := by exact_mod_cast (by omega : nx - 1 ≠ 0)
  obtain ⟨e0, e1, e2, e3⟩ := legendre_cubic_zero (div_ne_zero two_ne_zero hN) fun i hi => by
    have := pow_eq_zero_iff two_ne_zero |>.mp (hz i (Finset.mem_range.mpr (by omega)))
    rwa [fitAbscissae_at nx i (by omega), legK_cubic] at this
  obtain rfl | rfl | rfl | rfl : k = 0 ∨ k = 1 ∨ k = 2 ∨ k = 3 := by omega
  exacts [e0, e1, e2, e3]
end fit

end PydlVerif.C19
