/-
C02, file level: a struct or enum definition in any layout: as a chunk of the file (the block is cut out as a whole) and
as the source of the column types (`typing_layW`, incl. `char name[]`); the record arrays (`finishTables_written`, which
the written file of C01 uses too).
-/
import PydlVerif.Lemmas.YannyLayMem
namespace PydlVerif.YannyLay
open PydlVerif.Yanny PydlVerif.YannyRT PydlVerif.YannyLayBlock PydlVerif.YannyLayLine PydlVerif.YannyLayScan

variable {F : Type}

/-- a line that holds a struct definition: the struct expression cuts the block out, what is left is skipped by the
loop -/
def sdefInfo (enums : List EnumDecl) (t : TableD F) (l : StructLay) : ChunkInfo F :=
  ⟨l.lead ++ structBlk enums t l ++ (l.trail ++ commentText l.comment),
   l.lead ++ (l.trail ++ commentText l.comment), l.lead ++ (l.trail ++ commentText l.comment),
   l.crlf, [structTD enums t l], [], id⟩

/-- a line that holds an enum definition, `txt` the line as rendered: the struct expression leaves the whole line, so
`mid` is `txt`; it is an argument because `renderEnum` is partial (it fails when labels and blanks differ in number),
hence the `getD []` in `Item.info` -/
def edefInfo (e : EnumDecl) (l : EnumLay) (txt : Str) : ChunkInfo F :=
  ⟨txt, txt, l.lead ++ (l.trail ++ commentText l.comment), l.crlf, [], [enumTD e l], id⟩

theorem cuts_chunk (lead blk trail out : Str) (cm : Option Str) (kw : Str) (ds : List TDef)
    (hlead : ∀ c ∈ lead, isBlank c = true) (htrail : ∀ c ∈ trail, isBlank c = true) (hcom : commentOK cm = true)
    (h : Cuts kw blk ds out) :
    CutsB kw (lead ++ blk ++ (trail ++ commentText cm)) ds (lead ++ out ++ (trail ++ commentText cm)) := by
  have := cuts_appendB (Cuts.of_noMatch fun B => noMatchIn_nt kw lead B (lead_no_t lead hlead))
    (cuts_appendB h (cutsB_plain kw _ (noTypedef_comment _ _ hcom (noTypedef_no_t _ (lead_no_t _ htrail)))))
  simpa only [List.nil_append, List.append_nil, List.append_assoc] using this

theorem resid_line (io : FloatIO F) (specs) (lead trail : Str) (cm : Option Str)
    (hlead : ∀ c ∈ lead, isBlank c = true) (htrail : ∀ c ∈ trail, isBlank c = true) (hcom : commentOK cm = true) :
    '\n' ∉ lead ++ (trail ++ commentText cm) ∧ ∀ cr, (cr = [] ∨ cr = ['\r']) → ∀ st : LoopSt F,
      lineStep io specs st (lead ++ (trail ++ commentText cm) ++ cr) = .ok st := by
  refine ⟨fun hm => ?_, fun cr hcr st => lineStep_skip io specs st _
    (by simpa only [List.append_assoc] using skipLine_resid lead trail cm cr hlead htrail hcr)⟩
  simp only [List.mem_append] at hm
  rcases hm with hm | hm | hm
  · exact blank_nonl _ hlead hm
  · exact blank_nonl _ htrail hm
  · exact nl_comment _ hcom hm

theorem infoOK_sdef (io : FloatIO F) (specs) (enums : List EnumDecl) (he : ∀ e ∈ enums, enumOK e = true)
    (t : TableD F) (l : StructLay) (ht : tableOK2 enums t = true) (hl : structLayOK enums t l = true) :
    InfoOK io specs (sdefInfo enums t l) := by
  obtain ⟨_, hne, hc, _, _⟩ := tableOK2_props enums t ht
  have hp := structLayOK_props enums t l hl
  have hms := memsOf_ok enums he t.cols l.cols hc hp.cols
  have hmne : memsOf enums t.cols l.cols ≠ [] := by
    intro e
    have := congrArg (List.map (·.N)) e
    rw [memsOf_names enums _ _ hp.cols] at this
    exact hne (List.map_eq_nil_iff.mp this)
  have hbody := body_plain _ l.closePre hms hp.cp
  obtain ⟨f, o⟩ := cuts_blockL kS kE l.g1 l.g2 (structBodyL enums t l) l.g3 l.name l.g4 isKw_S isKw_E kS_ne_kE
    ⟨hp.g1ne, ws_space _ hp.g1⟩ (ws_space _ hp.g2) (ws_space _ hp.g3) (ws_space _ hp.g4)
    ⟨body_ne_nil _ l.closePre hmne, fun hm => (hbody _ hm).2.2 rfl, fun hm => (hbody _ hm).2.1 rfl⟩
    (wordOK_wordy _ hp.name)
  -- the struct expression cuts the block out, the enum expression passes over the chunk and over what is left of it
  have ch := fun kw ds out h => cuts_chunk l.lead (structBlk enums t l) l.trail out l.comment kw ds hp.lead hp.trail hp.com h
  have cS := ch kS _ _ f
  have c0 := cuts_chunk l.lead [] l.trail [] l.comment kE [] hp.lead hp.trail hp.com (Cuts.nil kE)
  rw [List.append_nil] at cS c0
  obtain ⟨hnl, hstep⟩ := resid_line io specs l.lead l.trail l.comment hp.lead hp.trail hp.com
  exact infoOK_of_cuts io specs _ _ [] cS (ch kE _ _ o) c0 hnl hstep

theorem infoOK_edef (io : FloatIO F) (specs) (e : EnumDecl) (l : EnumLay) (he : enumOK e = true)
    (hl : enumLayOK e l = true) (txt : Str) (hr : renderEnum e l = some txt) :
    InfoOK io specs (edefInfo e l txt) := by
  have hp := enumLayOK_props e l hl
  obtain ⟨hw, _, hlab⟩ := enumOK_props e he
  obtain ⟨lbl, hlb, hbody, htxt⟩ := renderEnum_shape e l txt hr
  rw [htxt]
  have hchars := fun c hc => (enumBodyL_plain e l hlab hp lbl hlb c (hbody ▸ hc)).2
  have bne : enumBodyL e l ≠ [] := by
    rw [hbody]
    intro e'
    exact (renderLabels_ends e.labels l.afterComma lbl (fun a ha => wordOK_wordy _ (hlab a ha)) hlb).1
      (List.append_eq_nil_iff.mp (List.append_eq_nil_iff.mp e').1).2
  obtain ⟨f, o⟩ := cuts_blockL kE kS l.g1 l.g2 (enumBodyL e l) l.g3 (upper e.tyName) l.g4 isKw_E isKw_S
    (fun e => kS_ne_kE e.symm) ⟨hp.g1ne, ws_space _ hp.g1⟩ (ws_space _ hp.g2) (ws_space _ hp.g3) (ws_space _ hp.g4)
    ⟨bne, fun hm => (hchars _ hm).2 rfl, fun hm => (hchars _ hm).1 rfl⟩ (wordy_upper _ (wordOK_wordy _ hw))
  -- the struct expression passes over the chunk, the enum expression cuts the block out
  have ch := fun kw ds out h => cuts_chunk l.lead (enumBlk e l) l.trail out l.comment kw ds hp.lead hp.trail hp.com h
  have cE := ch kE _ _ f
  rw [List.append_nil] at cE
  obtain ⟨hnl, hstep⟩ := resid_line io specs l.lead l.trail l.comment hp.lead hp.trail hp.com
  exact infoOK_of_cuts io specs _ _ _ (ch kS _ _ o) cE cE hnl hstep

theorem structBlk_structL (enums : List EnumDecl) (t : TableD F) (l : StructLay) :
    structBlk enums t l = structL l.g1 l.g2 (structBodyL enums t l) l.g3 l.name l.g4 := rfl

theorem normB_append (a b : Str) : normB (a ++ b) = normB a ++ normB b := by simp [normB]

theorem normB_digits (n : Nat) : normB (fmtNat n) = fmtNat n := by
  unfold normB
  conv => rhs; rw [← List.map_id (fmtNat n)]
  apply List.map_congr_left
  intro c hc
  have := digit_facts c (fmtNat_chars n c hc)
  simp [this.2.1, this.2.2]

theorem normB_brk_some (legacy : Bool) (n : Nat) : normB (brk legacy (some n)) = brack n := by
  cases legacy
  · simp only [brk, Bool.false_eq_true, if_false]
    exact normB_arrOK _ (brack_arrOK n)
  · simp only [brk, if_true, brack]
    show normB ('<' :: (fmtNat n ++ ['>'])) = _
    rw [show '<' :: (fmtNat n ++ ['>']) = ['<'] ++ (fmtNat n ++ ['>']) from rfl, normB_append, normB_append,
      normB_digits]
    rfl

theorem normB_brk_none (legacy : Bool) : normB (brk legacy none) = ['[', ']'] := by
  cases legacy <;> rfl

/-- the type text `yanny.type()` returns for a column written with `char name[]` -/
def typUnsized (c : Col) : Str := "char".toList ++ arrA c ++ ['[', ']']

theorem brk_ne_nil (legacy : Bool) (n : Option Nat) : brk legacy n ≠ [] := by simp [brk]

theorem arr_of_noBr (enums : List EnumDecl) (c : Col) (l : ColLay) (h : hasBr enums c = false) :
    (memOf enums c l).arr = [] := by
  simp only [hasBr, Bool.or_eq_false_iff, decide_eq_false_iff_not, Bool.and_eq_false_iff] at h
  obtain ⟨h1, h2⟩ := h
  simp only [memOf, arrLay, sizeLay, h1, if_false, List.nil_append]
  cases hs : strSize c.ty with
  | none => rfl
  | some n =>
    cases hf : enums.find? (fun e => e.col == c.name) with
    | some e => rfl
    | none => simp [hs, hf] at h2

theorem restNoBr_memsOf (enums : List EnumDecl) (cols : List Col) (lays : List ColLay)
    (h : lineRestOK enums cols lays = true) : restNoBr (memsOf enums cols lays) := by
  induction cols generalizing lays with
  | nil => cases lays <;> trivial
  | cons c cs ih =>
    cases lays with
    | nil => trivial
    | cons l ls =>
      simp only [lineRestOK, Bool.or_eq_true, Bool.and_eq_true, Bool.not_eq_true'] at h
      rcases h with h | h
      · exact Or.inl (by simpa [memOf] using h)
      · exact Or.inr ⟨arr_of_noBr enums c l h.1, ih ls h.2⟩

theorem LineOK_memsOf (enums : List EnumDecl) (cols : List Col) (lays : List ColLay)
    (h : declLineOK enums cols lays = true) : LineOK (memsOf enums cols lays) := by
  induction cols generalizing lays with
  | nil => cases lays <;> trivial
  | cons c cs ih =>
    cases lays with
    | nil => trivial
    | cons l ls =>
      simp only [declLineOK, Bool.and_eq_true, Bool.or_eq_true, Bool.not_eq_true'] at h
      refine ⟨?_, ih ls h.2⟩
      rcases h.1 with h1 | h1
      · exact Or.inl (arr_of_noBr enums c l h1)
      · exact Or.inr (restNoBr_memsOf enums cs ls h1)

theorem declLineOK_of_nl (enums : List EnumDecl) (cols : List Col) (lays : List ColLay)
    (h : declNlOK lays = true) : declLineOK enums cols lays = true := by
  induction cols generalizing lays with
  | nil => cases lays <;> rfl
  | cons c cs ih =>
    cases lays with
    | nil => rfl
    | cons l ls =>
      -- the next declaration starts a new line, and so does every one after it
      have hrest : lineRestOK enums cs ls = true ∧ declNlOK ls = true := by
        cases ls with
        | nil => exact ⟨by cases cs <;> rfl, rfl⟩
        | cons l' ls' =>
          have h' : (l'.pre.contains '\n' && ls'.all (fun l => l.pre.contains '\n')) = true := h
          rw [Bool.and_eq_true] at h'
          refine ⟨?_, h'.2⟩
          cases cs with
          | nil => rfl
          | cons _ _ => simp only [lineRestOK, h'.1, Bool.true_or]
      simp only [declLineOK, hrest.1, Bool.or_true, ih ls hrest.2, Bool.and_self]

theorem typeOf_layW (enums : List EnumDecl) (he : ∀ e ∈ enums, enumOK e = true) (t : TableD F) (l : StructLay)
    (ht : tableOK2 enums t = true) (hl : structLayOK enums t l = true)
    (hline : declLineOK enums t.cols l.cols = true)
    (sts : List Str) (hsel : selectDef sts (upper t.name) = some (structBlk enums t l))
    (k : Nat) (c : Col) (cl : ColLay) (hc : t.cols[k]? = some c) (hcl : l.cols[k]? = some cl) :
    typeOf sts (upper t.name) c.name =
      .ok (tyWord enums c ++ normB (arrLay c cl ++ sizeLay enums c cl)) := by
  obtain ⟨_, _, hcols, hnd, _⟩ := tableOK2_props enums t ht
  have hp := structLayOK_props enums t l hl
  have hms := memsOf_ok enums he t.cols l.cols hcols hp.cols
  have hmem := memsOf_mem enums t.cols l.cols k c cl hc hcl
  have hts := typeSearch_layW (memsOf enums t.cols l.cols) l.closePre l.g1 l.g2 l.g3 l.name l.g4 hms
    (by rw [memsOf_names enums _ _ hp.cols]; exact nodup_Nodup _ hnd)
    (LineOK_memsOf enums t.cols l.cols hline)
    hp.cp hp.g1 hp.g2 hp.g3 hp.g4 (wordOK_wordy _ hp.name) (memOf enums c cl) hmem
  have hts' : typeSearch c.name (structBlk enums t l) =
      some (tyWord enums c, arrLay c cl ++ sizeLay enums c cl) := by
    rw [structBlk_structL]
    exact hts
  simp only [typeOf, hsel, hts']

theorem typeOf_lay (enums : List EnumDecl) (he : ∀ e ∈ enums, enumOK e = true) (t : TableD F) (l : StructLay)
    (ht : tableOK2 enums t = true) (hl : structLayOK enums t l = true) (hnl : declNlOK l.cols = true)
    (sts : List Str) (hsel : selectDef sts (upper t.name) = some (structBlk enums t l))
    (k : Nat) (c : Col) (cl : ColLay) (hc : t.cols[k]? = some c) (hcl : l.cols[k]? = some cl) :
    typeOf sts (upper t.name) c.name =
      .ok (tyWord enums c ++ normB (arrLay c cl ++ sizeLay enums c cl)) :=
  typeOf_layW enums he t l ht hl (declLineOK_of_nl enums t.cols l.cols hnl) sts hsel k c cl hc hcl

theorem arrLay_normB (c : Col) (cl : ColLay) : normB (arrLay c cl) = arrA c := by
  unfold arrLay arrA
  split
  · exact normB_brk_some _ _
  · rfl

theorem typ_sized (enums : List EnumDecl) (c : Col) (cl : ColLay) (hu : cl.unsized = false) :
    tyWord enums c ++ normB (arrLay c cl ++ sizeLay enums c cl) = typOf enums c := by
  rw [typOf_eq, normB_append, arrLay_normB]
  congr 1
  unfold arrSuffix arrA sizeLay
  congr 1
  cases strSize c.ty with
  | none => rfl
  | some s =>
    cases enums.find? (fun e => e.col == c.name) with
    | some e => rfl
    | none => simp only [hu, Bool.false_eq_true, if_false]; exact normB_brk_some _ _

theorem typ_unsized (enums : List EnumDecl) (c : Col) (cl : ColLay) (n : Nat) (hu : cl.unsized = true)
    (hty : c.ty = .S n) (hf : enums.find? (fun e => e.col == c.name) = none) :
    tyWord enums c ++ normB (arrLay c cl ++ sizeLay enums c cl) = typUnsized c := by
  rw [normB_append, arrLay_normB]
  have h1 : tyWord enums c = "char".toList := by simp only [tyWord, hty, strSize, hf]
  have h2 : sizeLay enums c cl = brk cl.legacy2 none := by simp only [sizeLay, hty, strSize, hf, hu, if_true]
  rw [h1, h2, normB_brk_none, typUnsized, List.append_assoc]

theorem colSpec_of_typ (structs : List Str) (T : Str) (enums : List EnumDecl) (c : Col)
    (hty : typeOf structs T c.name = .ok (typOf enums c))
    (hc : colOK c = true) (he : ∀ e ∈ enums, enumOK e = true) :
    colSpec structs T c.name = .ok (specOfCol c) := by
  rw [colSpec, hty]
  show Except.ok (ColSpec.mk (convOfBase (baseType (typOf enums c))) (isArrayT (typOf enums c))) = _
  rw [baseType_typ enums c hc he, convOfBase_tyWord enums c hc, isArrayT_typ enums c hc he]
  rfl

/-- the `rt` of `rcolOf`: the element type `dtype()` gives a column whose type text is `typ` -/
def elemRT (cache : List (Str × List Str)) (typ : Str) (data : List (Cell F)) : Except String RT :=
  if baseType typ == "char".toList then
    match charLength typ data with
    | .error e => .error e
    | .ok n => .ok (.S n)
  else
    match lookupLast (baseType typ) cache with
    | some labels => .ok (.S (maxLen labels))
    | none =>
      match rtOfBase (baseType typ) with
      | some t => .ok t
      | none => .error "KeyError"

theorem rcolOf_eq (structs : List Str) (cache : List (Str × List Str)) (T var : Str) (data : List (Cell F)) :
    rcolOf structs cache T var data =
      match typeOf structs T var with
      | .error e => .error e
      | .ok typ =>
        match elemRT cache typ data with
        | .error e => .error e
        | .ok t =>
          if isArrayT typ then
            match arrayLength typ with
            | .error e => .error e
            | .ok n => .ok ⟨var, t, some n⟩
          else .ok ⟨var, t, none⟩ := rfl

/-- the last step of `rcolOf`: the array length is asked for only when the type is an array type -/
theorem rcol_alen (typ var : Str) (t : RT) (n : Nat) (harr : isArrayT typ = decide (n > 0))
    (hlen : n > 0 → arrayLength typ = .ok n) :
    (if isArrayT typ then
        match arrayLength typ with
        | .error e => .error e
        | .ok m => .ok ⟨var, t, some m⟩
      else .ok ⟨var, t, none⟩ : Except String RCol) = .ok ⟨var, t, if n > 0 then some n else none⟩ := by
  rw [harr]
  by_cases h : n > 0
  · simp only [h, decide_true, if_true, hlen h]
  · simp only [h, decide_false, Bool.false_eq_true, if_false]

theorem rcolOf_ok (structs : List Str) (cache : List (Str × List Str)) (T var typ : Str) (data : List (Cell F))
    (t : RT) (a : Nat) (hty : typeOf structs T var = .ok typ) (hrt : elemRT cache typ data = .ok t)
    (harr : isArrayT typ = decide (a > 0)) (hlen : a > 0 → arrayLength typ = .ok a) :
    rcolOf structs cache T var data = .ok ⟨var, t, if a > 0 then some a else none⟩ := by
  simp only [rcolOf_eq, hty, hrt]
  exact rcol_alen typ var t a harr hlen

theorem elemRT_char (cache : List (Str × List Str)) (typ : Str) (data : List (Cell F)) (n : Nat)
    (hb : baseType typ = "char".toList) (hn : charLength typ data = .ok n) :
    elemRT cache typ data = .ok (.S n) := by
  simp only [elemRT, hb, hn, beq_self_eq_true, if_true]

theorem rcolOf_of_typ (structs : List Str) (cache : List (Str × List Str)) (T : Str)
    (enums : List EnumDecl) (c : Col) (data : List (Cell F))
    (hty : typeOf structs T c.name = .ok (typOf enums c))
    (hc : colOK c = true) (he : ∀ e ∈ enums, enumOK e = true)
    (hcache : ∀ e, enums.find? (fun e => e.col == c.name) = some e →
      lookupLast (upper e.tyName) cache = some e.labels)
    (hnum : ∀ w ∈ numWords, lookupLast w cache = none) :
    rcolOf structs cache T c.name data = .ok (rcolCanon enums c) := by
  have hb := baseType_typ enums c hc he
  -- the element type, by the three kinds of column: a number word, an enum type, `char`
  have hrt : elemRT cache (typOf enums c) data = .ok ((rtOfCol enums c).getD .i2) := by
    rcases col_kinds enums c (colOK_supported c hc) with ⟨w, hw, t, _, _, htw, _, _, hrb, hrt⟩ |
      ⟨s, hss, _, ⟨e, hf, htw, _, hrt⟩ | ⟨hf, htw, _, hrt⟩⟩
    · have hne : (w == "char".toList) = false :=
        beq_false_of_ne (fun e => (numWords_facts w hw).2.1 (e ▸ by decide))
      simp only [elemRT, hb.trans htw, hne, hnum w hw, hrb, hrt, Bool.false_eq_true, if_false, Option.getD_some]
    · have hne : (upper e.tyName == "char".toList) = false :=
        beq_false_of_ne (upper_ne _ _ (by decide))
      simp only [elemRT, hb.trans htw, hne, hcache e hf, hrt, Bool.false_eq_true, if_false, Option.getD_some]
    · rw [hrt]
      exact elemRT_char cache _ data s (hb.trans htw) (charLength_typ enums c s hss hf data)
  exact rcolOf_ok structs cache T c.name _ data _ c.alen hty hrt (isArrayT_typ enums c hc he) (arrayLength_typ enums c hc he)

theorem typUnsized_shape (c : Col) : ∃ rest, typUnsized c = "char".toList ++ '[' :: rest := by
  unfold typUnsized arrA
  split
  · exact ⟨fmtNat c.alen ++ [']'] ++ ['[', ']'], by simp [brack]⟩
  · exact ⟨[']'], by simp⟩

theorem baseType_unsized (c : Col) : baseType (typUnsized c) = "char".toList := by
  obtain ⟨rest, h⟩ := typUnsized_shape c
  rw [h, baseType]
  exact takeWhile_app_stop _ _ '[' rest (by decide) (by decide)

theorem isArrayT_unsized (c : Col) : isArrayT (typUnsized c) = decide (c.alen > 0) := by
  by_cases h : c.alen > 0
  · have e : typUnsized c = "char".toList ++ '[' :: (fmtNat c.alen ++ ']' :: '[' :: (']' :: [])) := by
      simp [typUnsized, arrA, h, brack]
    have hm : matchCharArr (typUnsized c) = true := by
      rw [e, matchCharArr, stripPrefix_append]
      simp only [digitsThenClose_fmt]
      rfl
    rw [isArrayT, searchCharArr_of_match _ hm]
    simp [h]
  · have e : typUnsized c = "char".toList ++ ['[', ']'] := by simp [typUnsized, arrA, h]
    rw [e]
    simp only [h, decide_false]
    decide

theorem arrayLength_unsized (c : Col) (h : c.alen > 0) : arrayLength (typUnsized c) = .ok c.alen := by
  have e : typUnsized c = "char".toList ++ '[' :: (fmtNat c.alen ++ ']' :: ['[', ']']) := by
    simp [typUnsized, arrA, h, brack]
  rw [e]
  exact arrayLength_brack _ _ _ (by decide)

theorem charLength_unsized (c : Col) (data : List (Cell F)) :
    charLength (typUnsized c) data =
      if data.isEmpty then .ok 1 else .ok ((data.map cellMaxLen).foldl max 0) := by
  have hr : (typUnsized c).reverse = ']' :: '[' :: ("char".toList ++ arrA c).reverse := by
    simp [typUnsized]
  rw [charLength, lastBracket, hr, dropWhile_head_false _ _ _ (by decide)]
  rfl

theorem colSpec_unsized (structs : List Str) (T : Str) (c : Col) (n : Nat)
    (hty : typeOf structs T c.name = .ok (typUnsized c)) (hs : c.ty = .S n) :
    colSpec structs T c.name = .ok (specOfCol c) := by
  rw [colSpec, hty]
  show Except.ok (ColSpec.mk (convOfBase (baseType (typUnsized c))) (isArrayT (typUnsized c))) = _
  rw [baseType_unsized, isArrayT_unsized, show convOfBase "char".toList = Conv.str by decide +kernel]
  simp only [specOfCol, convOfCol, hs]

theorem rcolOf_unsized (structs : List Str) (cache : List (Str × List Str)) (T : Str)
    (enums : List EnumDecl) (c : Col) (n : Nat) (data : List (Cell F))
    (hty : typeOf structs T c.name = .ok (typUnsized c)) (hs : c.ty = .S n) (hn : n ≥ 1)
    (hf : enums.find? (fun e => e.col == c.name) = none)
    (hmax : (data.map cellMaxLen).foldl max 0 = n) :
    rcolOf structs cache T c.name data = .ok (rcolCanon enums c) := by
  have hne : data.isEmpty = false := by
    cases data with
    | nil => simp at hmax; omega
    | cons a t => rfl
  have hrt : rtOfCol enums c = some (.S n) := by simp only [rtOfCol, hs, hf]
  have hlen : charLength (typUnsized c) data = .ok n := by
    simp only [charLength_unsized, hne, Bool.false_eq_true, if_false, hmax]
  rw [rcolCanon, hrt]
  exact rcolOf_ok structs cache T c.name _ data _ c.alen hty (elemRT_char cache _ data n (baseType_unsized c) hlen)
    (isArrayT_unsized c) (arrayLength_unsized c)

theorem colsLayOK_get (cols : List Col) (lays : List ColLay) (h : colsLayOK cols lays = true) (k : Nat) (c : Col)
    (hc : cols[k]? = some c) : ∃ cl, lays[k]? = some cl := by
  revert k
  revert cols lays
  refine colsLayOK_induction ?_ ?_
  · intro k hc; simp at hc
  · intro c0 cs l0 ls _ _ ih k hc
    cases k with
    | zero => exact ⟨l0, rfl⟩
    | succ k => exact ih k (by simpa using hc)

theorem unsizedOK_at (enums : List EnumDecl) (t : TableD F) (j : Nat) (cols : List Col) (lays : List ColLay)
    (h : unsizedOK enums t j cols lays = true) (k : Nat) (c : Col) (cl : ColLay)
    (hc : cols[k]? = some c) (hcl : lays[k]? = some cl) (hu : cl.unsized = true) :
    ∃ n, c.ty = .S n ∧ colMaxLen t.rows (j + k) = n ∧ enums.find? (fun e => e.col == c.name) = none := by
  induction cols generalizing lays k j with
  | nil => simp at hc
  | cons c0 cs ih =>
    cases lays with
    | nil => simp at hcl
    | cons l0 ls =>
      simp only [unsizedOK, Bool.and_eq_true, Bool.or_eq_true, Bool.not_eq_true'] at h
      cases k with
      | zero =>
        simp only [List.getElem?_cons_zero, Option.some.injEq] at hc hcl
        subst hc; subst hcl
        rcases h.1 with h1 | h1
        · rw [hu] at h1; cases h1
        · split at h1
          · rename_i n hty
            simp only [Bool.and_eq_true, beq_iff_eq, Option.isNone_iff_eq_none] at h1
            exact ⟨n, hty, h1.1.2, h1.2⟩
          · cases h1
      | succ k =>
        simp only [List.getElem?_cons_succ] at hc hcl
        obtain ⟨n, a1, a2, a3⟩ := ih (j + 1) ls h.2 k hc hcl
        exact ⟨n, a1, by rw [← a2]; congr 1; omega, a3⟩

theorem typing_layW (enums : List EnumDecl) (he : ∀ e ∈ enums, enumOK e = true) (t : TableD F) (l : StructLay)
    (ht : tableOK2 enums t = true) (hl : structLayOK enums t l = true) (hline : declLineOK enums t.cols l.cols = true)
    (sts : List Str) (hsel : selectDef sts (upper t.name) = some (structBlk enums t l))
    (cache : List (Str × List Str))
    (hcache : ∀ e ∈ enums, lookupLast (upper e.tyName) cache = some e.labels)
    (hnum : ∀ w ∈ numWords, lookupLast w cache = none) :
    colSpecs sts (upper t.name) (t.cols.map (·.name)) = .ok (t.cols.map specOfCol) ∧
    ∀ (k : Nat) (c : Col), t.cols[k]? = some c →
      rcolOf sts cache (upper t.name) c.name (t.rows.filterMap (fun r => r[k]?)) = .ok (rcolCanon enums c) := by
  obtain ⟨_, _, hcols, _, _⟩ := tableOK2_props enums t ht
  have hp := structLayOK_props enums t l hl
  have key : ∀ (k : Nat) (c : Col), t.cols[k]? = some c →
      colSpec sts (upper t.name) c.name = .ok (specOfCol c) ∧
      rcolOf sts cache (upper t.name) c.name (t.rows.filterMap (fun r => r[k]?)) = .ok (rcolCanon enums c) := by
    intro k c hc
    obtain ⟨cl, hcl⟩ := colsLayOK_get _ _ hp.cols k c hc
    have hcm : c ∈ t.cols := List.mem_of_getElem? hc
    have hco := hcols c hcm
    have hty := typeOf_layW enums he t l ht hl hline sts hsel k c cl hc hcl
    cases hu : cl.unsized with
    | false =>
      rw [typ_sized enums c cl hu] at hty
      exact ⟨colSpec_of_typ sts _ enums c hty hco he,
        rcolOf_of_typ sts cache _ enums c _ hty hco he
          (fun e hf => hcache e (List.mem_of_find?_eq_some hf)) hnum⟩
    | true =>
      obtain ⟨n, a1, a2, a3⟩ := unsizedOK_at enums t 0 t.cols l.cols hp.uns k c cl hc hcl hu
      rw [typ_unsized enums c cl n hu a1 a3] at hty
      have hn : n ≥ 1 := by
        have := colOK_supported c hco
        rw [a1] at this
        simpa [supported] using this
      refine ⟨colSpec_unsized sts _ c n hty a1, rcolOf_unsized sts cache _ enums c n _ hty a1 hn a3 ?_⟩
      have : colMaxLen t.rows k = n := by simpa using a2
      exact this
  refine ⟨?_, fun k c hc => (key k c hc).2⟩
  apply colSpecs_of_each
  intro c hc
  obtain ⟨k, hk⟩ := List.getElem?_of_mem hc
  exact (key k c hk).1

theorem rcolsOf_canon (st : List Str) (cache : List (Str × List Str)) (T : Str) (enums : List EnumDecl)
    (rows : List (List (Cell F))) (cols : List Col) (j : Nat)
    (h : ∀ (k : Nat) (c : Col), cols[k]? = some c →
      rcolOf st cache T c.name (rows.filterMap (fun r => r[j + k]?)) = .ok (rcolCanon enums c)) :
    rcolsOf st cache T rows j (cols.map (·.name)) = .ok (cols.map (rcolCanon enums)) := by
  induction cols generalizing j with
  | nil => rfl
  | cons c cs ih =>
    have h0 := h 0 c rfl
    simp only [Nat.add_zero] at h0
    have ih' := ih (j + 1) (by
      intro k c' hc'
      have := h (k + 1) c' (by simpa using hc')
      have e : j + (k + 1) = j + 1 + k := by omega
      rw [e] at this
      exact this)
    simp only [List.map, rcolsOf, h0, ih']

theorem finishTable_written (st : List Str) (cache : List (Str × List Str)) (T : Str)
    (enums : List EnumDecl) (cols : List Col) (rows : List (List (Cell F))) (hc : cols ≠ [])
    (hcol : ∀ (k : Nat) (c : Col), cols[k]? = some c →
      rcolOf st cache T c.name (rows.filterMap (fun r => r[k]?)) = .ok (rcolCanon enums c))
    (hrows : ∀ r ∈ rows, cellsOK enums cols r = true) :
    finishTable st cache T (cols.map (·.name)) rows = .ok ⟨T, cols.map (rcolCanon enums), rows⟩ := by
  have hf : rows.filter (fun r => !r.isEmpty) = rows := by
    apply List.filter_eq_self.mpr
    intro r hr
    have := cellsOK_ne_nil enums cols r hc (hrows r hr)
    cases r with
    | nil => exact absurd rfl this
    | cons a t => rfl
  have := rcolsOf_canon st cache T enums rows cols 0 (by simpa using hcol)
  simp only [finishTable, hf, this, castRows_id enums cols rows hrows]

theorem finishTables_written (st : List Str) (cache : List (Str × List Str)) (enums : List EnumDecl)
    (all : List (TableD F)) (hnd : nodup (all.map (fun t => upper t.name)) = true)
    (ts : List (TableD F)) (hsub : ∀ t ∈ ts, t ∈ all)
    (hok : ∀ t ∈ ts, t.cols ≠ [] ∧
      (∀ (k : Nat) (c : Col), t.cols[k]? = some c →
        rcolOf st cache (upper t.name) c.name (t.rows.filterMap (fun r => r[k]?)) = .ok (rcolCanon enums c)) ∧
      ∀ r ∈ t.rows, cellsOK enums t.cols r = true) :
    finishTables st cache (all.map (fun t => (upper t.name, t.rows)))
      (ts.map (fun t => (upper t.name, t.cols.map (·.name)))) =
      .ok (ts.map (fun t => ⟨upper t.name, t.cols.map (rcolCanon enums), t.rows⟩)) := by
  induction ts with
  | nil => rfl
  | cons t rest ih =>
    obtain ⟨c1, c2, c3⟩ := hok t (by simp)
    have hfind := find_by_key all (fun t => upper t.name) (fun t => t.rows) hnd t (hsub t (by simp))
    simp only [List.map, finishTables, hfind,
      finishTable_written st cache (upper t.name) enums t.cols t.rows c1 c2 c3,
      ih (fun u hu => hsub u (by simp [hu])) (fun u hu => hok u (by simp [hu]))]

end PydlVerif.YannyLay
