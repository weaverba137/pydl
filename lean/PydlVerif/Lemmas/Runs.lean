/-
The scan of `find_contiguous` (`runsOf`: the maximal runs of consecutive good columns as (start, length), from left to
right) and the fold that picks the first longest run.
-/
import PydlVerif.Model.Solvers
import Mathlib.Order.Nat
namespace PydlVerif.C15
open PydlVerif PydlVerif.Solvers

/-- what the scan knows after `M` columns about a recorded run `(start, length)`; the last clause: it cannot be extended
to the right -/
def RunOK (M : ℕ) (good : ℕ → Bool) (r : ℕ × ℕ) : Prop :=
  1 ≤ r.2 ∧ r.1 + r.2 ≤ M ∧ (∀ j < r.2, good (r.1 + j) = true) ∧ (r.1 + r.2 = M ∨ good (r.1 + r.2) = false)

theorem RunOK_step {M : ℕ} {good : ℕ → Bool} {r : ℕ × ℕ} (h : RunOK M good r) (hM : r.1 + r.2 = M → good M = false) :
    RunOK (M + 1) good r :=
  ⟨h.1, Nat.le_succ_of_le h.2.1, h.2.2.1, Or.inr (h.2.2.2.elim (fun e => e ▸ hM e) id)⟩

theorem runsOf_succ_cases (M : ℕ) (good : ℕ → Bool) :
    (good M = false ∧ runsOf (M + 1) good = runsOf M good) ∨
    (good M = true ∧ ∃ ys st l, runsOf M good = ys ++ [(st, l)] ∧ M = st + l ∧
      runsOf (M + 1) good = ys ++ [(st, l + 1)]) ∨
    (good M = true ∧ (∀ ys st l, runsOf M good = ys ++ [(st, l)] → M ≠ st + l) ∧
      runsOf (M + 1) good = runsOf M good ++ [(M, 1)]) := by
  -- one step of the fold, as a statement about the list `rs` recorded so far
  simp only [runsOf, List.range_succ, List.foldl_append, List.foldl_cons, List.foldl_nil]
  generalize (List.range M).foldl _ [] = rs
  cases hg : good M
  · exact Or.inl ⟨rfl, rfl⟩
  · refine Or.inr ?_
    rcases List.eq_nil_or_concat rs with hnil | ⟨ys, ⟨st, l⟩, hys⟩
    · exact Or.inr ⟨rfl, fun ys st l h => by simp [hnil] at h, by simp [hnil]⟩
    · rw [List.concat_eq_append] at hys
      simp only [hys, List.getLast?_concat, List.dropLast_concat, if_true]
      by_cases hM : M = st + l
      · exact Or.inl ⟨trivial, ys, st, l, rfl, hM, if_pos hM⟩
      · refine Or.inr ⟨trivial, fun ys' st' l' h => ?_, if_neg hM⟩
        obtain ⟨-, h2⟩ := List.append_inj' h rfl
        simp only [List.cons.injEq, Prod.mk.injEq, and_true] at h2
        omega

/-- two recorded runs are separated by at least one column -/
def Sep (a b : ℕ × ℕ) : Prop := a.1 + a.2 < b.1

theorem runsOf_inv (M : ℕ) (good : ℕ → Bool) :
    (∀ r ∈ runsOf M good, RunOK M good r) ∧ (runsOf M good).Pairwise Sep ∧
    ∀ j < M, good j = true → ∃ r ∈ runsOf M good, r.1 ≤ j ∧ j < r.1 + r.2 := by
  induction M with
  | zero => exact ⟨by simp [runsOf], by simp [runsOf], fun j hj => absurd hj (Nat.not_lt_zero j)⟩
  | succ M ih =>
    obtain ⟨hok, hsep, hcov⟩ := ih
    rcases runsOf_succ_cases M good with ⟨hb, h⟩ | ⟨hg, ys, st, l, hys, hM, h⟩ | ⟨hg, hne, h⟩ <;> rw [h]
    · refine ⟨fun r hr => RunOK_step (hok r hr) fun _ => hb, hsep, fun j hj hgj => ?_⟩
      exact hcov j (lt_of_le_of_ne (Nat.le_of_lt_succ hj) fun e => by rw [e, hb] at hgj; cases hgj) hgj
    · -- the last run `(st, l)` ends at `M` and grows by the good column `M`; the runs before it end before `st`
      rw [hys, List.pairwise_append] at hsep
      have hlast := hok (st, l) (hys ▸ List.mem_append_right _ List.mem_cons_self)
      have hbefore : ∀ a ∈ ys, a.1 + a.2 < st := fun a ha => hsep.2.2 a ha (st, l) List.mem_cons_self
      refine ⟨fun r hr => ?_, List.pairwise_append.mpr ⟨hsep.1, List.pairwise_singleton _ _, fun a ha b hb => by
        rw [List.mem_singleton.mp hb]; exact hbefore a ha⟩, fun j hj hgj => ?_⟩
      · rcases List.mem_append.mp hr with hr | hr
        · exact RunOK_step (hok r (hys ▸ List.mem_append_left _ hr)) fun e => by have := hbefore r hr; omega
        · rw [List.mem_singleton.mp hr]
          refine ⟨Nat.succ_le_succ (Nat.zero_le _), by simp only; omega, fun j hj => ?_, Or.inl (by simp only; omega)⟩
          rcases Nat.lt_succ_iff_lt_or_eq.mp hj with hj | hj
          · exact hlast.2.2.1 j hj
          · rw [hj, ← hM]; exact hg
      · rcases Nat.lt_succ_iff_lt_or_eq.mp hj with hj | rfl
        · obtain ⟨r, hr, h1, h2⟩ := hcov j hj hgj
          rw [hys] at hr
          rcases List.mem_append.mp hr with hr | hr
          · exact ⟨r, List.mem_append_left _ hr, h1, h2⟩
          · rw [List.mem_singleton.mp hr] at h1 h2
            exact ⟨(st, l + 1), List.mem_append_right _ List.mem_cons_self, h1, Nat.lt_succ_of_lt h2⟩
        · exact ⟨(st, l + 1), List.mem_append_right _ List.mem_cons_self, by simp only; omega, by simp only; omega⟩
    · -- no recorded run ends at `M`: the runs before the last end before it starts, and the last does not by `hne`
      have hlt : ∀ a ∈ runsOf M good, a.1 + a.2 < M := by
        rcases List.eq_nil_or_concat (runsOf M good) with hnil | ⟨ys, b, hys⟩
        · rw [hnil]; exact fun a ha => absurd ha List.not_mem_nil
        · rw [List.concat_eq_append] at hys
          have hb := (hok b (hys ▸ List.mem_append_right _ List.mem_cons_self)).2.1
          have := hne ys b.1 b.2 hys
          rw [hys, List.pairwise_append] at hsep
          intro a ha
          rcases List.mem_append.mp (hys ▸ ha) with ha | ha
          · have := hsep.2.2 a ha b List.mem_cons_self
            unfold Sep at this
            omega
          · rw [List.mem_singleton.mp ha]; omega
      refine ⟨fun r hr => ?_, List.pairwise_append.mpr ⟨hsep, List.pairwise_singleton _ _, fun a ha b hb => by
        rw [List.mem_singleton.mp hb]; exact hlt a ha⟩, fun j hj hgj => ?_⟩
      · rcases List.mem_append.mp hr with hr | hr
        · exact RunOK_step (hok r hr) fun e => absurd e (ne_of_lt (hlt r hr))
        · rw [List.mem_singleton.mp hr]
          exact ⟨le_refl _, le_refl _, fun j hj => by rw [Nat.lt_one_iff.mp hj]; exact hg, Or.inl rfl⟩
      · rcases Nat.lt_succ_iff_lt_or_eq.mp hj with hj | rfl
        · obtain ⟨r, hr, h12⟩ := hcov j hj hgj
          exact ⟨r, List.mem_append_left _ hr, h12⟩
        · exact ⟨(j, 1), List.mem_append_right _ List.mem_cons_self, le_refl _, Nat.lt_succ_self _⟩

theorem runsOf_sep (M : ℕ) (good : ℕ → Bool) : (runsOf M good).Pairwise Sep := (runsOf_inv M good).2.1

theorem runsOf_cover (M : ℕ) (good : ℕ → Bool) (st l : ℕ) (hl : 1 ≤ l) (hM : st + l ≤ M)
    (hg : ∀ j < l, good (st + j) = true) : ∃ r ∈ runsOf M good, r.1 ≤ st ∧ st + l ≤ r.1 + r.2 := by
  obtain ⟨hok, -, hcov⟩ := runsOf_inv M good
  obtain ⟨r, hr, h1, h2⟩ := hcov st (by omega) (hg 0 hl)
  refine ⟨r, hr, h1, ?_⟩
  -- the recorded run that contains column `st` cannot end inside the block: the column after its end would not be good
  by_contra hlt
  rcases (hok r hr).2.2.2 with he | he
  · omega
  · have := hg (r.1 + r.2 - st) (by omega)
    rw [show st + (r.1 + r.2 - st) = r.1 + r.2 by omega, he] at this
    cases this

/-- `lengths.index(max(lengths))` as a fold: a later element replaces the best so far only when it is strictly longer -/
theorem foldl_first_longest (rs : List (ℕ × ℕ)) (r : ℕ × ℕ) :
    rs.foldl (fun best x => if best.2 < x.2 then x else best) r ∈ r :: rs ∧
    (∀ y ∈ r :: rs, y.2 ≤ (rs.foldl (fun best x => if best.2 < x.2 then x else best) r).2) ∧
    ((r :: rs).Pairwise (fun a b => a.1 < b.1) →
      ∀ y ∈ r :: rs, y.2 = (rs.foldl (fun best x => if best.2 < x.2 then x else best) r).2 →
        (rs.foldl (fun best x => if best.2 < x.2 then x else best) r).1 ≤ y.1) := by
  induction rs generalizing r with
  | nil => exact ⟨List.mem_cons_self, fun y hy => by rw [List.mem_singleton.mp hy]; exact le_refl _,
      fun _ y hy _ => by rw [List.mem_singleton.mp hy]; exact le_refl _⟩
  | cons x xs ih =>
    rw [List.foldl_cons]
    by_cases hlt : r.2 < x.2
    · -- `x` is strictly longer than `r`: the fold goes on from `x`, and `r` is out of the race
      rw [if_pos hlt]
      obtain ⟨hm, hmax, hfirst⟩ := ih x
      have hx := hmax x List.mem_cons_self
      refine ⟨List.mem_cons_of_mem _ hm, fun y hy => ?_, fun hp y hy hy2 => ?_⟩
      · rcases List.mem_cons.mp hy with rfl | hy
        · omega
        · exact hmax y hy
      · rcases List.mem_cons.mp hy with rfl | hy
        · omega
        · exact hfirst (List.pairwise_cons.mp hp).2 y hy hy2
    · -- `x` is not longer: the fold goes on from `r`; if `x` ties with the result so does `r`, which starts earlier
      rw [if_neg hlt]
      obtain ⟨hm, hmax, hfirst⟩ := ih r
      have hr := hmax r List.mem_cons_self
      have hsub : (r :: xs).Sublist (r :: x :: xs) := List.Sublist.cons_cons r (List.sublist_cons_self x xs)
      refine ⟨hsub.subset hm, fun y hy => ?_, fun hp y hy hy2 => ?_⟩
      · rcases List.mem_cons.mp hy with rfl | hy
        · exact hr
        · rcases List.mem_cons.mp hy with rfl | hy
          · omega
          · exact hmax y (List.mem_cons_of_mem _ hy)
      · have hp' := hp.sublist hsub
        rcases List.mem_cons.mp hy with rfl | hy
        · exact hfirst hp' y List.mem_cons_self hy2
        · rcases List.mem_cons.mp hy with rfl | hy
          · have := hfirst hp' r List.mem_cons_self (by omega)
            have := (List.pairwise_cons.mp hp).1 y List.mem_cons_self
            omega
          · exact hfirst hp' y (List.mem_cons_of_mem _ hy) hy2

theorem findContiguous_some (M : ℕ) (good : ℕ → Bool) (c0 len : ℕ) (h : findContiguous M good = some (c0, len)) :
    (c0, len) ∈ runsOf M good ∧ (∀ r ∈ runsOf M good, r.2 ≤ len) ∧ ∀ r ∈ runsOf M good, r.2 = len → c0 ≤ r.1 := by
  unfold findContiguous at h
  split at h
  · cases h
  · rename_i r rs hruns
    obtain ⟨hmem, hmax, hfirst⟩ := foldl_first_longest rs r
    rw [Option.some.inj h, ← hruns] at hmem hmax hfirst
    exact ⟨hmem, hmax, hfirst ((runsOf_sep M good).imp fun {a b} hab => by unfold Sep at hab; omega)⟩

theorem findContiguous_eq_none (M : ℕ) (good : ℕ → Bool) : findContiguous M good = none ↔ runsOf M good = [] := by
  unfold findContiguous
  split
  · exact ⟨fun _ => ‹_›, fun _ => rfl⟩
  · rename_i hruns
    exact ⟨fun h => (by cases h), fun h => (by rw [h] at hruns; cases hruns)⟩

end PydlVerif.C15
