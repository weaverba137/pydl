/-
File level of the yanny reader: what the written file (Lemmas/YannyCanonFile.lean) and a file in any layout
(Lemmas/YannyLay*.lean) share.
-/
import PydlVerif.Lemmas.YannyScan
import PydlVerif.Lemmas.YannyTyping
import PydlVerif.Lemmas.Loops
namespace PydlVerif.Yanny

def linesText (ls : List Str) : Str := (ls.map (fun l => l ++ ['\n'])).flatten

theorem linesText_append (a b : List Str) : linesText (a ++ b) = linesText a ++ linesText b := by
  simp [linesText]

theorem linesText_nil : linesText [] = [] := rfl

theorem linesText_cons (l : Str) (ls : List Str) : linesText (l :: ls) = l ++ '\n' :: linesText ls := by
  simp [linesText]

/-- domain of a keyword pair line `key value`: the hypotheses of `C01.lineStep_pair` (`dbFree` is the D4 exclusion)
and a value without newline.  "Not a table name" is said of the symbol table `specs` the loop runs with, whichever
it is; `pairOK` of the document domain says it of the document's table names (`pairOK_line` goes from the one to
the other) -/
def PairOK (specs : List (Str × Except String (List ColSpec))) (kv : Str × Str) : Prop :=
  kv.1 ≠ [] ∧ (∀ c ∈ kv.1, isSpace c = false ∧ c ≠ '#') ∧ kv.1.head? ≠ some '"' ∧ kv.1.head? ≠ some '{' ∧
  '#' ∉ kv.2 ∧ '\n' ∉ kv.2 ∧ dbFree (strip (kv.1 ++ ' ' :: kv.2)) = true ∧
  lookupSpec specs (upper kv.1) = none

theorem pair_noNl (specs : List (Str × Except String (List ColSpec))) (kv : Str × Str) (h : PairOK specs kv) :
    '\n' ∉ kv.1 ++ ' ' :: kv.2 := by
  obtain ⟨_, a2, _, _, _, a6, _⟩ := h
  simp only [List.mem_append, List.mem_cons, not_or]
  -- a newline is a space character, the key has none
  exact ⟨fun h => absurd (a2 _ h).1 (by decide), by decide, a6⟩

end PydlVerif.Yanny

namespace PydlVerif.YannyRT
open PydlVerif.Yanny

variable {F : Type}

theorem word_char_props (c : Char) (hw : isWordCh c = true) :
    isSpace c = false ∧ c ≠ '"' ∧ c ≠ '#' ∧ c ≠ '\n' ∧ c ≠ '{' ∧ c ≠ '\\' :=
  ⟨wordCh_not_space c hw, wordCh_ne hw (by decide), wordCh_ne hw (by decide), wordCh_ne hw (by decide),
    wordCh_ne hw (by decide), wordCh_ne hw (by decide)⟩

theorem upper_wordOK (s : Str) (h : wordOK s = true) :
    wordOK (upper s) = true ∧ upper (upper s) = upper s := by
  constructor
  · have hu := wordy_upper s (wordOK_wordy s h)
    simp only [wordOK, Bool.and_eq_true, Bool.not_eq_true', List.all_eq_true, decide_eq_true_eq,
      List.isEmpty_eq_false_iff]
    exact ⟨hu, List.forall_mem_map.mpr fun a ha => toUpper_lt a ((wordOK_props s h).2 a ha).2⟩
  · unfold upper
    rw [List.map_map]
    exact List.map_congr_left fun a _ => toUpper_toUpper a

theorem colOK_supported (c : Col) (h : colOK c = true) : supported c.ty = true := (colOK_parts c h).2

theorem nodup_cons (a : Str) (t : List Str) (h : nodup (a :: t) = true) : a ∉ t ∧ nodup t = true := by
  simp only [nodup, Bool.and_eq_true, Bool.not_eq_true'] at h
  refine ⟨?_, h.2⟩
  intro hm
  have := h.1
  simp [hm] at this

theorem nodup_Nodup (l : List Str) (h : nodup l = true) : l.Nodup := by
  induction l with
  | nil => exact List.nodup_nil
  | cons a t ih =>
    obtain ⟨h1, h2⟩ := nodup_cons a t h
    exact List.nodup_cons.mpr ⟨h1, ih h2⟩

theorem key_unique {α : Type} (l : List α) (key : α → Str) (hnd : nodup (l.map key) = true) (a : α)
    (ha : a ∈ l) : ∃ pre post, l = pre ++ a :: post ∧ (∀ b ∈ pre, key b ≠ key a) ∧ ∀ b ∈ post, key b ≠ key a := by
  obtain ⟨pre, post, rfl⟩ := List.append_of_mem ha
  rw [List.map_append, List.map_cons] at hnd
  obtain ⟨-, h2, h3⟩ := List.nodup_append.mp (nodup_Nodup _ hnd)
  exact ⟨pre, post, rfl, fun b hb e => h3 _ (List.mem_map_of_mem hb) _ List.mem_cons_self e,
    fun b hb e => (List.nodup_cons.mp h2).1 (e ▸ List.mem_map_of_mem hb)⟩

theorem find_by_key {α β : Type} (l : List α) (key : α → Str) (val : α → β)
    (hnd : nodup (l.map key) = true) (a : α) (ha : a ∈ l) :
    (l.map (fun x => (key x, val x))).find? (fun e => e.1 == key a) = some (key a, val a) := by
  obtain ⟨pre, post, rfl, h1, _⟩ := key_unique l key hnd a ha
  have hp : (pre.map (fun x => (key x, val x))).find? (fun e => e.1 == key a) = none :=
    List.find?_eq_none.mpr (by simpa using h1)
  simp [List.find?_append, hp]

theorem setPair_new (ps : List (Str × Str)) (k v : Str) (h : ∀ p ∈ ps, p.1 ≠ k) :
    setPair ps k v = ps ++ [(k, v)] := by
  unfold setPair
  rw [if_neg]
  intro ha
  obtain ⟨p, hp, hk⟩ := List.any_eq_true.mp ha
  exact h p hp (beq_iff_eq.mp hk)

theorem symInsert_new (tabs : List (Str × List Str)) (name : Str) (cols : List Str)
    (h : ∀ e ∈ tabs, e.1 ≠ name) : symInsert tabs name cols = tabs ++ [(name, cols)] := by
  unfold symInsert
  rw [if_neg]
  intro ha
  obtain ⟨p, hp, hk⟩ := List.any_eq_true.mp ha
  exact h p hp (beq_iff_eq.mp hk)

/-- `symInsert` and `setPair` are one insertion `ins` -/
theorem foldl_insert {α β : Type} (ins : List (Str × β) → Str → β → List (Str × β))
    (hins : ∀ acc k v, (∀ e ∈ acc, e.1 ≠ k) → ins acc k v = acc ++ [(k, v)])
    (l : List α) (key : α → Str) (val : α → β) (acc : List (Str × β)) (hnd : nodup (l.map key) = true)
    (hdis : ∀ e ∈ acc, ∀ a ∈ l, e.1 ≠ key a) :
    l.foldl (fun acc a => ins acc (key a) (val a)) acc = acc ++ l.map (fun a => (key a, val a)) := by
  induction l generalizing acc with
  | nil => simp
  | cons a t ih =>
    obtain ⟨n1, n2⟩ := nodup_cons _ _ hnd
    simp only [List.foldl, List.map]
    rw [hins acc (key a) (val a) (fun e he => hdis e he a (by simp))]
    rw [ih (acc ++ [(key a, val a)]) n2 (List.forall_mem_append.mpr
      ⟨fun e h b hb => hdis e h b (by simp [hb]),
        List.forall_mem_singleton.mpr fun b hb e' => n1 (List.mem_map.mpr ⟨b, hb, e'.symm⟩)⟩)]
    simp

theorem foldl_symInsert {α : Type} (l : List α) (key : α → Str) (val : α → List Str)
    (acc : List (Str × List Str)) (hnd : nodup (l.map key) = true)
    (hdis : ∀ e ∈ acc, ∀ a ∈ l, e.1 ≠ key a) :
    l.foldl (fun acc a => symInsert acc (key a) (val a)) acc = acc ++ l.map (fun a => (key a, val a)) :=
  foldl_insert symInsert symInsert_new l key val acc hnd hdis

theorem lookupLast_none (k : Str) (l : List (Str × List Str)) (h : ∀ e ∈ l, e.1 ≠ k) : lookupLast k l = none := by
  induction l with
  | nil => rfl
  | cons e t ih =>
    obtain ⟨a, v⟩ := e
    have hne : (a == k) = false := by simpa using h (a, v) (by simp)
    simp only [lookupLast, ih (fun x hx => h x (by simp [hx])), hne]
    rfl

theorem lookupLast_by_key {α : Type} (l : List α) (key : α → Str) (val : α → List Str)
    (hnd : nodup (l.map key) = true) (a : α) (ha : a ∈ l) :
    lookupLast (key a) (l.map (fun x => (key x, val x))) = some (val a) := by
  obtain ⟨pre, post, rfl, -, h2⟩ := key_unique l key hnd a ha
  have hp : lookupLast (key a) (post.map (fun x => (key x, val x))) = none :=
    lookupLast_none _ _ (by simpa using h2)
  clear hnd ha
  -- the last entry with the key wins, whatever stands in front of it
  induction pre with
  | nil => simp [lookupLast, hp]
  | cons x pre ih => simp only [List.cons_append, List.map_cons, lookupLast, ih]

theorem cache_lookup (enums : List EnumDecl) (het : nodup (enums.map (fun e => upper e.tyName)) = true) :
    (∀ e ∈ enums, lookupLast (upper e.tyName) (enums.map (fun e => (upper e.tyName, e.labels))) = some e.labels) ∧
    ∀ w ∈ numWords, lookupLast w (enums.map (fun e => (upper e.tyName, e.labels))) = none :=
  ⟨fun e hm => lookupLast_by_key enums (fun e => upper e.tyName) (fun e => e.labels) het e hm,
    fun w hw => lookupLast_none _ _ (List.forall_mem_map.mpr
      fun e _ (e' : upper e.tyName = w) => upper_not_numWord e.tyName (e' ▸ hw))⟩

theorem splitNlAux_cut (a c cur : Str) :
    splitNlAux (a ++ '\n' :: c) cur = splitNlAux a cur ++ splitNlAux c [] := by
  induction a generalizing cur with
  | nil => simp [splitNlAux]
  | cons x a ih =>
    by_cases hx : x = '\n'
    · subst hx
      simp [splitNlAux, ih]
    · simp [splitNlAux, hx, ih]

theorem splitNl_cut (a c : Str) : splitNl (a ++ '\n' :: c) = splitNl a ++ splitNl c :=
  splitNlAux_cut a c []

theorem splitNlAux_one (l cur : Str) (h : '\n' ∉ l) : splitNlAux l cur = [cur.reverse ++ l] := by
  induction l generalizing cur with
  | nil => simp [splitNlAux]
  | cons x l ih =>
    have hx : x ≠ '\n' := fun e => h (by simp [e])
    have hl : '\n' ∉ l := fun m => h (by simp [m])
    simp [splitNlAux, hx, ih _ hl]

theorem splitNl_one (l : Str) (h : '\n' ∉ l) : splitNl l = [l] := by
  simpa [splitNl] using splitNlAux_one l [] h

theorem splitNl_lines_app (ls : List Str) (R : Str) (h : ∀ l ∈ ls, '\n' ∉ l) :
    splitNl (linesText ls ++ R) = ls ++ splitNl R := by
  induction ls with
  | nil => rfl
  | cons l ls ih =>
    rw [List.forall_mem_cons] at h
    rw [linesText_cons, List.append_assoc, List.cons_append, splitNl_cut, splitNl_one l h.1, ih h.2]
    rfl

theorem splitNl_nls (x : Str) (hx : ∀ c ∈ x, c = '\n') : ∀ l ∈ splitNl x, l = [] := by
  induction x with
  | nil => simp [splitNl, splitNlAux]
  | cons a t ih =>
    obtain ⟨rfl, ht⟩ := List.forall_mem_cons.mp hx
    rw [show splitNl ('\n' :: t) = splitNl [] ++ splitNl t from splitNl_cut [] t]
    exact List.forall_mem_append.mpr ⟨by simp [splitNl, splitNlAux], ih ht⟩

theorem lineStep_skip (io : FloatIO F) (specs : List (Str × Except String (List ColSpec)))
    (st : LoopSt F) (l : Str) (h : skipLine l = true) : lineStep io specs st l = .ok st := by
  rw [lineStep, if_pos h]

theorem lineLoop_cat (io : FloatIO F) (specs : List (Str × Except String (List ColSpec)))
    (st : LoopSt F) (l1 l2 : List Str) :
    lineLoop io specs st (l1 ++ l2) =
      match lineLoop io specs st l1 with
      | .error e => .error e
      | .ok st' => lineLoop io specs st' l2 := by
  induction l1 generalizing st with
  | nil => rfl
  | cons l ls ih =>
    simp only [List.cons_append, lineLoop]
    cases lineStep io specs st l with
    | error e => rfl
    | ok st' => exact ih st'

theorem lineLoop_skip (io : FloatIO F) (specs : List (Str × Except String (List ColSpec)))
    (st : LoopSt F) (ls : List Str) (h : ∀ l ∈ ls, skipLine l = true) :
    lineLoop io specs st ls = .ok st := by
  induction ls with
  | nil => rfl
  | cons l ls ih =>
    rw [List.forall_mem_cons] at h
    simp only [lineLoop, lineStep_skip io specs st l h.1]
    exact ih h.2

theorem skipLine_nil : skipLine [] = true := rfl

theorem skipLine_hash (l : Str) : skipLine ('#' :: l) = true := by
  simp [skipLine, List.dropWhile, isSpace]

/-- how the reader will treat the cells of a column -/
def specOfCol (c : Col) : ColSpec := ⟨convOfCol c, decide (c.alen > 0)⟩

theorem lookupSpec_none (l : List (Str × Except String (List ColSpec))) (k : Str)
    (h : k ∉ l.map (·.1)) : lookupSpec l k = none := by
  rw [lookupSpec, List.find?_eq_none.mpr fun e he hk => h (List.mem_map.mpr ⟨e, he, by simpa using hk⟩)]
  rfl

theorem specs_lookup (ts : List (TableD F)) (hnd : nodup (ts.map (fun t => upper t.name)) = true)
    (t : TableD F) (hm : t ∈ ts) :
    lookupSpec (ts.map (fun t => (upper t.name, (.ok (t.cols.map specOfCol) : Except String (List ColSpec)))))
      (upper t.name) = some (.ok (t.cols.map specOfCol)) := by
  have := find_by_key ts (fun t => upper t.name)
    (fun t => (Except.ok (t.cols.map specOfCol) : Except String (List ColSpec))) hnd t hm
  simp only [lookupSpec, this, Option.map_some]

theorem specs_none (ts : List (TableD F)) (k : Str) (h : k ∉ ts.map (fun t => upper t.name)) :
    lookupSpec (ts.map (fun t => (upper t.name, (.ok (t.cols.map specOfCol) : Except String (List ColSpec))))) k =
      none :=
  lookupSpec_none _ k (by simpa [List.map_map, Function.comp_def] using h)

theorem colSpecs_of_each (st : List Str) (T : Str) (cols : List Col)
    (h : ∀ c ∈ cols, colSpec st T c.name = .ok (specOfCol c)) :
    colSpecs st T (cols.map (·.name)) = .ok (cols.map specOfCol) := by
  induction cols with
  | nil => rfl
  | cons c cs ih =>
    simp only [List.map, colSpecs, h c (by simp), ih (fun x hx => h x (by simp [hx]))]

/-- the record-array column a document column reads back as -/
def rcolCanon (enums : List EnumDecl) (c : Col) : RCol :=
  ⟨c.name, (rtOfCol enums c).getD .i2, if c.alen > 0 then some c.alen else none⟩

theorem le_maxLen (ls : List Str) (s : Str) (h : s ∈ ls) : s.length ≤ maxLen ls :=
  -- `foldl_sel` for the order `≥`: the fold of `max` ends at an element that is `≥` every element
  (foldl_sel (fun a b : Nat => b ≤ a) Nat.le_refl (fun _ _ _ h1 h2 => Nat.le_trans h2 h1) max (fun m y => by omega)
    (ls.map List.length) 0).2 _ (List.mem_cons_of_mem _ (List.mem_map.mpr ⟨s, h, rfl⟩))

theorem strLen_size (t : NpT) (s : Str)
    (h : (match t with
      | .S n => decide (s.length ≤ n)
      | .U n => decide (s.length ≤ n)
      | _ => false) = true) : ∃ m, strSize t = some m ∧ s.length ≤ m := by
  cases t <;> first
    | cases h
    | exact ⟨_, rfl, by have := of_decide_eq_true h; omega⟩

theorem castSc_id (enums : List EnumDecl) (c : Col) (arr : Bool) (v : Sc F)
    (h : scOK c.ty ((enums.find? (fun e => e.col == c.name)).map (·.labels)) arr v = true) :
    castSc ((rtOfCol enums c).getD .i2) v = .ok v := by
  cases v with
  | int n =>
    simp only [scOK, Bool.or_eq_true, Bool.and_eq_true, beq_iff_eq] at h
    rcases h with (⟨ht, hr⟩ | ⟨ht, hr⟩) | ⟨ht, hr⟩ <;> simp [castSc, rtOfCol, ht, hr]
  | flt w x => rfl
  | str s =>
    simp only [scOK, Bool.and_eq_true] at h
    obtain ⟨⟨hlen, _⟩, hlab⟩ := h
    obtain ⟨m, hm, hle⟩ := strLen_size c.ty s hlen
    rw [(strCol enums c m hm).2]
    simp only [castSc, Option.getD_some]
    congr 2
    apply List.take_of_length_le
    cases hf : enums.find? (fun e => e.col == c.name) with
    | none => exact hle
    | some e =>
      rw [hf] at hlab
      exact le_maxLen _ _ (by simpa using hlab)

theorem castScs_id (enums : List EnumDecl) (c : Col) (vs : List (Sc F))
    (h : ∀ v ∈ vs, scOK c.ty ((enums.find? (fun e => e.col == c.name)).map (·.labels)) true v = true) :
    castScs ((rtOfCol enums c).getD .i2) vs = .ok vs := by
  induction vs with
  | nil => rfl
  | cons v t ih =>
    simp only [castScs, castSc_id enums c true v (h v (by simp)), ih (fun x hx => h x (by simp [hx]))]

theorem castCell_id (enums : List EnumDecl) (c : Col) (x : Cell F) (h : cellOK enums c x = true) :
    castCell (rcolCanon enums c) x = .ok x := by
  cases x with
  | one v =>
    simp only [cellOK, Bool.and_eq_true, beq_iff_eq] at h
    have h0 : ¬ c.alen > 0 := by omega
    simp only [castCell, rcolCanon, h0, if_false, castSc_id enums c false v h.2]
  | many vs =>
    simp only [cellOK, Bool.and_eq_true, decide_eq_true_eq, beq_iff_eq, List.all_eq_true] at h
    obtain ⟨⟨h0, hl⟩, hv⟩ := h
    simp only [castCell, rcolCanon, h0, if_true, hl, bne_self_eq_false, Bool.false_eq_true, if_false,
      castScs_id enums c vs hv]

theorem castRow_id (enums : List EnumDecl) (cols : List Col) (r : List (Cell F))
    (h : cellsOK enums cols r = true) : castRow (cols.map (rcolCanon enums)) r = .ok r := by
  fun_induction cellsOK enums cols r with
  | case1 => rfl
  | case2 c cs x xs ih =>
    rw [Bool.and_eq_true] at h
    simp only [List.map, castRow, castCell_id enums c x h.1, ih h.2]
  | case3 => cases h

theorem castRows_id (enums : List EnumDecl) (cols : List Col) (rows : List (List (Cell F)))
    (h : ∀ r ∈ rows, cellsOK enums cols r = true) : castRows (cols.map (rcolCanon enums)) rows = .ok rows := by
  induction rows with
  | nil => rfl
  | cons r rs ih =>
    simp only [castRows, castRow_id enums cols r (h r (by simp)), ih (fun x hx => h x (by simp [hx]))]

theorem cellsOK_ne_nil (enums : List EnumDecl) (cols : List Col) (r : List (Cell F))
    (hc : cols ≠ []) (h : cellsOK enums cols r = true) : r ≠ [] := by
  fun_induction cellsOK enums cols r with
  | case1 => exact absurd rfl hc
  | case2 c cs x xs => exact List.cons_ne_nil x xs
  | case3 => cases h

theorem dropWhile_cons_app {α} (p : α → Bool) (a b : List α) (x : α) (t : List α)
    (h : a.dropWhile p = x :: t) : (a ++ b).dropWhile p = x :: (t ++ b) := by
  rw [dropWhile_append_cases, h]; simp

theorem matchDB_some_iff (s : Str) : (matchDB s).isSome = true ↔
    ∃ t t2 t4 t6, s = '{' :: t ∧ t.dropWhile isSpace = '{' :: t2 ∧ t2.dropWhile isSpace = '}' :: t4 ∧
      t4.dropWhile isSpace = '}' :: t6 := by
  constructor
  · intro h
    unfold matchDB at h
    split at h
    · rename_i t
      split at h
      · rename_i t2 h2
        split at h
        · rename_i t4 h4
          split at h
          · rename_i t6 h6
            exact ⟨t, t2, t4, t6, rfl, h2, h4, h6⟩
          · cases h
        · cases h
      · cases h
    · cases h
  · rintro ⟨t, t2, t4, t6, rfl, h2, h4, h6⟩
    simp only [matchDB, h2, h4, h6]
    rfl

theorem matchDB_app (s y : Str) (h : (matchDB s).isSome = true) : (matchDB (s ++ y)).isSome = true := by
  obtain ⟨t, t2, t4, t6, rfl, h2, h4, h6⟩ := (matchDB_some_iff s).mp h
  exact (matchDB_some_iff _).mpr ⟨t ++ y, t2 ++ y, t4 ++ y, t6 ++ y, rfl, dropWhile_cons_app _ _ _ _ _ h2,
    dropWhile_cons_app _ _ _ _ _ h4, dropWhile_cons_app _ _ _ _ _ h6⟩

theorem dbFree_prefix (x y : Str) (h : dbFree (x ++ y) = true) : dbFree x = true := by
  induction x with
  | nil => rfl
  | cons c t ih =>
    simp only [List.cons_append, dbFree, Bool.and_eq_true] at h ⊢
    refine ⟨?_, ih h.2⟩
    cases hm : matchDB (c :: t) with
    | none => rfl
    | some n =>
      have := matchDB_app (c :: t) y (by rw [hm]; rfl)
      rw [List.cons_append, Option.isNone_iff_eq_none.mp h.1] at this
      cases this

theorem dbFree_drop (a b : Str) (h : dbFree (a ++ b) = true) : dbFree b = true := by
  induction a with
  | nil => exact h
  | cons c t ih =>
    simp only [List.cons_append, dbFree, Bool.and_eq_true] at h
    exact ih h.2

theorem dbFree_strip (l : Str) (h : dbFree l = true) : dbFree (strip l) = true := by
  unfold strip
  obtain ⟨ws, hws, _⟩ := rstrip_split_spaces (lstrip l)
  apply dbFree_prefix _ ws
  rw [← hws]
  exact dbFree_drop (l.takeWhile isSpace) _ (by rw [lstrip, List.takeWhile_append_dropWhile]; exact h)

theorem not_contains_mem {s : Str} {c : Char} (h : (!s.contains c) = true) : c ∉ s := by
  intro hm
  simp [hm] at h

/-- `pairOK`, conjunct by conjunct -/
structure PairProps (tnames : List Str) (kv : Str × Str) : Prop where
  kne : kv.1 ≠ []
  kch : ∀ c ∈ kv.1, 33 ≤ c.toNat ∧ c.toNat ≤ 126 ∧ c ≠ '#'
  kq : kv.1.head? ≠ some '"'
  kb : kv.1.head? ≠ some '{'
  vch : ∀ c ∈ kv.2, cellChar c = true
  vh : '#' ∉ kv.2
  db : dbFree (kv.1 ++ ' ' :: kv.2) = true
  nt : noTypedef (kv.1 ++ ' ' :: kv.2) = true
  bs : endsBackslash (rstrip (kv.1 ++ ' ' :: kv.2)) = false
  tn : upper kv.1 ∉ tnames

theorem pairOK_props (tnames : List Str) (kv : Str × Str) (h : pairOK tnames kv = true) : PairProps tnames kv := by
  simp only [pairOK, Bool.and_eq_true, Bool.not_eq_true', List.all_eq_true, decide_eq_true_eq,
    bne_iff_ne, ne_eq, and_assoc] at h
  obtain ⟨a1, a2, a3, a4, a5, a6, a7, a8, a9, a10⟩ := h
  exact ⟨List.isEmpty_eq_false_iff.mp a1, a2, a3, a4, a5,
    fun hm => by simp [hm] at a6, a7, a8, a9, fun hm => by simp [hm] at a10⟩

theorem PairProps.key {tnames : List Str} {kv : Str × Str} (h : PairProps tnames kv) :
    ∀ c ∈ kv.1, isSpace c = false ∧ c ≠ '\n' ∧ c ≠ '#' := by
  intro c hc
  obtain ⟨h1, h2, h3⟩ := h.kch c hc
  have hs : isSpace c = false := Bool.eq_false_iff.mpr fun hs => by
    have := isSpace_codes c hs
    omega
  exact ⟨hs, fun e => by subst e; exact absurd hs (by decide), h3⟩

theorem PairProps.val_nonl {tnames : List Str} {kv : Str × Str} (h : PairProps tnames kv) : '\n' ∉ kv.2 :=
  fun hm => by simpa [cellChar] using h.vch _ hm

theorem pairOK_line (specs : List (Str × Except String (List ColSpec))) (tnames : List Str)
    (hs : ∀ k, k ∉ tnames → lookupSpec specs k = none) (kv : Str × Str) (h : pairOK tnames kv = true) :
    PairOK specs kv :=
  have hp := pairOK_props tnames kv h
  ⟨hp.kne, fun c hc => ⟨(hp.key c hc).1, (hp.key c hc).2.2⟩, hp.kq, hp.kb, hp.vh, hp.val_nonl,
    dbFree_strip _ hp.db, hs _ hp.tn⟩

end PydlVerif.YannyRT
