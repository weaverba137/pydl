/-
Reading the `do` blocks of the model functions in `Except`: backwards, what a computation that returned went through;
forwards, how a `map` of the result commutes with `if`, bind and `foldlM`, so that an equivariance proof walks the block
in source order and never cases on `error` (primed forms carry the hypothesis that the bound computation returned).
Core Lean only.
-/
namespace PydlVerif
universe u v

theorem bind_ok {ε : Type u} {α β : Type v} {x : Except ε α} {f : α → Except ε β} {b : β} (h : x >>= f = .ok b) :
    ∃ a, x = .ok a ∧ f a = .ok b := by
  cases x with
  | error e => cases h
  | ok a => exact ⟨a, rfl, h⟩

/-- `bind_ok` as a rewrite rule -/
theorem bind_eq_ok_iff {ε : Type u} {β γ : Type v} (x : Except ε β) (f : β → Except ε γ) (r : γ) :
    x.bind f = .ok r ↔ ∃ a, x = .ok a ∧ f a = .ok r :=
  ⟨fun h => bind_ok h, fun ⟨_, h, h'⟩ => by rw [h]; exact h'⟩

theorem mapM_ok {ε : Type u} {β γ : Type v} (f : β → Except ε γ) : ∀ (l : List β) (outs : List γ), l.mapM f = .ok outs →
    outs.length = l.length ∧ ∀ k (hk : k < l.length) (hk' : k < outs.length), f l[k] = .ok outs[k] := by
  intro l
  induction l with
  | nil =>
    intro outs h
    cases h
    exact ⟨rfl, fun k hk => absurd hk (Nat.not_lt_zero k)⟩
  | cons b l ih =>
    intro outs h
    rw [List.mapM_cons] at h
    obtain ⟨o, ho, h⟩ := bind_ok h
    obtain ⟨os, hos, h⟩ := bind_ok h
    cases h
    obtain ⟨hl, hk⟩ := ih os hos
    refine ⟨congrArg (· + 1) hl, fun k hk1 hk2 => ?_⟩
    cases k with
    | zero => exact ho
    | succ j => exact hk j (Nat.lt_of_succ_lt_succ hk1) (Nat.lt_of_succ_lt_succ hk2)

theorem ite_error_ok {ε : Type u} {α : Type v} {c : Prop} [Decidable c] {e : ε} {x : Except ε α} {a : α} :
    (if c then .error e else x) = .ok a ↔ ¬ c ∧ x = .ok a := by
  by_cases hc : c
  · rw [if_pos hc]
    exact ⟨fun h => (nomatch h), fun h => absurd hc h.1⟩
  · rw [if_neg hc]
    exact ⟨fun h => ⟨hc, h⟩, fun h => h.2⟩

theorem mapM_eq_ok_map {ε : Type u} {β γ : Type v} (f : β → Except ε γ) (g : β → γ) (l : List β)
    (h : ∀ x ∈ l, f x = .ok (g x)) : l.mapM f = .ok (l.map g) := by
  induction l with
  | nil => rfl
  | cons x xs ih =>
    rw [List.mapM_cons, h x List.mem_cons_self, ih fun y hy => h y (List.mem_cons_of_mem _ hy)]
    rfl

theorem foldlM_inv {ε : Type u} {σ β : Type v} (f : σ → β → Except ε σ) (P : σ → Prop) (l : List β)
    (hstep : ∀ b ∈ l, ∀ s s', f s b = .ok s' → P s → P s') (s s' : σ) (h : l.foldlM f s = .ok s') (hp : P s) : P s' := by
  induction l generalizing s with
  | nil => cases h; exact hp
  | cons b l ih =>
    rw [List.foldlM_cons] at h
    obtain ⟨s1, hb, h⟩ := bind_ok h
    exact ih (fun c hc => hstep c (List.mem_cons_of_mem _ hc)) s1 h (hstep b List.mem_cons_self s s1 hb hp)

/-- what the pass of `u` turns `P` into, and every pass then keeps, holds at the end of a loop that passes `u` -/
theorem foldlM_of_mem {ε : Type u} {σ β : Type v} (f : σ → β → Except ε σ) (P Q : σ → Prop) (l : List β) (u : β)
    (hu : u ∈ l) (hP : ∀ b ∈ l, ∀ s s', f s b = .ok s' → P s → P s') (hQ : ∀ b ∈ l, ∀ s s', f s b = .ok s' → Q s → Q s')
    (hPQ : ∀ s s', f s u = .ok s' → P s → Q s') (s s' : σ) (h : l.foldlM f s = .ok s') (hp : P s) : Q s' := by
  obtain ⟨l1, l2, rfl⟩ := List.append_of_mem hu
  rw [List.foldlM_append] at h
  obtain ⟨s1, h1, h⟩ := bind_ok h
  rw [List.foldlM_cons] at h
  obtain ⟨s2, h2, h⟩ := bind_ok h
  exact foldlM_inv f Q l2 (fun b hb => hQ b (List.mem_append_right _ (List.mem_cons_of_mem _ hb))) s2 s' h
    (hPQ s1 s2 h2 (foldlM_inv f P l1 (fun b hb => hP b (List.mem_append_left _ hb)) s s1 h1 hp))

theorem foldlM_congr {ε : Type u} {σ β : Type v} (f g : σ → β → Except ε σ) (l : List β)
    (h : ∀ x ∈ l, ∀ s, f s x = g s x) (s : σ) : l.foldlM f s = l.foldlM g s := by
  induction l generalizing s with
  | nil => rfl
  | cons x xs ih =>
    rw [List.foldlM_cons, List.foldlM_cons, h x List.mem_cons_self s]
    exact congrArg _ (funext fun s' => ih (fun y hy => h y (List.mem_cons_of_mem _ hy)) s')

theorem mapM_congr {ε : Type u} {β γ : Type v} (f g : β → Except ε γ) (l : List β) (h : ∀ a ∈ l, f a = g a) :
    l.mapM f = l.mapM g := by
  induction l with
  | nil => rfl
  | cons a l ih =>
    rw [List.mapM_cons, List.mapM_cons, h a List.mem_cons_self, ih fun b hb => h b (List.mem_cons_of_mem _ hb)]

theorem of_map_eq_ok {ε : Type u} {β γ : Type v} {x : Except ε β} {f : β → γ} {r : γ} (h : x.map f = .ok r) :
    ∃ v, x = .ok v ∧ f v = r := by
  cases x with
  | error e => cases h
  | ok v => exact ⟨v, rfl, Except.ok.inj h⟩

theorem bind_congr_ok {ε : Type u} {β γ : Type v} {x : Except ε β} {f f' : β → Except ε γ}
    (h : ∀ b, x = .ok b → f' b = f b) : (x >>= f') = (x >>= f) := by
  cases x with
  | error e => rfl
  | ok b => exact h b rfl

theorem bind_eq_map {ε : Type u} {β γ : Type v} (x : Except ε β) (f : β → Except ε γ) (g : β → γ)
    (h : ∀ v, f v = .ok (g v)) : x >>= f = x.map g := by
  cases x with
  | error e => rfl
  | ok v => exact h v

theorem bind_map' {ε : Type u} {β γ γ' : Type v} {x : Except ε β} {f : β → Except ε γ} {f' : β → Except ε γ'}
    {h : γ → γ'} (hf : ∀ b, x = .ok b → f' b = (f b).map h) : (x >>= f') = (x >>= f).map h := by
  cases x with
  | error e => rfl
  | ok b => exact hf b rfl

theorem bind_map {ε : Type u} {β γ γ' : Type v} {x : Except ε β} {f : β → Except ε γ} {f' : β → Except ε γ'}
    {h : γ → γ'} (hf : ∀ b, f' b = (f b).map h) : (x >>= f') = (x >>= f).map h :=
  bind_map' fun b _ => hf b

theorem bind_map_comm' {ε : Type u} {β β' γ γ' : Type v} {x : Except ε β} {g : β → β'} {f : β → Except ε γ}
    {f' : β' → Except ε γ'} {h : γ → γ'} (hf : ∀ b, x = .ok b → f' (g b) = (f b).map h) :
    (x.map g >>= f') = (x >>= f).map h := by
  cases x with
  | error e => rfl
  | ok b => exact hf b rfl

theorem bind_map_comm {ε : Type u} {β β' γ γ' : Type v} {x : Except ε β} {g : β → β'} {f : β → Except ε γ}
    {f' : β' → Except ε γ'} {h : γ → γ'} (hf : ∀ b, f' (g b) = (f b).map h) : (x.map g >>= f') = (x >>= f).map h :=
  bind_map_comm' fun b _ => hf b

theorem map_map' {ε : Type u} {β γ γ' : Type v} {x : Except ε β} {f : β → γ} {f' : β → γ'} {g : γ → γ'}
    (hf : ∀ b, x = .ok b → f' b = g (f b)) : x.map f' = (x.map f).map g := by
  cases x with
  | error e => rfl
  | ok b => exact congrArg Except.ok (hf b rfl)

theorem ite_map {β : Sort u} {γ : Sort v} {p : Prop} [Decidable p] {a' b' : γ} {a b : β} {f : β → γ}
    (ha : a' = f a) (hb : b' = f b) : (if p then a' else b') = f (if p then a else b) := by
  split
  · exact ha
  · exact hb

theorem ite_bind {ε : Type u} {β γ : Type v} {c : Prop} [Decidable c] {a b : Except ε β} {k : β → Except ε γ} :
    (if c then a >>= k else b >>= k) = (if c then a else b) >>= k := by
  split <;> rfl

theorem foldlM_map {ε : Type u} {σ σ' β : Type v} {f : σ → β → Except ε σ} {f' : σ' → β → Except ε σ'} {g : σ → σ'}
    (P : σ → Prop) (hstep : ∀ s b, P s → f' (g s) b = (f s b).map g) (hP : ∀ s b s', f s b = .ok s' → P s → P s') :
    ∀ (l : List β) (s : σ), P s → l.foldlM f' (g s) = (l.foldlM f s).map g := by
  intro l
  induction l with
  | nil => exact fun _ _ => rfl
  | cons b l ih =>
    intro s hs
    rw [List.foldlM_cons, List.foldlM_cons, hstep s b hs]
    exact bind_map_comm' fun s1 h1 => ih s1 (hP s b s1 h1 hs)

theorem bind_raises {ε : Type u} {β γ : Type v} (x : Except ε β) (f : β → Except ε γ) (h : ∀ b, ∃ e, f b = .error e) :
    ∃ e, x >>= f = .error e := by
  cases x with
  | error e => exact ⟨e, rfl⟩
  | ok b => exact h b

/-- a loop through an element on which the body raises whatever the state: the loop raises, and what it raises some pass raised -/
theorem foldlM_error_of_mem {ε : Type u} {σ β : Type v} (f : σ → β → Except ε σ) (l : List β) (u : β) (hu : u ∈ l)
    (hf : ∀ s, ∃ e, f s u = .error e) (s : σ) : ∃ e, l.foldlM f s = .error e ∧ ∃ s' x, f s' x = .error e := by
  induction l generalizing s with
  | nil => cases hu
  | cons x xs ih =>
    rw [List.foldlM_cons]
    cases hx : f s x with
    | error e => exact ⟨e, rfl, s, x, hx⟩
    | ok s1 =>
      rcases List.mem_cons.mp hu with rfl | h
      · obtain ⟨e, he⟩ := hf s
        rw [he] at hx
        cases hx
      · exact ih h s1

end PydlVerif
