/-
Python loops as folds.  `for k in range(n)` is a `foldl` over `List.range n`: an invariant indexed by the pass.
`a.min()`, `a.max()` are folds that carry one element of the list along: such a fold ends at an element of the list
that is least for the relation the step respects.  Core Lean only (for an invariant of a fold over an arbitrary list,
core has `List.foldlRecOn`).
-/
namespace PydlVerif
universe u

/-- `P k` holds of the state before pass `k` -/
theorem foldl_range_inv {σ : Type u} (f : σ → Nat → σ) (P : Nat → σ → Prop) (init : σ) (n : Nat) (h0 : P 0 init)
    (hstep : ∀ k s, k < n → P k s → P (k + 1) (f s k)) : ∀ k, k ≤ n → P k ((List.range k).foldl f init) := by
  intro k
  induction k with
  | zero => exact fun _ => h0
  | succ k ih =>
    intro hk
    rw [List.range_succ, List.foldl_append, List.foldl_cons, List.foldl_nil]
    exact hstep k _ hk (ih (Nat.le_of_succ_le hk))

theorem foldl_sel {β : Type u} (R : β → β → Prop) (hrefl : ∀ a, R a a) (htrans : ∀ a b c, R a b → R b c → R a c)
    (f : β → β → β) (hf : ∀ m y, (f m y = m ∨ f m y = y) ∧ R (f m y) m ∧ R (f m y) y) (xs : List β) (m : β) :
    xs.foldl f m ∈ m :: xs ∧ ∀ y ∈ m :: xs, R (xs.foldl f m) y := by
  induction xs generalizing m with
  | nil => exact ⟨List.mem_cons_self, List.forall_mem_singleton.2 (hrefl m)⟩
  | cons y ys ih =>
    obtain ⟨h1, h2⟩ := ih (f m y)
    obtain ⟨hm, hRm, hRy⟩ := hf m y
    rw [List.forall_mem_cons] at h2
    rw [List.foldl_cons, List.forall_mem_cons, List.forall_mem_cons]
    refine ⟨?_, htrans _ _ _ h2.1 hRm, htrans _ _ _ h2.1 hRy, h2.2⟩
    rcases List.mem_cons.1 h1 with h | h
    · rw [h]
      rcases hm with e | e
      · rw [e]; exact List.mem_cons_self
      · rw [e]; exact List.mem_cons_of_mem _ List.mem_cons_self
    · exact List.mem_cons_of_mem _ (List.mem_cons_of_mem _ h)

/-- the step written as the models write it: the newcomer `y` replaces the best so far `m` when `p m y` -/
theorem foldl_pick {β : Type u} {p : β → β → Prop} [DecidableRel p] (R : β → β → Prop) (hrefl : ∀ a, R a a)
    (htrans : ∀ a b c, R a b → R b c → R a c) (hp : ∀ m y, p m y → R y m) (hn : ∀ m y, ¬ p m y → R m y)
    (xs : List β) (m : β) :
    xs.foldl (fun m y => if p m y then y else m) m ∈ m :: xs ∧
      ∀ y ∈ m :: xs, R (xs.foldl (fun m y => if p m y then y else m) m) y :=
  foldl_sel R hrefl htrans _ (fun m y => by
    by_cases h : p m y
    · simp only [if_pos h]; exact ⟨Or.inr trivial, hp m y h, hrefl y⟩
    · simp only [if_neg h]; exact ⟨Or.inl trivial, hrefl m, hn m y h⟩) xs m

theorem foldl_pick_mem {β : Type u} {p : β → β → Prop} [DecidableRel p] (x0 : β) (xs : List β) :
    xs.foldl (fun m y => if p m y then y else m) x0 ∈ x0 :: xs :=
  (foldl_pick (fun _ _ => True) (fun _ => trivial) (fun _ _ _ _ _ => trivial) (fun _ _ _ => trivial)
    (fun _ _ _ => trivial) xs x0).1

end PydlVerif
