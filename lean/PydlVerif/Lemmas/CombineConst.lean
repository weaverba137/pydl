/-
Constant data through the modelled `iterfit` (`fitFull`, Model/CombineFit.lean): it meets `FitConstData`, the fit contract of
`C11.const_flux_const`.  A spline whose good coefficients are all `v` is `v` at every abscissa; a status-0 `fit` of constant data stores
`v` in every good coefficient, provided the LAPACK pair returned THE solution of the banded system (`SolveUnique`); and that pass is the
last one of the loop, because its fitted values equal the data and `djs_reject` rejects nothing.
-/
import PydlVerif.Lemmas.BSplineKnots
import PydlVerif.Props.C10
import PydlVerif.Lemmas.Combine
namespace PydlVerif.CombineConst
open PydlVerif PydlVerif.BSpline PydlVerif.BSplineFit PydlVerif.BSplineFitLemmas PydlVerif.IterFit PydlVerif.Combine Finset

set_option linter.unusedSectionVars false

variable {K : Type} [Field K] [LinearOrder K] [IsStrictOrderedRing K] [FloorRing K]
attribute [local instance] fieldScalar
attribute [-instance] Scalar.instOfNat Scalar.instOfScientific

noncomputable local instance instInhabitedKC : Inhabited K := @PydlVerif.instInhabitedOfScalar K (fieldScalar K)

/-- a spline whose first `n` coefficients are all `v` is the constant `v` at EVERY abscissa, data point or not (partition of unity of
`bsplvn`, which needs only non-zero denominators: good knots strictly increasing) -/
theorem splineAt_const (t : ℕ → K) (k n : ℕ) (hk : 1 ≤ k) (hkn : k ≤ n) (c : ℕ → K) (v : K) (hc : ∀ j, j < n → c j = v)
    (hstrict : ∀ a b, a < b → b ≤ n + k - 1 → t a < t b) (x : K) : splineAt t c k n x = v := by
  have hle := C08.intrvOf_le t k n x hk hkn
  have hge := C08.intrvOf_ge t k n x
  exact C08.splineAt_of_const t c k n x v hk hkn hc (C08.bsplvn_sum_one_at t k _ x hk (by omega)
    (fun a b hab hb => (Nat.eq_or_lt_of_le hab).elim (fun e => e ▸ le_rfl) fun h => (hstrict a b h (by omega)).le)
    (hstrict _ _ (Nat.lt_succ_self _) (by omega)))

/-- `value` of an object whose good coefficients are all `v` returns `v` for every point asked, one value per point -/
theorem value_of_const_coeffs (b : BS K) (v : K) (xs : List K) (perm : List ℕ) (hk : 1 ≤ b.nord)
    (hsize : 2 * b.nord ≤ (BS.gb b).size) (hne : xs ≠ []) (hperm : perm.Perm (List.range xs.length))
    (hsorted : (perm.map (fun p => xs.getD p 0)).Pairwise (· ≤ ·))
    (hco : ∀ j, j < (BS.gb b).size - b.nord → C08.coeffAt b j = v)
    (hstrict : ∀ a c, a < c → c ≤ (BS.gb b).size - 1 → knotAt (BS.gb b) a < knotAt (BS.gb b) c) :
    ∃ m, @BS.value _ (fieldScalar _) b xs perm = .ok (xs.map (fun _ => v), m) := by
  have hplen : perm.length = xs.length := by rw [hperm.length_eq, List.length_range]
  have hpne : perm ≠ [] := by
    intro h; rw [h] at hplen; exact hne (List.length_eq_zero_iff.1 hplen.symm)
  have hv := @C08.value_eq K (fieldScalar K) b xs perm hk hsize hpne
  simp only [scalar_zero] at hv
  have hkn : b.nord ≤ (BS.gb b).size - b.nord := by omega
  rw [show (BS.gb b).size - b.nord - b.nord + 1 = ((BS.gb b).size - b.nord) - b.nord + 1 from rfl,
    C08.value_spec (knotAt (BS.gb b)) (C08.coeffAt b) b.nord ((BS.gb b).size - b.nord) hk hkn xs hne perm hperm hsorted] at hv
  have hmap : xs.map (splineAt (knotAt (BS.gb b)) (C08.coeffAt b) b.nord ((BS.gb b).size - b.nord)) = xs.map (fun _ => v) := by
    apply List.map_congr_left
    intro x _
    exact splineAt_const _ _ _ hk hkn _ v hco (fun a c hac hc => hstrict a c hac (by omega)) x
  rw [hmap] at hv
  exact ⟨_, hv⟩

/-- the `yfit` of `fit` is what `value` returns for the same points: both fill the rows of `action` with the good coefficients -/
theorem yfitOf_of_value (b : BS K) (xs : List K) (perm : List ℕ) (rows : List (List K)) (lower upper : Array ℤ) (yy : List K) (m : List Bool)
    (hact : b.action (perm.map fun p => xs.getD p (@OfNat.ofNat K (nat_lit 0) Scalar.instOfNat)) = .ok (some (rows, lower, upper)))
    (h : b.value xs perm = .ok (yy, m)) : yfitOf b rows lower upper xs.length perm = .ok yy := by
  unfold BS.value at h
  simp only [hact, bind, Except.bind] at h
  unfold yfitOf
  split at h
  · cases h
  · rename_i hc
    simp only [if_neg hc]
    cases h
    rfl

theorem const_solves_band (D : ℕ → ℕ → K) (w y : ℕ → K) (m n bw : ℕ) (alphaT beta : ℕ → K) (v : K)
    (hN : C09.NormalBand D w y m bw alphaT beta)
    (hrow : ∀ p, p < m → ∑ j ∈ range n, D p j = 1) (hy : ∀ p, p < m → w p ≠ 0 → y p = v) (c : ℕ) :
    ∑ c' ∈ range n, C09.bandFull alphaT bw c c' * (fun _ => v) c' = beta c := by
  -- the full symmetric matrix is `DᵀWD`; with the sums exchanged, row `p` of `D` sums to one
  simp only [C09.bandFull_gram D w m bw alphaT hN.band hN.alpha, hN.beta c]
  rw [← Finset.sum_mul, Finset.sum_comm, Finset.sum_mul]
  apply Finset.sum_congr rfl
  intro p hp
  rw [Finset.mem_range] at hp
  rw [← Finset.mul_sum, hrow p hp, mul_one]
  by_cases hw0 : w p = 0
  · rw [hw0]; ring
  · rw [hy p hp hw0]; ring

/-- a status-0 `fit` of data that are `v` wherever the weight is not 0 stores `v` in every good coefficient - when the LAPACK pair
returned THE solution of the banded system it was handed (`huniq`).
Good knots strictly increasing: the rows of the design matrix then sum to 1 (C08 `bsplvn_sum_one_at`). -/
theorem fit_const_coeffs (Kn : Kernels K) (b : BS K) (xs ys ws : List K) (perm : List ℕ) (out : FitOut K)
    (h : @BSplineFit.fit _ (fieldScalar _) Kn b xs ys ws perm = .ok out) (h0 : out.status = 0)
    (hk : 1 ≤ b.nord)
    (hnn : (goodIdx (b.mask.toList.drop b.nord)).length = (BS.gb b).size - b.nord)
    (hcs : b.mask.size - b.nord ≤ b.coeff.size)
    (hsorted : xs.Pairwise (· ≤ ·)) (hyl : ys.length = xs.length) (hwl : ws.length = xs.length)
    (hstrict : ∀ a c, a < c → c ≤ (BS.gb b).size - 1 → knotAt (BS.gb b) a < knotAt (BS.gb b) c)
    (v : K) (hy : ∀ p, p < xs.length → ws.getD p 0 ≠ 0 → ys.getD p 0 = v)
    (huniq : ∀ rows lower upper mininf a, @BS.action _ (fieldScalar _) b xs = .ok (some (rows, lower, upper)) →
      @choleskyBand _ (fieldScalar _) Kn (normalSystem rows ys ws lower upper xs.length b.nord ((BS.gb b).size - b.nord)).1 mininf = .ok (.factor a) →
      ∀ s : ℕ → K, (∀ c, c < (BS.gb b).size - b.nord → ∑ c' ∈ range ((BS.gb b).size - b.nord),
          C09.bandFull (assemble (fun p a => ((rows.map List.toArray).toArray[p]!)[a]!) (fun p => ys.toArray[p]!)
            (fun p => ws.toArray[p]!) lower upper xs.length b.nord ((BS.gb b).size - b.nord - b.nord + 1)).1 b.nord c c' * s c'
          = (assemble (fun p a => ((rows.map List.toArray).toArray[p]!)[a]!) (fun p => ys.toArray[p]!)
            (fun p => ws.toArray[p]!) lower upper xs.length b.nord ((BS.gb b).size - b.nord - b.nord + 1)).2 c) →
        ∀ c, c < (BS.gb b).size - b.nord →
          (@choleskySolve _ (fieldScalar _) Kn a (normalSystem rows ys ws lower upper xs.length b.nord ((BS.gb b).size - b.nord)).2)[c]! = s c) :
    out.obj.nord = b.nord ∧ BS.gb out.obj = BS.gb b ∧ out.obj.mask = b.mask ∧ 2 * b.nord ≤ (BS.gb b).size ∧
      ∀ j, j < (BS.gb b).size - b.nord → C08.coeffAt out.obj j = v := by
  obtain ⟨hsize, _, rows, lower, upper, mininf, a, hact, hchol, hobj, hN⟩ :=
    C09.fit_status0_system Kn b xs ys ws perm out h h0 hk hnn hsorted hyl hwl
  rw [hobj]
  refine ⟨rfl, rfl, rfl, hsize, fun j hj => ?_⟩
  have hkn : b.nord ≤ (BS.gb b).size - b.nord := by omega
  rw [C09.coeffAt_putGood b _ hcs j (hnn ▸ hj)]
  -- the constant vector solves the system `fit` assembled (the rows of the design matrix sum to one), so it is what was returned
  refine huniq rows lower upper mininf a hact hchol (fun _ => v) (fun c _ => ?_) j hj
  refine const_solves_band _ _ _ xs.length _ b.nord _ _ v hN (fun p _ => ?_) hy c
  have h1 := C09.design_row_is_spline (knotAt (BS.gb b)) b.nord _ hk hkn (C09.ptAt xs) p (fun _ => (1 : K))
  rw [splineAt_const _ b.nord _ hk hkn (fun _ => 1) 1 (fun _ _ => rfl) (fun a c hac hc => hstrict a c hac (by omega))] at h1
  rw [← h1]
  exact Finset.sum_congr rfl fun j _ => (mul_one _).symm

/-- the object is well formed (what `requiren`, `maskpoints` and `fit` preserve, so that `splineAt_const` and `fit_const_coeffs` apply
in every pass): sizes fit, the first `nord` breakpoints are unmasked, breakpoints strictly increasing -/
structure ObjOK (b : BS K) : Prop where
  msize : b.mask.size = b.breakpoints.size
  csize : b.mask.size - b.nord ≤ b.coeff.size
  first : ∀ i, i < b.nord → i < b.mask.size → b.mask[i]! = true
  strict : ∀ i j, i < j → j < b.breakpoints.size → b.breakpoints[i]! < b.breakpoints[j]!

theorem goodIdx_pairwise (m : List Bool) : (goodIdx m).Pairwise (· < ·) :=
  List.Pairwise.filter _ List.pairwise_lt_range

theorem getElem_ge_of_pairwise_lt : ∀ (l : List ℕ), l.Pairwise (· < ·) → ∀ j (hj : j < l.length), l[0]'(by omega) + j ≤ l[j] := by
  intro l
  induction l with
  | nil => intro _ j hj; cases hj
  | cons a l ih =>
    intro hp j hj
    rw [List.pairwise_cons] at hp
    cases j with
    | zero => simp
    | succ j =>
      simp only [List.getElem_cons_succ, List.getElem_cons_zero]
      have hj' : j < l.length := by simpa using hj
      have h1 := ih hp.2 j hj'
      have h2 := hp.1 _ (List.getElem_mem (show 0 < l.length by omega))
      omega

theorem ObjOK.hnn {b : BS K} (h : ObjOK b) : (goodIdx (b.mask.toList.drop b.nord)).length = (BS.gb b).size - b.nord := by
  have hsz : (BS.gb b).size = (goodIdx b.mask.toList).length := by unfold BS.gb; simp
  -- the first `nord` entries (as many as there are) are all True; count the True entries of `take ++ drop`
  have htrue : (b.mask.toList.take b.nord).count true = min b.nord b.mask.toList.length := by
    rw [List.count_eq_length.2, List.length_take]
    intro v hv
    obtain ⟨i, hi, rfl⟩ := List.getElem_of_mem hv
    rw [List.length_take] at hi
    have := h.first i (by omega) (by simp at hi ⊢; omega)
    rw [getElem!_pos b.mask i (by simp at hi ⊢; omega)] at this
    rw [List.getElem_take]
    simpa using this.symm
  have hsplit := congrArg (List.count true) (List.take_append_drop b.nord b.mask.toList)
  rw [List.count_append, htrue] at hsplit
  have hle := List.count_le_length (a := true) (l := b.mask.toList.drop b.nord)
  rw [List.length_drop] at hle
  rw [hsz, C09.goodIdx_length, C09.goodIdx_length]
  omega

theorem ObjOK.gb_strict {b : BS K} (h : ObjOK b) :
    ∀ a c, a < c → c ≤ (BS.gb b).size - 1 → knotAt (BS.gb b) a < knotAt (BS.gb b) c := by
  intro a c hac hc
  have hsz : (BS.gb b).size = (goodIdx b.mask.toList).length := by unfold BS.gb; simp
  by_cases hpos : 0 < (BS.gb b).size
  · have hcl : c < (goodIdx b.mask.toList).length := by omega
    have hal : a < (goodIdx b.mask.toList).length := by omega
    have hget : ∀ q (hq : q < (goodIdx b.mask.toList).length), knotAt (BS.gb b) q = b.breakpoints[(goodIdx b.mask.toList)[q]]! := by
      intro q hq
      unfold knotAt BS.gb
      rw [getElem!_pos _ q (by simpa using hq)]
      simp
    rw [hget a hal, hget c hcl]
    apply h.strict
    · exact List.pairwise_iff_getElem.1 (goodIdx_pairwise _) a c hal hcl hac
    · have := C09.goodIdx_lt _ _ (List.getElem_mem hcl)
      rw [← h.msize]; simpa using this
  · omega

theorem ObjOK.with_mask {b : BS K} (hb : ObjOK b) (m : Array Bool) (h1 : m.size = b.mask.size)
    (h2 : ∀ i, i < b.nord → m[i]! = b.mask[i]!) : ObjOK { b with mask := m } :=
  ⟨h1.trans hb.msize, h1 ▸ hb.csize, fun i hi hi2 => (h2 i hi).trans (hb.first i hi (h1 ▸ hi2)), hb.strict⟩

/-- a fold whose every step leaves the mask or switches off a position `pos il ≥ nord` keeps its size and its first `nord` entries -/
theorem foldl_mask_inv {σ : Type} (proj : σ → Array Bool) (pos : ℕ → ℕ) (nord : ℕ) (step : σ → ℕ → σ)
    (hstep : ∀ s il, proj (step s il) = proj s ∨ proj (step s il) = (proj s).setIfInBounds (pos il) false)
    (l : List ℕ) (hl : ∀ il ∈ l, nord ≤ pos il) (s : σ) :
    (proj (l.foldl step s)).size = (proj s).size ∧ ∀ i, i < nord → (proj (l.foldl step s))[i]! = (proj s)[i]! := by
  induction l generalizing s with
  | nil => exact ⟨rfl, fun _ _ => rfl⟩
  | cons il l ih =>
    simp only [List.foldl_cons]
    obtain ⟨h1, h2⟩ := ih (fun x hx => hl x (List.mem_cons_of_mem _ hx)) (step s il)
    rcases hstep s il with h | h
    · rw [h] at h1 h2; exact ⟨h1, h2⟩
    · rw [h] at h1 h2
      refine ⟨by rw [h1]; simp, fun i hi => ?_⟩
      rw [h2 i hi]
      apply getElem!_setIfInBounds_ne
      have := hl il List.mem_cons_self
      omega

/-- `requiren` only masks breakpoints beyond the first `nord` -/
theorem requirenMask_ok (b : BS K) (xw iw : List K) (mw : List Bool) (r : ℕ) (m : Array Bool)
    (h : requirenMask b xw iw mw r = .ok m) (hb : ObjOK b) : ObjOK { b with mask := m } := by
  unfold requirenMask at h
  simp only [] at h
  by_cases hn2 : b.nord < 2
  · rw [if_pos hn2] at h; cases h
  by_cases hng : (goodIdx b.mask.toList).length ≤ b.nord
  · rw [if_neg hn2, if_pos hng] at h; cases h
  rw [if_neg hn2, if_neg hng] at h
  injection h with h
  subst h
  refine And.elim (hb.with_mask _)
    (foldl_mask_inv (fun s : ℕ × ℕ × Array Bool => s.2.2) (fun il => (goodIdx b.mask.toList).getD il 0) b.nord _ ?_ _ ?_ _)
  · intro s il
    split
    · left; rfl
    · right; rfl
  · -- `ileft ≥ nord`, and the `ileft`-th good breakpoint sits at a position `≥ ileft`: only positions `≥ nord` are switched off
    intro il hil
    rw [List.mem_range'_1] at hil
    have hil2 : il < (goodIdx b.mask.toList).length := by omega
    rw [List.getD_eq_getElem _ _ hil2]
    have := getElem_ge_of_pairwise_lt _ (goodIdx_pairwise b.mask.toList) il hil2
    omega

theorem maskpoints_keep (mask : Array Bool) (nord : ℕ) (err : List ℕ) :
    (maskpoints mask nord err).2.size = mask.size ∧ ∀ i, i < nord → (maskpoints mask nord err).2[i]! = mask[i]! := by
  let P : Int × Array Bool → Prop := fun r => r.2.size = mask.size ∧ ∀ i, i < nord → r.2[i]! = mask[i]!
  have h0 : P (-2, mask) := ⟨rfl, fun _ _ => rfl⟩
  show P (maskpoints mask nord err)
  unfold maskpoints
  -- four ways out with the mask untouched (too few good breakpoints, no error index, an index out of range, nothing to test), then
  -- either the good breakpoints `goodbk[i]`, `i ∈ test`, are switched off, or the mask is untouched again
  refine ite_ind (fun _ => h0) fun hnb => ite_ind (fun _ => h0) fun _ => ite_ind (fun _ => h0) fun _ =>
    ite_ind (fun _ => h0) fun _ => ite_ind (fun _ => ?_) fun _ => h0
  refine foldl_mask_inv (fun s : Array Bool => s) (fun p => p) nord _ (fun s il => Or.inr rfl) _ ?_ _
  intro p hp
  obtain ⟨i, hi, rfl⟩ := List.mem_map.1 hp
  rw [List.mem_filter, List.mem_range] at hi
  obtain ⟨hil, hc⟩ := hi
  obtain ⟨jj, _, hjj⟩ := List.mem_flatMap.1 (List.contains_iff_mem.1 hc)
  obtain ⟨hh, _, rfl⟩ := List.mem_map.1 hjj
  -- every tested index is `≥ nord` (`insideIdx` adds `nord`), and the `i`-th good breakpoint sits at a position `≥ i`
  have hr := (@C09.insideIdx_range nord ((goodIdx mask.toList).length - nord) hh jj (by omega)).1
  rw [List.getD_eq_getElem _ _ hil]
  have := getElem_ge_of_pairwise_lt _ (goodIdx_pairwise mask.toList) _ hil
  omega

theorem putGood_size (coeff : Array K) (goodbk : List Bool) (sol : Array K) : (putGood coeff goodbk sol).size = coeff.size :=
  C09.foldl_setIf_size _ (fun j => sol[j]!) coeff

/-- whatever `fit` answers, the object it returns is well formed when the one it was given is -/
theorem fit_obj_ok (Kn : Kernels K) (b : BS K) (xs ys ws : List K) (perm : List ℕ) (out : FitOut K)
    (h : BSplineFit.fit Kn b xs ys ws perm = .ok out) (hb : ObjOK b) : ObjOK out.obj := by
  rcases C09.fit_cases Kn b xs ys ws perm out h with rfl | ⟨_, _, _, _, _, ⟨idx, _, _, _, e, _⟩ | ⟨_, _, _, e, _⟩⟩
  · exact hb
  · rw [e]
    exact hb.with_mask _ (maskpoints_keep b.mask b.nord idx).1 (maskpoints_keep b.mask b.nord idx).2
  · rw [e]
    exact ⟨hb.msize, (putGood_size b.coeff _ _).symm ▸ hb.csize, hb.first, hb.strict⟩

/-- `djs_reject` rejects nothing when the residuals are exactly 0; `C11.reject_keeps_exact` restates it -/
theorem reject_keeps_exact (sqrt : K → K) (o : Reject.Opts K) (hu : o.useSigma = false) (hd : o.maxdev = none)
    (hg : o.grow = 0) (hst : o.sticky = false) (data mdl sv : List K) (m : List Bool)
    (hl1 : mdl.length = data.length) (hl2 : m.length = data.length) (hl3 : sv.length = data.length)
    (hex : ∀ i, i < data.length → m.getD i true = true → mdl.getD i 0 = data.getD i 0) :
    Reject.djsReject sqrt o data (some mdl) (some m) (some m) sv = .ok (m, true) := by
  unfold Reject.djsReject
  simp only [hl1, hl2, hl3, ne_eq, not_true_eq_false, if_false, bind, Except.bind, pure, Except.pure, Option.isSome_some]
  rw [C10.djsRejectPix_pointwise sqrt { o with hasIn := true } _ hg rfl hst]
  have hpix : ∀ i, i < data.length →
      (Reject.isZero (Reject.badness sqrt { o with hasIn := true }
        (⟨data.getD i (@OfNat.ofNat K (nat_lit 0) Scalar.instOfNat), mdl.getD i (@OfNat.ofNat K (nat_lit 0) Scalar.instOfNat),
          sv.getD i (@OfNat.ofNat K (nat_lit 0) Scalar.instOfNat), m.getD i true, m.getD i true⟩ : Reject.Pix K)) && m.getD i true) = m.getD i true := by
    intro i hi
    cases hmi : m.getD i true with
    | false => simp
    | true =>
      have he := hex i hi hmi
      rw [scalar_zero] at *
      unfold Reject.badness Reject.addDev Reject.addUp Reject.addLow
      simp only [hu, hd, Bool.false_eq_true, if_false, he, sub_self, neg_zero, zero_mul, gt_iff_lt, lt_irrefl, decide_false,
        Bool.false_and, scalar_zero, if_true]
      cases o.lower <;> cases o.upper <;> simp [Reject.castB, Reject.isZero]
  congr 1
  refine Prod.ext ?_ ?_
  · simp only [List.map_map]
    refine (List.map_congr_left fun i hi => hpix i (List.mem_range.1 hi)).trans ?_
    rw [← hl2]
    exact map_range_getD m true
  · simp only [List.all_map, List.all_eq_true]
    intro i hi
    simp only [Function.comp]
    rw [hpix i (List.mem_range.1 hi)]
    simp

/-- every stored coefficient is 0 (the state of the object before the first status-0 fit) -/
def AllZero (b : BS K) : Prop := ∀ i : ℕ, b.coeff[i]! = 0

/-- the object after a status-0 fit of constant data: well formed, its good coefficients all `v` -/
def GoodObj (v : K) (b : BS K) : Prop :=
  ObjOK b ∧ 1 ≤ b.nord ∧ 2 * b.nord ≤ b.gb.size ∧ ∀ j, j < b.gb.size - b.nord → C08.coeffAt b j = v

/-- contract of the LAPACK pair: whenever `cholesky_band` factored the system that `fit` assembled, what `cholesky_solve` returns is
THE solution of that system - any vector solving it equals it (a successful Cholesky factorisation means a positive definite, hence
non-singular, matrix).  Stated, like C09's `hsolve`, on the calls `fit` makes. -/
def SolveUnique (Kn : Kernels K) : Prop :=
  ∀ (b : BS K) (xs ys ws : List K) rows lower upper mininf a, b.action xs = .ok (some (rows, lower, upper)) →
    choleskyBand Kn (normalSystem rows ys ws lower upper xs.length b.nord (b.gb.size - b.nord)).1 mininf = .ok (.factor a) →
    ∀ s : ℕ → K, (∀ c, c < b.gb.size - b.nord → ∑ c' ∈ range (b.gb.size - b.nord),
        C09.bandFull (assemble (fun p a => ((rows.map List.toArray).toArray[p]!)[a]!) (fun p => ys.toArray[p]!)
          (fun p => ws.toArray[p]!) lower upper xs.length b.nord (b.gb.size - b.nord - b.nord + 1)).1 b.nord c c' * s c'
        = (assemble (fun p a => ((rows.map List.toArray).toArray[p]!)[a]!) (fun p => ys.toArray[p]!)
          (fun p => ws.toArray[p]!) lower upper xs.length b.nord (b.gb.size - b.nord - b.nord + 1)).2 c) →
      ∀ c, c < b.gb.size - b.nord →
        (choleskySolve Kn a (normalSystem rows ys ws lower upper xs.length b.nord (b.gb.size - b.nord)).2)[c]! = s c

/-- one pass of `iterfit`'s loop on constant data: from all-zero coefficients the pass either leaves them all zero (no status-0 fit) or
stores `v` in every good coefficient; then the fitted values equal the data, `djs_reject` rejects NOTHING and sets `qdone`, which ends
the loop -/
theorem iterBodyRq_const (Kn : Kernels K) (hU : SolveUnique Kn) (p : Params K) (rq : Option ℕ) (xw yw iw : List K) (v : K)
    (hsorted : xw.Pairwise (· ≤ ·)) (hyw : ∀ y ∈ yw, y = v) (hyl : yw.length = xw.length) (hil : iw.length = xw.length)
    (s : IterFit.St K) (hz : AllZero s.sset) (hok : ObjOK s.sset) (hk : 1 ≤ s.sset.nord) (hmw : s.maskwork.length = xw.length)
    (o : Outcome K) (z : Bool) (h : iterBodyRq Kn p rq xw yw iw s = .ok (o, z)) :
    match o with
    | .failed b => AllZero b
    | .done s' => (AllZero s'.sset ∧ ObjOK s'.sset ∧ 1 ≤ s'.sset.nord ∧ s'.maskwork.length = xw.length) ∨
        (GoodObj v s'.sset ∧ s'.error = 0 ∧ s'.qdone = true) := by
  -- a rejection, run or not, leaves a mask of the same length
  have hlen : ∀ {yf run m q}, IterPass.Rejected Kn p yw iw s yf run m q → m.length = xw.length := fun hr =>
    hr.elim (fun e => e.2.1 ▸ hmw) (fun e => (C10.djsReject_length Kn.sqrt _ yw _ s.maskwork s.maskwork iw _ _ e.2).trans hyl)
  rw [IterPass.iterBodyRq_eq] at h
  rcases IterPass.passG_ok _ Kn p rq xw yw iw s o z h with ⟨_, m, q, hr, rfl⟩ | ⟨_, b, out, hb, hfit, hout⟩
  · -- at most one good point left: the object stays
    exact Or.inl ⟨hz, hok, hk, hlen hr⟩
  -- a fit, of the object `requiren` has gone over
  obtain ⟨hco', hno', hok'⟩ : b.coeff = s.sset.coeff ∧ b.nord = s.sset.nord ∧ ObjOK b := by
    rcases hb with rfl | ⟨r, m, hm, rfl⟩
    · exact ⟨rfl, rfl, hok⟩
    · exact ⟨rfl, rfl, requirenMask_ok s.sset xw iw s.maskwork r m hm hok⟩
  have hwl : (maskedWeights iw s.maskwork).length = xw.length :=
    (C10.maskedWeights_length iw s.maskwork (hmw.trans hil.symm)).trans hil
  have hobjok := fit_obj_ok Kn b xw yw _ _ out hfit hok'
  have hk' : 1 ≤ b.nord := by rw [hno']; exact hk
  -- the three ways `fit` returns: with another status than 0 the coefficients are those of `b`, all zero
  rcases C09.fit_cases Kn b xw yw _ _ out hfit with rfl | ⟨_, rows, lower, upper, hact, ⟨idx, _, _, hst, e, _⟩ | ⟨_, _, h0, e, hyf⟩⟩
  · have hz' : AllZero b := fun i => by rw [hco']; exact hz i
    rcases hout with ⟨_, rfl⟩ | ⟨_, m, q, hr, rfl⟩
    · exact hz'
    · exact Or.inl ⟨hz', hobjok, hk', hlen hr⟩
  · have hz' : AllZero out.obj := fun i => by rw [e, hco']; exact hz i
    rcases hout with ⟨_, rfl⟩ | ⟨_, m, q, hr, rfl⟩
    · exact hz'
    · exact Or.inl ⟨hz', hobjok, by rw [e]; exact hk', hlen hr⟩
  · -- status 0: the good coefficients are `v`, the fitted values are the data, nothing is rejected
    obtain ⟨hnord, hgb, hmask, hsize, hcoef⟩ := fit_const_coeffs Kn b xw yw _ (List.range xw.length) out hfit h0 hk'
      hok'.hnn hok'.csize hsorted hyl hwl hok'.gb_strict v (fun q hq _ => hyw _ (getD_mem yw 0 q (by omega)))
      (fun rows lower upper mininf a hact hch => hU b xw yw _ rows lower upper mininf a hact hch)
    have hgood : GoodObj v out.obj := by
      refine ⟨hobjok, by rw [hnord]; exact hk', by rw [hgb, hnord]; exact hsize, ?_⟩
      rw [hgb, hnord]; exact hcoef
    -- the fitted values are what `value` returns at the data points: `v`
    obtain ⟨_, hne, _⟩ := @C08.action_some K (fieldScalar K) b xw rows lower upper hk' hact
    obtain ⟨mm, hval⟩ := value_of_const_coeffs out.obj v xw (List.range xw.length) hgood.2.1 hgood.2.2.1 hne
      (List.Perm.refl _) (by rw [map_range_getD]; exact hsorted) hgood.2.2.2 hobjok.gb_strict
    have hyfit : out.yfit = xw.map (fun _ => v) := Except.ok.inj
      (hyf.symm.trans (yfitOf_of_value out.obj xw _ rows lower upper _ mm (by rw [e, map_range_getD]; exact hact) hval))
    have hrej := reject_keeps_exact Kn.sqrt (rejectOpts p) rfl rfl rfl rfl yw out.yfit iw s.maskwork
      (by rw [hyfit, List.length_map, hyl]) (by rw [hmw, hyl]) (by rw [hil, hyl])
      (fun i hi _ => by
        rw [hyfit, hyw _ (getD_mem yw 0 i hi)]
        obtain ⟨_, _, e⟩ := List.mem_map.1 (getD_mem (xw.map fun _ => v) 0 i (by rw [List.length_map, ← hyl]; exact hi))
        exact e.symm)
    rcases hout with ⟨h2, _⟩ | ⟨_, m, q, hr, rfl⟩
    · rw [h0] at h2; cases h2
    rcases hr with ⟨hn, _⟩ | ⟨_, hr⟩
    · exact absurd h0 hn
    · cases hrej.symm.trans hr
      exact Or.inr ⟨hgood, h0, rfl⟩

theorem iterLoopRq_stop (Kn : Kernels K) (p : Params K) (rq : Option ℕ) (xw yw iw : List K) (fuel : ℕ) (s : IterFit.St K) (cz : Bool)
    (he : s.error = 0) (hq : s.qdone = true) : iterLoopRq Kn p rq xw yw iw fuel s cz = .ok (.done s, cz) := by
  cases fuel with
  | zero => rfl
  | succ f =>
    unfold iterLoopRq
    rw [if_neg]
    · rfl
    · rw [he, hq]; simp

/-- what `iterfit`'s loop can leave on constant data -/
def FinalOK (v : K) : Outcome K → Prop
  | .failed b => AllZero b
  | .done s => AllZero s.sset ∨ GoodObj v s.sset

/-- the whole rejection loop on constant data: the object it leaves has all-zero coefficients (never fitted with status 0) or
is the object of the status-0 pass, which was the last one -/
theorem iterLoopRq_const (Kn : Kernels K) (hU : SolveUnique Kn) (p : Params K) (rq : Option ℕ) (xw yw iw : List K) (v : K)
    (hsorted : xw.Pairwise (· ≤ ·)) (hyw : ∀ y ∈ yw, y = v) (hyl : yw.length = xw.length) (hil : iw.length = xw.length) :
    ∀ (fuel : ℕ) (s : IterFit.St K) (cz : Bool), AllZero s.sset → ObjOK s.sset → 1 ≤ s.sset.nord → s.maskwork.length = xw.length →
      ∀ (o : Outcome K) (z : Bool), iterLoopRq Kn p rq xw yw iw fuel s cz = .ok (o, z) → FinalOK v o := by
  intro fuel
  induction fuel with
  | zero =>
    intro s cz hz _ _ _ o z h
    cases h
    exact Or.inl hz
  | succ fuel ih =>
    intro s cz hz hok hk hmw o z h
    unfold iterLoopRq at h
    split at h
    · obtain ⟨⟨o', z'⟩, hB, h⟩ := bind_ok h
      have hb := iterBodyRq_const Kn hU p rq xw yw iw v hsorted hyw hyl hil s hz hok hk hmw o' z' hB
      cases o' with
      | failed b =>
        cases h
        exact hb
      | done s' =>
        simp only [] at h
        rcases hb with ⟨h1, h2, h3, h4⟩ | ⟨hg, he, hq⟩
        · exact ih s' z' h1 h2 h3 h4 o z h
        · rw [iterLoopRq_stop Kn p rq xw yw iw fuel s' z' he hq] at h
          cases h
          exact Or.inr hg
    · cases h
      exact Or.inl hz

theorem allZero_replicate (nord : ℕ) (bk : Array K) (m : Array Bool) (n : ℕ) :
    AllZero (⟨nord, bk, m, Array.replicate n (@OfNat.ofNat K (nat_lit 0) Scalar.instOfNat)⟩ : BS K) := by
  intro i
  simp only []
  rw [getElem!_def, Array.getElem?_replicate]
  by_cases hi : i < n
  · rw [if_pos hi]; exact scalar_zero (K := K)
  · rw [if_neg hi]; exact Nat.cast_zero (R := K)

theorem goodx_length (xw : List K) (m : List Bool) (h : m.length ≤ xw.length) :
    (((xw.zip m).filter (fun xm => xm.2)).map (fun xm => xm.1)).length = countTrue m := by
  rw [List.length_map, countTrue]
  conv_rhs => rw [← List.map_snd_zip (l₁ := xw) (l₂ := m) h, List.filter_map, List.length_map]
  rfl

theorem iterCoreRq_const (Kn : Kernels K) (hU : SolveUnique Kn) (r32 : K → K) (p : Params K) (hp1 : 1 ≤ p.nord) (rq : Option ℕ)
    (xw yw iw : List K) (v : K) (hstrictx : xw.Pairwise (· < ·)) (hyw : ∀ y ∈ yw, y = v) (hyl : yw.length = xw.length)
    (hil : iw.length = xw.length)
    (hknots : ∀ goodx knots, goodx.Pairwise (· < ·) → p.nord ≤ goodx.length → mkKnots r32 goodx p.nord p.opts = .ok knots →
      knots.Pairwise (· < ·))
    (sset : BS K) (cz : Bool) (m : Option (List Bool)) (h : iterCoreRq Kn r32 p rq xw yw iw = .ok (sset, cz, m)) :
    AllZero sset ∨ GoodObj v sset := by
  have hsorted : xw.Pairwise (· ≤ ·) := hstrictx.imp le_of_lt
  unfold iterCoreRq at h
  simp only [] at h
  split at h
  · cases h
  obtain ⟨knots, hkn, h⟩ := bind_ok h
  split at h
  · cases h
    exact Or.inl (allZero_replicate _ _ _ _)
  · rename_i hcount
    have hgl := goodx_length xw (iw.map (fun v => decide ((@OfNat.ofNat K (nat_lit 0) Scalar.instOfNat) < v))) (by simp [hil])
    have hstrictk := hknots _ knots (hstrictx.sublist (C10.goodx_sublist xw _)) (by rw [hgl]; omega) hkn
    have hok0 : ObjOK (⟨p.nord, knots.toArray, Array.replicate knots.length true,
        Array.replicate (knots.length - p.nord) (@OfNat.ofNat K (nat_lit 0) Scalar.instOfNat)⟩ : BS K) := by
      refine ⟨by simp, by simp, ?_, ?_⟩
      · intro i _ hi
        rw [getElem!_pos _ i hi, Array.getElem_replicate]
      · intro i j hij hj
        rw [getElem!_pos knots.toArray i (Nat.lt_trans hij hj), getElem!_pos knots.toArray j hj]
        exact List.pairwise_iff_getElem.1 hstrictk i j _ _ hij
    obtain ⟨⟨o, z⟩, hloop, h⟩ := bind_ok h
    have hfin := iterLoopRq_const Kn hU p rq xw yw iw v hsorted hyw hyl hil (p.maxiter + 1) _ false
      (allZero_replicate _ _ _ _) hok0 hp1 (by simp only [List.length_map]; exact hil) o z hloop
    cases o with
    | failed b =>
      cases h
      exact Or.inl hfin
    | done s' =>
      cases h
      exact hfin

/-- `iterfit` (requiren, degenerate branch, all passes) on constant data returns an object with all-zero coefficients or with every
good coefficient `v` -/
theorem iterfitRq_const (Kn : Kernels K) (hU : SolveUnique Kn) (r32 : K → K) (var : List K → K) (p : Params K) (hp1 : 1 ≤ p.nord)
    (rq : Option ℕ) (xs ys : List K) (ivs : Option (List K)) (perm : List ℕ) (v : K)
    (hperm : perm.Perm (List.range xs.length)) (hsorted : (perm.map (fun i => xs.getD i 0)).Pairwise (· < ·))
    (hys : ∀ y ∈ ys, y = v)
    (hknots : ∀ goodx knots, goodx.Pairwise (· < ·) → p.nord ≤ goodx.length → mkKnots r32 goodx p.nord p.opts = .ok knots →
      knots.Pairwise (· < ·))
    (o : RqOut K) (h : iterfitRq Kn r32 var p rq xs ys ivs perm = .ok o) : AllZero o.sset ∨ GoodObj v o.sset := by
  unfold iterfitRq at h
  simp only [scalar_zero] at h
  by_cases hyl : ys.length ≠ xs.length
  · rw [if_pos hyl] at h; cases h
  rw [if_neg hyl] at h
  have hyw : ∀ y ∈ perm.map (fun i => ys.getD i 0), y = v := by
    intro y hy
    obtain ⟨i, hi, rfl⟩ := List.mem_map.1 hy
    exact hys _ (getD_mem ys 0 i (by have := perm_mem_lt perm _ hperm i hi; rw [not_not.1 hyl]; exact this))
  -- the part after the weights `ivl` are known
  have rest : ∀ ivl : List K, (if xs.length ≤ 1 then (.error "Unmodelled" : BSpline.R (RqOut K)) else do
      let r ← iterCoreRq Kn r32 p rq (perm.map (fun i => xs.getD i 0)) (perm.map (fun i => ys.getD i 0)) (perm.map (fun i => ivl.getD i 0))
      match r.2.2 with
      | none => pure ⟨r.1, r.2.1, List.replicate xs.length true⟩
      | some maskwork => pure ⟨r.1, r.2.1, unsort perm maskwork⟩) = .ok o → AllZero o.sset ∨ GoodObj v o.sset := by
    intro ivl h
    split at h
    · cases h
    obtain ⟨⟨sset, cz, m⟩, hcore, h⟩ := bind_ok h
    have hsset : o.sset = sset := by cases m <;> cases h <;> rfl
    rw [hsset]
    exact iterCoreRq_const Kn hU r32 p hp1 rq _ _ _ v hsorted hyw (by simp) (by simp) hknots sset cz m hcore
  cases ivs with
  | some iv =>
    simp only [] at h
    split at h
    · cases h
    · exact rest iv h
  | none =>
    obtain ⟨ivl, _, h⟩ := bind_ok h
    exact rest ivl h

theorem coeffZero_of_allZero (b : BS K) (h : AllZero b) : coeffZero b.coeff.toList = true := by
  refine (coeffZero_iff _).2 fun u hu => ?_
  obtain ⟨i, hi, rfl⟩ := List.getElem_of_mem hu
  have := h i
  rwa [getElem!_pos b.coeff i (by simpa using hi)] at this

theorem coeffZero_zero : coeffZero ([(@OfNat.ofNat K (nat_lit 0) Scalar.instOfNat)] : List K) = true :=
  (coeffZero_iff _).2 fun _ hu => (List.mem_singleton.1 hu).trans scalar_zero

/-- the fit contract of `C11.const_flux_const` (about calls whose data are all `v` and whose abscissae are pairwise different only):
a fit that is used (`coeffs` not all zero) evaluates to `v` at every abscissa it is asked for, one value per abscissa -/
def FitConstData (fit : ℕ → K → List K → List K → Option (List K) → Combine.R (Fit K)) (v : K) : Prop :=
  ∀ k bk gx gy giv F, gx.Pairwise (· ≠ ·) → (∀ y ∈ gy, y = v) → fit k bk gx gy giv = .ok F → coeffZero F.coeffs = false →
    ∀ xs vals vm, F.value xs = .ok (vals, vm) → vals.length = xs.length ∧ ∀ u ∈ vals, u = v

/-- the modelled `iterfit` meets the contract of the constant theorem.  Assumed: `SolveUnique`; `argsort` returns a sorting
permutation; `hknots`: the breakpoints the constructor places on at least three strictly increasing good abscissae are strictly
increasing.  Everything else (`requiren`, `maskpoints`, the rejection loop, `value`) is followed through the model. -/
theorem fitFull_const (Kn : Kernels K) (hU : SolveUnique Kn) (r32 : K → K) (var : List K → K) (argsortG : List K → List ℕ)
    (hargsort : ∀ l : List K, (argsortG l).Perm (List.range l.length) ∧ ((argsortG l).map (fun i => l.getD i 0)).Pairwise (· ≤ ·))
    (hknots : ∀ (bk : K) goodx knots, goodx.Pairwise (· < ·) → 3 ≤ goodx.length →
      mkKnots r32 goodx 3 (c1fParams bk).opts = .ok knots → knots.Pairwise (· < ·)) (v : K) :
    FitConstData (fitFull Kn r32 var argsortG) v := by
  intro k bk gx gy giv F hgx hgy hF hz xs vals vm hval
  unfold fitFull at hF
  obtain ⟨o, ho, hF⟩ := bind_ok hF
  cases hF
  simp only [] at hz hval
  obtain ⟨hperm, hsorted⟩ := hargsort gx
  have hdist : ((argsortG gx).map (fun i => gx.getD i 0)).Pairwise (· ≠ ·) :=
    ((map_getD_perm gx 0 (argsortG gx) hperm).pairwise_iff (fun {a b} (h : a ≠ b) => h.symm)).2 hgx
  have hstrict : ((argsortG gx).map (fun i => gx.getD i 0)).Pairwise (· < ·) :=
    (hsorted.and hdist).imp (fun {a b} h => lt_of_le_of_ne h.1 h.2)
  have hres := iterfitRq_const Kn hU r32 var (c1fParams bk) (by simp [c1fParams]) (some 1) gx gy giv (argsortG gx) v hperm hstrict hgy
    (hknots bk) o ho
  cases hcz : o.cz with
  | true =>
    rw [hcz] at hz
    simp only [if_true] at hz
    rw [coeffZero_zero] at hz
    cases hz
  | false =>
    rw [hcz] at hz hval
    simp only [Bool.false_eq_true, if_false] at hz hval
    rcases hres with hall | ⟨hok, hk, hsize, hco⟩
    · rw [coeffZero_of_allZero _ hall] at hz
      cases hz
    · obtain ⟨hpx, hsx⟩ := hargsort xs
      by_cases hne : xs = []
      · -- no abscissa: `value` raises
        subst hne
        have hp0 : argsortG [] = [] := by
          have := hpx.length_eq
          simpa using this
        rw [hp0] at hval
        exfalso
        simp [BS.value, BS.action, BS.intrv, BS.bsplvn, bind, Except.bind, pure, Except.pure, indexError,
          show ¬ o.sset.gb.size < 2 * o.sset.nord by omega] at hval
      · obtain ⟨m, hm⟩ := value_of_const_coeffs o.sset v xs (argsortG xs) hk hsize hne hpx hsx hco hok.gb_strict
        rw [hm] at hval
        cases hval
        exact ⟨List.length_map _, List.forall_mem_map.2 fun _ _ => rfl⟩

theorem padKnots_strict (nord : ℕ) (bs first last : K) (b2 : List K) (hbs : 0 < bs)
    (hsorted : b2.Pairwise (· < ·)) (hfirst : ∀ y ∈ b2, first ≤ y) (hlast : ∀ y ∈ b2, y ≤ last) (hfl : first ≤ last) :
    (padKnots id id nord bs first last b2).Pairwise (· < ·) := by
  simp only [padKnots, id, C08.sc_sub, C08.sc_add, C08.sc_mul, scalar_ofNat]
  have hnn : ∀ i : ℕ, 0 < bs * ((i + 1 : ℕ) : K) := fun i => mul_pos hbs (Nat.cast_pos.2 i.succ_pos)
  have hstep : ∀ a b : ℕ, a < b → bs * ((a + 1 : ℕ) : K) < bs * ((b + 1 : ℕ) : K) := fun a b hab =>
    mul_lt_mul_of_pos_left (Nat.cast_lt.2 (Nat.succ_lt_succ hab)) hbs
  rw [List.pairwise_append, List.pairwise_append]
  refine ⟨⟨?_, hsorted, ?_⟩, ?_, ?_⟩
  · rw [List.pairwise_map, List.pairwise_reverse]
    exact List.pairwise_lt_range.imp fun hab => sub_lt_sub_left (hstep _ _ hab) first
  · intro u hu w hw
    obtain ⟨i, _, rfl⟩ := List.mem_map.1 hu
    exact lt_of_lt_of_le (sub_lt_self first (hnn i)) (hfirst w hw)
  · rw [List.pairwise_map]
    exact List.pairwise_lt_range.imp fun hab => (add_lt_add_iff_left last).2 (hstep _ _ hab)
  · intro u hu w hw
    obtain ⟨i, _, rfl⟩ := List.mem_map.1 hw
    refine lt_of_le_of_lt ?_ (lt_add_of_pos_right last (hnn i))
    rcases List.mem_append.1 hu with hu | hu
    · obtain ⟨i', _, rfl⟩ := List.mem_map.1 hu
      exact le_trans (le_of_lt (sub_lt_self first (hnn i'))) hfl
    · exact hlast u hu

/-- `hknots` of `fitFull_const` in exact arithmetic (`r32 = id`): for the call `combine1fiber` makes (`nord = 3`, `bkspace = bkptbin`,
`bkspread = 1`) on strictly increasing good abscissae, the knot vector the constructor returns is strictly increasing -/
theorem mkKnots_strict (bk : K) (goodx knots : List K) (hs : goodx.Pairwise (· < ·)) (hl : 2 ≤ goodx.length)
    (h : mkKnots id goodx 3 (c1fParams bk).opts = .ok knots) : knots.Pairwise (· < ·) := by
  obtain ⟨x0, x1, rest, rfl⟩ : ∃ x0 x1 rest, goodx = x0 :: x1 :: rest := by
    match goodx, hl with
    | a :: b :: l, _ => exact ⟨a, b, l, rfl⟩
  have hrange : 0 < maxOf x0 (x1 :: rest) - minOf x0 (x1 :: rest) :=
    sub_pos.2 (lt_of_le_of_lt ((C08.minOf_spec x0 (x1 :: rest)).2 x0 List.mem_cons_self) (lt_of_lt_of_le
      ((List.pairwise_cons.1 hs).1 x1 List.mem_cons_self)
      ((C08.maxOf_spec x0 (x1 :: rest)).2 x1 (List.mem_cons_of_mem _ List.mem_cons_self))))
  unfold mkKnots at h
  obtain ⟨⟨b, f32⟩, hshort, h⟩ := bind_ok h
  -- the short breakpoint vector: `n + 2` evenly spaced values from `lo = x.min()` to `hi = x.max()`
  simp only [shortBkpt, c1fParams] at hshort
  split at hshort
  · split at hshort <;> cases hshort
  injection hshort with hshort
  injection hshort with hb hf
  generalize minOf x0 (x1 :: rest) = lo at h hb hrange
  generalize maxOf x0 (x1 :: rest) = hi at h hb hrange
  obtain ⟨n, hn⟩ : ∃ n : ℕ, (if truncInt ((hi - lo) / bk) + 1 < 2 then 2 else (truncInt ((hi - lo) / bk) + 1).toNat) = n + 2 :=
    ⟨_, (Nat.sub_add_cancel (by split <;> omega)).symm⟩
  rw [hn, show n + 2 - 1 = n + 1 from rfl, scalar_ofNat] at hb
  have hpos : (0 : K) < ((n + 1 : ℕ) : K) := Nat.cast_pos.2 n.succ_pos
  have hlast : ((n + 1 : ℕ) : K) * ((hi - lo) / ((n + 1 : ℕ) : K)) = hi - lo := mul_div_cancel₀ _ (ne_of_gt hpos)
  have htpos : 0 < (hi - lo) / ((n + 1 : ℕ) : K) := div_pos hrange hpos
  obtain ⟨_, _, hbnd⟩ := C08.evenBkpt_facts (n + 2) _ lo (hi - lo) htpos.le hlast
  rw [hb] at hbnd
  rw [C08.evenBkpt_eq] at hb
  have hbstrict : b.Pairwise (· < ·) := by
    rw [← hb, List.pairwise_map]
    exact List.pairwise_lt_range.imp fun hac => (add_lt_add_iff_right _).2 (mul_lt_mul_of_pos_right (Nat.cast_lt.2 hac) htpos)
  -- its first entry is `lo`, its last `hi`: the patching changes nothing
  rw [List.range_succ, List.range_succ_eq_map, List.map_append, List.map_cons, List.map_cons, List.map_nil, List.cons_append,
    Nat.cast_zero, zero_mul, zero_add, hlast, sub_add_cancel] at hb
  subst hb hf
  simp only [] at h
  rw [C08.padBkpt_eq 3 _ _ _ lo hi _ false (hbstrict.imp le_of_lt), min_self, max_self] at h
  injection h with h
  rw [← h]
  refine padKnots_strict 3 _ lo hi _ ?_ hbstrict (fun y hy => (hbnd y hy).1)
    (fun y hy => (hbnd y hy).2.trans (add_sub_cancel lo hi).le) (sub_nonneg.1 hrange.le)
  -- the padding step is positive: the second entry minus the first, times `bkspread = 1`
  refine mul_pos (sub_pos.2 ?_) (show (0 : K) < (1.0 : K) by norm_num)
  rw [List.getD_cons_succ, List.getD_eq_getElem _ _ (by simp)]
  exact (List.pairwise_cons.1 hbstrict).1 _ (List.getElem_mem _)

end PydlVerif.CombineConst
