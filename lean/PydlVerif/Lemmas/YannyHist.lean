/-
For C03: the machine of Model/YannyHist.lean as a transition relation (`Step`), and `append()` as the old parse
continued by the line loop over the lines of the chunk (`parse_append`, `chunk_loop`).
-/
import PydlVerif.Model.YannyHist
import PydlVerif.Props.C01
namespace PydlVerif.Yanny

variable {F : Type}

theorem appendTables_nil (io : FloatIO F) (v : View F) (syms : List (Str × List Str)) :
    appendTables io v [] syms = .ok (syms.map (fun t => (t.1, []))) := by
  induction syms with
  | nil => rfl
  | cons t ts ih => simp [appendTables, appendTableRows, lookupKey, ih]

theorem appendChunk_nil (io : FloatIO F) (v : View F) : appendChunk io v [] = .ok [] := by
  simp [appendChunk, appendPairs, appendTables_nil, rowLinesOf]

theorem appendTables_names (io : FloatIO F) (v : View F) (data : List (Str × AVal F))
    (syms : List (Str × List Str)) (gs : List (Str × List (List (Cell F))))
    (h : appendTables io v data syms = .ok gs) : gs.map (·.1) = syms.map (·.1) := by
  induction syms generalizing gs with
  | nil => cases h; rfl
  | cons t ts ih =>
    simp only [appendTables] at h
    split at h
    · cases h
    · split at h
      · cases h
      · next more hm => cases h; simp [ih more hm]

theorem acceptedAppend_of_view (io : FloatIO F) (s : State F) (data : List (Str × AVal F)) (v : View F)
    (hb : s.obj.filename ≠ []) (hv : s.obj.view = .ok v) (hf : (s.fs s.obj.filename).isSome = true) :
    acceptedAppend io s data = acceptedOf io v data := by
  unfold acceptedAppend acceptedOf
  simp only [List.isEmpty_eq_false_iff.mpr hb, Bool.false_eq_true, if_false, hv, hf, if_true]
  cases appendPairs v data with
  | error e => rfl
  | ok ps =>
    cases appendTables io v data v.symbols with
    | error e => rfl
    | ok gs => rfl

/-- The transition relation of the machine.  Every refusal of `write()` and `append()`, the empty
append and the non-dictionary append are one case: the state is untouched, the outcome is not `ok`,
and an append refused is an append not accepted.  `write` and `append` are the accepted operations with
what was checked on the way. -/
inductive Step (io : FloatIO F) (s : State F) : Op F → State F × Out → Prop
  | refused {op out} (hno : out ≠ .ok)
      (hacc : ∀ d st, op = .append d st → acceptedAppend io s d = none) : Step io s op (s, out)
  | write {nf cm p v} (ht : writeTarget s nf = some p) (hf : s.fs p = none) (hp : p ≠ [])
      (hv : s.obj.view = .ok v) : Step io s (.write nf cm) (writeTo io s p v cm)
  | append {d st v ps gs old} (hacc : acceptedAppend io s d = some (ps, gs)) (hb : s.obj.filename ≠ [])
      (hv : s.obj.view = .ok v) (hg : appendTables io v d v.symbols = .ok gs)
      (hold : s.fs s.obj.filename = some old) :
      Step io s (.append d st)
        (appendTo io s old (appendHeader st ++ ((ps.map pairLine).flatten ++ rowLinesOf io gs)))
  | reread : Step io s .reread (⟨s.fs, load io s.fs s.obj.filename s.obj.raw⟩,
      outOf (load io s.fs s.obj.filename s.obj.raw).view)
  | unlink : Step io s .unlink (⟨update s.fs s.obj.filename none, s.obj⟩, .ok)
  | rebind {p} : Step io s (.rebind p) (⟨s.fs, { s.obj with filename := p }⟩, .ok)

/-- to use it on a goal about `step io s op`, `generalize` that term first: `cases` wants a variable for the result -/
theorem step_spec (io : FloatIO F) (s : State F) (op : Op F) : Step io s op (step io s op) := by
  cases op with
  | write nf cm =>
    simp only [step, stepWrite]
    split
    · exact .refused nofun nofun
    next p ht =>
      split
      · exact .refused nofun nofun
      next hf =>
        split
        · exact .refused nofun nofun
        next hp =>
          split
          · exact .refused nofun nofun
          next v hv => exact .write ht (by simpa using hf) (by simpa using hp) hv
  | append d st =>
    simp only [step, stepAppend]
    have ref : ∀ out, out ≠ .ok → acceptedAppend io s d = none → Step io s (.append d st) (s, out) :=
      fun _ h1 h2 => .refused h1 (fun _ _ e => by cases e; exact h2)
    split
    · exact ref _ nofun (by simp [acceptedAppend, *])
    next hb =>
      split
      · exact ref _ nofun (by simp [acceptedAppend, *])
      next v hv =>
        unfold appendChunk
        cases hp : appendPairs v d with
        | error e => exact ref _ nofun (by simp [acceptedAppend, *])
        | ok ps =>
          cases hg : appendTables io v d v.symbols with
          | error e => exact ref _ nofun (by simp [acceptedAppend, *])
          | ok gs =>
            dsimp only
            split
            · exact ref _ nofun (by simp [acceptedAppend, *])
            · split
              · exact ref _ nofun (by simp [acceptedAppend, *])
              next old hold => exact .append (by simp [acceptedAppend, *]) (by simpa using hb) hv hg hold
  | appendNonDict => exact .refused nofun nofun
  | reread => exact .reread
  | unlink => exact .unlink
  | rebind p => exact .rebind

/-- `YannyRT.lineLoop_cat`, restated: the `match` in the statements of this file and of C03 is the
auxiliary definition Lean generates at this declaration -/
theorem lineLoop_append (io : FloatIO F) (specs : List (Str × Except String (List ColSpec)))
    (st : LoopSt F) (l1 l2 : List Str) :
    lineLoop io specs st (l1 ++ l2) =
      match lineLoop io specs st l1 with
      | .error e => .error e
      | .ok st' => lineLoop io specs st' l2 :=
  YannyRT.lineLoop_cat io specs st l1 l2

/-- `split('\n')` of a text that ends its last line ends with an empty string, which the loop skips:
so splitting "rest + chunk" and splitting the two apart give the same loop (a rest without its last
newline would share a line with the chunk) -/
theorem lineLoop_split_append (io : FloatIO F) (specs : List (Str × Except String (List ColSpec)))
    (st : LoopSt F) (rest chunk : Str) (h : rest = [] ∨ ∃ a, rest = a ++ ['\n']) :
    lineLoop io specs st (splitNl (rest ++ chunk)) =
      match lineLoop io specs st (splitNl rest) with
      | .error e => .error e
      | .ok st' => lineLoop io specs st' (splitNl chunk) := by
  have h0 : ∀ st : LoopSt F, lineLoop io specs st (splitNl []) = .ok st := fun st =>
    YannyRT.lineLoop_skip io specs st [[]] (List.forall_mem_singleton.mpr YannyRT.skipLine_nil)
  rcases h with rfl | ⟨a, rfl⟩
  · rw [List.nil_append, h0]
  · rw [List.append_assoc, List.singleton_append, YannyRT.splitNl_cut, YannyRT.splitNl_cut a [],
      lineLoop_append, lineLoop_append]
    cases lineLoop io specs st (splitNl a) with
    | error e => rfl
    | ok st' => simp only [h0]

/-- the text left for the line loop is empty or ends with a newline (true of every text pydl
writes: each line is written with its newline) -/
def RestNl (text : Str) : Prop := (front text).rest = [] ∨ ∃ a, (front text).rest = a ++ ['\n']

theorem RestNl_of_restNl (text : Str) (h : restNl text = true) : RestNl text := by
  simp only [restNl, Bool.or_eq_true, beq_iff_eq] at h
  rcases h with h | h
  · exact Or.inl (List.isEmpty_iff.mp h)
  · exact Or.inr (List.getLast?_eq_some_iff.mp h)

/-- the statement of `C03.parse_append` -/
theorem parse_append (io : FloatIO F) (raw : Bool) (text chunk : Str)
    (hfs : frontStable text chunk = true) (hnl : RestNl text) :
    loopOf io raw (text ++ chunk) =
      match loopOf io raw text with
      | .error e => .error e
      | .ok st => lineLoop io (specsOf (front text) raw) st (splitNl chunk) := by
  simp only [frontStable, Bool.and_eq_true, beq_iff_eq] at hfs
  obtain ⟨⟨⟨h1, _⟩, h3⟩, h4⟩ := hfs
  simp only [loopOf, specsOf, initSt, h1, h3, h4]
  exact lineLoop_split_append io _ _ _ chunk hnl

/-- the "Appended by" comment without its newline: the text that `stampOK` (Model/YannyHistDom.lean) spells out and
checks for `typedef` -/
def headerLine (stamp : Str) : Str := hdrPrefix ++ stamp ++ ['.']

theorem headerLine_noNl (stamp : Str) (hst : '\n' ∉ stamp) : '\n' ∉ headerLine stamp := by
  simp only [headerLine, List.mem_append, List.mem_singleton, not_or]
  exact ⟨⟨by decide, hst⟩, by decide⟩

/-- the lines of the chunk `append()` writes, without their newlines -/
def chunkLines (io : FloatIO F) (stamp : Str) (ps : List (Str × Str))
    (groups : List (Str × List (List (Cell F)))) : List Str :=
  headerLine stamp :: (ps.map (fun kv => kv.1 ++ ' ' :: kv.2) ++ groups.flatMap (fun g => g.2.map (fmtRow io g.1)))

theorem pairLine_eq : (pairLine : Str × Str → Str) = fun kv => kv.1 ++ ' ' :: kv.2 ++ ['\n'] := rfl

theorem chunk_eq_lines (io : FloatIO F) (stamp : Str) (ps : List (Str × Str))
    (groups : List (Str × List (List (Cell F)))) :
    appendHeader stamp ++ ((ps.map pairLine).flatten ++ rowLinesOf io groups) =
      linesText (chunkLines io stamp ps groups) := by
  simp [linesText, chunkLines, appendHeader, headerLine, rowLinesOf, pairLine_eq, List.flatMap_def, List.map_flatten,
    List.flatten_flatten, List.map_map, Function.comp_def]

/-- the statement of `C03.chunk_loop` -/
theorem chunk_loop (io : FloatIO F) (h1 : H1 io) (h2 : H2 io)
    (specs : List (Str × Except String (List ColSpec))) (st : LoopSt F) (stamp : Str)
    (ps : List (Str × Str)) (groups : List (Str × List (List (Cell F))))
    (hst : '\n' ∉ stamp) (hp : ∀ kv ∈ ps, PairOK specs kv) (hg : ∀ g ∈ groups, GroupOK io specs g) :
    lineLoop io specs st (splitNl (appendHeader stamp ++ ((ps.map pairLine).flatten ++ rowLinesOf io groups))) =
      .ok (applyAppend st ps groups) := by
  have hnl : ∀ l ∈ chunkLines io stamp ps groups, '\n' ∉ l :=
    List.forall_mem_cons.mpr ⟨headerLine_noNl stamp hst, List.forall_mem_append.mpr
      ⟨List.forall_mem_map.mpr fun kv hm => pair_noNl specs kv (hp kv hm), group_noNl io h2 specs groups hg⟩⟩
  rw [chunk_eq_lines, ← List.append_nil (linesText _), YannyRT.splitNl_lines_app _ [] hnl]
  -- `hdrPrefix` begins with `#`; `split` leaves an empty last line
  have := loop_lines io h1 h2 specs st [headerLine stamp] [] (splitNl []) ps groups
    (by simp [headerLine, hdrPrefix, YannyRT.skipLine_hash, YannyRT.skipLine_nil, splitNl, splitNlAux]) hp hg
  simpa only [chunkLines, List.cons_append, List.nil_append, List.append_assoc] using this

end PydlVerif.Yanny
