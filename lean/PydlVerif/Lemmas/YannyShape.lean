/-
C01, file level: the text the writer is expected to emit for a definition, as plain text functions (no `Except`), and
what its parts are made of.
-/
import PydlVerif.Lemmas.YannyPair
namespace PydlVerif.YannyRT
open PydlVerif.Yanny

/-- `typedef K {body} NAME;` -/
def blockText (K body name : Str) : Str :=
  "typedef ".toList ++ K ++ " {".toList ++ body ++ "} ".toList ++ name ++ [';']

/-- one member of a struct body, with the newline that precedes it: `\n    T N A;`
(`m = (T, N, A)`: type word, column name, array suffix) -/
def memberLine (m : Str × Str × Str) : Str :=
  "\n    ".toList ++ m.1 ++ ' ' :: m.2.1 ++ m.2.2 ++ [';']

/-- the text between the braces of a written struct -/
def structBody (ms : List (Str × Str × Str)) : Str := (ms.map memberLine).flatten ++ ['\n']

/-- the text between the braces of a written enum: `\n    A,\n    B\n` -/
def enumBody (labels : List Str) : Str :=
  '\n' :: (joinWith ",\n".toList (labels.map (fun n => "    ".toList ++ n)) ++ ['\n'])

/-- the type word `dtype_to_struct` writes for a column -/
def tyWord (enums : List EnumDecl) (c : Col) : Str :=
  match strSize c.ty with
  | some _ =>
    match enums.find? (fun e => e.col == c.name) with
    | some e => upper e.tyName
    | none => "char".toList
  | none => (cType c.ty).getD []

/-- the array suffix `dtype_to_struct` writes after the column name -/
def arrSuffix (enums : List EnumDecl) (c : Col) : Str :=
  (if c.alen > 0 then brack c.alen else []) ++
  match strSize c.ty with
  | some s =>
    match enums.find? (fun e => e.col == c.name) with
    | some _ => []
    | none => brack s
  | none => []

def member (enums : List EnumDecl) (c : Col) : Str × Str × Str :=
  (tyWord enums c, c.name, arrSuffix enums c)

/-- the struct text of a table (what `dtypeToStruct` returns on supported columns) -/
def structText (enums : List EnumDecl) (name : Str) (cols : List Col) : Str :=
  blockText "struct".toList (structBody (cols.map (member enums))) (upper name)

/-- the enum text of a declaration (what `enumText` returns for a non-empty label list) -/
def enumText' (e : EnumDecl) : Str := blockText "enum".toList (enumBody e.labels) (upper e.tyName)

/-- a non-empty word of `\w` characters -/
def wordy (s : Str) : Prop := s ≠ [] ∧ ∀ c ∈ s, isWordCh c = true

/-- an array suffix: empty, or `[` … `]` made of digits and brackets -/
def arrOK (a : Str) : Prop :=
  (a = [] ∨ (a.head? = some '[' ∧ a.getLast? = some ']')) ∧
  ∀ c ∈ a, c = '[' ∨ c = ']' ∨ c.isDigit = true

/-- a member `(T, N, A)` of a written struct: type word, column name, array suffix -/
def memOK (m : Str × Str × Str) : Prop := wordy m.1 ∧ wordy m.2.1 ∧ arrOK m.2.2

/-- body and name of a `typedef K {body} NAME;` block the typedef expression matches as a whole -/
def blockOK (body name : Str) : Prop :=
  body ≠ [] ∧ '}' ∉ body ∧ '{' ∉ body ∧ name ≠ [] ∧ ∀ c ∈ name, isWordCh c = true

def isKw (K : Str) : Prop := K = "struct".toList ∨ K = "enum".toList

/-- how `convert` will treat the cells of a column -/
def convOfCol (c : Col) : Conv :=
  match c.ty with
  | .i2 | .i4 | .i8 => .int
  | .f4 => .flt .f4
  | .f8 => .flt .f8
  | _ => .str

/-- the type text `yanny.type()` returns for a written column -/
def typOf (enums : List EnumDecl) (c : Col) : Str := tyWord enums c ++ normB (arrSuffix enums c)

end PydlVerif.YannyRT
