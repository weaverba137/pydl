/-
C02: continuation joining.  `renders` writes every separator physically (`Sep.phys`: `a \ b <eol> c`); `joinCont` (Python's
`re.sub(r'\\\s*\n', ' ', text)`) turns that text into the one rendered with `Sep.logical` (`a ' ' c`).  `Lay2` relates a
piece as written to its joined form, `ChunkRel` a whole line, whatever follows it.
-/
import PydlVerif.Lemmas.YannyLayMem
import PydlVerif.Lemmas.YannyLayItems
namespace PydlVerif.YannyLayCont
open PydlVerif.Yanny PydlVerif.YannyRT PydlVerif.YannyLay PydlVerif.YannyLayBlock
variable {F : Type}

/-- the white-space run at the head of `rest` has no newline: a backslash in front of `rest` is no
continuation, and the greedy `\s*` of a continuation before it stops at that continuation's own line end.
The proofs carry this from the end of a line backwards. -/
def SafeR (rest : Str) : Prop := '\n' ∉ rest.takeWhile isSpace

theorem safeR_of_head (ch : Char) (w : Str) (h : isSpace ch = false) : SafeR (ch :: w) := by
  unfold SafeR
  rw [List.takeWhile_cons_of_neg (by simp [h])]
  simp

theorem contGo_plain (x rest : Str) (hx : '\n' ∉ x) (hr : SafeR rest) :
    contGo 0 (x ++ rest) = x ++ contGo 0 rest ∧ SafeR (x ++ rest) := by
  induction x with
  | nil => exact ⟨rfl, hr⟩
  | cons c t ih =>
    simp only [List.mem_cons, not_or] at hx
    obtain ⟨ih1, ih2⟩ := ih hx.2
    refine ⟨?_, ?_⟩
    · simp only [List.cons_append, contGo]
      rw [lastNlLen_zero _ ih2]
      simp [ih1]
    · unfold SafeR at ih2 ⊢
      simp only [List.cons_append, List.takeWhile_cons]
      split
      · simp [hx.1, ih2]
      · simp

theorem contGo_nobs (x R : Str) (h : '\\' ∉ x) : contGo 0 (x ++ R) = x ++ contGo 0 R := by
  induction x with
  | nil => rfl
  | cons c t ih =>
    simp only [List.mem_cons, not_or] at h
    have hc : (c == '\\') = false := by simpa using Ne.symm h.1
    simp only [List.cons_append, contGo, hc, ih h.2]
    simp

theorem contGo_nil : contGo 0 [] = [] := by simp [contGo]

theorem contGo_skip (x y : Str) : contGo x.length (x ++ y) = contGo 0 y := by
  induction x with
  | nil => rfl
  | cons c t ih => simp only [List.length_cons, List.cons_append, contGo, ih]

theorem lastNlLen_at (q W : Str) (hW : '\n' ∉ W) : lastNlLen (q ++ '\n' :: W) = q.length + 1 := by
  unfold lastNlLen
  have hr : (q ++ '\n' :: W).reverse = W.reverse ++ '\n' :: q.reverse := by simp
  rw [hr, dropWhile_app_stop _ W.reverse '\n' q.reverse _ (by decide)]
  · simp
  · intro a ha
    have ha' : a ∈ W := by simpa using ha
    simp only [bne_iff_ne, ne_eq]
    intro e; subst e; exact hW ha'

theorem blank_nobs (l : Str) (h : ∀ c ∈ l, isBlank c = true) : '\\' ∉ l := not_mem_of_all h (by decide)

theorem eol_split (b : Str) (crlf : Bool) (hb : ∀ ch ∈ b, isBlank ch = true) :
    ∃ q, b ++ eol crlf = q ++ ['\n'] ∧ ∀ ch ∈ q, isSpace ch = true := by
  cases crlf with
  | false =>
    exact ⟨b, by simp [eol], blank_isSpace hb⟩
  | true =>
    refine ⟨b ++ ['\r'], by simp [eol], ?_⟩
    intro ch hc
    simp only [List.mem_append, List.mem_cons, List.mem_nil_iff, or_false] at hc
    rcases hc with hc | hc
    · exact isBlank_isSpace ch (hb ch hc)
    · subst hc; decide

theorem contGo_cont (b c : Str) (crlf : Bool) (rest : Str) (hb : ∀ ch ∈ b, isBlank ch = true)
    (hc : ∀ ch ∈ c, isBlank ch = true) (hr : SafeR rest) :
    contGo 0 ('\\' :: (b ++ eol crlf ++ c) ++ rest) = ' ' :: (c ++ contGo 0 rest) ∧
      SafeR ('\\' :: (b ++ eol crlf ++ c) ++ rest) := by
  refine ⟨?_, safeR_of_head _ _ (by decide)⟩
  obtain ⟨q, hq, hqs⟩ := eol_split b crlf hb
  obtain ⟨p1, p2⟩ := contGo_plain c rest (blank_nonl c hc) hr
  have htxt : (b ++ eol crlf ++ c) ++ rest = (q ++ ['\n']) ++ (c ++ rest) := by
    rw [hq]; simp
  have htw : ((q ++ ['\n']) ++ (c ++ rest)).takeWhile isSpace =
      q ++ '\n' :: (c ++ rest).takeWhile isSpace := by
    rw [List.takeWhile_append_of_pos]
    · simp
    · intro a ha
      simp only [List.mem_append, List.mem_cons, List.mem_nil_iff, or_false] at ha
      rcases ha with ha | ha
      · exact hqs a ha
      · subst ha; decide
  -- the white-space run behind the backslash goes on into `c` and `rest`, but its last newline is that of `eol`
  have hk : lastNlLen (((q ++ ['\n']) ++ (c ++ rest)).takeWhile isSpace) = (q ++ ['\n']).length := by
    rw [htw, lastNlLen_at _ _ p2]; simp
  rw [List.cons_append, htxt]
  simp only [contGo, beq_self_eq_true, if_true, hk]
  rw [if_pos (by simp), contGo_skip, p1]

/-- `Lay2 x y`: `x` is a piece of the text as written and `y` what continuation joining makes of it,
whatever follows, as long as the white space at the head of what follows has no newline (`lay2_go`) -/
inductive Lay2 : Str → Str → Prop
  | plain (x : Str) : '\n' ∉ x → Lay2 x x
  | cont (b c : Str) (crlf : Bool) : (∀ ch ∈ b, isBlank ch = true) → (∀ ch ∈ c, isBlank ch = true) →
      Lay2 ('\\' :: (b ++ eol crlf ++ c)) (' ' :: c)
  | app {x y x' y' : Str} : Lay2 x y → Lay2 x' y' → Lay2 (x ++ x') (y ++ y')

theorem lay2_go {x y : Str} (h : Lay2 x y) :
    ∀ rest, SafeR rest → contGo 0 (x ++ rest) = y ++ contGo 0 rest ∧ SafeR (x ++ rest) := by
  induction h with
  | plain x hx => intro rest hr; exact contGo_plain x rest hx hr
  | cont b c crlf hb hc =>
    intro rest hr
    have := contGo_cont b c crlf rest hb hc hr
    simpa using this
  | app h1 h2 ih1 ih2 =>
    intro rest hr
    obtain ⟨a2, s2⟩ := ih2 rest hr
    obtain ⟨a1, s1⟩ := ih1 _ s2
    rw [List.append_assoc, List.append_assoc]
    exact ⟨by rw [a1, a2], s1⟩

theorem lay2_nil {x y : Str} (h : Lay2 x y) : y = [] → x = [] := by
  induction h with
  | plain x _ => exact id
  | cont b c crlf _ _ => intro e; simp at e
  | app h1 h2 ih1 ih2 =>
    intro e
    simp only [List.append_eq_nil_iff] at e
    rw [ih1 e.1, ih2 e.2]; rfl

theorem lay2_split_last {x y : Str} (h : Lay2 x y) :
    ∀ ch, y.getLast? = some ch → isSpace ch = false →
      ∃ I I', x = I ++ [ch] ∧ y = I' ++ [ch] ∧ Lay2 I I' := by
  induction h with
  | plain x hx =>
    intro ch hl _
    obtain ⟨ys, rfl⟩ := List.getLast?_eq_some_iff.mp hl
    exact ⟨ys, ys, rfl, rfl, Lay2.plain ys (fun hm => hx (List.mem_append_left _ hm))⟩
  | cont b c crlf hb hc =>
    intro ch hl hs
    have hm : ch ∈ ' ' :: c := List.mem_of_getLast? hl
    simp only [List.mem_cons] at hm
    rcases hm with hm | hm
    · subst hm; exact absurd hs (by decide)
    · have := isBlank_isSpace ch (hc ch hm)
      rw [this] at hs; cases hs
  | @app x y x' y' h1 h2 ih1 ih2 =>
    intro ch hl hs
    rw [List.getLast?_append] at hl
    cases hg : y'.getLast? with
    | none =>
      have hy := List.getLast?_eq_none_iff.mp hg
      rw [hg] at hl
      obtain ⟨I, I', e1, e2, hI⟩ := ih1 ch (by simpa using hl) hs
      exact ⟨I, I', by rw [lay2_nil h2 hy, List.append_nil, e1], by rw [hy, List.append_nil, e2], hI⟩
    | some z =>
      rw [hg] at hl
      simp at hl
      subst hl
      obtain ⟨I, I', e1, e2, hI⟩ := ih2 z hg hs
      exact ⟨x ++ I, y ++ I', by rw [e1, List.append_assoc], by rw [e2, List.append_assoc], Lay2.app h1 hI⟩

theorem sep_lay2 (s : Sep) (h : s.Blank) : Lay2 s.phys s.logical := by
  obtain ⟨a, cont⟩ := s
  cases cont with
  | none => exact Lay2.plain a (blank_nonl a h.1)
  | some x =>
    obtain ⟨b, crlf, c⟩ := x
    obtain ⟨hb, hc⟩ := h.2 b crlf c rfl
    exact Lay2.app (Lay2.plain a (blank_nonl a h.1)) (Lay2.cont b c crlf hb hc)

theorem tok_lay2 (q : QStyle) (s : Str) (hl : tokLegal q s = true) :
    Lay2 (quoteTok q s) (quoteTok q s) :=
  Lay2.plain _ (quoteTok_piece q s hl).2.2.2.1

theorem elems_lay2 (io : FloatIO F) (vs : List (Sc F)) (ls : List (Sep × QStyle))
    (p : Str) (hok : elemsLayOK io vs ls = true) (hp : renderElems Sep.phys io vs ls = some p) :
    ∃ t, renderElems Sep.logical io vs ls = some t ∧ Lay2 p t := by
  revert vs ls p
  refine renderElems_induction ⟨[], rfl, Lay2.plain [] (by simp)⟩ ?_
  intro v vs s q ls p' hs hq _ _ ⟨t, ht, hlay⟩
  exact ⟨s.logical ++ quoteTok q (scText io v) ++ t, by simp only [renderElems, ht],
    Lay2.app (Lay2.app (sep_lay2 s (Sep.blank_of_ok hs)) (tok_lay2 q _ (elemLegal_tokLegal _ _ hq))) hlay⟩

theorem cell_lay2 (io : FloatIO F) (x : Cell F) (l : CellLay) (p : Str) (hok : cellLayOK io x l = true)
    (hp : renderCell Sep.phys io x l = some p) :
    ∃ a, renderCell Sep.logical io x l = some a ∧ Lay2 p a := by
  revert x l p
  refine renderCell_cases ?_ ?_
  · intro v q hq
    exact ⟨_, rfl, tok_lay2 q _ hq⟩
  · intro v vs op q rest cl p' hop hcl hq hel hr
    obtain ⟨t, ht, hlay⟩ := elems_lay2 io vs rest p' hel hr
    refine ⟨'{' :: (op ++ quoteTok q (scText io v) ++ t ++ cl ++ ['}']), by simp only [renderCell, ht], ?_⟩
    have hop' : '\n' ∉ '{' :: op := by simp [blank_nonl op (List.all_eq_true.mp hop)]
    have h1 := Lay2.app (Lay2.app (Lay2.app (Lay2.app (Lay2.plain _ hop')
      (tok_lay2 q (scText io v) (elemLegal_tokLegal _ _ hq))) hlay)
      (Lay2.plain cl (blank_nonl cl (List.all_eq_true.mp hcl)))) (Lay2.plain ['}'] (by decide))
    simpa using h1

theorem cells_lay2 (io : FloatIO F) (r : List (Cell F)) (lays : List (Sep × CellLay))
    (p : Str) (hok : cellsLayOK io r lays = true) (hp : renderCells Sep.phys io r lays = some p) :
    ∃ b, renderCells Sep.logical io r lays = some b ∧ Lay2 p b := by
  revert r lays p
  refine renderCells_induction ⟨[], rfl, Lay2.plain [] (by simp)⟩ ?_
  intro x xs s l ls p1 p2 hs hl _ hp1 _ ⟨b, hb, hlb⟩
  obtain ⟨a, ha, hla⟩ := cell_lay2 io x l p1 hl hp1
  exact ⟨s.logical ++ a ++ b, by simp only [renderCells, ha, hb], Lay2.app (Lay2.app (sep_lay2 s (Sep.blank_of_ok hs)) hla) hlb⟩

/-- what `contGo 0` does to a chunk `l` of the file, whatever follows it -/
def ChunkRel (l l' : Str) : Prop := ∀ R, contGo 0 (l ++ R) = l' ++ contGo 0 R

theorem nobs_chunk (x : Str) (h : '\\' ∉ x) : ChunkRel x x := fun R => contGo_nobs x R h

theorem ChunkRel.append {x x' y y' : Str} (h1 : ChunkRel x x') (h2 : ChunkRel y y') : ChunkRel (x ++ y) (x' ++ y') :=
  fun R => by rw [List.append_assoc, h1, h2, List.append_assoc]

theorem chunk_joinCont {x : Str} (h : ChunkRel x x) : joinCont x = x := by
  have := h []
  rwa [List.append_nil, contGo_nil, List.append_nil] at this

theorem line_chunk (I I' : Str) (ch : Char) (w : Str) (h : Lay2 I I') (hch : isSpace ch = false)
    (hbs : '\\' ∉ ch :: w) : ChunkRel (I ++ ch :: w) (I' ++ ch :: w) := by
  intro R
  have hs : SafeR ((ch :: w) ++ R) := safeR_of_head ch (w ++ R) hch
  obtain ⟨a, _⟩ := lay2_go h _ hs
  rw [List.append_assoc, a, contGo_nobs _ R hbs, List.append_assoc]

/-- `hlast`: the line ends in a comment, or in a non-blank that is no backslash (else the backslash would join it to
the next line) -/
theorem line_tail (X Y trail : Str) (comment : Option Str) (h : Lay2 X Y)
    (ht : ∀ c ∈ trail, isBlank c = true) (hc : commentOK comment = true)
    (hlast : comment.isSome = true ∨ ∃ ch, Y.getLast? = some ch ∧ isSpace ch = false ∧ ch ≠ '\\') :
    ChunkRel (X ++ trail ++ commentText comment) (Y ++ trail ++ commentText comment) := by
  cases comment with
  | some c =>
    have hbs : '\\' ∉ '#' :: c := by
      intro hm
      simp only [List.mem_cons] at hm
      rcases hm with hm | hm
      · exact absurd hm (by decide)
      · exact (commentOK_props c hc).2.2.1 hm
    exact line_chunk (X ++ trail) (Y ++ trail) '#' c
      (Lay2.app h (Lay2.plain trail (blank_nonl trail ht))) (by decide) hbs
  | none =>
    rcases hlast with hl | ⟨ch, hl, hs, hb⟩
    · simp at hl
    · obtain ⟨I, I', e1, e2, hI⟩ := lay2_split_last h ch hl hs
      have hbs : '\\' ∉ ch :: trail := by
        intro hm
        simp only [List.mem_cons] at hm
        rcases hm with hm | hm
        · exact hb hm.symm
        · exact blank_nobs trail ht hm
      have := line_chunk I I' ch trail hI hs hbs
      subst e1 e2
      simpa [commentText] using this

theorem last_of_append (a b : Str) (z : Char) (h : b.getLast? = some z) : (a ++ b).getLast? = some z := by
  simp [List.getLast?_append, h]

theorem not_endsBackslash {A Z : Str} (h : endsBackslash (A ++ Z) = false) :
    ∀ z, Z.getLast? = some z → z ≠ '\\' := by
  rintro z hz rfl
  simp [endsBackslash, last_of_append A Z _ hz] at h

theorem last_ok (B Z : Str) (hne : Z ≠ []) (hns : lastNS Z) (hbs : ∀ z, Z.getLast? = some z → z ≠ '\\') :
    ∃ ch, (B ++ Z).getLast? = some ch ∧ isSpace ch = false ∧ ch ≠ '\\' := by
  cases hg : Z.getLast? with
  | none => exact absurd (List.getLast?_eq_none_iff.mp hg) hne
  | some z => exact ⟨z, last_of_append B Z z hg, hns z hg, hbs z hg⟩

theorem row_chunk (io : FloatIO F) (tb : TableD F) (r : List (Cell F)) (lay : RowLay)
    (hok : rowLayOK io tb r lay = true) (l : Str) (hl : renderRow Sep.phys io r lay = some l) :
    ∃ l', renderRow Sep.logical io r lay = some l' ∧ ChunkRel l l' := by
  obtain ⟨b, hp⟩ := rowLayOK_props io tb r lay hok
  simp only [renderRow] at hl
  split at hl
  · rename_i p hpp
    cases hl
    obtain ⟨b', hb', hlay⟩ := cells_lay2 io r lay.cells p hp.cells hpp
    obtain rfl : b' = b := Option.some.inj (hb'.symm.trans hp.body)
    obtain ⟨hnne, hnch⟩ := wordOK_props lay.name hp.name
    have hw := fun c hc => word_char_props c (hnch c hc).1
    have hln : '\n' ∉ lay.lead ++ lay.name := by
      simp [blank_nonl _ hp.lead, show '\n' ∉ lay.name from fun h => (hw _ h).2.2.2.1 rfl]
    refine ⟨lay.lead ++ lay.name ++ b' ++ lay.trail ++ commentText lay.comment, by simp only [renderRow, hb'],
      line_tail (lay.lead ++ lay.name ++ p) (lay.lead ++ lay.name ++ b') lay.trail lay.comment
        (Lay2.app (Lay2.plain _ hln) hlay) hp.trail hp.com (hp.last.imp id (fun hm => ?_))⟩
    -- the last character before the trailing blanks: of the cells, or of the struct name when there are none
    by_cases hbn : b' = []
    · subst hbn
      rw [List.append_nil]
      exact last_ok _ _ hnne (lastNS_all _ (fun c hc => (hw c hc).1)) (fun z hz => (hw z (List.mem_of_getLast? hz)).2.2.2.2.2)
    · exact last_ok _ _ hbn (renderCells_follows io r lay.cells b' hp.cells hb').last (not_endsBackslash (A := []) hm)
  · cases hl

theorem pair_chunk (tn : List Str) (kv : Str × Str) (lay : PairLay) (hp : pairOK2 tn kv = true)
    (hok : pairLayOK kv lay = true) :
    ChunkRel (renderPair Sep.phys kv lay) (renderPair Sep.logical kv lay) := by
  obtain ⟨k, v⟩ := kv
  have hq := pairLayOK_props (k, v) lay hok
  have hpo := (pairOK2_props tn (k, v) hp).1
  have hks := hpo.key
  have hkn : '\n' ∉ lay.lead ++ k := by
    simp [blank_nonl _ hq.lead, show '\n' ∉ k from fun h => (hks _ h).2.1 rfl]
  have hvn : '\n' ∉ v := hpo.val_nonl
  -- the last character before the trailing blanks is that of the last non-empty piece `Z` of `k ++ v`
  have hlast' : ∀ A Z B, k ++ v = A ++ Z → Z ≠ [] → lastNS Z →
      lay.comment.isSome = true ∨ ∃ ch, (B ++ Z).getLast? = some ch ∧ isSpace ch = false ∧ ch ≠ '\\' :=
    fun A Z B e hne hns => hq.last.imp id (fun hl => last_ok B Z hne hns (not_endsBackslash (e ▸ hl)))
  cases v with
  | nil =>
    -- no value: the separator is a plain run of blanks and counts as trailing
    have := line_tail (lay.lead ++ k) (lay.lead ++ k) (lay.sep.a ++ lay.trail) lay.comment (Lay2.plain _ hkn)
      (List.forall_mem_append.mpr ⟨hq.blank.1, hq.trail⟩) hq.com
      (hlast' [] k lay.lead (by simp) hpo.kne (lastNS_all k (fun c hc => (hks c hc).1)))
    simpa [renderPair, Sep.phys, Sep.logical, hq.bare rfl] using this
  | cons c t =>
    exact line_tail (lay.lead ++ k ++ lay.sep.phys ++ c :: t) (lay.lead ++ k ++ lay.sep.logical ++ c :: t) lay.trail
      lay.comment (Lay2.app (Lay2.app (Lay2.plain _ hkn) (sep_lay2 lay.sep hq.blank)) (Lay2.plain _ hvn))
      hq.trail hq.com (hlast' k (c :: t) _ rfl (by simp) (strip_fix_props _ hq.strip).2)

theorem commentText_nobs (c : Option Str) (h : commentOK c = true) : '\\' ∉ commentText c := by
  cases c with
  | none => exact List.not_mem_nil
  | some c => simp [commentText, (commentOK_props c h).2.2.1]

theorem block_nobs (K g1 g2 body g3 name g4 : Str) (hK : isKw K) (h1 : ∀ c ∈ g1, wsChar c = true)
    (h2 : ∀ c ∈ g2, wsChar c = true) (h3 : ∀ c ∈ g3, wsChar c = true) (h4 : ∀ c ∈ g4, wsChar c = true)
    (hb : '\\' ∉ body) (hn : wordy name) : '\\' ∉ blockL K g1 g2 body g3 name g4 := by
  have ws : ∀ g : Str, (∀ c ∈ g, wsChar c = true) → '\\' ∉ g := fun g h hm => (wsChar_plain _ (h _ hm)).1 rfl
  have wd : ∀ w : Str, wordy w → '\\' ∉ w := fun w h hm => (wordCh_plain _ (h.2 _ hm)).1 rfl
  rw [blockL_blockLT]
  exact blockLT_not_mem '\\' "typedef".toList K g1 g2 body g3 name g4 (by rw [typedef_chars]; decide)
    (wd K (isKw_wordy K hK)) (ws g1 h1) (ws g2 h2) hb (ws g3 h3) (wd name hn) (ws g4 h4) (by decide)

theorem defLine_nobs (lead blk trail : Str) (cm : Option Str) (hlead : ∀ c ∈ lead, isBlank c = true)
    (hblk : '\\' ∉ blk) (htrail : ∀ c ∈ trail, isBlank c = true) (hcm : commentOK cm = true) :
    '\\' ∉ lead ++ blk ++ (trail ++ commentText cm) := by
  simp only [List.mem_append, blank_nobs _ hlead, hblk, blank_nobs _ htrail, commentText_nobs _ hcm, or_self,
    not_false_eq_true]

theorem struct_nobs (enums : List EnumDecl) (hen : ∀ e ∈ enums, enumOK e = true) (t : TableD F)
    (l : StructLay) (ht : tableOK2 enums t = true) (hl : structLayOK enums t l = true) (s : Str)
    (hs : renderStruct enums t l = some s) : '\\' ∉ s := by
  rw [renderStruct_shape enums t l ht hl] at hs
  cases hs
  obtain ⟨_, _, hc, _, _⟩ := tableOK2_props enums t ht
  have hp := structLayOK_props enums t l hl
  have hbody := body_plain _ l.closePre (memsOf_ok enums hen t.cols l.cols hc hp.cols) hp.cp
  exact defLine_nobs _ _ _ _ hp.lead (block_nobs kS _ _ _ _ _ _ isKw_S hp.g1 hp.g2 hp.g3 hp.g4
    (fun hm => (hbody _ hm).1 rfl) (wordOK_wordy _ hp.name)) hp.trail hp.com

theorem enum_nobs (e : EnumDecl) (l : EnumLay) (he : enumOK e = true) (hl : enumLayOK e l = true)
    (s : Str) (hs : renderEnum e l = some s) : '\\' ∉ s := by
  obtain ⟨lbl, hlb, hbody, rfl⟩ := renderEnum_shape e l s hs
  have hp := enumLayOK_props e l hl
  obtain ⟨hw, _, hlab⟩ := enumOK_props e he
  have hb := enumBodyL_plain e l hlab hp lbl hlb
  exact defLine_nobs _ _ _ _ hp.lead (block_nobs kE _ _ _ _ _ _ isKw_E hp.g1 hp.g2 hp.g3 hp.g4
    (fun hm => (hb _ (hbody ▸ hm)).1 rfl) (wordy_upper _ (wordOK_wordy _ hw))) hp.trail hp.com

theorem filler_nobs (text : Str) (h : fillerOK text = true) : '\\' ∉ text := by
  obtain ⟨bl, rest, rfl, hbl, hr⟩ := fillerOK_cases text h
  rcases hr with rfl | ⟨t, rfl, ht, _⟩
  · simp [blank_nobs bl hbl]
  · simp [blank_nobs bl hbl, ht]

theorem joinChunks_cont (fe : Bool) (cs cs' : List (Str × Bool))
    (h : all2 (fun a b => ChunkRel a.1 b.1 ∧ b.2 = a.2) cs cs') :
    contGo 0 (joinChunks fe cs) = joinChunks fe cs' :=
  YannyLay.joinChunks_acts (contGo 0) id contGo_nil (fun c R => contGo_nobs _ R (by cases c <;> decide)) fe cs cs'
    (all2_imp (fun _ _ hab => ⟨fun B _ => hab.1 B, hab.2⟩) cs cs' h)

/-- a chunk without backslash is its own image, whichever way it was rendered -/
theorem map_chunk {l : Option Str} {crlf : Bool} {c : Str × Bool} (hc : l.map (·, crlf) = some c) (h : '\\' ∉ c.1) :
    ∃ c', l.map (·, crlf) = some c' ∧ ChunkRel c.1 c'.1 ∧ c'.2 = c.2 :=
  ⟨c, hc, nobs_chunk _ h, rfl⟩

theorem item_cont (io : FloatIO F) (d : Doc F) (hd : docOK2 d = true) (i : Item F)
    (hok : i.ok io d.enums = true) (hin : i.inDoc d) (c : Str × Bool)
    (hc : i.render Sep.phys io d.enums = some c) :
    ∃ c', i.render Sep.logical io d.enums = some c' ∧ ChunkRel c.1 c'.1 ∧ c'.2 = c.2 := by
  obtain ⟨hen, _, htab, _, hhdr, _⟩ := docOK2_props d hd
  cases i with
  | pair kv lay =>
    cases hc
    exact ⟨_, rfl, pair_chunk _ kv lay (hhdr kv hin) hok, rfl⟩
  | row t tb r lay =>
    simp only [Item.render, Option.map_eq_some_iff] at hc
    obtain ⟨l, hl, rfl⟩ := hc
    obtain ⟨l', h3, h4⟩ := row_chunk io tb r lay hok l hl
    exact ⟨(l', lay.crlf), by simp only [Item.render, h3, Option.map_some], h4, rfl⟩
  | sdef t lay =>
    refine map_chunk hc ?_
    simp only [Item.render, Option.map_eq_some_iff] at hc
    obtain ⟨l, hl, rfl⟩ := hc
    exact struct_nobs d.enums hen t lay (htab t hin) hok l hl
  | edef e lay =>
    refine map_chunk hc ?_
    simp only [Item.render, Option.map_eq_some_iff] at hc
    obtain ⟨l, hl, rfl⟩ := hc
    exact enum_nobs e lay (hen e hin) hok l hl
  | filler text crlf =>
    cases hc
    exact ⟨_, rfl, nobs_chunk text (filler_nobs text hok), rfl⟩

theorem joinCont_renders (io : FloatIO F) (d : Doc F) (lay : Layout) (text : Str)
    (hd : docOK2 d = true) (hl : layoutOK io d lay = true) (hr : renders io d lay = some text) :
    ∃ ltext, rendersLogical io d lay = some ltext ∧ joinCont text = ltext := by
  obtain ⟨is, ht, hoks⟩ := takes_of io d lay.slots (initRSt d) hl
  have hin := takes_inDoc ht (rest_init d)
  simp only [renders, rendersLogical, takes_render _ io ht] at hr ⊢
  cases hs : allSome (Item.render Sep.phys io d.enums) is with
  | none => rw [hs] at hr; cases hr
  | some chunks =>
    rw [hs] at hr
    cases hr
    obtain ⟨chunks', h1, h2⟩ := allSome_rel is chunks
      (fun i hi => item_cont io d hd i (hoks i hi) (hin i hi)) hs
    exact ⟨joinChunks lay.finalEol chunks', by rw [h1]; rfl, joinChunks_cont _ _ _ h2⟩

end PydlVerif.YannyLayCont
