/-
C05: a pair at EXACTLY the linking length (the test of `groups` is `sep <= distance`, the loops of `getbounds` compare with
strict `<`): the cell of the one point need not be visited for the other, but then the cell of the other is visited for the
one, because the DOWNWARD loops never need strictness (the partner lies strictly below the upper edge of its cell).
-/
import PydlVerif.Lemmas.FofGridReal
namespace PydlVerif.FofGrid
open Real PydlVerif.Sphere

attribute [local instance] realFns fieldScalar fieldTrig
attribute [-instance] Scalar.instOfNat Scalar.instOfScientific

theorem sin_sq_half_sub_pos {u v : ℝ} (hu : |u| < π / 2) (hv : |v| < π / 2) (hne : u ≠ v) :
    0 < sin ((v - u) / 2) ^ 2 := by
  rw [abs_lt] at hu hv
  apply sq_pos_of_ne_zero
  have hpi := Real.pi_pos
  rw [Ne, Real.sin_eq_zero_iff_of_lt_of_lt (by linarith only [hu.2, hv.1, hpi]) (by linarith only [hu.1, hv.2, hpi])]
  exact fun h => hne (by linarith only [h])

/-- separation EXACTLY m, different declinations: part of the haversine of m is spent on the declination difference, so the
RA margin is still strict -/
theorem ra_margin_covers_eq (c a1 δp a2 δq m Δ : ℝ) (hc : 0 < c) (hcp : c ≤ cos (δp * (π / 180)))
    (hcq : 0 < cos (δq * (π / 180))) (hΔ0 : 0 ≤ Δ) (hΔ : Δ ≤ 180) (hm : m ≤ 180)
    (hΔs : sin (Δ / 2 * (π / 180)) ^ 2 = sin ((a2 * (π / 180) - a1 * (π / 180)) / 2) ^ 2)
    (heq : @gcircDeg ℝ realTrig a1 δp a2 δq = m) (hne : δp ≠ δq) (hp : |δp| < 90) (hq : |δq| < 90) :
    Δ < @raMarginOf ℝ realTrig c δq m := by
  obtain ⟨hid, ⟨hm0, _⟩, _, _⟩ := C04.hav_identity a1 δp a2 δq
  rw [heq, ← hΔs] at hid
  rw [heq] at hm0
  have hS := sin_sq_half_sub_pos (abs_deg_rad_lt hp) (abs_deg_rad_lt hq)
    (fun h => hne (mul_right_cancel₀ deg_pos.ne' h))
  exact (ra_margin_of_hav c δq δp m Δ hc hcp hcq hΔ0 hΔ hm0 hm).1 (hid ▸ lt_add_of_pos_left _ hS)

theorem ra_margin_le_of_eq (c a1 δ a2 m Δ : ℝ) (hc : 0 < c) (hcδ : c ≤ cos (δ * (π / 180)))
    (hΔ0 : 0 ≤ Δ) (hΔ : Δ ≤ 180) (hm : m ≤ 180)
    (hΔs : sin (Δ / 2 * (π / 180)) ^ 2 = sin ((a2 * (π / 180) - a1 * (π / 180)) / 2) ^ 2)
    (heq : @gcircDeg ℝ realTrig a1 δ a2 δ = m) :
    Δ ≤ @raMarginOf ℝ realTrig c δ m := by
  obtain ⟨hid, ⟨hm0, _⟩, _, _⟩ := C04.hav_identity a1 δ a2 δ
  rw [heq, ← hΔs, sub_self, zero_div, Real.sin_zero, zero_pow two_ne_zero, zero_add] at hid
  rw [heq] at hm0
  exact (ra_margin_of_hav c δ δ m Δ hc hcδ (lt_of_lt_of_le hc hcδ) hΔ0 hΔ hm0 hm).2 hid.ge

theorem visitedBand_home {g : Grid ℝ} {a δ : ℝ} {d r : Nat} (m : ℝ) (h : Sphere.get g a δ = .ok (d, r)) :
    visitedBand g δ m d := by
  rw [visitedBand_index ((get_ok_iff g a δ d r).1 h).1]
  exact ⟨decDown_le _ _ _ _, decUp_ge _ _ _ _ _⟩

section own
variable {g : Grid ℝ} {ra dec : Array ℝ} {ms ll : ℝ}

theorem OwnGrid.own (H : OwnGrid g ra dec ms ll) (i : Nat) (hi : i < ra.size) (d r : Nat)
    (hget : Sphere.get g (fmod360 (ra.getD i 0 + g.raOffset)) (dec.getD i 0) = .ok (d, r)) :
    (d, r) ∈ cellsOfPoint g ra dec ll 0 i :=
  H.cover i i hi hi (by rw [gcircDeg_self]; exact H.hll) d r hget

theorem OwnGrid.offset (H : OwnGrid g ra dec ms ll) : 0 ≤ g.raOffset ∧ g.raOffset < 360 :=
  H.hF.off_range

theorem OwnGrid.cover_eq_dec (H : OwnGrid g ra dec ms ll) (i k : Nat) (hi : i < ra.size) (hk : k < ra.size)
    (heq : gcircDeg (ra.getD i 0) (dec.getD i 0) (ra.getD k 0) (dec.getD k 0) = ll)
    (hne : dec.getD i 0 ≠ dec.getD k 0) (di ri dk rk : Nat)
    (hgi : Sphere.get g (fmod360 (ra.getD i 0 + g.raOffset)) (dec.getD i 0) = .ok (di, ri))
    (hgk : Sphere.get g (fmod360 (ra.getD k 0 + g.raOffset)) (dec.getD k 0) = .ok (dk, rk))
    (hle : di ≤ dk) :
    (di, ri) ∈ cellsOfPoint g ra dec ll 0 k := by
  obtain ⟨ho0, ho⟩ := H.offset
  obtain ⟨hdk, hdkn, _, _⟩ := (get_ok_iff g _ _ dk rk).1 hgk
  obtain ⟨hbp, hjp, hpd, hpr⟩ := Sphere.get_bracket g _ _ di ri H.hF.dec_edges H.edges hgi
  -- the downward declination loop reaches the band of i
  have hdd : dec.getD k 0 - dec.getD i 0 ≤ ll :=
    le_trans (le_abs_self _) (heq ▸ ddec_le_gcirc _ _ _ _ (H.hdec i hi) (H.hdec k hk))
  have hvis : visitedBand g (dec.getD k 0) ll di := by
    rw [visitedBand_index hdk]
    refine ⟨(decDown_le_iff g.decBounds _ ll dk di).2 fun j h1 h2 => ?_, le_trans hle (decUp_ge _ _ _ _ _)⟩
    -- no strictness needed: i lies strictly below the upper edge of its band, which is not the last
    have hlt := hpd.2.2.resolve_right (fun h => by omega)
    linarith only [H.hF.dec_edges.mono (di + 1) j h1 (h2.trans hdkn.le), hlt, hdd]
  obtain ⟨r0, hr0, hr0n, hmem⟩ := H.visits k hk di hvis
  -- the RA margin is strict
  obtain ⟨⟨p0, p1⟩, ⟨q0, q1⟩, Δ, hΔ0, hΔ1, hΔe, hΔs⟩ := circ_diff (ra.getD i 0) (ra.getD k 0) g.raOffset
    (H.hra i hi).1 (H.hra i hi).2 (H.hra k hk).1 (H.hra k hk).2 ho0 ho
  have hM := ra_margin_covers_eq (cosDecMinOf g.decBounds di) (ra.getD i 0) (dec.getD i 0) (ra.getD k 0)
    (dec.getD k 0) ll Δ (H.hF.band di hbp).cpos (H.hF.cos_home hgi) (cos_deg_pos (H.hdec k hk)) hΔ0 hΔ1
    (by linarith only [H.ms_lt, H.hms]) hΔs heq hne (H.hdec i hi) (H.hdec k hk)
  obtain ⟨r, hr1, hr2, hr3⟩ := ra_cover_band (H.edges di hbp) _ _ _ r0 ri hr0n hjp
    (cellIndex_bracket (H.edges di hbp) _ r0 hr0n hr0) hpr p0 q0 p1 q1
    (hΔe.imp (fun e => e ▸ hM) (fun e => e ▸ hM)) (H.room k hk di hbp hvis).2
  exact hr3 ▸ hmem r hr1 hr2

theorem OwnGrid.cover_eq_ra (H : OwnGrid g ra dec ms ll) (i k : Nat) (hi : i < ra.size) (hk : k < ra.size)
    (heq : gcircDeg (ra.getD i 0) (dec.getD i 0) (ra.getD k 0) (dec.getD k 0) = ll)
    (hsame : dec.getD i 0 = dec.getD k 0)
    (hle : fmod360 (ra.getD i 0 + g.raOffset) ≤ fmod360 (ra.getD k 0 + g.raOffset)) (di ri dk rk : Nat)
    (hgi : Sphere.get g (fmod360 (ra.getD i 0 + g.raOffset)) (dec.getD i 0) = .ok (di, ri))
    (hgk : Sphere.get g (fmod360 (ra.getD k 0 + g.raOffset)) (dec.getD k 0) = .ok (dk, rk)) :
    (di, ri) ∈ cellsOfPoint g ra dec ll 0 k ∨ (dk, rk) ∈ cellsOfPoint g ra dec ll 0 i := by
  obtain ⟨ho0, ho⟩ := H.offset
  obtain ⟨hdi, hdin, hci, hrin⟩ := (get_ok_iff g _ _ di ri).1 hgi
  obtain ⟨hdk, _, hck, hrkn⟩ := (get_ok_iff g _ _ dk rk).1 hgk
  have hvi := visitedBand_home ll hgi
  have hvk := visitedBand_home ll hgk
  -- one band, one margin
  obtain rfl : di = dk := Int.ofNat_inj.1 (hdi.symm.trans (hsame ▸ hdk))
  have hsk := (H.room k hk di hdin hvk).2
  rw [← hsame] at heq hvk hsk
  have he := H.edges di hdin
  have hbi := cellIndex_bracket he _ ri hrin hci
  have hbk := cellIndex_bracket he _ rk hrkn hck
  obtain ⟨r0i, hr0i, _, hmi⟩ := H.visits i hi di hvi
  obtain ⟨r0k, hr0k, _, hmk⟩ := H.visits k hk di (hsame ▸ hvk)
  obtain rfl : ri = r0i := Int.ofNat_inj.1 (hci.symm.trans hr0i)
  obtain rfl : rk = r0k := Int.ofNat_inj.1 (hck.symm.trans hr0k)
  rw [← hsame] at hmk
  -- the margin bounds the RA difference on the circle
  obtain ⟨⟨p0, p1⟩, ⟨q0, q1⟩, Δ, hΔ0, hΔ1, hΔe, hΔs⟩ := circ_diff (ra.getD i 0) (ra.getD k 0) g.raOffset
    (H.hra i hi).1 (H.hra i hi).2 (H.hra k hk).1 (H.hra k hk).2 ho0 ho
  have hM : Δ ≤ raMarginOf (cosDecMinOf g.decBounds di) (dec.getD i 0) ll :=
    ra_margin_le_of_eq (cosDecMinOf g.decBounds di) (ra.getD i 0) (dec.getD i 0) (ra.getD k 0) ll Δ
      (H.hF.band di hdin).cpos (H.hF.cos_home hgi) hΔ0 hΔ1 (by linarith only [H.ms_lt, H.hms]) hΔs heq
  rw [abs_of_nonneg (sub_nonneg.2 hle)] at hΔe
  rcases hΔe with e | e
  · -- k reaches straight down to the cell of i
    obtain ⟨r, h1, h2, h3⟩ := ra_cover_directed he _ _ _ rk ri hrkn hrin hbk hbi p0 q0 p1 q1
      (Or.inl ⟨hle, e ▸ hM⟩) hsk
    exact Or.inl (h3 ▸ hmk r h1 h2)
  · -- i reaches down through the seam to the cell of k
    obtain ⟨r, h1, h2, h3⟩ := ra_cover_directed he _ _ _ ri rk hrin hrkn hbi hbk q0 p0 q1 p1
      (Or.inr (Or.inl ⟨hle, by linarith only [e, hM]⟩)) (H.room i hi di hdin hvi).2
    exact Or.inr (h3 ▸ hmi r h1 h2)

theorem OwnGrid.share_eq (H : OwnGrid g ra dec ms ll) (i k : Nat) (hi : i < ra.size) (hk : k < ra.size)
    (heq : gcircDeg (ra.getD i 0) (dec.getD i 0) (ra.getD k 0) (dec.getD k 0) = ll) :
    ∃ d r, d < g.nDec ∧ r < g.nRa.getD d 0 ∧
      (d, r) ∈ cellsOfPoint g ra dec ll 0 i ∧ (d, r) ∈ cellsOfPoint g ra dec ll 0 k := by
  obtain ⟨di, ri, hgi⟩ := H.home i hi
  obtain ⟨dk, rk, hgk⟩ := H.home k hk
  obtain ⟨_, hdi, _, hri⟩ := (get_ok_iff g _ _ di ri).1 hgi
  obtain ⟨_, hdk, _, hrk⟩ := (get_ok_iff g _ _ dk rk).1 hgk
  have heq' : gcircDeg (ra.getD k 0) (dec.getD k 0) (ra.getD i 0) (dec.getD i 0) = ll := by
    rw [gcircDeg_comm]; exact heq
  have owni := H.own i hi di ri hgi
  have ownk := H.own k hk dk rk hgk
  by_cases hsame : dec.getD i 0 = dec.getD k 0
  · rcases le_total (fmod360 (ra.getD i 0 + g.raOffset)) (fmod360 (ra.getD k 0 + g.raOffset)) with hle | hle
    · rcases H.cover_eq_ra i k hi hk heq hsame hle di ri dk rk hgi hgk with h | h
      · exact ⟨di, ri, hdi, hri, owni, h⟩
      · exact ⟨dk, rk, hdk, hrk, h, ownk⟩
    · rcases H.cover_eq_ra k i hk hi heq' hsame.symm hle dk rk di ri hgk hgi with h | h
      · exact ⟨dk, rk, hdk, hrk, h, ownk⟩
      · exact ⟨di, ri, hdi, hri, owni, h⟩
  · rcases le_total di dk with hle | hle
    · exact ⟨di, ri, hdi, hri, owni, H.cover_eq_dec i k hi hk heq hsame di ri dk rk hgi hgk hle⟩
    · exact ⟨dk, rk, hdk, hrk, H.cover_eq_dec k i hk hi heq' (Ne.symm hsame) dk rk di ri hgk hgi hle, ownk⟩

end own

end PydlVerif.FofGrid
