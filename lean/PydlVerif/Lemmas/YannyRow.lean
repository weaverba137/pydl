/-
Row level of the yanny reader: the domains of the line theorems, the two float hypotheses `H1`, `H2`, the integer
round trip.
-/
import PydlVerif.Lemmas.YannyTok
namespace PydlVerif.Yanny

variable {F : Type}

/-- a datum text the token reader hands back unchanged -/
def tokOK (s : Str) : Bool := !s.contains '"' && s.head? != some '{' && !s.contains '\n'

theorem tokOK_iff (s : Str) : tokOK s = true ↔ '"' ∉ s ∧ s.head? ≠ some '{' ∧ '\n' ∉ s := by
  simp [tokOK, and_assoc]

/-- (h1) what the writer prints for a float of width `w` is read back as that float -/
def H1 (io : FloatIO F) : Prop := ∀ w x, io.parseF w (io.fmtF w x) = some x

/-- (h2) the text printed for a float contains no `"`, `{`, `}` and no newline.  (The harness
samples the stronger statement of the design: non-empty, none of blank, tab, `# " { } ;`, newline.) -/
def H2 (io : FloatIO F) : Prop :=
  ∀ w x, ∀ c ∈ io.fmtF w x, c ≠ '"' ∧ c ≠ '{' ∧ c ≠ '}' ∧ c ≠ '\n'

/-- what the line theorems ask of a datum; the document domain (`scOK`, `cellOK`, `cellsOK` of Model/YannyDom.lean)
implies it, and reading a text in any layout asks only for the kind (`scKind`, `cellKind`, `rowKinds` of
Lemmas/YannyLayout.lean) -/
def scFits (c : Conv) (arr : Bool) : Sc F → Bool
  | .int _ => c == .int
  | .flt w _ => c == .flt w
  | .str s => c == .str && tokOK s && (!arr || !s.contains '}')

def cellFits (col : ColSpec) : Cell F → Bool
  | .one v => !col.isArr && scFits col.conv false v
  | .many vs => col.isArr && !vs.isEmpty && vs.all (scFits col.conv true)

def rowFits : List ColSpec → List (Cell F) → Bool
  | [], [] => true
  | c :: cs, x :: xs => cellFits c x && rowFits cs xs
  | _, _ => false

theorem parseInt_fmtInt (n : Int) : parseInt (fmtInt n) = some n := by
  cases n with
  | ofNat m =>
    have hp := parseNat_fmtNat m
    have hc := fmtNat_chars m
    simp only [fmtInt]
    unfold parseInt
    split
    · rename_i t h
      exact absurd (hc '-' (by rw [h]; simp)) (by decide)
    · rename_i t h
      exact absurd (hc '+' (by rw [h]; simp)) (by decide)
    · simp [hp]
  | negSucc m =>
    simp only [fmtInt, parseInt, parseNat_fmtNat, Option.map]
    rfl

end PydlVerif.Yanny
