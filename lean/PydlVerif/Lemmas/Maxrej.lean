/-
The `maxrej` block of djs_reject (Model/Reject.lean): the loop `for ivec in range(max(dimnum))` never runs its body.
-/
import PydlVerif.Model.Reject
import PydlVerif.Lemmas.Except
import PydlVerif.Lemmas.ListBasics
namespace PydlVerif.Reject

/-- `range(max(dimnum))` exists only for a 1-D `dimnum` -/
theorem rangeMax_ok (ds flat : List Nat) (k : Nat) (h : rangeMax ds flat = .ok k) :
    ∃ n, ds = [n] ∧ k = flat.foldl max 0 := by
  match ds with
  | [] => cases h
  | [n] =>
    simp only [rangeMax] at h
    split at h
    · cases h
    · exact ⟨n, rfl, (Except.ok.inj h).symm⟩
  | a :: b :: rest =>
    simp only [rangeMax] at h
    split at h
    · cases h
    · split at h
      · cases h
      · split at h <;> cases h

/-- whenever `range(max(djs_laxisnum(shape, iaxis)))` is a range at all, it is empty -/
theorem laxisnum_rangeMax_zero (shape : List Nat) (i : Int) (dn : List Nat) (k : Nat)
    (h1 : laxisnum shape i = .ok dn) (h2 : rangeMax shape dn = .ok k) : k = 0 := by
  obtain ⟨n, rfl, rfl⟩ := rangeMax_ok _ _ _ h2
  cases h1
  exact foldl_max_replicate_zero _

theorem maxrejDimnum_range_zero (gd : List Int) (shape : List Nat) (iloop : Nat) (dd : List Nat × List Nat) (k : Nat)
    (h1 : maxrejDimnum gd shape iloop = .ok dd) (h2 : rangeMax dd.1 dd.2 = .ok k) : k = 0 := by
  unfold maxrejDimnum at h1
  split at h1
  · split at h1
    · cases h1
    · split at h1
      · rename_i dn hdn
        cases h1
        exact laxisnum_rangeMax_zero shape _ dn k hdn h2
      · cases h1
  · cases h1
    obtain ⟨_, _, rfl⟩ := rangeMax_ok _ _ _ h2
    rfl

variable {α : Type}

theorem maxrejStep_ok (body : Nat → List Nat → Nat → List α → Except String (List α)) (gd : List Int)
    (shape : List Nat) (b b' : List α) (iloop : Nat) (h : maxrejStep body gd shape b iloop = .ok b') : b' = b := by
  unfold maxrejStep at h
  split at h
  · cases h
  · rename_i dd hdd
    split at h
    · cases h
    · rename_i k hk
      have := maxrejDimnum_range_zero gd shape iloop dd k hdd hk
      subst this
      simp only [List.range_zero, List.foldlM_nil, pure, Except.pure, Except.ok.injEq] at h
      exact h.symm

theorem maxrejBlock_ok (body : Nat → List Nat → Nat → List α → Except String (List α)) (gd : List Int)
    (shape : List Nat) (bad b' : List α) (h : maxrejBlock body gd shape bad = .ok b') : b' = bad :=
  foldlM_inv (maxrejStep body gd shape) (· = bad) _
    (fun x _ s s' hs hp => (maxrejStep_ok body gd shape s s' x hs).trans hp) bad b' h rfl

theorem maxrejStep_skip (body : Nat → List Nat → Nat → List α → Except String (List α)) (gd : List Int)
    (shape : List Nat) (b : List α) (iloop : Nat) (dd : List Nat × List Nat)
    (h1 : maxrejDimnum gd shape iloop = .ok dd) (h2 : rangeMax dd.1 dd.2 = .ok 0) :
    maxrejStep body gd shape b iloop = .ok b := by
  unfold maxrejStep
  rw [h1]
  simp only [h2, List.range_zero, List.foldlM_nil, pure, Except.pure]

theorem foldlM_maxrejStep_skip (body : Nat → List Nat → Nat → List α → Except String (List α)) (gd : List Int)
    (shape : List Nat) (l : List Nat) (b : List α)
    (h : ∀ i ∈ l, ∀ b, maxrejStep body gd shape b i = .ok b) :
    l.foldlM (maxrejStep body gd shape) b = .ok b := by
  induction l with
  | nil => rfl
  | cons x xs ih =>
    simp only [List.foldlM_cons, bind, Except.bind, h x (List.mem_cons_self ..) b]
    exact ih (fun i hi => h i (List.mem_cons_of_mem _ hi))

theorem maxrejBlock_nogroupdim (body : Nat → List Nat → Nat → List α → Except String (List α))
    (shape : List Nat) (bad : List α) : maxrejBlock body [] shape bad = .ok bad := by
  unfold maxrejBlock
  apply foldlM_maxrejStep_skip
  intro i _ b
  apply maxrejStep_skip body [] shape b i ([1], [0])
  · simp [maxrejDimnum, pure, Except.pure]
  · simp [rangeMax, pure, Except.pure]

/-- `groupdim` entries ≤ 1: the only axis, or 0 / negative - `djs_laxisnum` does not look -/
theorem maxrejBlock_1d (body : Nat → List Nat → Nat → List α → Except String (List α)) (gd : List Int)
    (n : Nat) (hn : n ≠ 0) (hgd : ∀ g ∈ gd, g ≤ 1) (bad : List α) : maxrejBlock body gd [n] bad = .ok bad := by
  by_cases hg : gd = []
  · subst hg; exact maxrejBlock_nogroupdim body [n] bad
  refine foldlM_maxrejStep_skip body gd [n] _ bad fun i _ b =>
    maxrejStep_skip body gd [n] b i ([n], List.replicate (1 * n) 0) ?_ ?_
  · -- `groupdim[iloop]` is an entry of `gd` (or the default 0), hence not above `ndim = 1`
    have hle : gd.getD i 0 ≤ 1 := by
      rw [List.getD_eq_getElem?_getD]
      cases h : gd[i]? with
      | none => exact Int.le_of_lt Int.zero_lt_one
      | some g => exact hgd g (List.mem_of_getElem? h)
    unfold maxrejDimnum
    rw [if_pos (List.length_pos_iff.2 hg), if_neg (by simp only [List.length_cons, List.length_nil]; omega)]
    rfl
  · simp only [rangeMax, hn, if_false, pure, Except.pure, foldl_max_replicate_zero]

theorem maxrejBlock_nd_raises (body : Nat → List Nat → Nat → List α → Except String (List α)) (gd : List Int)
    (shape : List Nat) (hs : 2 ≤ shape.length) (hg : gd ≠ []) (bad : List α) :
    ∃ e, maxrejBlock body gd shape bad = .error e := by
  cases h : maxrejBlock body gd shape bad with
  | error e => exact ⟨e, rfl⟩
  | ok b' =>
    exfalso
    -- the first turn succeeded, so its range exists - impossible for N-D data
    unfold maxrejBlock at h
    obtain ⟨m, hm⟩ : ∃ m, max gd.length 1 = m + 1 := ⟨max gd.length 1 - 1, by omega⟩
    rw [hm, List.range_succ_eq_map, List.foldlM_cons] at h
    obtain ⟨b1, hb1, _⟩ := bind_ok h
    unfold maxrejStep at hb1
    split at hb1
    · cases hb1
    · rename_i dd hdd
      split at hb1
      · cases hb1
      · rename_i k hk
        obtain ⟨n, hn, _⟩ := rangeMax_ok _ _ _ hk
        unfold maxrejDimnum at hdd
        rw [if_pos (List.length_pos_iff.2 hg)] at hdd
        split at hdd
        · cases hdd
        · split at hdd
          · cases hdd
            rw [show shape = [n] from hn] at hs
            exact Nat.not_succ_le_self 1 hs
          · cases hdd

end PydlVerif.Reject
