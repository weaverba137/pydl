/-
`reidx τ l d` is `l ∘ τ`, and `unsort perm` its inverse for a permutation: with them the mask of a run on data permuted by
`σ` is the mask of the original run read through `σ`.  The sorted core of `iterfit` is equivariant under a permutation `τ` of the sorted
positions that moves points only within ties: `djs_reject` as `iterfit` calls it is pointwise, and over an ordered field `fit` on sorted
points does not see the re-indexing of `(y, w)` and returns a curve that is a function of the abscissa.
-/
import PydlVerif.Model.IterFit
import PydlVerif.Lemmas.Except
import PydlVerif.Lemmas.ListBasics
import PydlVerif.Props.C09
import PydlVerif.Props.C17
import PydlVerif.Lemmas.BSplineEval
import Mathlib.Data.List.Sort
namespace PydlVerif.C10
open PydlVerif PydlVerif.BSpline PydlVerif.BSplineFit PydlVerif.IterFit

/-- `l ∘ τ`: the list `[l[τ[0]], l[τ[1]], …]` (default `d` outside).  It unfolds by `rfl` to `τ.map (fun i => l.getD i d)`, the spelling of the
model and of the order-independence theorems; hypotheses in either spelling are used for the other without a conversion. -/
def reidx {β : Type} (τ : List ℕ) (l : List β) (d : β) : List β := τ.map (fun i => l.getD i d)

theorem reidx_length {β : Type} (τ : List ℕ) (l : List β) (d : β) : (reidx τ l d).length = τ.length :=
  List.length_map _

theorem reidx_default {β : Type} (τ : List ℕ) (l : List β) (d d' : β) (hτ : ∀ i ∈ τ, i < l.length) :
    reidx τ l d = reidx τ l d' := by
  unfold reidx
  apply List.map_congr_left
  intro i hi
  rw [getD_lt l d i (hτ i hi), getD_lt l d' i (hτ i hi)]

theorem reidx_getD {β : Type} (τ : List ℕ) (l : List β) (d e : β) (i : ℕ) (hi : i < τ.length) :
    (reidx τ l d).getD i e = l.getD (τ.getD i 0) d := by
  unfold reidx
  rw [getD_lt _ e i (by rw [List.length_map]; exact hi), List.getElem_map, getD_lt τ 0 i hi]

theorem map_range_comp_getD {γ : Type} (τ : List ℕ) (n : ℕ) (hn : τ.length = n) (F : ℕ → γ) :
    (List.range n).map (fun i => F (τ.getD i 0)) = τ.map F := by
  subst hn
  apply List.ext_getElem (by simp)
  intro i h1 h2
  have : i < τ.length := by simpa using h2
  simp only [List.getElem_map, List.getElem_range]
  rw [getD_lt τ 0 i this]

theorem reidx_perm {β : Type} (τ : List ℕ) (l : List β) (d : β) (hτ : τ.Perm (List.range l.length)) :
    (reidx τ l d).Perm l :=
  map_getD_perm l d τ hτ

theorem reidx_map {β γ : Type} (τ : List ℕ) (l : List β) (f : β → γ) (d : β) (e : γ) (hτ : ∀ i ∈ τ, i < l.length) :
    reidx τ (l.map f) e = (reidx τ l d).map f := by
  unfold reidx
  rw [List.map_map]
  exact List.map_congr_left fun i hi => getD_map f l d e i (hτ i hi)

theorem reidx_reidx {β : Type} (τ σ : List ℕ) (l : List β) (d e : β) (hτ : ∀ i ∈ τ, i < σ.length) :
    reidx τ (reidx σ l d) e = reidx (reidx τ σ 0) l d :=
  reidx_map τ σ (fun i => l.getD i d) 0 e hτ

theorem reidx_zipWith {β γ δ : Type} (τ : List ℕ) (a : List β) (b : List γ) (f : β → γ → δ) (da : β) (db : γ) (dc : δ)
    (ha : ∀ i ∈ τ, i < a.length) (hb : ∀ i ∈ τ, i < b.length) :
    List.zipWith f (reidx τ a da) (reidx τ b db) = reidx τ (List.zipWith f a b) dc := by
  unfold reidx
  rw [List.zipWith_map]
  rw [List.zipWith_self]
  apply List.map_congr_left
  intro i hi
  have h1 := ha i hi
  have h2 := hb i hi
  rw [getD_lt a da i h1, getD_lt b db i h2, getD_lt _ dc i (by rw [List.length_zipWith]; omega), List.getElem_zipWith]

theorem getD_of_reidx_fixed {β : Type} (τ : List ℕ) (l : List β) (d : β) (hτ : τ.Perm (List.range l.length)) (hx : reidx τ l d = l)
    (p : ℕ) (hp : p < l.length) (e : β) : τ.getD p 0 < l.length ∧ l.getD (τ.getD p 0) e = l.getD p e := by
  have hp' : p < τ.length := by rw [perm_length τ _ hτ]; exact hp
  have h1 := perm_mem_lt τ _ hτ _ (getD_mem τ 0 p hp')
  have h2 := reidx_getD τ l d d p hp'
  rw [hx, getD_lt l _ _ h1, getD_lt l _ _ hp] at h2
  rw [getD_lt l _ _ h1, getD_lt l _ _ hp]
  exact ⟨h1, h2.symm⟩

theorem reidx_replicate {β : Type} (τ : List ℕ) (n : ℕ) (v : β) :
    reidx τ (List.replicate n v) v = List.replicate τ.length v := by
  rw [List.eq_replicate_iff]
  refine ⟨reidx_length τ _ v, fun b hb => ?_⟩
  obtain ⟨i, _, rfl⟩ := List.mem_map.1 hb
  by_cases hi : i < n
  · rw [getD_lt _ v i (by rw [List.length_replicate]; exact hi), List.getElem_replicate]
  · rw [getD_ge _ v i (by rw [List.length_replicate]; omega)]

theorem reidx_inj {β : Type} (perm : List ℕ) (l l' : List β) (d : β) (hperm : perm.Perm (List.range l.length))
    (hl : l'.length = l.length) (h : reidx perm l d = reidx perm l' d) : l = l' := by
  apply List.ext_getElem hl.symm
  intro i h1 h2
  obtain ⟨j, hj, hji⟩ := List.mem_iff_getElem.1 ((hperm.mem_iff).2 (List.mem_range.2 h1))
  have e := reidx_getD perm l d d j hj
  rw [h, reidx_getD perm l' d d j hj, getD_lt perm 0 j hj, hji, getD_lt l d i h1, getD_lt l' d i h2] at e
  exact e.symm

/-! ## `unsort perm` (`yy[xsort] = v`, Model/BSpline.lean) is the inverse of re-indexing by `perm` -/

theorem reidx_unsort {β : Type} (perm : List ℕ) (m : List β) (d : β) (hperm : perm.Perm (List.range m.length)) :
    reidx perm (unsort perm m) d = m := by
  have hl := perm_length perm _ hperm
  apply List.ext_getElem (by rw [reidx_length, hl])
  intro j h1 h2
  have hj : j < perm.length := by rw [hl]; exact h2
  rw [← getD_lt _ d j h1, reidx_getD perm _ d d j hj, getD_lt perm 0 j hj, List.getD_eq_getElem?_getD,
    (C08.unsort_spec perm m hperm).2 j hj, List.getElem?_eq_getElem h2]
  rfl

theorem unsort_range {β : Type} (l : List β) : unsort (List.range l.length) l = l := by
  have hp := List.Perm.refl (List.range l.length)
  apply List.ext_getElem (C08.unsort_spec _ l hp).1
  intro i h1 h2
  have := (C08.unsort_spec _ l hp).2 i (by rw [List.length_range]; exact h2)
  rw [List.getElem_range, List.getElem?_eq_getElem h1, List.getElem?_eq_getElem h2] at this
  exact Option.some.inj this

/-- `perm` sorts the data, `perm'` the data permuted by `σ`, and `τ` says where the second run's sorted points sit in the first
run's sorted order (`perm ∘ τ = σ ∘ perm'`): un-sorting the second run's array `mw ∘ τ` gives the first run's un-sorted array
read through `σ` -/
theorem unsort_through {β : Type} (σ perm perm' τ : List ℕ) (mw : List β) (d : β)
    (hσ : σ.Perm (List.range mw.length)) (hperm : perm.Perm (List.range mw.length))
    (hperm' : perm'.Perm (List.range mw.length)) (hτ : τ.Perm (List.range mw.length))
    (hkey : reidx τ perm 0 = reidx perm' σ 0) :
    unsort perm' (reidx τ mw d) = reidx σ (unsort perm mw) d := by
  have hτl : (reidx τ mw d).length = mw.length := by rw [reidx_length, perm_length τ _ hτ]
  have hperm'' : perm'.Perm (List.range (reidx τ mw d).length) := by rw [hτl]; exact hperm'
  have hul := (C08.unsort_spec perm' _ hperm'').1
  -- two lists of the same length are equal if they agree when read through the permutation `perm'`; read through it, the left side is
  -- `mw ∘ τ` (`reidx_unsort`) and the right side `(unsort perm mw) ∘ (σ ∘ perm') = (unsort perm mw) ∘ (perm ∘ τ) = mw ∘ τ`
  apply reidx_inj perm' _ _ d (by rw [hul]; exact hperm'')
    (by rw [hul, reidx_length, perm_length σ _ hσ, hτl])
  rw [reidx_unsort perm' _ d hperm'',
    reidx_reidx perm' σ _ d d (by rw [perm_length σ _ hσ]; exact perm_mem_lt perm' _ hperm'), ← hkey,
    ← reidx_reidx τ perm _ d d (by rw [perm_length perm _ hperm]; exact perm_mem_lt τ _ hτ), reidx_unsort perm mw d hperm]

/-- the mask `iterfit` returns from the working mask of its sorted core: the initial all-True `outmask`, or
`outmask[xsort] = maskwork` -/
def outmaskOf (n : ℕ) (perm : List ℕ) : Option (List Bool) → List Bool
  | none => List.replicate n true
  | some mw => unsort perm mw

theorem outmaskOf_through (σ perm perm' τ : List ℕ) (n : ℕ) (m : Option (List Bool))
    (hσ : σ.Perm (List.range n)) (hperm : perm.Perm (List.range n)) (hperm' : perm'.Perm (List.range n))
    (hτ : τ.Perm (List.range n)) (hkey : reidx τ perm 0 = reidx perm' σ 0) (hm : ∀ mw, m = some mw → mw.length = n) :
    outmaskOf n perm' (m.map fun mw => reidx τ mw true) = reidx σ (outmaskOf n perm m) true := by
  cases m with
  | none =>
    show List.replicate n true = reidx σ (List.replicate n true) true
    rw [reidx_replicate, perm_length σ n hσ]
  | some mw =>
    obtain rfl := hm mw rfl
    exact unsort_through σ perm perm' τ mw true hσ hperm hperm' hτ hkey

theorem outmaskOf_perm (σ perm perm' : List ℕ) (n : ℕ) (m : Option (List Bool))
    (hσ : σ.Perm (List.range n)) (hperm : perm.Perm (List.range n)) (hperm' : perm'.Perm (List.range n))
    (hkey : perm = reidx perm' σ 0) (hm : ∀ mw, m = some mw → mw.length = n) :
    outmaskOf n perm' m = reidx σ (outmaskOf n perm m) true := by
  have h := outmaskOf_through σ perm perm' (List.range n) n m hσ hperm hperm' (List.Perm.refl _)
    (by rw [← hkey, ← perm_length perm n hperm]; exact map_range_getD perm 0) hm
  have hid : (m.map fun mw => reidx (List.range n) mw true) = m := by
    cases m with
    | none => rfl
    | some mw => rw [← hm mw rfl]; exact congrArg some (map_range_getD mw true)
  rw [hid] at h
  exact h


theorem reidx_perm_range {n : ℕ} {σ perm' : List ℕ} (hσ : σ.Perm (List.range n)) (hperm' : perm'.Perm (List.range n)) :
    (reidx perm' σ 0).Perm (List.range n) :=
  (reidx_perm perm' σ 0 (by rw [perm_length σ _ hσ]; exact hperm')).trans hσ

/-- a work array of the run on the data permuted by `σ` is the work array of a run on the data with `σ ∘ perm'` (in the spelling of the model) -/
theorem work_eq {β : Type} {n : ℕ} (l : List β) (hl : l.length = n) (d e : β) {σ perm perm' : List ℕ} (hσ : σ.Perm (List.range n))
    (hperm' : perm'.Perm (List.range n)) (hkey : perm = perm'.map (fun i => σ.getD i 0)) :
    perm'.map (fun i => (σ.map (fun i => l.getD i d)).getD i e) = perm.map (fun i => l.getD i e) := by
  subst hl
  have hp : perm'.Perm (List.range σ.length) := by rw [perm_length σ _ hσ]; exact hperm'
  rw [hkey]
  exact (reidx_reidx perm' σ l d e (perm_mem_lt perm' _ hp)).trans
    (reidx_default _ l d e (perm_mem_lt _ _ (reidx_perm_range hσ hperm')))

/-- two permutations of `range n` differ by a permutation of the positions: `perm ∘ τ = ρ` for `τ = perm⁻¹ ∘ ρ` -/
theorem exists_reidx_eq (perm ρ : List ℕ) (n : ℕ) (hperm : perm.Perm (List.range n)) (hρ : ρ.Perm (List.range n)) :
    ∃ τ : List ℕ, τ.Perm (List.range n) ∧ reidx τ perm 0 = ρ := by
  refine ⟨ρ.map (fun a => perm.idxOf a), ?_, ?_⟩
  · -- `perm⁻¹ ∘ perm` is the identity
    have hid : perm.map (fun a => perm.idxOf a) = List.range n := by
      apply List.ext_getElem (by rw [List.length_map, List.length_range, perm_length perm n hperm])
      intro i h1 h2
      rw [List.getElem_map, List.getElem_range]
      exact (hperm.nodup_iff.2 List.nodup_range).idxOf_getElem i _
    exact hid ▸ (hρ.trans hperm.symm).map (fun a => perm.idxOf a)
  · unfold reidx
    rw [List.map_map]
    conv_rhs => rw [← List.map_id ρ]
    apply List.map_congr_left
    intro a ha
    have h1 := List.idxOf_lt_length_of_mem ((hperm.mem_iff).2 ((hρ.mem_iff).1 ha))
    simp only [Function.comp, id]
    rw [getD_lt perm 0 _ h1, List.getElem_idxOf]

/-! ## `djs_reject` as `iterfit` calls it: model, `inmask` and `outmask` given (any scalar type) -/
section body
variable {α : Type} [Scalar α]

theorem djsRejectPix_length (sqrt : α → α) (o : Reject.Opts α) (px : List (Reject.Pix α)) :
    (Reject.djsRejectPix sqrt o px).1.length = px.length := by
  rw [← Reject.finishMask_badness]
  exact Reject.finishMask_length o px _ (List.length_map _)

/-- the pixels `djs_reject` works on: data, model, `invvar`, `inmask` and the previous `outmask` zipped -/
def pixOf (d mdl sv : List α) (inm prev : List Bool) : List (Reject.Pix α) :=
  (List.range d.length).map fun i => ⟨d.getD i 0, mdl.getD i 0, sv.getD i 0, inm.getD i true, prev.getD i true⟩

theorem pixOf_length (d mdl sv : List α) (inm prev : List Bool) : (pixOf d mdl sv inm prev).length = d.length := by
  rw [pixOf, List.length_map, List.length_range]

theorem pixOf_getElem (d mdl sv : List α) (inm prev : List Bool) (i : ℕ) (hi : i < (pixOf d mdl sv inm prev).length) :
    (pixOf d mdl sv inm prev)[i] = ⟨d.getD i 0, mdl.getD i 0, sv.getD i 0, inm.getD i true, prev.getD i true⟩ := by
  simp only [pixOf, List.getElem_map, List.getElem_range]

theorem djsReject_some (sqrt : α → α) (o : Reject.Opts α) (d mdl sv : List α) (prev inm : List Bool) :
    Reject.djsReject sqrt o d (some mdl) (some prev) (some inm) sv =
      if prev.length = d.length ∧ mdl.length = d.length ∧ inm.length = d.length ∧ sv.length = d.length then
        .ok (Reject.djsRejectPix sqrt { o with hasIn := true } (pixOf d mdl sv inm prev))
      else .error "ValueError" := by
  simp only [Reject.djsReject_model, Option.some.injEq, forall_eq', Option.getD_some, Option.isSome_some]
  rfl

theorem djsReject_ok (sqrt : α → α) (o : Reject.Opts α) (d mdl sv : List α) (prev inm m : List Bool) (q : Bool)
    (h : Reject.djsReject sqrt o d (some mdl) (some prev) (some inm) sv = .ok (m, q)) :
    (prev.length = d.length ∧ mdl.length = d.length ∧ inm.length = d.length ∧ sv.length = d.length) ∧
      (Reject.djsRejectPix sqrt { o with hasIn := true } (pixOf d mdl sv inm prev)).1 = m ∧
      (Reject.djsRejectPix sqrt { o with hasIn := true } (pixOf d mdl sv inm prev)).2 = q := by
  rw [djsReject_some] at h
  split at h
  · exact ⟨by assumption, congrArg Prod.fst (Except.ok.inj h), congrArg Prod.snd (Except.ok.inj h)⟩
  · cases h

theorem djsReject_le (sqrt : α → α) (o : Reject.Opts α) (d mdl : List α) (prev inm : List Bool) (sv : List α)
    (m : List Bool) (q : Bool)
    (h : Reject.djsReject sqrt o d (some mdl) (some prev) (some inm) sv = .ok (m, q)) (i : ℕ)
    (hm : m[i]? = some true) : inm[i]? = some true := by
  obtain ⟨⟨_, _, hinl, _⟩, rfl, _⟩ := djsReject_ok sqrt o d mdl sv prev inm m q h
  have hi : i < (pixOf d mdl sv inm prev).length := by
    rw [← djsRejectPix_length sqrt { o with hasIn := true }]
    exact (List.getElem?_eq_some_iff.1 hm).1
  rw [← Reject.finishMask_badness] at hm
  have hinm : (pixOf d mdl sv inm prev)[i].inm = true := ((Reject.finishMask_true _ _ _ i hi).1 hm).1.2 rfl
  rw [pixOf_getElem] at hinm
  rw [pixOf_length, ← hinl] at hi
  rw [List.getElem?_eq_getElem hi, ← getD_lt inm true i hi]
  exact congrArg some hinm

theorem djsReject_length (sqrt : α → α) (o : Reject.Opts α) (d mdl : List α) (prev inm : List Bool) (sv : List α)
    (m : List Bool) (q : Bool)
    (h : Reject.djsReject sqrt o d (some mdl) (some prev) (some inm) sv = .ok (m, q)) : m.length = d.length := by
  obtain ⟨_, rfl, _⟩ := djsReject_ok sqrt o d mdl sv prev inm m q h
  rw [djsRejectPix_length, pixOf_length]

theorem maskStep_le (sqrt : α → α) (o : Reject.Opts α) (yw iw : List α) (m m' : List Bool) (q : Bool) (hlen : m.length = yw.length)
    (h : m' = m ∨ ∃ yf, Reject.djsReject sqrt o yw (some yf) (some m) (some m) iw = .ok (m', q)) :
    m'.length = yw.length ∧ ∀ i : ℕ, m'[i]? = some true → m[i]? = some true := by
  rcases h with rfl | ⟨yf, hr⟩
  · exact ⟨hlen, fun i hm => hm⟩
  · exact ⟨djsReject_length _ _ _ _ _ _ _ _ _ hr, djsReject_le _ _ _ _ _ _ _ _ _ hr⟩

theorem djsRejectPix_pointwise (sqrt : α → α) (o : Reject.Opts α) (px : List (Reject.Pix α)) (hg : o.grow = 0)
    (hi : o.hasIn = true) (hs : o.sticky = false) :
    Reject.djsRejectPix sqrt o px =
      (px.map (fun p => Reject.isZero (Reject.badness sqrt o p) && p.inm),
       px.all (fun p => (Reject.isZero (Reject.badness sqrt o p) && p.inm) == p.prev)) := by
  unfold Reject.djsRejectPix
  simp only [hg, Reject.growMask_zero, hi, hs, if_true, if_false, Bool.false_eq_true]
  rw [List.zipWith_map_left, List.zipWith_self]
  congr 1
  rw [List.zipWith_map_left, List.zipWith_self, List.all_map]
  rfl

/-- `djs_reject` as `iterfit` calls it (`grow = 0`, `sticky = False`, `inmask = outmask =` the current mask) is pointwise:
re-indexing data, inverse variance and mask by a permutation `τ` (the model curve being invariant under `τ`) re-indexes the new
mask by `τ` and leaves `qdone` unchanged -/
theorem djsReject_equiv (sqrt : α → α) (o : Reject.Opts α) (hg : o.grow = 0) (hs : o.sticky = false) (τ : List ℕ)
    (d mdl sv : List α) (m : List Bool) (hτ : τ.Perm (List.range d.length))
    (hmdl : reidx τ mdl 0 = mdl) (hm : m.length = d.length) (hsv : sv.length = d.length) :
    Reject.djsReject sqrt o (reidx τ d 0) (some mdl) (some (reidx τ m true)) (some (reidx τ m true)) (reidx τ sv 0)
      = (Reject.djsReject sqrt o d (some mdl) (some m) (some m) sv).map (fun r => (reidx τ r.1 true, r.2)) := by
  have hτl := perm_length τ _ hτ
  have hmdll : mdl.length = d.length := by rw [← hmdl, reidx_length, hτl]
  have hmem := perm_mem_lt τ _ hτ
  rw [djsReject_some, djsReject_some]
  simp only [reidx_length, hτl, hm, hsv, hmdll, and_self, if_true, Except.map]
  rw [djsRejectPix_pointwise sqrt { o with hasIn := true } _ hg rfl hs, djsRejectPix_pointwise sqrt { o with hasIn := true } _ hg rfl hs]
  have hpx : pixOf (reidx τ d 0) mdl (reidx τ sv 0) (reidx τ m true) (reidx τ m true)
      = τ.map (fun i => (⟨d.getD i 0, mdl.getD i 0, sv.getD i 0, m.getD i true, m.getD i true⟩ : Reject.Pix α)) := by
    unfold pixOf
    rw [reidx_length, hτl, ← map_range_comp_getD τ d.length hτl]
    apply List.map_congr_left
    intro i hi
    have hi' : i < τ.length := by rw [hτl]; exact List.mem_range.1 hi
    rw [reidx_getD τ d 0 0 i hi', reidx_getD τ sv 0 0 i hi', reidx_getD τ m true true i hi']
    congr 1
    rw [← reidx_getD τ mdl 0 0 i hi', hmdl]
  rw [hpx]
  unfold pixOf
  congr 2
  · rw [List.map_map, List.map_map]
    unfold reidx
    apply List.map_congr_left
    intro i hi
    have h := hmem i hi
    rw [getD_lt _ true i (by simpa using h)]
    simp only [List.getElem_map, List.getElem_range, Function.comp]
  · -- `qdone` is a conjunction over all pixels: it does not see their order
    rw [List.all_map, List.all_map]
    exact hτ.all_eq

/-! ## one pass of the loop under a re-indexing of `(y, w)` and the mask (any scalar type) -/

theorem countTrue_perm (m m' : List Bool) (h : m'.Perm m) : countTrue m' = countTrue m := by
  unfold countTrue
  exact (h.filter _).length_eq

theorem maskedWeights_equiv (τ : List ℕ) (iw : List α) (m : List Bool) (hi : ∀ i ∈ τ, i < iw.length)
    (hm : ∀ i ∈ τ, i < m.length) :
    maskedWeights (reidx τ iw 0) (reidx τ m true) = reidx τ (maskedWeights iw m) 0 := by
  unfold maskedWeights
  exact reidx_zipWith τ iw m _ 0 true 0 hi hm

theorem maskedWeights_length (iw : List α) (m : List Bool) (h : m.length = iw.length) :
    (maskedWeights iw m).length = iw.length := by
  unfold maskedWeights
  rw [List.length_zipWith, h, Nat.min_self]

/-- a state of the loop, an outcome of a pass, with the working mask read through `τ` -/
def stMap (τ : List ℕ) (s : St α) : St α := { s with maskwork := reidx τ s.maskwork true }

def outMap (τ : List ℕ) : Outcome α → Outcome α
  | .done s => .done (stMap τ s)
  | .failed b => .failed b

/-- what the loop needs from `fit` on the sorted points `xw`: it does not see the re-indexing of `(y, w)` by `τ`, and
the curve it returns is invariant under `τ` -/
structure FitEquiv (Kn : Kernels α) (τ : List ℕ) (xw yw : List α) : Prop where
  same : ∀ (b : BS α) (ws : List α), ws.length = xw.length →
    fit Kn b xw (reidx τ yw 0) (reidx τ ws 0) (List.range xw.length) = fit Kn b xw yw ws (List.range xw.length)
  inv : ∀ (b : BS α) (ws : List α) (out : FitOut α), fit Kn b xw yw ws (List.range xw.length) = .ok out →
    reidx τ out.yfit 0 = out.yfit

/-- one pass of the loop commutes with the re-indexing -/
theorem iterBody_equiv (Kn : Kernels α) (p : Params α) (τ : List ℕ) (xw yw iw : List α) (s : St α)
    (hτ : τ.Perm (List.range xw.length)) (hy : yw.length = xw.length) (hi : iw.length = xw.length)
    (hm : s.maskwork.length = xw.length) (hfit : FitEquiv Kn τ xw yw) :
    iterBody Kn p xw (reidx τ yw 0) (reidx τ iw 0) (stMap τ s) = (iterBody Kn p xw yw iw s).map (outMap τ) := by
  have hmem := perm_mem_lt τ _ hτ
  unfold iterBody
  simp only [stMap, countTrue_perm _ _ (reidx_perm τ _ true (by rw [hm]; exact hτ))]
  refine ite_map rfl ?_
  rw [maskedWeights_equiv τ iw s.maskwork (by rw [hi]; exact hmem) (by rw [hm]; exact hmem),
    hfit.same s.sset _ (by rw [maskedWeights_length iw s.maskwork (by rw [hm, hi]), hi])]
  refine bind_map' fun out hf => ite_map rfl (ite_map ?_ rfl)
  rw [djsReject_equiv Kn.sqrt (rejectOpts p) rfl rfl τ yw out.yfit iw s.maskwork (by rw [hy]; exact hτ) (hfit.inv _ _ _ hf)
    (by rw [hm, hy]) (by rw [hi, hy])]
  exact bind_map_comm' fun mq _ => rfl

end body

/-! ## `normalSystem` through the accessors it hands to `assemble` (any scalar type) -/
section accessors
variable {α : Type} [Scalar α]


def arrAt (l : List α) (p : ℕ) : α := l.toArray[p]!
def rowsAt (rows : List (List α)) (p a : ℕ) : α := ((rows.map List.toArray).toArray[p]!)[a]!

theorem arrAt_eq (l : List α) (p : ℕ) : arrAt l p = l.getD p 0 := by
  unfold arrAt
  rw [toArray_getElem!]
  rfl

theorem rowsAt_eq (rows : List (List α)) (q a : ℕ) : rowsAt rows q a = (rows.getD q []).toArray[a]! := by
  have h : (rows.map List.toArray).toArray[q]! = (rows.getD q []).toArray := by
    rw [toArray_getElem!]
    by_cases hq : q < rows.length
    · rw [getD_lt _ _ q (by simpa using hq), getD_lt _ _ q hq, List.getElem_map]
    · rw [getD_ge _ _ q (by simpa using hq), getD_ge _ _ q (by omega)]
      rfl
  unfold rowsAt
  rw [h]

theorem normalSystem_eq (rows : List (List α)) (ys ws : List α) (lower upper : Array ℤ) (nx nord nn : ℕ) :
    normalSystem rows ys ws lower upper nx nord nn =
      (((List.range nord).map fun r => ((List.range (nn + nord)).map fun c =>
          (assemble (rowsAt rows) (arrAt ys) (arrAt ws) lower upper nx nord (nn - nord + 1)).1 (c * nord + r)).toArray).toArray,
       ((List.range (nn + nord)).map (assemble (rowsAt rows) (arrAt ys) (arrAt ws) lower upper nx nord (nn - nord + 1)).2).toArray) := rfl

end accessors
/-! ## `fit` on sorted points does not see a re-indexing within ties (ordered field) -/
section field
variable {K : Type} [Field K] [LinearOrder K] [IsStrictOrderedRing K] [FloorRing K]

open PydlVerif.AtField

/-- exact arithmetic: a sum over the points does not see a permutation of them -/
theorem sumL_tie (τ : List ℕ) (n : ℕ) (hτ : τ.Perm (List.range n)) (f g : ℕ → K) (h : ∀ p, p < n → g p = f (τ.getD p 0)) :
    @sumL _ (fieldScalar _) ((List.range n).map g) = @sumL _ (fieldScalar _) ((List.range n).map f) := by
  have hg : (List.range n).map g = τ.map f := by
    rw [← map_range_comp_getD τ n (perm_length τ n hτ) f]
    exact List.map_congr_left fun p hp => h p (List.mem_range.1 hp)
  rw [hg, BSplineFitLemmas.sumL_eq, BSplineFitLemmas.sumL_eq]
  exact (hτ.map f).sum_eq

theorem sumL_reidx (τ : List ℕ) (ws : List K) (d : K) (hτ : τ.Perm (List.range ws.length)) :
    @sumL _ (fieldScalar _) (reidx τ ws d) = @sumL _ (fieldScalar _) ws := by
  rw [BSplineFitLemmas.sumL_eq, BSplineFitLemmas.sumL_eq]
  exact (reidx_perm τ ws d hτ).sum_eq

theorem assemble_equiv (τ : List ℕ) (n : ℕ) (hτ : τ.Perm (List.range n)) (a1 : ℕ → ℕ → K) (y y' w w' : ℕ → K)
    (lower upper : Array ℤ) (bw nseg : ℕ)
    (hy : ∀ p, p < n → y' p = y (τ.getD p 0))
    (hw : ∀ p, p < n → w' p = w (τ.getD p 0)) (ha : ∀ p, p < n → a1 (τ.getD p 0) = a1 p)
    (hin : ∀ k, k < nseg → ∀ p, p < n → rowIn lower upper k (τ.getD p 0) = rowIn lower upper k p) :
    @assemble _ (fieldScalar _) a1 y' w' lower upper n bw nseg = @assemble _ (fieldScalar _) a1 y w lower upper n bw nseg := by
  unfold assemble
  apply List.foldl_ext
  intro ab k hk
  have hk' := List.mem_range.1 hk
  have e1 : @workAt _ (fieldScalar _) a1 w' (rowIn lower upper k) n bw = @workAt _ (fieldScalar _) a1 w (rowIn lower upper k) n bw :=
    funext fun i => sumL_tie τ n hτ _ _ fun p hp => by simp only [hw p hp, ha p hp, hin k hk' p hp]
  have e2 : @wbAt _ (fieldScalar _) a1 y' w' (rowIn lower upper k) n = @wbAt _ (fieldScalar _) a1 y w (rowIn lower upper k) n :=
    funext fun a => sumL_tie τ n hτ _ _ fun p hp => by simp only [hy p hp, hw p hp, ha p hp, hin k hk' p hp]
  rw [e1, e2]

/-- the action rows and the segment slices `lower/upper` (the first `m` of them: any bound that covers the segments of the system) do not
distinguish `p` from `τ p` -/
def RowInv (τ : List ℕ) (rows : List (List K)) (lower upper : Array ℤ) (nx m : ℕ) : Prop :=
  (∀ p, p < nx → rows.getD (τ.getD p 0) [] = rows.getD p []) ∧
  (∀ k, k < m → ∀ p, p < nx → rowIn lower upper k (τ.getD p 0) = rowIn lower upper k p)

/-- `alpha` and `beta` of `bspline.fit` do not change when `(y, invvar)` are exchanged among points with the same action row and the same
segments -/
theorem normalSystem_equiv (τ : List ℕ) (rows : List (List K)) (ys ws : List K) (lower upper : Array ℤ) (nx nord nn m : ℕ)
    (hτ : τ.Perm (List.range nx)) (hri : RowInv τ rows lower upper nx m) (hm : nn - nord + 1 ≤ m) :
    normalSystemK rows (reidx τ ys ZK) (reidx τ ws ZK) lower upper nx nord nn = normalSystemK rows ys ws lower upper nx nord nn := by
  have hτl := perm_length τ nx hτ
  have hA := @arrAt_eq K (fieldScalar K)
  have hR := @rowsAt_eq K (fieldScalar K)
  rw [@normalSystem_eq K (fieldScalar K), @normalSystem_eq K (fieldScalar K)]
  rw [assemble_equiv τ nx hτ _ (@arrAt K (fieldScalar K) ys) _ (@arrAt K (fieldScalar K) ws)]
  · intro p hp
    rw [hA, hA, reidx_getD τ ys _ _ p (by omega)]
  · intro p hp
    rw [hA, hA, reidx_getD τ ws _ _ p (by omega)]
  · intro p hp
    funext a
    rw [hR, hR, hri.1 p hp]
  · intro k hk p hp
    exact hri.2 k (by omega) p hp

theorem lowerUpper_size (k n : ℕ) (indx : Array ℕ) :
    (lowerUpper k n indx).1.size = n - k + 1 ∧ (lowerUpper k n indx).2.size = n - k + 1 := by
  unfold lowerUpper
  simp only []
  rw [C08.scatter_size, C08.scatter_size]
  simp

/-- on sorted points, what `action` returns does not distinguish tied points -/
theorem action_rowinv (b : BS K) (τ : List ℕ) (xw : List K) (rows : List (List K)) (lower upper : Array ℤ)
    (hk : 1 ≤ b.nord) (hτ : τ.Perm (List.range xw.length)) (hs : xw.Pairwise (· ≤ ·)) (hx : reidx τ xw ZK = xw)
    (h : @BS.action _ (fieldScalar _) b xw = .ok (some (rows, lower, upper))) :
    RowInv τ rows lower upper xw.length ((@BS.gb _ (fieldScalar _) b).size - b.nord - b.nord + 1) ∧
      lower.size = (@BS.gb _ (fieldScalar _) b).size - b.nord - b.nord + 1 := by
  obtain ⟨hsize, hne, hrows, hl, hu⟩ := @C08.action_some K (fieldScalar K) b xw rows lower upper hk h
  generalize @BS.gb _ (fieldScalar _) b = gb at hsize hrows hl hu ⊢
  -- on sorted points the interval of a point, hence its row, is a function of its abscissa; so is its segment (`hR`)
  rw [C08.intrv_pointwise _ b.nord _ xw hs, List.zipWith_map_right, List.zipWith_self] at hrows
  have hR := C09.rows_action (@knotAt _ (fieldScalar _) gb) b.nord (gb.size - b.nord) hk (by omega) xw hne hs
  simp only [C09.actLower, C09.actUpper, ← hl, ← hu] at hR
  refine ⟨⟨fun p hp => ?_, fun k hk' p hp => ?_⟩, (congrArg Array.size hl).trans (lowerUpper_size _ _ _).1⟩
  · obtain ⟨h1, h2⟩ := getD_of_reidx_fixed τ xw _ hτ hx p hp 0
    rw [hrows, getD_map _ xw 0 [] _ h1, getD_map _ xw 0 [] _ hp, h2]
  · obtain ⟨h1, h2⟩ := getD_of_reidx_fixed τ xw _ hτ hx p hp 0
    rw [Bool.eq_iff_iff, (hR _ h1).2 k hk', (hR p hp).2 k hk']
    unfold C09.segOf C09.ptAt
    rw [h2]

/-- `fit` does not see a re-indexing of `(y, w)` within ties of the sorted abscissae: same status, object,
`alpha`, `beta` and curve -/
theorem fit_same (Kn : Kernels K) (b : BS K) (τ : List ℕ) (xw yw ws : List K)
    (hτ : τ.Perm (List.range xw.length)) (hs : xw.Pairwise (· ≤ ·)) (hx : reidx τ xw ZK = xw)
    (hw : ws.length = xw.length) (perm : List ℕ) :
    fitK Kn b xw (reidx τ yw ZK) (reidx τ ws ZK) perm = fitK Kn b xw yw ws perm := by
  rw [@BSplineFitLemmas.fit_eq K (fieldScalar K), @BSplineFitLemmas.fit_eq K (fieldScalar K)]
  refine ite_congr rfl (fun _ => rfl) fun hnn => ite_congr rfl (fun _ => rfl) fun hnord => ?_
  refine bind_congr_ok fun act hact => ?_
  cases act with
  | none => rfl
  | some t =>
    obtain ⟨rows, lower, upper⟩ := t
    obtain ⟨hri, hlsz⟩ := action_rowinv b τ xw rows lower upper (by omega) hτ hs hx hact
    refine ite_congr rfl (fun _ => rfl) fun hsz => ?_
    -- `(y, w)` enter only through the normal system and through the sum of the weights
    rw [normalSystem_equiv τ rows yw ws lower upper xw.length b.nord _ _ hτ hri (by omega),
      sumL_reidx τ ws _ (by rw [hw]; exact hτ)]

/-- the curve `fit` returns is a function of the abscissa: on sorted points `yfitOf` of an object `b'` with the good breakpoints and
the order of `b` is the spline of `b'` at every point (C08 `value_spec`) -/
theorem yfitOf_sorted (b b' : BS K) (xw : List K) (rows : List (List K)) (lower upper : Array ℤ) (yf : List K)
    (hk : 1 ≤ b.nord) (hs : xw.Pairwise (· ≤ ·)) (hact : @BS.action _ (fieldScalar _) b xw = .ok (some (rows, lower, upper)))
    (hgb : gbK b' = gbK b) (hn : b'.nord = b.nord)
    (h : @yfitOf _ (fieldScalar _) b' rows lower upper xw.length (List.range xw.length) = .ok yf) :
    yf = xw.map (splineAtK (knotAtK (gbK b)) (coeffAtK b') b.nord ((gbK b).size - b.nord)) := by
  obtain ⟨hsize, hne, rfl, rfl, rfl⟩ := @C08.action_some K (fieldScalar K) b xw rows lower upper hk hact
  unfold yfitOf at h
  rw [hgb, hn, if_neg (by omega)] at h
  have hv := C08.value_spec (knotAtK (gbK b)) (coeffAtK b') b.nord ((gbK b).size - b.nord) hk (by omega) xw hne
    (List.range xw.length) (List.Perm.refl _) (by rw [map_range_getD]; exact hs)
  rw [map_range_getD] at hv
  exact (Except.ok.inj h).symm.trans hv

/-- the curve `fit` returns on sorted points takes equal values at tied points -/
theorem fit_inv (Kn : Kernels K) (b : BS K) (τ : List ℕ) (xw ys ws : List K)
    (hτ : τ.Perm (List.range xw.length)) (hs : xw.Pairwise (· ≤ ·)) (hx : reidx τ xw ZK = xw) (out : FitOut K)
    (h : fitK Kn b xw ys ws (List.range xw.length) = .ok out) : reidx τ out.yfit ZK = out.yfit := by
  -- the values of ONE function at the abscissae do not see a re-indexing that fixes the abscissae
  have hfun : ∀ S : K → K, reidx τ (xw.map S) ZK = xw.map S := fun S => by
    rw [reidx_map τ xw S ZK ZK (perm_mem_lt τ _ hτ), hx]
  rcases @C09.fit_cases K (fieldScalar K) Kn b xw ys ws _ out h with rfl | ⟨hnord, rows, lower, upper, hact, hcase⟩
  · exact (reidx_replicate τ _ _).trans (by rw [perm_length τ _ hτ])
  -- whatever the factorisation answers, the curve is `yfitOf` of an object with the good breakpoints of `b`
  rcases hcase with ⟨_, _, _, _, _, hy⟩ | ⟨_, _, _, hobj, hy⟩
  · rw [yfitOf_sorted b b xw rows lower upper _ (by omega) hs hact rfl rfl hy]
    exact hfun _
  · rw [yfitOf_sorted b out.obj xw rows lower upper _ (by omega) hs hact (by rw [hobj]; rfl) (by rw [hobj]) hy]
    exact hfun _

/-- on sorted abscissae `bspline.fit` does not see an exchange of `(y, invvar)` among tied points, and the curve it returns does not distinguish them -/
theorem fitEquiv_sorted (Kn : Kernels K) (τ : List ℕ) (xw yw : List K)
    (hτ : τ.Perm (List.range xw.length)) (hs : xw.Pairwise (· ≤ ·)) (hx : reidx τ xw ZK = xw) :
    @FitEquiv K (fieldScalar K) Kn τ xw yw :=
  @FitEquiv.mk K (fieldScalar K) Kn τ xw yw (fun b ws hw => fit_same Kn b τ xw yw ws hτ hs hx hw _)
    (fun b ws out h => fit_inv Kn b τ xw yw ws hτ hs hx out h)

theorem goodx_sublist {β : Type} (xw : List β) (m : List Bool) :
    (((xw.zip m).filter (fun xm => xm.2)).map (fun xm => xm.1)).Sublist xw := by
  refine (List.filter_sublist.map _).trans ?_
  rw [List.zip_eq_zip_take_min, List.map_fst_zip (by simp)]
  exact List.take_sublist _ _

/-- the abscissae of the good points are the same list: both are sorted sublists of `xw` and permutations of each
other (hence `mkKnots` gives the same knots) -/
theorem goodx_eq (τ : List ℕ) (xw : List K) (m : List Bool) (hτ : τ.Perm (List.range xw.length))
    (hs : xw.Pairwise (· ≤ ·)) (hx : reidx τ xw ZK = xw) (hm : m.length = xw.length) :
    ((xw.zip (reidx τ m true)).filter (fun xm => xm.2)).map (fun xm => xm.1)
      = ((xw.zip m).filter (fun xm => xm.2)).map (fun xm => xm.1) := by
  have hmem := perm_mem_lt τ _ hτ
  have hz : xw.zip (reidx τ m true) = reidx τ (xw.zip m) (ZK, true) := by
    conv_lhs => rw [← hx]
    exact reidx_zipWith τ xw m Prod.mk ZK true (ZK, true) hmem (by rw [hm]; exact hmem)
  have hp : (xw.zip (reidx τ m true)).Perm (xw.zip m) := by
    rw [hz]
    exact reidx_perm τ _ _ (by rw [List.length_zip, hm, Nat.min_self]; exact hτ)
  exact ((hp.filter _).map _).eq_of_sortedLE (hs.sublist (goodx_sublist xw _)).sortedLE (hs.sublist (goodx_sublist xw m)).sortedLE

end field

end PydlVerif.C10
