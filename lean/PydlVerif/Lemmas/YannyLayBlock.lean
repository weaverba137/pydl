/-
C02, file level: the typedef expression on a typedef block in any layout (`blockL`).  The expression for the other keyword
matches nowhere inside it: a match starts with `ty`; the `ty` of `typedef` is followed by the wrong keyword, and behind any
other `ty` no `{` follows before the `;` that ends the block.  The writer's `blockText` is the case of single blanks
(`blockText_blockL`).
`noMatchIn kw X B` (no nonempty suffix of `X` starts a match in `X ++ B`) and `Cuts kw X defs X'` (in front of any text the
expression finds `defs` in `X` and leaves `X'`) are YannyFront.lean's; `wordy`, `isKw` are YannyShape.lean's.
-/
import PydlVerif.Lemmas.YannyLayout
namespace PydlVerif.YannyLayBlock
open PydlVerif.Yanny PydlVerif.YannyRT

/-- a typedef block in any layout -/
def blockL (K g1 g2 body g3 name g4 : Str) : Str :=
  "typedef".toList ++ g1 ++ K ++ g2 ++ '{' :: body ++ '}' :: g3 ++ name ++ g4 ++ [';']

theorem blockL_shape (K g1 g2 body g3 name g4 B : Str) : blockL K g1 g2 body g3 name g4 ++ B =
    "typedef".toList ++ (g1 ++ (K ++ (g2 ++ '{' :: (body ++ '}' :: (g3 ++ (name ++ (g4 ++ ';' :: B))))))) := by
  unfold blockL
  generalize "typedef".toList = T
  simp only [List.append_assoc, List.cons_append, List.nil_append]

theorem blockL_ne_nil (K g1 g2 body g3 name g4 : Str) : blockL K g1 g2 body g3 name g4 ≠ [] := by
  unfold blockL
  generalize "typedef".toList = T
  intro h
  have := congrArg List.length h
  simp at this

theorem kw_dropWhile (g K R : Str) (hK : isKw K) (hg : ∀ c ∈ g, isSpace c = true) :
    (g ++ (K ++ R)).dropWhile isSpace = K ++ R := by
  rw [List.dropWhile_append_of_pos hg]
  rcases isKw_chars K hK with rfl | rfl <;> exact dropWhile_head_false _ _ _ (by decide)

theorem space_ne {c d : Char} (hc : isSpace c = true) (hd : isSpace d = false) : c ≠ d := by
  intro e; subst e; rw [hc] at hd; cases hd

theorem matchTypedef_lay (K g1 g2 body g3 name g4 B : Str) (hK : isKw K)
    (hg1 : g1 ≠ [] ∧ ∀ c ∈ g1, isSpace c = true) (hg2 : ∀ c ∈ g2, isSpace c = true)
    (hg3 : ∀ c ∈ g3, isSpace c = true) (hg4 : ∀ c ∈ g4, isSpace c = true)
    (hb : body ≠ [] ∧ '}' ∉ body) (hn : wordy name) :
    matchTypedef K (blockL K g1 g2 body g3 name g4 ++ B) =
      some ((blockL K g1 g2 body g3 name g4).length - 1, body, name) := by
  obtain ⟨hb1, hb2⟩ := hb
  obtain ⟨hn1, hn2⟩ := hn
  obtain ⟨hg1n, hg1s⟩ := hg1
  have hbody := bne_of_not_mem hb2
  have hlen : (blockL K g1 g2 body g3 name g4 ++ B).length - B.length - 1 =
      (blockL K g1 g2 body g3 name g4).length - 1 := by
    simp only [List.length_append]; omega
  rw [← hlen]
  have hbe : body.isEmpty = false := by simpa using hb1
  have hne : name.isEmpty = false := by simpa using hn1
  have hstop : ∀ x, (g4 ++ ';' :: B).head? = some x → isWordCh x = false := by
    intro x hx
    cases g4 with
    | nil => injection hx with hx; subst hx; decide
    | cons a t => injection hx with hx; subst hx; exact scan_space_not_word _ (hg4 _ (by simp))
  have eN : ∀ R : Str, (name ++ R).dropWhile isSpace = name ++ R :=
    fun R => lstrip_id _ (wordy_head name R ⟨hn1, hn2⟩)
  have eG3 : ∀ R : Str, (g3 ++ (name ++ R)).dropWhile isSpace = name ++ R := by
    intro R
    rw [List.dropWhile_append_of_pos hg3, eN]
  rw [blockL_shape]
  cases g1 with
  | nil => exact absurd rfl hg1n
  | cons a g1' =>
    have ha : isSpace a = true := hg1s a (by simp)
    have eG1 : ∀ R : Str, (a :: (g1' ++ (K ++ R))).dropWhile isSpace = K ++ R :=
      fun R => kw_dropWhile (a :: g1') K R hK hg1s
    rw [List.cons_append]
    unfold matchTypedef
    -- the expression is matched piece by piece: `typedef`, g1, K, g2 `{`, body `}`, g3, name, g4 `;`;
    -- each fact below carries it over one piece (the length of the whole text occurs only as a number:
    -- generalised, so that no rewriting goes on inside it)
    generalize ("typedef".toList ++ a :: (g1' ++ (K ++ (g2 ++ '{' :: (body ++ '}' :: (g3 ++ (name ++
      (g4 ++ ';' :: B)))))))).length = L
    simp only [stripPrefix_append, ha, Bool.not_true, Bool.false_eq_true, if_false, eG1,
      dropWhile_app_stop _ g2 '{' _ hg2 (by decide), takeWhile_app_stop _ body '}' _ hbody (by decide),
      dropWhile_app_stop _ body '}' _ hbody (by decide), hbe, eG3, takeWhile_append_stop _ name _ hn2 hstop,
      dropWhile_append_stop _ name _ hn2 hstop, dropWhile_app_stop _ g4 ';' B hg4 (by decide), hne]

theorem noMatchIn_pre_nt (kw X Y B : Str) (hX : 't' ∉ X) (h : noMatchIn kw Y B) :
    noMatchIn kw (X ++ Y) B := by
  induction X with
  | nil => simpa using h
  | cons c X' ih =>
    rw [List.cons_append]
    apply noMatchIn_cons_of_ne_t
    · intro e; exact hX (by simp [e])
    · exact ih (fun hm => hX (List.mem_cons_of_mem _ hm))

theorem noMatchIn_nt (kw X B : Str) (hX : 't' ∉ X) : noMatchIn kw X B := by
  have := noMatchIn_pre_nt kw X [] B hX (noMatchIn_nil _ _)
  simpa using this

theorem noMatchIn_t_then (kw X B : Str) (hne : X ≠ []) (ht : 't' ∉ X) (hy : 'y' ∉ X) :
    noMatchIn kw ('t' :: X) B := by
  cases X with
  | nil => exact absurd rfl hne
  | cons c X' =>
    apply noMatchIn_t_cons_of_ne_y
    · intro e; exact hy (by simp [e])
    · exact noMatchIn_nt kw _ B ht

theorem matchTypedef_head_other (K kw g1 R : Str) (hK : isKw K) (hkw : isKw kw) (hne : K ≠ kw)
    (hg1 : g1 ≠ [] ∧ ∀ c ∈ g1, isSpace c = true) :
    matchTypedef kw ("typedef".toList ++ (g1 ++ (K ++ R))) = none := by
  obtain ⟨hg1n, hg1s⟩ := hg1
  cases g1 with
  | nil => exact absurd rfl hg1n
  | cons a g1' =>
    have ha : isSpace a = true := hg1s a (by simp)
    have eG1 : (a :: (g1' ++ (K ++ R))).dropWhile isSpace = K ++ R := kw_dropWhile (a :: g1') K R hK hg1s
    have hsp : stripPrefix kw (K ++ R) = none := by
      rcases isKw_chars K hK with rfl | rfl <;> rcases isKw_chars kw hkw with rfl | rfl
      · exact absurd rfl hne
      · rfl
      · rfl
      · exact absurd rfl hne
    rw [List.cons_append]
    unfold matchTypedef
    rw [stripPrefix_append]
    simp only []
    rw [if_neg (by simp [ha]), eG1, hsp]

/-- a match starts with `ty`: the letters of the keyword other than `t` start none, and no `t` of it
is followed by `y` -/
theorem noMatchIn_kw_tail (K kw g2 R : Str) (hK : isKw K) (hg2 : ∀ c ∈ g2, isSpace c = true) :
    noMatchIn kw (K ++ (g2 ++ ['{'])) R := by
  have ht : 't' ∉ g2 ++ ['{'] := by simp [not_mem_of_all hg2 (d := 't') (by decide)]
  have hy : 'y' ∉ g2 ++ ['{'] := by simp [not_mem_of_all hg2 (d := 'y') (by decide)]
  rcases isKw_chars K hK with rfl | rfl
  · show noMatchIn kw ('s' :: 't' :: 'r' :: 'u' :: 'c' :: 't' :: (g2 ++ ['{'])) R
    apply noMatchIn_cons_of_ne_t _ _ _ _ (by decide)
    apply noMatchIn_t_cons_of_ne_y _ _ _ _ (by decide)
    iterate 3 apply noMatchIn_cons_of_ne_t _ _ _ _ (by decide)
    exact noMatchIn_t_then kw _ R (by simp) ht hy
  · show noMatchIn kw ('e' :: 'n' :: 'u' :: 'm' :: (g2 ++ ['{'])) R
    iterate 4 apply noMatchIn_cons_of_ne_t _ _ _ _ (by decide)
    exact noMatchIn_nt kw _ R ht

theorem noMatchIn_lay_other (K kw g1 g2 body g3 name g4 B : Str) (hK : isKw K) (hkw : isKw kw) (hne : K ≠ kw)
    (hg1 : g1 ≠ [] ∧ ∀ c ∈ g1, isSpace c = true) (hg2 : ∀ c ∈ g2, isSpace c = true)
    (hg3 : ∀ c ∈ g3, isSpace c = true) (hg4 : ∀ c ∈ g4, isSpace c = true)
    (hb : '{' ∉ body) (hn : wordy name) : noMatchIn kw (blockL K g1 g2 body g3 name g4) B := by
  have es : blockL K g1 g2 body g3 name g4 =
      ("typedef".toList ++ (g1 ++ (K ++ (g2 ++ ['{'])))) ++ (body ++ '}' :: (g3 ++ (name ++ (g4 ++ [';'])))) := by
    unfold blockL
    generalize "typedef".toList = T
    simp only [List.append_assoc, List.cons_append, List.nil_append]
  rw [es]
  apply noMatchIn_append
  · -- up to the brace: at the `t` of `typedef` the other keyword does not follow, behind it there is no `ty`
    generalize (body ++ '}' :: (g3 ++ (name ++ (g4 ++ [';'])))) ++ B = R
    have h0 := matchTypedef_head_other K kw g1 ((g2 ++ ['{']) ++ R) hK hkw hne hg1
    rw [typedef_chars] at h0 ⊢
    rw [List.cons_append] at h0 ⊢
    apply noMatchIn_cons
    · rw [← h0]
      simp only [List.append_assoc, List.cons_append, List.nil_append]
    · rw [← List.append_assoc]
      apply noMatchIn_pre_nt
      · simp [not_mem_of_all hg1.2 (d := 't') (by decide)]
      · exact noMatchIn_kw_tail K kw g2 R hK hg2
  · apply noMatchIn_noBrace _ _ _ hkw
    · simp [hb, not_mem_of_all hg3 (d := '{') (by decide), not_mem_of_all hg4 (d := '{') (by decide),
        wordy_not_mem name hn '{' (by decide)]
    · have e2 : body ++ '}' :: (g3 ++ (name ++ (g4 ++ [';']))) =
          (body ++ '}' :: (g3 ++ (name ++ g4))) ++ [';'] := by
        simp only [List.append_assoc, List.cons_append]
      rw [e2, List.getLast?_append]
      rfl

theorem tdNameOf_blockL (K g1 g2 body g3 name g4 : Str) (h3 : ∀ c ∈ g3, isSpace c = true)
    (h4 : ∀ c ∈ g4, isSpace c = true) (hn : wordy name) :
    tdNameOf (blockL K g1 g2 body g3 name g4) = some name := by
  have e : blockL K g1 g2 body g3 name g4 =
      ("typedef".toList ++ g1 ++ K ++ g2 ++ '{' :: body) ++ '}' :: (g3 ++ name ++ g4 ++ [';']) := by
    unfold blockL
    generalize "typedef".toList = T
    simp only [List.append_assoc, List.cons_append]
  rw [e]
  exact tdNameOf_shape _ g3 name g4 h3 h4 hn.1 hn.2

theorem cuts_blockL (K kw g1 g2 body g3 name g4 : Str) (hK : isKw K) (hkw : isKw kw) (hne : K ≠ kw)
    (hg1 : g1 ≠ [] ∧ ∀ c ∈ g1, isSpace c = true) (hg2 : ∀ c ∈ g2, isSpace c = true)
    (hg3 : ∀ c ∈ g3, isSpace c = true) (hg4 : ∀ c ∈ g4, isSpace c = true)
    (hb : body ≠ [] ∧ '}' ∉ body ∧ '{' ∉ body) (hn : wordy name) :
    Cuts K (blockL K g1 g2 body g3 name g4) [⟨blockL K g1 g2 body g3 name g4, body, name⟩] [] ∧
    Cuts kw (blockL K g1 g2 body g3 name g4) [] (blockL K g1 g2 body g3 name g4) :=
  ⟨Cuts.at_match (blockL_ne_nil K g1 g2 body g3 name g4)
      fun B => matchTypedef_lay K g1 g2 body g3 name g4 B hK hg1 hg2 hg3 hg4 ⟨hb.1, hb.2.1⟩ hn,
   Cuts.of_noMatch fun B => noMatchIn_lay_other K kw g1 g2 body g3 name g4 B hK hkw hne hg1 hg2 hg3 hg4 hb.2.2 hn⟩

end PydlVerif.YannyLayBlock
