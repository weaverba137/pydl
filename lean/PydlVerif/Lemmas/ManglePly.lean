/-
The `.ply` reader model on the canonical lexed file of a polygon list (every conversion and the parser return the list) and
on any input (what a conversion returns is as long as what it was given).  Core Lean only.
-/
import PydlVerif.Model.ManglePly
namespace PydlVerif.ManglePly

variable {α : Type}

/-- what `capRow` reads from the canonical line of a cap -/
def rowOf (c : Cap4 α) : List α × α := ([c.x, c.y, c.z], c.cm)

theorem capRow_lexCap (parseF : List Char → Option α) (fmtF : α → List Char) (hF : ∀ x, parseF (fmtF x) = some x)
    (c : Cap4 α) : capRow parseF (lexCap fmtF c) = .ok (rowOf c) := by
  simp [capRow, lexCap, floats, hF, rowOf]

theorem capRows_lexCap (parseF : List Char → Option α) (fmtF : α → List Char) (hF : ∀ x, parseF (fmtF x) = some x)
    (rows : List (Cap4 α)) : capRows parseF (rows.map (lexCap fmtF)) = .ok (rows.map rowOf) := by
  induction rows with
  | nil => rfl
  | cons c t ih => simp only [List.map_cons, capRows, capRow_lexCap parseF fmtF hF, ih]

theorem xShape_rows (rows : List (Cap4 α)) (hne : rows ≠ []) :
    xShape ((rows.map rowOf).map (·.1)) = some [rows.length, 3] := by
  cases rows with
  | nil => exact absurd rfl hne
  | cons c t => simp [xShape, rowOf]

theorem toCaps_rows (rows : List (Cap4 α)) : toCaps (rows.map rowOf) = some rows := by
  induction rows with
  | nil => rfl
  | cons c t ih => simp [toCaps, toCap, rowOf, ih]

/-- the slice `lines[p+1 : p+1+caps]` cuts exactly the cap lines out of a file that holds them behind the header `h` -/
theorem pySlice_block {β : Type} (pre : List β) (h : β) (mid post : List β) :
    pySlice (pre ++ h :: (mid ++ post)) (pre.length + 1) (Int.ofNat (pre.length + 1) + Int.ofNat mid.length) = mid := by
  unfold pySlice
  rw [show Int.ofNat (pre.length + 1) + Int.ofNat mid.length = ((pre.length + 1 + mid.length : Nat) : Int) from rfl,
    if_neg (Int.not_lt.2 (Int.natCast_nonneg _)), Int.toNat_natCast,
    show pre ++ h :: (mid ++ post) = ((pre ++ [h]) ++ mid) ++ post by simp]
  dsimp only
  rw [List.take_left' (by simp; omega), List.drop_left' (by simp)]

theorem toCaps_length {rows : List (List α × α)} {cs : List (Cap4 α)} (h : toCaps rows = some cs) :
    cs.length = rows.length := by
  induction rows generalizing cs with
  | nil => simp [toCaps] at h; subst h; rfl
  | cons r t ih =>
    simp only [toCaps] at h
    split at h
    · rename_i c cs' _ h2
      simp at h; subst h
      simp [ih h2]
    · simp at h

theorem capRows_length (parseF : List Char → Option α) {ls : List LexLine} {rows : List (List α × α)}
    (h : capRows parseF ls = .ok rows) : rows.length = ls.length := by
  induction ls generalizing rows with
  | nil => simp [capRows] at h; subst h; rfl
  | cons l t ih =>
    simp only [capRows] at h
    split at h
    · simp at h
    · split at h
      · rename_i h2
        simp at h; subst h
        simp [ih h2]
      · simp at h

theorem xShape_length {β : Type} {xs : List (List β)} {n m : Nat} (h : xShape xs = some [n, m]) :
    xs.length = n ∧ 0 < n := by
  cases xs with
  | nil => simp [xShape] at h
  | cons r rs =>
    simp only [xShape] at h
    split at h
    · simp at h ⊢; omega
    · simp at h

theorem pySlice_length_le {β : Type} (l : List β) (a : Nat) (b : Int) : (pySlice l a b).length ≤ l.length - a := by
  simp only [pySlice, List.length_drop, List.length_take]
  omega

section
variable (parseF : List Char → Option α) (one : α) (fmtF : α → List Char) (fmtI : Int → List Char)

/-- the number `caps` announced by the header at line `p`: the first four matches of `parseBlock` -/
def announced (lines : List LexLine) (p : Nat) : Option Int :=
  match lines.drop p with
  | [] => none
  | h :: _ => match h.hdr with
    | none => none
    | some (_, pieces) => match metaPieces pieces with
      | .error _ => none
      | .ok kvs => match setMetas parseF {} kvs with
        | .error _ => none
        | .ok md => md.caps

/-- the canonical numbers of one polygon are read back by Python's `int` -/
def IntsOk (P : PlyPoly α) : Prop :=
  pyNat (fmtI (Int.ofNat P.id)) = some P.id ∧ pyInt (fmtI (Int.ofNat P.rows.length)) = some (Int.ofNat P.rows.length) ∧
  pyInt (fmtI P.pixel) = some P.pixel

theorem header_meta (hF : ∀ x, parseF (fmtF x) = some x) (P : PlyPoly α)
    (h2 : pyInt (fmtI (Int.ofNat P.rows.length)) = some (Int.ofNat P.rows.length))
    (h3 : pyInt (fmtI P.pixel) = some P.pixel) :
    ∃ pieces kvs, (lexHeader fmtF fmtI P).hdr = some (fmtI (Int.ofNat P.id), pieces) ∧ metaPieces pieces = .ok kvs ∧
      setMetas parseF {} kvs =
        .ok { caps := some (Int.ofNat P.rows.length), weight := some P.weight, pixel := some P.pixel, str := P.str } := by
  obtain ⟨pid, w, px, s, rows⟩ := P
  -- with and without a `str` piece: the header scan computes, the conversions read the canonical texts back
  cases s <;> refine ⟨_, _, rfl, rfl, ?_⟩ <;>
    simp (decide := true) only [setMetas, setMeta, kCaps, kWeight, kPixel, kStr, h2, h3, hF, if_true, if_false]

theorem parseBlock_canon (hF : ∀ x, parseF (fmtF x) = some x) (P : PlyPoly α) (hI : IntsOk fmtI P) (hne : P.rows ≠ [])
    (pre post : List LexLine) :
    parseBlock parseF one (pre ++ (lexBlock fmtF fmtI P ++ post)) pre.length = .ok P := by
  obtain ⟨h1, h2, h3⟩ := hI
  obtain ⟨pieces, kvs, hh, hk, hm⟩ := header_meta parseF fmtF fmtI hF P h2 h3
  have hd : (pre ++ (lexBlock fmtF fmtI P ++ post)).drop pre.length =
      lexHeader fmtF fmtI P :: (P.rows.map (lexCap fmtF) ++ post) := List.drop_left
  have hsl := pySlice_block pre (lexHeader fmtF fmtI P) (P.rows.map (lexCap fmtF)) post
  rw [List.length_map] at hsl
  have hsh : ¬ (Int.ofNat P.rows.length < 0 ∨ [P.rows.length, 3] ≠ [(Int.ofNat P.rows.length).toNat, 3]) := by
    simp
  unfold parseBlock
  rw [hd]
  simp only [hh, hk, hm, lexBlock, List.cons_append, hsl, capRows_lexCap parseF fmtF hF, xShape_rows P.rows hne, if_neg hsh,
    toCaps_rows, h1, Option.getD_some]

/-- line numbers of the polygon headers of a canonical file whose first block starts at line `k` -/
def offsets : Nat → List (PlyPoly α) → List Nat
  | _, [] => []
  | k, P :: r => k :: offsets (k + 1 + P.rows.length) r

theorem pLinesFrom_pre (k : Nat) (pre rest : List LexLine) (h : ∀ l ∈ pre, l.starts = false) :
    pLinesFrom k (pre ++ rest) = pLinesFrom (k + pre.length) rest := by
  induction pre generalizing k with
  | nil => rfl
  | cons l t ih =>
    obtain ⟨hl, ht⟩ := List.forall_mem_cons.1 h
    simp only [List.cons_append, pLinesFrom, List.length_cons]
    rw [if_neg (by simp [hl]), ih (k + 1) ht]
    congr 1; omega

theorem pLinesFrom_blocks (k : Nat) (polys : List (PlyPoly α)) :
    pLinesFrom k (polys.flatMap (lexBlock fmtF fmtI)) = offsets k polys := by
  induction polys generalizing k with
  | nil => rfl
  | cons P r ih =>
    simp only [List.flatMap_cons, lexBlock, List.cons_append, pLinesFrom, lexHeader, offsets]
    rw [if_pos trivial, pLinesFrom_pre _ _ _ (List.forall_mem_map.2 fun _ _ => rfl), List.length_map, ih]

theorem blocks_canon (hF : ∀ x, parseF (fmtF x) = some x) (polys : List (PlyPoly α))
    (hI : ∀ P ∈ polys, IntsOk fmtI P) (hne : ∀ P ∈ polys, P.rows ≠ []) (pre : List LexLine) :
    blocks parseF one (pre ++ polys.flatMap (lexBlock fmtF fmtI)) (offsets pre.length polys) = .ok polys := by
  induction polys generalizing pre with
  | nil => rfl
  | cons P r ih =>
    obtain ⟨hIP, hIr⟩ := List.forall_mem_cons.1 hI
    obtain ⟨hneP, hner⟩ := List.forall_mem_cons.1 hne
    simp only [List.flatMap_cons, offsets, blocks]
    rw [parseBlock_canon parseF one fmtF fmtI hF P hIP hneP]
    have hlen : pre.length + 1 + P.rows.length = (pre ++ lexBlock fmtF fmtI P).length := by
      simp [lexBlock]; omega
    dsimp only
    rw [hlen, ← List.append_assoc, ih hIr hner]

theorem parseLex_ok {l0 : LexLine} {rest : List LexLine} {t : List Char} {ts : List (List Char)} {n : Int}
    {p0 : Nat} {ps : List Nat} {polys : List (PlyPoly α)}
    (hraw : l0.raw.isEmpty = false) (ht : l0.toks = t :: ts) (hint : pyInt t = some n)
    (hpl : pLinesFrom 0 (l0 :: rest) = p0 :: ps) (hb : blocks parseF one (l0 :: rest) (p0 :: ps) = .ok polys) :
    parseLex parseF one (l0 :: rest) = .ok ((((l0 :: rest).take p0).drop 1).map (·.raw), polys) := by
  simp [parseLex, hraw, ht, hint, hpl, hb]

theorem map_raw_lexKw (kw : List (List Char)) : (kw.map lexKw).map (·.raw) = kw := by
  rw [List.map_map]
  exact List.map_id kw

end

end PydlVerif.ManglePly
