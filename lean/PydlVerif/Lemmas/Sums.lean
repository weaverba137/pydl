/-
Sums of a table `[g 0, …, g (n-1)]`, the form in which the models write `np.sum` over a slice, a window or a band.
-/
import Mathlib.Algebra.BigOperators.Group.List.Basic
namespace PydlVerif
variable {M : Type*} [AddMonoid M]

theorem sum_range_add (g : ℕ → M) (a b : ℕ) :
    ((List.range (a + b)).map g).sum = ((List.range a).map g).sum + ((List.range b).map fun j => g (a + j)).sum := by
  rw [List.range_add, List.map_append, List.sum_append, List.map_map]
  rfl

theorem sum_range_congr (n : ℕ) (g g' : ℕ → M) (h : ∀ j, j < n → g j = g' j) :
    ((List.range n).map g).sum = ((List.range n).map g').sum :=
  congrArg List.sum (List.map_congr_left fun j hj => h j (List.mem_range.1 hj))

theorem sum_range_const (n : ℕ) (c : M) (g : ℕ → M) (h : ∀ j, j < n → g j = c) : ((List.range n).map g).sum = n • c := by
  rw [sum_range_congr n g (fun _ => c) h, List.map_const', List.length_range, List.sum_replicate]

theorem sum_range_zero (g : ℕ → M) (n : ℕ) (h : ∀ j, j < n → g j = 0) : ((List.range n).map g).sum = 0 := by
  rw [sum_range_const n 0 g h, nsmul_zero]

theorem sum_range_support (g : ℕ → M) (n a k : ℕ) (h : a + k ≤ n) (hz : ∀ j, j < n → (j < a ∨ a + k ≤ j) → g j = 0) :
    ((List.range n).map g).sum = ((List.range k).map fun m => g (a + m)).sum := by
  obtain ⟨r, rfl⟩ := Nat.exists_eq_add_of_le h
  rw [sum_range_add, sum_range_add, sum_range_zero g a fun j hj => hz j (by omega) (Or.inl hj), zero_add,
    sum_range_zero _ r fun j hj => hz _ (by omega) (Or.inr (by omega)), add_zero]

end PydlVerif
