/-
The sums of the models (`List.sum` of a table, a left-to-right `foldl` from a start value)
as `Finset` sums over `range n`, where Mathlib's algebra of sums applies.
-/
import Mathlib.Algebra.BigOperators.Group.Finset.Basic
namespace PydlVerif
open Finset
variable {M : Type*} [AddCommMonoid M]

theorem sum_map_range (g : ℕ → M) (n : ℕ) : ((List.range n).map g).sum = ∑ i ∈ range n, g i := rfl

/-- `s = z; for i in range(n): s = s + g i` -/
theorem foldl_add_range (g : ℕ → M) (z : M) (n : ℕ) :
    (List.range n).foldl (fun s i => s + g i) z = z + ∑ i ∈ range n, g i := by
  induction n with
  | zero => rw [List.range_zero, List.foldl_nil, Finset.range_zero, Finset.sum_empty, add_zero]
  | succ n ih =>
    rw [List.range_succ, List.foldl_append, ih, Finset.sum_range_succ, ← add_assoc]
    rfl

end PydlVerif
