/-
C02, file level: the assembled statement `reads_layW`, for the reader functions of C01's model and `parseFileS selectDef`.
The model's `parseFile2` / `parseRaw2` are `parseFileS selectDef2` / `parseRawS selectDef2`, and `selectDef2` is `selectDef`
by `rfl` (`selectDef_eq`), so the statements of Props/C02.lean are these by unfolding.  The suffix `W` of the names marks
the domain `layoutOKW`.
-/
import PydlVerif.Lemmas.YannyLaySlots
import PydlVerif.Lemmas.YannyLayCont
namespace PydlVerif.YannyLay
open PydlVerif.Yanny PydlVerif.YannyRT PydlVerif.YannyLayBlock PydlVerif.YannyLayScan

variable {F : Type}

theorem tdName_structBlk (enums : List EnumDecl) (t : TableD F) (l : StructLay) (hp : SLP enums t l) :
    tdNameOf (structBlk enums t l) = some l.name :=
  tdNameOf_blockL kS l.g1 l.g2 _ l.g3 l.name l.g4 (ws_space _ hp.g3) (ws_space _ hp.g4) (wordOK_wordy _ hp.name)

/-- the struct definitions of a file: in table order, each in a legal layout -/
structure PSOK (d : Doc F) (PS : List (TableD F × StructLay)) : Prop where
  fst : PS.map (·.1) = d.tables
  ok : ∀ p ∈ PS, structLayOK d.enums p.1 p.2 = true
  line : ∀ p ∈ PS, declLineOK d.enums p.1.cols p.2.cols = true

theorem PSOK.mem_table {d : Doc F} {PS : List (TableD F × StructLay)} (h : PSOK d PS) (p) (hp : p ∈ PS) :
    p.1 ∈ d.tables := by
  rw [← h.fst]; exact List.mem_map.mpr ⟨p, hp, rfl⟩

theorem PSOK.names {d : Doc F} {PS : List (TableD F × StructLay)} (h : PSOK d PS) :
    PS.map (fun p => upper p.2.name) = d.tables.map (fun t => upper t.name) := by
  rw [← h.fst, List.map_map]
  apply List.map_congr_left
  intro p hp
  exact (structLayOK_props d.enums p.1 p.2 (h.ok p hp)).up

theorem select_lay (d : Doc F) (ht : ∀ t ∈ d.tables, tableOK2 d.enums t = true)
    (htn : nodup (d.tables.map (fun t => upper t.name)) = true)
    (PS : List (TableD F × StructLay)) (h : PSOK d PS) (p : TableD F × StructLay) (hp : p ∈ PS) :
    selectDef (PS.map (fun p => structBlk d.enums p.1 p.2)) (upper p.1.name) = some (structBlk d.enums p.1 p.2) := by
  rw [selectDef_eq]
  have := selectDef2_by_name (PS.map (fun p => (p.2.name, structBlk d.enums p.1 p.2)))
    (by
      intro x hx
      obtain ⟨q, hq, rfl⟩ := List.mem_map.mp hx
      exact tdName_structBlk d.enums q.1 q.2 (structLayOK_props _ _ _ (h.ok q hq)))
    (by
      rw [List.map_map]
      have := h.names
      simp only [Function.comp_def]
      rw [this]
      exact nodup_Nodup _ htn)
    (p.2.name, structBlk d.enums p.1 p.2) (List.mem_map.mpr ⟨p, hp, rfl⟩) (upper p.1.name)
    (by
      have hw := (tableOK2_props d.enums p.1 (ht p.1 (h.mem_table p hp))).1
      rw [(upper_wordOK _ hw).2]
      exact ((structLayOK_props d.enums p.1 p.2 (h.ok p hp)).up).symm)
  simpa [List.map_map, Function.comp_def] using this

theorem symtab_lay (d : Doc F) (he : ∀ e ∈ d.enums, enumOK e = true)
    (ht : ∀ t ∈ d.tables, tableOK2 d.enums t = true)
    (htn : nodup (d.tables.map (fun t => upper t.name)) = true)
    (PS : List (TableD F × StructLay)) (h : PSOK d PS) :
    (PS.map (fun p => structTD d.enums p.1 p.2)).foldl
        (fun acc d' => symInsert acc (upper d'.name) (columnsOf d'.body)) [] =
      d.tables.map (fun t => (upper t.name, t.cols.map (·.name))) := by
  rw [List.foldl_map]
  have hkeys : PS.map (fun p => upper (structTD d.enums p.1 p.2).name) = d.tables.map (fun t => upper t.name) :=
    h.names
  have := foldl_symInsert PS (fun p => upper (structTD d.enums p.1 p.2).name)
    (fun p => columnsOf (structTD d.enums p.1 p.2).body) [] (by rw [hkeys]; exact htn)
    (by intro e he'; cases he')
  simp only [List.nil_append] at this
  rw [this, ← h.fst, List.map_map]
  apply List.map_congr_left
  intro p hp
  have hp' := structLayOK_props d.enums p.1 p.2 (h.ok p hp)
  obtain ⟨_, _, hcols, _, _⟩ := tableOK2_props d.enums p.1 (ht p.1 (h.mem_table p hp))
  have hms := memsOf_ok d.enums he p.1.cols p.2.cols hcols hp'.cols
  have hc : columnsOf (structBodyL d.enums p.1 p.2) = p.1.cols.map (·.name) := by
    unfold structBodyL
    rw [columnsOf_lay _ _ hms hp'.cp, memsOf_names _ _ _ hp'.cols]
  simp only [Function.comp_def, structTD, hc]
  congr 1
  exact hp'.up

/-- the enum definitions of a file: in the order of the document's enums, each in a legal layout -/
structure ESOK (d : Doc F) (ES : List (EnumDecl × EnumLay)) : Prop where
  fst : ES.map (·.1) = d.enums
  ok : ∀ p ∈ ES, enumLayOK p.1 p.2 = true

theorem renderLabels_some (labels ws : List Str) (hne : labels ≠ []) (hl : ws.length + 1 = labels.length) :
    ∃ lbl, renderLabels labels ws = some lbl := by
  induction labels generalizing ws with
  | nil => exact absurd rfl hne
  | cons a t ih =>
    cases t with
    | nil =>
      cases ws with
      | nil => exact ⟨a, rfl⟩
      | cons w ws' => simp at hl
    | cons b t' =>
      cases ws with
      | nil => simp at hl
      | cons w ws' =>
        obtain ⟨r, hr⟩ := ih ws' (by simp) (by simpa using hl)
        exact ⟨a ++ ',' :: w ++ r, by simp only [renderLabels, hr]⟩

theorem enumBodyL_labels (e : EnumDecl) (l : EnumLay) (he : enumOK e = true) (hl : enumLayOK e l = true) :
    splitComma (strip (enumBodyL e l)) = e.labels := by
  obtain ⟨_, hne, hlab⟩ := enumOK_props e he
  have hp := enumLayOK_props e l hl
  obtain ⟨lbl, hlb⟩ := renderLabels_some e.labels l.afterComma hne hp.len
  simp only [enumBodyL, hlb, Option.getD_some]
  exact splitComma_lay e.labels l.afterComma l.op l.cl lbl (fun a ha => wordOK_wordy _ (hlab a ha))
    (fun w hw => ws_space _ (hp.ac w hw)) (ws_space _ hp.op) (ws_space _ hp.cl) hlb

/-- the second part, no number word in the enum cache: `rcolOf` asks the cache before `rtOfBase`, so a number word in it
would be typed as an enum -/
theorem cache_lay (d : Doc F) (he : ∀ e ∈ d.enums, enumOK e = true)
    (het : nodup (d.enums.map (fun e => upper e.tyName)) = true)
    (ES : List (EnumDecl × EnumLay)) (h : ESOK d ES) :
    (∀ e ∈ d.enums, lookupLast (upper e.tyName) (enumCache (ES.map (fun p => enumTD p.1 p.2))) = some e.labels) ∧
    ∀ w ∈ numWords,
      lookupLast w (enumCache (ES.map (fun p => enumTD p.1 p.2))) = none := by
  have hc : enumCache (ES.map (fun p => enumTD p.1 p.2)) = d.enums.map (fun e => (upper e.tyName, e.labels)) := by
    unfold enumCache
    rw [← h.fst, List.map_map, List.map_map]
    apply List.map_congr_left
    intro p hp
    have hm : p.1 ∈ d.enums := by rw [← h.fst]; exact List.mem_map.mpr ⟨p, hp, rfl⟩
    simp only [Function.comp_def, enumTD, enumBodyL_labels p.1 p.2 (he p.1 hm) (h.ok p hp)]
  rw [hc]
  exact cache_lookup d.enums het

/-- the struct definitions the reader extracts from a laid-out file -/
def layStructs (d : Doc F) (lay : Layout) : List TDef :=
  (sdefPairs d.tables lay.slots).map (fun p => structTD d.enums p.1 p.2)
/-- the enum definitions the reader extracts from a laid-out file -/
def layEnums (d : Doc F) (lay : Layout) : List TDef :=
  (edefPairs d.enums lay.slots).map (fun p => enumTD p.1 p.2)

theorem layouts_ok {io : FloatIO F} {d : Doc F} {lay : Layout} (hl : layoutOKW io d lay = true) :
    PSOK d (sdefPairs d.tables lay.slots) ∧ ESOK d (edefPairs d.enums lay.slots) := by
  simp only [layoutOKW, Bool.and_eq_true] at hl
  obtain ⟨is, h, hok⟩ := takes_of io d _ _ hl.1
  obtain ⟨p1, p2, p3, p4⟩ := takes_defPairs h hok
  exact ⟨⟨p1, p2, sdefPairs_line _ _ _ hl.2⟩, ⟨p3, p4⟩⟩

theorem front_layW (io : FloatIO F) (h1 : H1 io) (d : Doc F) (lay : Layout) (text : Str)
    (hd : docOK2 d = true) (hl : layoutOKW io d lay = true) (hr : renders io d lay = some text) :
    ∃ infos, slotInfos io d (initRSt d) lay.slots = some infos ∧ (∀ i ∈ infos, InfoOK io (laySpecs d) i) ∧
      front text = ⟨layStructs d lay, layEnums d lay,
        d.tables.map (fun t => (upper t.name, t.cols.map (·.name))),
        joinChunks lay.finalEol (residChunks infos)⟩ := by
  obtain ⟨he, het, ht, htn, hp, hpn⟩ := docOK2_props d hd
  have hso : slotsOK io d (initRSt d) lay.slots = true := by
    simp only [layoutOKW, Bool.and_eq_true] at hl; exact hl.1
  obtain ⟨ltext, hlog, hj⟩ := PydlVerif.YannyLayCont.joinCont_renders io d lay text hd hso hr
  obtain ⟨chunks, hch, hlog⟩ := Option.map_eq_some_iff.mp hlog
  -- the items the slots write, each an item of the document in a legal layout; their chunk descriptions
  obtain ⟨is, htk, hok⟩ := takes_of io d _ _ hso
  obtain ⟨hsi, htext, hio⟩ := infos_of io h1 d hd htk (takes_inDoc htk (rest_init d)) hok chunks hch
  obtain ⟨hsd, hed⟩ : ((is.map (Item.info io d.enums)).map (·.sdefs)).flatten = layStructs d lay ∧
      ((is.map (Item.info io d.enums)).map (·.edefs)).flatten = layEnums d lay := takes_defs io htk
  generalize is.map (Item.info io d.enums) = infos at hsi htext hio hsd hed
  subst htext
  refine ⟨infos, hsi, hio, ?_⟩
  have e3 : tdRemove kE 0 (tdRemove kS 0 (joinChunks lay.finalEol (textChunks infos))) =
      joinChunks lay.finalEol (residChunks infos) :=
    (congrArg (tdRemove kE 0) (chunks_rem kS _ infos (·.text) (·.mid) (fun i hi => (hio i hi).remS))).trans
      (chunks_rem kE _ infos (·.mid) (·.resid) (fun i hi => (hio i hi).remE))
  have e4 : (layStructs d lay).foldl (fun acc d' => symInsert acc (upper d'.name) (columnsOf d'.body)) [] =
      d.tables.map (fun t => (upper t.name, t.cols.map (·.name))) := symtab_lay d he ht htn _ (layouts_ok hl).1
  rw [front, hj, ← hlog]
  simp only [chunks_find kS _ infos (·.sdefs) (fun i hi => (hio i hi).findS),
    chunks_find kE _ infos (·.edefs) (fun i hi => (hio i hi).findE), e3, hsd, hed, e4]

theorem loop_layW (io : FloatIO F) (d : Doc F) (lay : Layout) (hd : docOK2 d = true)
    (hl : layoutOKW io d lay = true) (infos : List (ChunkInfo F))
    (hsi : slotInfos io d (initRSt d) lay.slots = some infos) (hio : ∀ i ∈ infos, InfoOK io (laySpecs d) i) :
    lineLoop io (laySpecs d) ⟨[], d.tables.map (fun t => (upper t.name, []))⟩
      (splitNl (joinChunks lay.finalEol (residChunks infos))) =
      .ok ⟨d.hdr, d.tables.map (fun t => (upper t.name, t.rows))⟩ := by
  obtain ⟨_, _, _, htn, _, hpn⟩ := docOK2_props d hd
  simp only [layoutOKW, Bool.and_eq_true] at hl
  obtain ⟨is, htk, hok⟩ := takes_of io d _ _ hl.1
  obtain ⟨_, _, rfl⟩ := Option.map_eq_some_iff.mp (takes_infos io htk ▸ hsi)
  rw [chunks_loop io (laySpecs d) lay.finalEol _ hio, takes_fold io d htn hpn htk hok]

theorem typing_file_layW (io : FloatIO F) (d : Doc F) (lay : Layout) (hd : docOK2 d = true)
    (hl : layoutOKW io d lay = true) :
    ∀ t ∈ d.tables,
      colSpecs ((layStructs d lay).map (·.text)) (upper t.name) (t.cols.map (·.name)) = .ok (t.cols.map specOfCol) ∧
      ∀ (k : Nat) (c : Col), t.cols[k]? = some c →
        rcolOf ((layStructs d lay).map (·.text)) (enumCache (layEnums d lay)) (upper t.name) c.name
          (t.rows.filterMap (fun r => r[k]?)) = .ok (rcolCanon d.enums c) := by
  obtain ⟨he, het, ht, htn, _, _⟩ := docOK2_props d hd
  obtain ⟨PSok, ESok⟩ := layouts_ok hl
  obtain ⟨k1, k2⟩ := cache_lay d he het _ ESok
  have hst : (layStructs d lay).map (·.text) =
      (sdefPairs d.tables lay.slots).map (fun p => structBlk d.enums p.1 p.2) := by
    unfold layStructs; rw [List.map_map]; rfl
  rw [hst]
  intro t hm
  have : t ∈ (sdefPairs d.tables lay.slots).map (·.1) := by rw [PSok.fst]; exact hm
  obtain ⟨p, hpm, rfl⟩ := List.mem_map.mp this
  exact typing_layW d.enums he p.1 p.2 (ht p.1 hm) (PSok.ok p hpm) (PSok.line p hpm) _
    (select_lay d ht htn _ PSok p hpm) _ k1 k2

theorem raw_layW (io : FloatIO F) (h1 : H1 io) (d : Doc F) (lay : Layout) (text : Str)
    (hd : docOK2 d = true) (hl : layoutOKW io d lay = true) (hr : renders io d lay = some text) :
    ∃ infos, slotInfos io d (initRSt d) lay.slots = some infos ∧
      parseRawS selectDef io text = .ok ⟨⟨layStructs d lay, layEnums d lay,
        d.tables.map (fun t => (upper t.name, t.cols.map (·.name))),
        joinChunks lay.finalEol (residChunks infos)⟩, d.hdr, d.tables.map (fun t => (upper t.name, t.rows))⟩ := by
  obtain ⟨infos, hsi, hio, hfront⟩ := front_layW io h1 d lay text hd hl hr
  have htyp := typing_file_layW io d lay hd hl
  have hloop := loop_layW io d lay hd hl infos hsi hio
  have hspecs : (d.tables.map (fun t => (upper t.name, t.cols.map (·.name)))).map
      (fun t => (t.1, colSpecs ((layStructs d lay).map (·.text)) t.1 t.2)) = laySpecs d := by
    unfold laySpecs
    rw [List.map_map]
    apply List.map_congr_left
    intro t hm
    simp only [Function.comp, (htyp t hm).1]
  have hinit : (d.tables.map (fun t => (upper t.name, t.cols.map (·.name)))).map
      (fun t => (t.1, ([] : List (List (Cell F))))) = d.tables.map (fun t => (upper t.name, [])) := by
    rw [List.map_map]; rfl
  refine ⟨infos, hsi, ?_⟩
  unfold parseRawS
  simp only [colSpecsS_selectDef, hfront, hspecs, hinit, hloop]

theorem reads_layW (io : FloatIO F) (h1 : H1 io) (d : Doc F) (lay : Layout) (text : Str)
    (hd : docOK2 d = true) (hl : layoutOKW io d lay = true) (hr : renders io d lay = some text) :
    parseFileS selectDef io text = .ok (canon d) ∧
    ∃ raw, parseRawS selectDef io text = .ok raw ∧ raw.pairs = d.hdr ∧
      raw.rows = d.tables.map (fun t => (upper t.name, t.rows)) ∧
      raw.front.tables = d.tables.map (fun t => (upper t.name, t.cols.map (·.name))) := by
  obtain ⟨_, _, ht, htn, hp, _⟩ := docOK2_props d hd
  obtain ⟨infos, hsi, hraw⟩ := raw_layW io h1 d lay text hd hl hr
  refine ⟨?_, _, hraw, rfl, rfl, rfl⟩
  have htyp := typing_file_layW io d lay hd hl
  rw [parseFileS, hraw]
  simp only [finishTablesS_selectDef]
  -- the definition texts and the enum cache as variables: nothing below looks inside them
  generalize (layStructs d lay).map (·.text) = STS at htyp
  generalize enumCache (layEnums d lay) = CA at htyp
  have hok : ∀ t ∈ d.tables, t.cols ≠ [] ∧
      (∀ (k : Nat) (c : Col), t.cols[k]? = some c →
        rcolOf STS CA (upper t.name) c.name (t.rows.filterMap (fun r => r[k]?)) = .ok (rcolCanon d.enums c)) ∧
      ∀ r ∈ t.rows, cellsOK d.enums t.cols r = true :=
    fun t hm => ⟨(tableOK2_props d.enums t (ht t hm)).2.1, (htyp t hm).2,
      (tableOK2_props d.enums t (ht t hm)).2.2.2.2⟩
  have hhdr : d.hdr.map (fun kv => (kv.1, strip kv.2)) = d.hdr := by
    conv => rhs; rw [← List.map_id d.hdr]
    apply List.map_congr_left
    intro kv hm
    simp [(pairOK2_props _ kv (hp kv hm)).2]
  simp only [finishTables_written STS CA d.enums d.tables htn d.tables (fun _ h => h) hok]
  rw [canon, hhdr]
  rfl

end PydlVerif.YannyLay
