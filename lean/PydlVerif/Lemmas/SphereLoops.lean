/-
C04: the four while loops of `chunks.getbounds`, each characterised by where it stops in terms of the edges it passes; the
upward RA loop is the upward dec loop, the downward one may in addition run off to -1.
-/
import PydlVerif.Model.Sphere
import PydlVerif.Lemmas.ScalarField
namespace PydlVerif.Sphere

theorem decUp_le {α : Type} [Scalar α] (b : Array α) (dec m : α) (c f : Nat) : decUp b dec m c f ≤ c + f := by
  induction f generalizing c with
  | zero => simp [decUp]
  | succ f ih =>
    simp only [decUp]
    split
    · have := ih (c+1); omega
    · omega

section field
variable {K : Type} [Field K] [LinearOrder K] [IsStrictOrderedRing K] [FloorRing K]
attribute [local instance] fieldScalar
attribute [-instance] Scalar.instOfNat Scalar.instOfScientific

theorem decDown_le_iff (b : Array K) (dec m : K) (c j : Nat) :
    decDown b dec m c ≤ j ↔ ∀ i, j < i → i ≤ c → dec - b.getD i 0 < m := by
  induction c with
  | zero => exact ⟨fun _ i h1 h2 => absurd (h1.trans_le h2) (Nat.not_lt_zero j), fun _ => Nat.zero_le j⟩
  | succ c ih =>
    simp only [decDown, scalar_zero]
    split
    · rename_i ht
      rw [ih]
      exact ⟨fun h i h1 h2 => (Nat.eq_or_lt_of_le h2).elim (fun e => e ▸ ht) fun h3 => h i h1 (Nat.le_of_lt_succ h3),
        fun h i h1 h2 => h i h1 (Nat.le_succ_of_le h2)⟩
    · rename_i ht
      exact ⟨fun h i h1 h2 => absurd (h1.trans_le h2) (Nat.not_lt.2 h),
        fun h => Nat.not_lt.1 fun hlt => ht (h (c + 1) hlt (Nat.le_refl _))⟩

theorem le_decUp_iff (b : Array K) (dec m : K) (c f j : Nat) (hj : j ≤ c + f) :
    j ≤ decUp b dec m c f ↔ ∀ i, c ≤ i → i < j → b.getD (i + 1) 0 - dec < m := by
  induction f generalizing c with
  | zero => exact ⟨fun _ i h1 h2 => absurd (h1.trans_lt h2) (Nat.not_lt.2 hj), fun _ => hj⟩
  | succ f ih =>
    simp only [decUp, scalar_zero]
    split
    · rename_i ht
      rw [ih (c + 1) (by omega)]
      exact ⟨fun h i h1 h2 => (Nat.eq_or_lt_of_le h1).elim (fun e => e ▸ ht) fun h3 => h i h3 h2,
        fun h i h1 h2 => h i (Nat.le_of_succ_le h1) h2⟩
    · rename_i ht
      exact ⟨fun h i h1 h2 => absurd (h1.trans_lt h2) (Nat.not_lt.2 h),
        fun h => Nat.not_lt.1 fun hlt => ht (h c (Nat.le_refl _) hlt)⟩

/-- the downward RA loop is the downward dec loop, except that it may run off to -1 (raChunkMin = -1) -/
theorem raDown_le_iff (b : Array K) (ra M : K) (r : Nat) (j : Int) (hj : -1 ≤ j) :
    raDown b ra M r ≤ j ↔ ∀ i : Nat, j < i → i ≤ r → ra - b.getD i 0 < M := by
  induction r with
  | zero =>
    simp only [raDown, scalar_zero]
    split
    · rename_i ht
      exact ⟨fun _ i _ h2 => Nat.le_zero.1 h2 ▸ ht, fun _ => hj⟩
    · rename_i ht
      exact ⟨fun h i h1 h2 => by omega, fun h => Int.not_lt.1 fun hlt => ht (h 0 hlt (Nat.le_refl _))⟩
  | succ r ih =>
    simp only [raDown, scalar_zero]
    split
    · rename_i ht
      rw [ih]
      exact ⟨fun h i h1 h2 => (Nat.eq_or_lt_of_le h2).elim (fun e => e ▸ ht) fun h3 => h i h1 (Nat.le_of_lt_succ h3),
        fun h i h1 h2 => h i h1 (Nat.le_succ_of_le h2)⟩
    · rename_i ht
      exact ⟨fun h i h1 h2 => by omega,
        fun h => Int.not_lt.1 fun hlt => ht (h (r + 1) hlt (Nat.le_refl _))⟩

theorem raDown_ge (b : Array K) (ra M : K) (r : Nat) : -1 ≤ raDown b ra M r := by
  induction r with
  | zero => simp only [raDown]; split <;> simp
  | succ r ih => simp only [raDown]; split <;> [exact ih; omega]

theorem raUp_eq_decUp (b : Array K) (ra M : K) (r f : Nat) : raUp b ra M r f = decUp b ra M r f := by
  induction f generalizing r with
  | zero => rfl
  | succ f ih => simp only [raUp, decUp, ih]

theorem decDown_le (b : Array K) (dec m : K) (c : Nat) : decDown b dec m c ≤ c :=
  (decDown_le_iff b dec m c c).2 fun _ h1 h2 => absurd (h1.trans_le h2) (Nat.lt_irrefl c)

theorem decUp_ge (b : Array K) (dec m : K) (c f : Nat) : c ≤ decUp b dec m c f :=
  (le_decUp_iff b dec m c f c (Nat.le_add_right c f)).2 fun _ h1 h2 => absurd (h1.trans_lt h2) (Nat.lt_irrefl c)

theorem raDown_le (b : Array K) (ra M : K) (r : Nat) : raDown b ra M r ≤ (r : Int) :=
  (raDown_le_iff b ra M r r (by omega)).2 fun i h1 h2 => by omega

end field
end PydlVerif.Sphere
