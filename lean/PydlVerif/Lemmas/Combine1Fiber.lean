/-
The `do` block of `combine1fiber` (Model/Combine.lean) cut into pieces for the C11 theorems that follow the whole function:
`combine1fiber = c1fLoop >>= c1fFinish`, `c1fLoop` as a chain of binds, one pass of the group loop as `fitOf >>= afterFit`; and the same
read backwards from a returned value.  The namespaces (`PydlVerif.CombineScale`, `PydlVerif.C11`) are those under which the check of C11
audits these names.
-/
import PydlVerif.Model.Combine
import PydlVerif.Lemmas.ScalarField
import PydlVerif.Lemmas.Except
import Mathlib.Data.List.GetD
namespace PydlVerif.CombineScale
open PydlVerif PydlVerif.Interp PydlVerif.Combine

set_option linter.unusedSectionVars false

section chain
variable {α : Type} [Scalar α]

/-- the part of `groupStep` after the fit -/
def afterFit (newx : List α) (st : St α) (ss : List Nat) (gx : List α) (fb : Option (Fit α) × List Bool) : Combine.R (St α) :=
  match gx with
  | [] => .error "ValueError"
  | g0 :: gr =>
    match fb.1 with
    | some f =>
      if (insideOf newx (lmin g0 gr) (lmax g0 gr)).isEmpty then .ok { st with fcm := scatter st.fcm ss fb.2 } else
        match f.value ((insideOf newx (lmin g0 gr) (lmax g0 gr)).map (fun p => newx.getD p 0)) with
        | .error e => .error e
        | .ok vv => .ok
          { flux := scatter st.flux (insideOf newx (lmin g0 gr) (lmax g0 gr)) vv.1
            mask := scatterConst st.mask (select (insideOf newx (lmin g0 gr) (lmax g0 gr)) vv.2) true
            fcm := scatter st.fcm ss fb.2
            ivar := if (fb.2.map (!·)).any id then st.ivar.map (fun iv => scatterConst iv (select ss (fb.2.map (!·))) 0)
                    else st.ivar }
    | none => .ok { st with fcm := scatter st.fcm ss fb.2 }

/-- the part of `groupStep` before that: `(sset, bmask)` of a group of `n` pixels - the fit when `n > 2`, `sset = None` when all
its coefficients are zero -/
def fitOf (fit : Nat → α → List α → List α → Option (List α) → Combine.R (Fit α)) (k : Nat) (bk : α) (gx gy : List α)
    (giv : Option (List α)) (n : Nat) : Combine.R (Option (Fit α) × List Bool) :=
  if n > 2 then do
    let f ← fit k bk gx gy giv
    if coeffZero f.coeffs then pure (none, List.replicate n false) else pure (some f, f.bmask)
  else pure (none, List.replicate n false)

theorem groupStep_eq (fit : Nat → α → List α → List α → Option (List α) → Combine.R (Fit α)) (bk : α) (x y newx : List α)
    (st : St α) (k : Nat) (ss : List Nat) :
    groupStep fit bk x y newx st k ss =
      fitOf fit k bk (ss.map (fun i => x.getD i 0)) (ss.map (fun i => y.getD i 0))
        (st.ivar.map fun iv => ss.map (fun i => iv.getD i 0)) ss.length >>=
      afterFit newx st ss (ss.map (fun i => x.getD i 0)) := by
  unfold groupStep fitOf
  -- every branch of the fit ends in the same continuation: take it out of the branches
  simp only [ite_bind, ← bind_assoc]
  refine bind_congr fun fb => ?_
  unfold afterFit
  cases ss.map (fun i => x.getD i 0) with
  | nil => rfl
  | cons g0 gr =>
    cases fb.1 with
    | none => rfl
    | some f =>
      dsimp only
      split
      · rfl
      · cases f.value ((insideOf newx (lmin g0 gr) (lmax g0 gr)).map (fun p => newx.getD p 0)) <;> rfl

/-- the inverse variance of the output pixels before the bad-region growth, as `finish` computes it from the state of the loop -/
def rawOf (oneD : Bool) (nspec ncol : Nat) (x newx : List α) (st : St α) : List α :=
  rawIvar (specsOf oneD nspec ncol x (workIvar oneD x.length st.ivar) st.fcm) newx st.mask

/-- `combine1fiber` up to and including the group loop: `none` when no input pixel is good (the function returns zeros),
otherwise `(oneD, nspec, ncol)` and the state the loop leaves -/
def c1fLoop (fit : Nat → α → List α → List α → Option (List α) → Combine.R (Fit α))
    (argsort : List α → List Nat) (med : List α → α) (inp : Input α) : Combine.R (Option (Bool × Nat × Nat × St α)) := do
  if inp.fshape ≠ inp.xshape then throw "ValueError"
  match inp.ishape with
  | some s => if s ≠ inp.xshape then throw "ValueError"
  | none => pure ()
  let binsz ← binszOf inp
  let maxsep : α := match inp.maxsep with | some m => m | none => 2.0 * binsz
  let (oneD, nspec, ncol) ← match inp.xshape with
    | [n] => pure (true, 1, n)
    | [ns, nc] => pure (false, ns, nc)
    | _ => throw "ValueError"
  let npix := inp.x.length
  let nfinal := inp.newx.length
  let nonzero : List Nat := match inp.ivar with
    | none => List.range npix
    | some iv => (List.range npix).filter fun i => decide (iv.getD i 0 > 0)
  if nonzero.isEmpty then pure none else
  let perm := argsort (nonzero.map fun i => inp.x.getD i 0)
  let isort := perm.map fun p => nonzero.getD p 0
  let groups ← groupsOf inp.x isort maxsep
  let iv0 ← match inp.ivar with
    | some iv => if oneD then pure (some iv) else some <$> smoothIvar med nspec ncol iv
    | none => pure none
  let st0 : St α := ⟨List.replicate nfinal 0, List.replicate nfinal false, List.replicate npix false, iv0⟩
  let st ← groupLoop fit (1.2 * binsz) inp.x inp.flux inp.newx st0 groups
  pure (some (oneD, nspec, ncol, st))

/-- what `combine1fiber` does with the state of the loop -/
def c1fFinish (mean : List α → α) (erf : α → α) (classify : α → Val α) (inp : Input α) :
    Option (Bool × Nat × Nat × St α) → Combine.R (List α × List α)
  | none => pure (List.replicate inp.newx.length 0, List.replicate inp.newx.length 0)
  | some (oneD, nspec, ncol, st) => finish mean erf classify oneD nspec ncol inp.x inp.newx inp.method st

/-- `nonzero`: the input pixels that take part (all of them without `objivar`) -/
def nonzeroOf (inp : Input α) : List Nat :=
  match inp.ivar with
  | none => List.range inp.x.length
  | some iv => (List.range inp.x.length).filter fun i => decide (iv.getD i 0 > 0)

/-- `isort = nonzero[inloglam[nonzero].argsort()]` -/
def isortOf (argsort : List α → List Nat) (inp : Input α) : List Nat :=
  (argsort ((nonzeroOf inp).map fun i => inp.x.getD i 0)).map fun p => (nonzeroOf inp).getD p 0

/-! The `do` blocks of `combine1fiber` and `c1fLoop` elaborate to a tree: a statement that branches and then goes on hands the
rest of the block, as a continuation `k`, to each of its branches.  `ite_bind` and the next three equations take `k` out of the
branches of the four statements of that kind, so that the block becomes a chain of binds (`c1fLoop_eq`). -/

theorem ishape_bind {β : Type} {o : Option (List Nat)} {xs : List Nat} {k : PUnit → Combine.R β} :
    (match o with
      | some s => if s ≠ xs then throw "ValueError" >>= k else k ()
      | none => k ()) =
    (match o with
      | some s => if s ≠ xs then throw "ValueError" else pure ()
      | none => pure ()) >>= k := by
  cases o with
  | none => rfl
  | some s => exact ite_bind (b := pure ())

theorem xshape_bind {β : Type} {xs : List Nat} {k : Bool × Nat × Nat → Combine.R β} :
    (match xs with
      | [n] => pure (true, 1, n) >>= k
      | [ns, nc] => pure (false, ns, nc) >>= k
      | _ => throw "ValueError" >>= k) =
    (match xs with
      | [n] => pure (true, 1, n)
      | [ns, nc] => pure (false, ns, nc)
      | _ => throw "ValueError") >>= k := by
  split <;> rfl

theorem ivar0_bind {β : Type} {med : List α → α} {o : Option (List α)} {oneD : Bool} {nspec ncol : Nat}
    {k : Option (List α) → Combine.R β} :
    (match o with
      | some iv => if oneD then pure (some iv) >>= k else (some <$> smoothIvar med nspec ncol iv) >>= k
      | none => pure none >>= k) =
    match o with
      | some iv => (if oneD then pure iv else smoothIvar med nspec ncol iv) >>= fun ivs => k (some ivs)
      | none => k none := by
  cases o with
  | none => rfl
  | some iv =>
    cases oneD with
    | true => rfl
    | false => exact bind_map_left ..

theorem c1fLoop_eq (fit : Nat → α → List α → List α → Option (List α) → Combine.R (Fit α))
    (argsort : List α → List Nat) (med : List α → α) (inp : Input α) :
    c1fLoop fit argsort med inp =
      (if inp.fshape ≠ inp.xshape then throw "ValueError" else pure ()) >>= fun _ =>
      (match inp.ishape with
        | some s => if s ≠ inp.xshape then throw "ValueError" else pure ()
        | none => pure ()) >>= fun _ =>
      binszOf inp >>= fun binsz =>
      (match inp.xshape with
        | [n] => pure (true, 1, n)
        | [ns, nc] => pure (false, ns, nc)
        | _ => throw "ValueError") >>= fun (oneD, nspec, ncol) =>
      if (nonzeroOf inp).isEmpty then pure none else
      groupsOf inp.x (isortOf argsort inp) (match inp.maxsep with | some m => m | none => 2.0 * binsz) >>= fun groups =>
      let loop (iv0 : Option (List α)) : Combine.R (Option (Bool × Nat × Nat × St α)) :=
        groupLoop fit (1.2 * binsz) inp.x inp.flux inp.newx
          ⟨List.replicate inp.newx.length 0, List.replicate inp.newx.length false, List.replicate inp.x.length false, iv0⟩
          groups >>= fun st => pure (some (oneD, nspec, ncol, st))
      match inp.ivar with
        | some iv => (if oneD then pure iv else smoothIvar med nspec ncol iv) >>= fun ivs => loop (some ivs)
        | none => loop none := by
  unfold c1fLoop
  refine (ite_bind (b := pure ())).trans (bind_congr fun _ => ?_)
  refine ishape_bind.trans (bind_congr fun _ => ?_)
  refine bind_congr fun binsz => ?_
  refine xshape_bind.trans (bind_congr fun t => ?_)
  obtain ⟨oneD, nspec, ncol⟩ := t
  show (if (nonzeroOf inp).isEmpty then _ else _) = _
  split
  · rfl
  refine bind_congr fun groups => ?_
  exact ivar0_bind

/-- `combine1fiber` is its prelude and group loop (`c1fLoop`: shape checks, `binsz`, the groups cut at `maxsep`, one fit per group)
followed by what it does with the state the loop leaves (`c1fFinish`: zeros when no pixel is good, else `finish`) -/
theorem combine1fiber_eq (fit : Nat → α → List α → List α → Option (List α) → Combine.R (Fit α))
    (argsort : List α → List Nat) (med : List α → α) (mean : List α → α) (erf : α → α) (classify : α → Val α) (inp : Input α) :
    combine1fiber fit argsort med mean erf classify inp =
      c1fLoop fit argsort med inp >>= c1fFinish mean erf classify inp := by
  rw [c1fLoop_eq]
  simp only [bind_assoc]
  unfold combine1fiber
  refine (ite_bind (b := pure ())).trans (bind_congr fun _ => ?_)
  refine ishape_bind.trans (bind_congr fun _ => ?_)
  refine bind_congr fun binsz => ?_
  refine xshape_bind.trans (bind_congr fun t => ?_)
  obtain ⟨oneD, nspec, ncol⟩ := t
  show (if (nonzeroOf inp).isEmpty then _ else _) = (if (nonzeroOf inp).isEmpty then _ else _) >>= _
  split
  · rfl
  simp only [bind_assoc, pure_bind]
  refine bind_congr fun groups => ?_
  refine ivar0_bind.trans ?_
  cases inp.ivar <;> simp only [bind_assoc, pure_bind] <;> rfl

/-- `c1fLoop_some_spec` with, in addition, that a given `objivar` is still an array when the loop starts; `bk` and `maxsep` are
existential and nothing is kept about them (`1.2·binsz` and the default `2·binsz` are in `c1fLoop_eq`) -/
theorem c1fLoop_ok_some (fit : Nat → α → List α → List α → Option (List α) → Combine.R (Fit α))
    (argsort : List α → List Nat) (med : List α → α) (inp : Input α) (oneD : Bool) (nspec ncol : Nat) (st : St α)
    (h : c1fLoop fit argsort med inp = .ok (some (oneD, nspec, ncol, st))) :
    ∃ (bk maxsep : α) (groups : List (List Nat)) (iv0 : Option (List α)),
      groupsOf inp.x (isortOf argsort inp) maxsep = .ok groups ∧ (inp.ivar.isSome → iv0.isSome) ∧
      groupLoop fit bk inp.x inp.flux inp.newx
        ⟨List.replicate inp.newx.length 0, List.replicate inp.newx.length false, List.replicate inp.x.length false, iv0⟩ groups = .ok st := by
  rw [c1fLoop_eq] at h
  obtain ⟨_, _, h⟩ := bind_ok h
  obtain ⟨_, _, h⟩ := bind_ok h
  obtain ⟨binsz, _, h⟩ := bind_ok h
  obtain ⟨⟨oneD', nspec', ncol'⟩, _, h⟩ := bind_ok h
  dsimp only at h
  split at h
  · cases h
  obtain ⟨groups, hG, h⟩ := bind_ok h
  cases hI : inp.ivar with
  | none =>
    rw [hI] at h
    obtain ⟨st', hL, h⟩ := bind_ok h
    cases h
    exact ⟨_, _, groups, none, hG, fun hs => absurd hs (by simp), hL⟩
  | some iv =>
    rw [hI] at h
    obtain ⟨ivs, _, h⟩ := bind_ok h
    obtain ⟨st', hL, h⟩ := bind_ok h
    cases h
    exact ⟨_, _, groups, some ivs, hG, fun _ => rfl, hL⟩

/-- when the prelude and the group loop return a state, that state is what `groupLoop` leaves for the groups of `groupsOf` on the
sorted good pixels, started from zero flux, all-False `newmask` and `fullcombmask` -/
theorem c1fLoop_some_spec (fit : Nat → α → List α → List α → Option (List α) → Combine.R (Fit α))
    (argsort : List α → List Nat) (med : List α → α) (inp : Input α) (oneD : Bool) (nspec ncol : Nat) (st : St α)
    (h : c1fLoop fit argsort med inp = .ok (some (oneD, nspec, ncol, st))) :
    ∃ (bk maxsep : α) (groups : List (List Nat)) (iv0 : Option (List α)),
      groupsOf inp.x (isortOf argsort inp) maxsep = .ok groups ∧
      groupLoop fit bk inp.x inp.flux inp.newx
        ⟨List.replicate inp.newx.length 0, List.replicate inp.newx.length false, List.replicate inp.x.length false, iv0⟩ groups = .ok st := by
  obtain ⟨bk, maxsep, groups, iv0, hG, _, hL⟩ := c1fLoop_ok_some fit argsort med inp oneD nspec ncol st h
  exact ⟨bk, maxsep, groups, iv0, hG, hL⟩

end chain

end PydlVerif.CombineScale

namespace PydlVerif.C11
open PydlVerif PydlVerif.Interp PydlVerif.Combine

section step
variable {α : Type} [Scalar α]
variable (fit : Nat → α → List α → List α → Option (List α) → Combine.R (Fit α)) (bk : α) (x y newx : List α)

theorem fitOf_ok (k : Nat) (gx gy : List α) (giv : Option (List α)) (n : Nat) (fb : Option (Fit α) × List Bool)
    (h : CombineScale.fitOf fit k bk gx gy giv n = .ok fb) :
    fb.1 = none ∨ ∃ f, fb.1 = some f ∧ fit k bk gx gy giv = .ok f ∧ coeffZero f.coeffs = false := by
  unfold CombineScale.fitOf at h
  split at h
  · obtain ⟨f, hf, h⟩ := bind_ok h
    split at h
    · cases h; exact Or.inl rfl
    · rename_i hz
      cases h
      exact Or.inr ⟨f, rfl, hf, by simpa using hz⟩
  · cases h; exact Or.inl rfl

theorem afterFit_ok (st st' : St α) (ss : List Nat) (gx : List α) (fb : Option (Fit α) × List Bool)
    (h : CombineScale.afterFit newx st ss gx fb = .ok st') :
    st'.fcm = scatter st.fcm ss fb.2 ∧
    ((st'.flux = st.flux ∧ st'.mask = st.mask) ∨
      ∃ lo hi f vals vm, fb.1 = some f ∧ f.value ((insideOf newx lo hi).map fun p => newx.getD p 0) = .ok (vals, vm) ∧
        st'.flux = scatter st.flux (insideOf newx lo hi) vals ∧
        st'.mask = scatterConst st.mask (select (insideOf newx lo hi) vm) true) ∧
    st'.ivar.isSome = st.ivar.isSome := by
  unfold CombineScale.afterFit at h
  split at h
  · cases h
  · split at h
    · rename_i f hf
      split at h
      · cases h; exact ⟨rfl, Or.inl ⟨rfl, rfl⟩, rfl⟩
      · split at h
        · cases h
        · rename_i vv hval
          cases h
          refine ⟨rfl, Or.inr ⟨_, _, f, vv.1, vv.2, hf, hval, rfl, rfl⟩, ?_⟩
          show (if _ then st.ivar.map _ else st.ivar).isSome = _
          split
          · exact Option.isSome_map
          · rfl
    · cases h; exact ⟨rfl, Or.inl ⟨rfl, rfl⟩, rfl⟩

theorem groupLoop_inv (groups : List (List Nat)) (P : St α → Prop)
    (hstep : ∀ s s' k, ∀ g ∈ groups, groupStep fit bk x y newx s k g = .ok s' → P s → P s')
    (st st' : St α) (h : groupLoop fit bk x y newx st groups = .ok st') (h0 : P st) : P st' := by
  unfold groupLoop at h
  refine foldlM_inv _ P _ (fun k hk s s' hs hp => ?_) st st' h h0
  rw [List.getD_eq_getElem _ _ (List.mem_range.1 hk)] at hs
  exact hstep s s' k _ (List.getElem_mem _) hs hp

end step

section field
variable {K : Type} [Field K] [LinearOrder K] [IsStrictOrderedRing K] [FloorRing K]
attribute [local instance] fieldScalar
attribute [-instance] Scalar.instOfNat Scalar.instOfScientific

section step
variable (fit : Nat → K → List K → List K → Option (List K) → Combine.R (Fit K)) (bk : K) (x y newx : List K)

/-- one pass of the group loop: `fullcombmask` is written at the group's pixels only; `newflux` and `newmask` are untouched, or a
fit that is used (`coeffs` not all zero) was evaluated on the non-empty `inside` and its values were written there -/
theorem groupStep_ok (st st' : St K) (k : Nat) (ss : List Nat) (h : groupStep fit bk x y newx st k ss = .ok st') :
    (∃ bm, st'.fcm = scatter st.fcm ss bm) ∧
    ((st'.flux = st.flux ∧ st'.mask = st.mask) ∨
      ∃ lo hi f vals vm,
        fit k bk (ss.map fun i => x.getD i 0) (ss.map fun i => y.getD i 0) (st.ivar.map fun iv => ss.map fun i => iv.getD i 0)
          = .ok f ∧
        coeffZero f.coeffs = false ∧
        f.value ((insideOf newx lo hi).map fun p => newx.getD p 0) = .ok (vals, vm) ∧
        st'.flux = scatter st.flux (insideOf newx lo hi) vals ∧
        st'.mask = scatterConst st.mask (select (insideOf newx lo hi) vm) true) := by
  rw [CombineScale.groupStep_eq] at h
  obtain ⟨fb, hF, h⟩ := bind_ok h
  obtain ⟨hfcm, hfm, _⟩ := afterFit_ok newx st st' ss _ fb h
  rw [scalar_zero] at hF hfm
  refine ⟨⟨_, hfcm⟩, ?_⟩
  rcases hfm with hfm | ⟨lo, hi, f, vals, vm, hf, hval, e1, e2⟩
  · exact Or.inl hfm
  · rcases fitOf_ok fit bk k _ _ _ _ fb hF with hn | ⟨f', hs, hfit, hz⟩
    · rw [hn] at hf; cases hf
    · rw [hs] at hf
      cases hf
      exact Or.inr ⟨lo, hi, _, vals, vm, hfit, hz, hval, e1, e2⟩

end step

theorem combine1fiber_ok (fit : Nat → K → List K → List K → Option (List K) → Combine.R (Fit K))
    (argsort : List K → List Nat) (med mean : List K → K) (erf : K → K) (classify : K → Val K)
    (inp : Input K) (f v : List K)
    (h : combine1fiber fit argsort med mean erf classify inp = .ok (f, v)) :
    (f = List.replicate inp.newx.length 0 ∧ v = List.replicate inp.newx.length 0) ∨
    ∃ oneD nspec ncol st bk maxsep groups iv0,
      groupsOf inp.x (CombineScale.isortOf argsort inp) maxsep = .ok groups ∧
      groupLoop fit bk inp.x inp.flux inp.newx
        ⟨List.replicate inp.newx.length 0, List.replicate inp.newx.length false, List.replicate inp.x.length false, iv0⟩ groups
        = .ok st ∧
      finish mean erf classify oneD nspec ncol inp.x inp.newx inp.method st = .ok (f, v) := by
  rw [CombineScale.combine1fiber_eq] at h
  obtain ⟨o, hL, h⟩ := bind_ok h
  cases o with
  | none =>
    injection h with h
    injection h with h1 h2
    rw [scalar_zero] at h1 h2
    exact Or.inl ⟨h1.symm, h2.symm⟩
  | some t =>
    obtain ⟨oneD, nspec, ncol, st⟩ := t
    obtain ⟨bk, maxsep, groups, iv0, hG, hLoop⟩ := CombineScale.c1fLoop_some_spec fit argsort med inp oneD nspec ncol st hL
    rw [scalar_zero] at hLoop
    exact Or.inr ⟨oneD, nspec, ncol, st, bk, maxsep, groups, iv0, hG, hLoop, h⟩

end field
end PydlVerif.C11

namespace PydlVerif.CombineScale
open PydlVerif PydlVerif.Interp PydlVerif.Combine

section ivar
variable {α : Type} [Scalar α]

theorem groupStep_ivar_some (fit : Nat → α → List α → List α → Option (List α) → Combine.R (Fit α)) (bk : α)
    (x y newx : List α) (st st' : St α) (k : Nat) (ss : List Nat) (h : groupStep fit bk x y newx st k ss = .ok st')
    (hs : st.ivar.isSome) : st'.ivar.isSome := by
  rw [groupStep_eq] at h
  obtain ⟨fb, _, h⟩ := bind_ok h
  rw [(C11.afterFit_ok newx st st' ss _ fb h).2.2]
  exact hs

theorem groupLoop_ivar_some (fit : Nat → α → List α → List α → Option (List α) → Combine.R (Fit α)) (bk : α)
    (x y newx : List α) (groups : List (List Nat)) (st st' : St α) (h : groupLoop fit bk x y newx st groups = .ok st')
    (hs : st.ivar.isSome) : st'.ivar.isSome :=
  C11.groupLoop_inv fit bk x y newx groups (·.ivar.isSome) (fun s s' k g _ h hs => groupStep_ivar_some fit bk x y newx s s' k g h hs)
    st st' h hs

/-- with `objivar` given, the state the group loop leaves still carries the (working) inverse variance -/
theorem c1fLoop_ivar_some (fit : Nat → α → List α → List α → Option (List α) → Combine.R (Fit α))
    (argsort : List α → List Nat) (med : List α → α) (inp : Input α) (iv : List α) (hiv : inp.ivar = some iv)
    (oneD : Bool) (nspec ncol : Nat) (st : St α)
    (h : c1fLoop fit argsort med inp = .ok (some (oneD, nspec, ncol, st))) : st.ivar.isSome := by
  obtain ⟨bk, maxsep, groups, iv0, _, h0, hL⟩ := c1fLoop_ok_some fit argsort med inp oneD nspec ncol st h
  exact groupLoop_ivar_some fit bk _ _ _ groups _ st hL (h0 (hiv ▸ rfl))

end ivar
end PydlVerif.CombineScale
