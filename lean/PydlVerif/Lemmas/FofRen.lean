/-
C05: the renumbering pass (groups 464-474, spheregroup 557-566) and the second pass of the cross-chunk merge
(friendsoffriends 341-350) both number by counts of fixed points (`nroots`): a group gets the rank of its first member among
the first members, a provisional label the number of its root.
-/
import PydlVerif.Lemmas.Fof
namespace PydlVerif.Fof

/-- number of roots (fixed points of `m`) below `i` -/
def nroots (m : Arr Nat) (i : Nat) : Nat := ((List.range i).filter (fun j => m.get j = j)).length

theorem nroots_succ (m : Arr Nat) (i : Nat) :
    nroots m (i+1) = nroots m i + (if m.get i = i then 1 else 0) := by
  simp only [nroots, List.range_succ, List.filter_append, List.length_append]
  by_cases h : m.get i = i <;> simp [h]

theorem nroots_le (m : Arr Nat) (i : Nat) : nroots m i ≤ i := by
  have := List.length_filter_le (fun j => decide (m.get j = j)) (List.range i)
  rwa [List.length_range] at this

theorem nroots_mono (m : Arr Nat) : ∀ i j, i ≤ j → nroots m i ≤ nroots m j := by
  intro i j h
  induction j with
  | zero => have : i = 0 := by omega
            subst this; exact Nat.le_refl _
  | succ j ih =>
    by_cases e : i = j + 1
    · subst e; exact Nat.le_refl _
    · have := ih (by omega)
      rw [nroots_succ]; omega

theorem nroots_lt (m : Arr Nat) (r j : Nat) (hr : m.get r = r) (h : r < j) : nroots m r < nroots m j := by
  have h1 := nroots_succ m r
  rw [if_pos hr] at h1
  have := nroots_mono m (r+1) j (by omega)
  omega

theorem nroots_inj (m : Arr Nat) (r1 r2 : Nat) (h1 : m.get r1 = r1) (h2 : m.get r2 = r2)
    (e : nroots m r1 = nroots m r2) : r1 = r2 := by
  rcases Nat.lt_trichotomy r1 r2 with h | h | h
  · have := nroots_lt m r1 r2 h1 h; omega
  · exact h
  · have := nroots_lt m r2 r1 h2 h; omega

theorem nroots_surj (m : Arr Nat) : ∀ k c, c < nroots m k → ∃ r, r < k ∧ m.get r = r ∧ nroots m r = c := by
  intro k
  induction k with
  | zero => intro c hc; simp [nroots] at hc
  | succ k ih =>
    intro c hc
    rw [nroots_succ] at hc
    by_cases h1 : c < nroots m k
    · obtain ⟨r, hr, a, b⟩ := ih c h1
      exact ⟨r, by omega, a, b⟩
    · by_cases hk : m.get k = k
      · rw [if_pos hk] at hc
        exact ⟨k, by omega, hk, by omega⟩
      · rw [if_neg hk] at hc; omega

/-- the first member of the group of `x`, read off `first` -/
def firstMember (g0 : Arr Nat) (L : Lists) : Arr Nat := ⟨fun x => (L.first.get (g0.get x)).getD 0⟩

theorem firstMember_congr (g0 : Arr Nat) (L : Lists) {x y : Nat} (h : g0.get x = g0.get y) :
    (firstMember g0 L).get x = (firstMember g0 L).get y := by
  simp only [firstMember, h]

theorem firstMember_spec {g0 : Arr Nat} {n : Nat} {L : Lists} (hL : IsLists g0 0 n L) (x : Nat) (hx : x < n) :
    (firstMember g0 L).get x ≤ x ∧ g0.get ((firstMember g0 L).get x) = g0.get x := by
  cases hf : L.first.get (g0.get x) with
  | none => exact absurd rfl (hL.first_none _ hf x (Nat.zero_le _) hx)
  | some y =>
    obtain ⟨_, _, hy, hmin⟩ := hL.first_some _ y hf
    have e : (firstMember g0 L).get x = y := by simp only [firstMember, hf]; rfl
    rw [e]
    refine ⟨Nat.le_of_not_lt (fun hlt => hmin x (Nat.zero_le _) hlt rfl), hy⟩

theorem firstMember_root {g0 : Arr Nat} {n : Nat} {L : Lists} (hL : IsLists g0 0 n L) (x : Nat) (hx : x < n) :
    (firstMember g0 L).get ((firstMember g0 L).get x) = (firstMember g0 L).get x :=
  firstMember_congr g0 L (firstMember_spec hL x hx).2

theorem firstMember_eq_iff {g0 : Arr Nat} {n : Nat} {L : Lists} (hL : IsLists g0 0 n L) (x y : Nat) (hx : x < n) (hy : y < n) :
    (firstMember g0 L).get x = (firstMember g0 L).get y ↔ g0.get x = g0.get y :=
  ⟨fun h => by rw [← (firstMember_spec hL x hx).2, h, (firstMember_spec hL y hy).2], firstMember_congr g0 L⟩

/-- state of the renumbering loop after the points `< k` have been looked at: the groups whose first member is
below `k` are done and carry the number of first members below their own -/
structure RenInv (g0 : Arr Nat) (L : Lists) (n k : Nat) (s : Ren) : Prop where
  done_iff : ∀ x, x < n → (s.done.get x = true ↔ (firstMember g0 L).get x < k)
  lab : ∀ x, x < n → s.inG.get x =
    if s.done.get x = true then nroots (firstMember g0 L) ((firstMember g0 L).get x) else g0.get x
  cnt : s.cnt = nroots (firstMember g0 L) k
  ok : s.ok = true

theorem renInv_step (g0 : Arr Nat) (n k : Nat) (hk : k < n) (L : Lists) (hL : IsLists g0 0 n L)
    (s : Ren) (h : RenInv g0 L n k s) : RenInv g0 L n (k+1) (renStep n L s k) := by
  have hkle := (firstMember_spec hL k hk).1
  unfold renStep
  by_cases hd : s.done.get k = true
  · -- already renumbered: `k` is not a first member
    have hlt := (h.done_iff k hk).1 hd
    simp only [hd, if_true]
    refine ⟨fun x hx => ?_, h.lab, ?_, h.ok⟩
    · have hne : (firstMember g0 L).get x ≠ k := fun e => by rw [← e, firstMember_root hL x hx, e] at hlt; omega
      rw [h.done_iff x hx]; omega
    · rw [nroots_succ, if_neg (by omega), h.cnt]; rfl
  · -- a new group, with first member `k`: its list is walked
    have hfk : (firstMember g0 L).get k = k := by
      have : ¬ (firstMember g0 L).get k < k := fun hlt => hd ((h.done_iff k hk).2 hlt)
      omega
    have hdf : s.done.get k = false := by simpa using hd
    have hkeep : s.inG.get k = g0.get k := by rw [h.lab k hk, hdf]; rfl
    simp only [hdf, Bool.false_eq_true, if_false]
    have hmem : ∀ x, x < n → (x ∈ walk L.next n (L.first.get (s.inG.get k)) ↔ (firstMember g0 L).get x = k) := by
      intro x hx
      rw [hkeep, mem_walk_first g0 n n L hL (Nat.le_refl _), ← firstMember_eq_iff hL x k hx hk, hfk]
      exact and_iff_right hx
    refine ⟨fun x hx => ?_, fun x hx => ?_, ?_, ?_⟩
    all_goals dsimp only
    · simp only [foldl_upd_const, hmem x hx]
      split
      · rename_i e; simp [e]
      · rw [h.done_iff x hx]; omega
    · simp only [foldl_upd_const, hmem x hx]
      split
      · rename_i e; rw [h.cnt, e, if_pos rfl]
      · exact h.lab x hx
    · rw [nroots_succ, if_pos hfk, h.cnt]
    · rw [hkeep, (walk_first g0 n n L hL (Nat.le_refl _) (g0.get k)).1, h.ok]; rfl

theorem renumber_rank (g0 : Arr Nat) (n : Nat) (L : Lists) (hL : IsLists g0 0 n L) :
    (renumber n L g0).ok = true ∧ (renumber n L g0).cnt = nroots (firstMember g0 L) n ∧
    ∀ x, x < n → (renumber n L g0).inG.get x = nroots (firstMember g0 L) ((firstMember g0 L).get x) := by
  have h : RenInv g0 L n n (renumber n L g0) :=
    foldl_range_inv _ (RenInv g0 L n) _ n ⟨fun x _ => by simp, fun x _ => by simp, by simp [nroots], rfl⟩
      (fun k s hk h => renInv_step g0 n k hk L hL s h) n (Nat.le_refl _)
  refine ⟨h.ok, h.cnt, fun x hx => ?_⟩
  have := (firstMember_spec hL x hx).1
  rw [h.lab x hx, if_pos ((h.done_iff x hx).2 (by omega))]

/-- state of the second pass after the labels `< k` -/
structure ResInv (m : Arr Nat) (k : Nat) (a : Arr Nat × Nat) : Prop where
  root : ∀ i, i < k → m.get i = i → a.1.get i = nroots m i
  child : ∀ i, i < k → m.get i ≠ i → a.1.get i = a.1.get (m.get i)
  rest : ∀ i, k ≤ i → a.1.get i = m.get i
  cnt : a.2 = nroots m k

theorem resInv_step (m : Arr Nat) (k : Nat) (hle : ∀ i, i ≤ k → m.get i ≤ i) (a : Arr Nat × Nat)
    (h : ResInv m k a) : ResInv m (k+1) (resolveStep a k) := by
  have hk : a.1.get k = m.get k := h.rest k (Nat.le_refl _)
  obtain ⟨v, hv, hroot, hchild, hcnt⟩ : ∃ v, (resolveStep a k).1 = upd a.1 k v ∧ (m.get k = k → v = nroots m k) ∧
      (m.get k ≠ k → v = a.1.get (m.get k)) ∧ (resolveStep a k).2 = a.2 + if m.get k = k then 1 else 0 := by
    unfold resolveStep
    rw [hk]
    split
    · rename_i e; exact ⟨_, rfl, fun _ => h.cnt, fun hn => absurd e hn, rfl⟩
    · rename_i hn; exact ⟨_, rfl, fun e => absurd e hn, fun _ => rfl, rfl⟩
  refine ⟨fun i hi hri => ?_, fun i hi hri => ?_, fun i hi => ?_, ?_⟩
  · rw [hv, upd_get]
    split
    · rename_i e; subst e; exact hroot hri
    · exact h.root i (by omega) hri
  · have hmk : m.get i ≠ k := by have := hle i (by omega); omega
    rw [hv, upd_get, upd_get, if_neg hmk]
    split
    · rename_i e; subst e; exact hchild hri
    · exact h.child i (by omega) hri
  · rw [hv, upd_get, if_neg (by omega)]; exact h.rest i (by omega)
  · rw [hcnt, h.cnt, nroots_succ]

theorem resInv_all (m : Arr Nat) (nMap : Nat) (hle : ∀ i, i < nMap → m.get i ≤ i) :
    ∀ k, k ≤ nMap → ResInv m k ((List.range k).foldl resolveStep (m, 0)) :=
  foldl_range_inv _ (ResInv m) _ nMap
    ⟨fun i h => by omega, fun i h => by omega, fun i _ => rfl, by simp [nroots]⟩
    (fun k a hk h => resInv_step m k (fun i hi => hle i (by omega)) a h)

end PydlVerif.Fof
