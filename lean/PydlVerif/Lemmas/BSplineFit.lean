/-
The assembly of `bspline.fit`: the flat-index scatter builds the lower band of the normal matrix `AᵀWA` and the vector `AᵀWy` of
the design matrix `design`.  And `fit` itself read once (`fit_eq`).
-/
import PydlVerif.Lemmas.BSplineField
import PydlVerif.Lemmas.ListBasics
import PydlVerif.Lemmas.FinsetSums
import PydlVerif.Lemmas.Lsq
import PydlVerif.Lemmas.Except
import Mathlib.Algebra.BigOperators.Intervals
import Mathlib.Tactic.Ring
import Mathlib.Algebra.BigOperators.Group.List.Basic
namespace PydlVerif.BSplineFitLemmas
open PydlVerif PydlVerif.BSpline PydlVerif.BSplineFit Finset

section sums
variable {M : Type} [AddCommMonoid M]

theorem sum_ite_single (n a : ℕ) (P : ℕ → Prop) [DecidablePred P] (F : ℕ → M) (h : ∀ k, k < n → P k → k = a) :
    ∑ k ∈ range n, (if P k then F k else 0) = if a < n ∧ P a then F a else 0 := by
  by_cases ha : a < n ∧ P a
  · rw [if_pos ha, Finset.sum_eq_single a, if_pos ha.2]
    · intro k hk hne
      exact if_neg fun hp => hne (h k (Finset.mem_range.1 hk) hp)
    · intro hn
      exact absurd (Finset.mem_range.2 ha.1) hn
  · rw [if_neg ha]
    apply Finset.sum_eq_zero
    intro k hk
    refine if_neg fun hp => ha ?_
    rw [← h k (Finset.mem_range.1 hk) hp]
    exact ⟨Finset.mem_range.1 hk, hp⟩

theorem flatMap_map_sum {β : Type} (l : List ℕ) (g : ℕ → List β) (F : β → M) :
    ((l.flatMap g).map F).sum = (l.map (fun k => ((g k).map F).sum)).sum := by
  induction l with
  | nil => rfl
  | cons a l ih => rw [List.flatMap_cons, List.map_append, List.sum_append, ih, List.map_cons, List.sum_cons]

end sums

-- not every lemma under the `variable` line uses the order and the floor
set_option linter.unusedSectionVars false
variable {K : Type} [Field K] [LinearOrder K] [IsStrictOrderedRing K] [FloorRing K]

open PydlVerif.AtField

theorem sc_add (a b : K) : @HAdd.hAdd K K K (@instHAdd K (fieldScalar K).toAdd) a b = a + b := rfl
theorem sc_mul (a b : K) : @HMul.hMul K K K (@instHMul K (fieldScalar K).toMul) a b = a * b := rfl

theorem sumL_eq (l : List K) : @sumL _ (fieldScalar _) l = l.sum := by
  induction l with
  | nil => exact scalar_zero
  | cons a l ih => exact congrArg (a + ·) ih

theorem addAt_apply (g : ℕ → K) (i : ℕ) (v : K) (f : ℕ) : @addAt _ (fieldScalar _) g i v f = if f = i then g f + v else g f := rfl

theorem foldl_addAt {β : Type} (l : List β) (idx : β → ℕ) (val : β → K) (g : ℕ → K) (f : ℕ) :
    (l.foldl (fun g b => @addAt _ (fieldScalar _) g (idx b) (val b)) g) f = g f + (l.map (fun b => if idx b = f then val b else 0)).sum := by
  induction l generalizing g with
  | nil => simp
  | cons b l ih =>
    rw [List.foldl_cons, ih, addAt_apply, List.map_cons, List.sum_cons]
    by_cases h : f = idx b
    · rw [if_pos h, if_pos h.symm]; ring
    · rw [if_neg h, if_neg (Ne.symm h)]; ring

theorem block_inj {a a' bw r r' : ℕ} (hr : r < bw) (hr' : r' < bw) (h : a * bw + r = a' * bw + r') : a = a' ∧ r = r' :=
  ⟨by rw [← mul_add_div_of_lt a bw r hr, h, mul_add_div_of_lt a' bw r' hr'],
    by rw [← Nat.mul_add_mod_of_lt (a := a) hr, h, Nat.mul_add_mod_of_lt hr']⟩

/-- `alpha.T.flat[bo + itop*bw] += work.flat[bi]` decoded into column `c`, band `r` -/
theorem scatterStep_apply (bw itop : ℕ) (work g : ℕ → K) (c r : ℕ) (hr : r < bw) :
    scatterStepK bw itop work g (c * bw + r) =
      g (c * bw + r) + (if itop ≤ c ∧ (c - itop) + r < bw then work ((c - itop) * bw + (c - itop + r)) else 0) := by
  -- the pair `(k, r')` of `scatterPairs` addresses column `k + itop`, band `r'`
  have haddr : ∀ k r', r' + bw * k + itop * bw = (k + itop) * bw + r' := fun k r' => by ring
  unfold scatterStep scatterPairs
  rw [foldl_addAt, flatMap_map_sum]
  simp only [List.map_map, Function.comp_def, sum_map_range]
  congr 1
  have hin : ∀ k ∈ range bw, ∑ r' ∈ range (bw - k), (if r' + bw * k + itop * bw = c * bw + r then work (r' + (bw + 1) * k) else 0)
      = if r < bw - k ∧ r + bw * k + itop * bw = c * bw + r then work (r + (bw + 1) * k) else 0 := fun k _ =>
    sum_ite_single _ r _ _ fun r' hr' h => (block_inj (by omega) hr (haddr k r' ▸ h)).2
  rw [Finset.sum_congr rfl hin, sum_ite_single bw (c - itop) _ _ fun k _ h => by
    have := (block_inj (by omega) hr (haddr k r ▸ h.2)).1
    omega]
  refine if_congr ⟨fun h => ?_, fun h => ⟨by omega, by omega, ?_⟩⟩ (congrArg work (by ring)) rfl
  · have := (block_inj hr hr (haddr _ r ▸ h.2.2)).1
    omega
  · rw [haddr, Nat.sub_add_cancel h.1]

/-- `beta[itop : itop+bw] += wb` -/
theorem betaStep_apply (bw itop : ℕ) (wb g : ℕ → K) (c : ℕ) :
    betaStepK bw itop wb g c = g c + (if itop ≤ c ∧ c - itop < bw then wb (c - itop) else 0) := by
  unfold betaStep
  rw [foldl_addAt, sum_map_range, sum_ite_single bw (c - itop) _ _ fun a _ h => by omega]
  exact congrArg (g c + ·) (if_congr (by omega) rfl rfl)

theorem workAt_eq (a1 : ℕ → ℕ → K) (w : ℕ → K) (inK : ℕ → Bool) (nx bw i : ℕ) :
    workAtK a1 w inK nx bw i = ∑ p ∈ range nx, if inK p then a1 p (i / bw) * (a1 p (i % bw) * w p) else 0 := by
  unfold workAt
  rw [sumL_eq, sum_map_range]
  exact Finset.sum_congr rfl fun p _ => by split; exacts [rfl, scalar_zero]

theorem wbAt_eq (a1 : ℕ → ℕ → K) (y w : ℕ → K) (inK : ℕ → Bool) (nx a : ℕ) :
    wbAtK a1 y w inK nx a = ∑ p ∈ range nx, if inK p then y p * (a1 p a * w p) else 0 := by
  unfold wbAt
  rw [sumL_eq, sum_map_range]
  exact Finset.sum_congr rfl fun p _ => by split; exacts [rfl, scalar_zero]

theorem rowIn_empty (lower upper : Array ℤ) (k p : ℕ) (h : ¬ (upper[k]! - lower[k]! + 1 > 0)) :
    rowIn lower upper k p = false := by
  unfold rowIn
  rw [Bool.and_eq_false_iff, decide_eq_false_iff_not, decide_eq_false_iff_not]
  omega

/-- the assembly loop of `fit` with the first column `itop k` of segment `k` left open: `assemble` is `itop k = k`,
`assembleP npoly` of Model/BSplineFit2.lean is `itop k = k * npoly`, both by unfolding -/
def assembleAt {α : Type} [Scalar α] (itop : ℕ → ℕ) (a1 : ℕ → ℕ → α) (y w : ℕ → α) (lower upper : Array ℤ)
    (nx bw nseg : ℕ) : (ℕ → α) × (ℕ → α) :=
  (List.range nseg).foldl (fun ab k =>
    if upper[k]! - lower[k]! + 1 > 0 then
      (scatterStep bw (itop k) (workAt a1 w (rowIn lower upper k) nx bw) ab.1,
       betaStep bw (itop k) (wbAt a1 y w (rowIn lower upper k) nx) ab.2)
    else ab) (fun _ => 0, fun _ => 0)

theorem assemble_eq_assembleAt {α : Type} [Scalar α] (a1 : ℕ → ℕ → α) (y w : ℕ → α) (lower upper : Array ℤ) (nx bw nseg : ℕ) :
    assemble a1 y w lower upper nx bw nseg = assembleAt (fun k => k) a1 y w lower upper nx bw nseg := rfl

local notation "assembleAtK" => @assembleAt _ (fieldScalar _)

theorem assembleAt_succ (itop : ℕ → ℕ) (a1 : ℕ → ℕ → K) (y w : ℕ → K) (lower upper : Array ℤ) (nx bw n : ℕ) :
    assembleAtK itop a1 y w lower upper nx bw (n + 1) =
      if upper[n]! - lower[n]! + 1 > 0 then
        (scatterStepK bw (itop n) (workAtK a1 w (rowIn lower upper n) nx bw) (assembleAtK itop a1 y w lower upper nx bw n).1,
         betaStepK bw (itop n) (wbAtK a1 y w (rowIn lower upper n) nx) (assembleAtK itop a1 y w lower upper nx bw n).2)
      else assembleAtK itop a1 y w lower upper nx bw n := by
  simp only [assembleAt, List.range_succ, List.foldl_append, List.foldl_cons, List.foldl_nil]

theorem assembleAt_apply (itop : ℕ → ℕ) (a1 : ℕ → ℕ → K) (y w : ℕ → K) (lower upper : Array ℤ) (nx bw nseg : ℕ) :
    (∀ c r, r < bw → (assembleAtK itop a1 y w lower upper nx bw nseg).1 (c * bw + r) =
      ∑ k ∈ range nseg, (if itop k ≤ c ∧ (c - itop k) + r < bw then
        ∑ p ∈ range nx, (if rowIn lower upper k p then a1 p (c - itop k) * (a1 p (c - itop k + r) * w p) else 0) else 0)) ∧
    (∀ c, (assembleAtK itop a1 y w lower upper nx bw nseg).2 c =
      ∑ k ∈ range nseg, (if itop k ≤ c ∧ c - itop k < bw then
        ∑ p ∈ range nx, (if rowIn lower upper k p then y p * (a1 p (c - itop k) * w p) else 0) else 0)) := by
  induction nseg with
  | zero => exact ⟨fun c r _ => scalar_zero, fun c => scalar_zero⟩
  | succ n ih =>
    rw [assembleAt_succ]
    by_cases hict : upper[n]! - lower[n]! + 1 > 0
    · rw [if_pos hict]
      refine ⟨fun c r hr => ?_, fun c => ?_⟩
      · show scatterStepK bw (itop n) _ _ (c * bw + r) = _
        rw [scatterStep_apply bw (itop n) _ _ c r hr, ih.1 c r hr, Finset.sum_range_succ]
        refine congrArg (_ + ·) (if_ctx_congr Iff.rfl (fun hc => ?_) fun _ => rfl)
        rw [workAt_eq, mul_add_div_of_lt _ bw _ hc.2, Nat.mul_add_mod_of_lt hc.2]
      · show betaStepK bw (itop n) _ _ c = _
        rw [betaStep_apply, wbAt_eq, ih.2 c, Finset.sum_range_succ]
    · -- an empty slice: nothing is added, and no row lies in it
      have hz : ∀ F : ℕ → K, ∑ p ∈ range nx, (if rowIn lower upper n p then F p else 0) = 0 := fun F =>
        Finset.sum_eq_zero fun p _ => by rw [rowIn_empty lower upper n p hict]; rfl
      rw [if_neg hict]
      simp only [Finset.sum_range_succ, hz, ite_self, add_zero]
      exact ih

theorem assemble_apply (a1 : ℕ → ℕ → K) (y w : ℕ → K) (lower upper : Array ℤ) (nx bw : ℕ) (nseg : ℕ) :
    (∀ c r, r < bw → (assembleK a1 y w lower upper nx bw nseg).1 (c * bw + r) =
      ∑ k ∈ range nseg, (if k ≤ c ∧ (c - k) + r < bw then
        ∑ p ∈ range nx, (if rowIn lower upper k p then a1 p (c - k) * (a1 p (c - k + r) * w p) else 0) else 0)) ∧
    (∀ c, (assembleK a1 y w lower upper nx bw nseg).2 c =
      ∑ k ∈ range nseg, (if k ≤ c ∧ c - k < bw then
        ∑ p ∈ range nx, (if rowIn lower upper k p then y p * (a1 p (c - k) * w p) else 0) else 0)) := by
  rw [@assemble_eq_assembleAt K (fieldScalar K)]
  exact assembleAt_apply (fun k => k) a1 y w lower upper nx bw nseg

/-- the design matrix of the fit: point `p` lies in segment `iv p` and its `bw` basis values
`a1 p 0 .. a1 p (bw-1)` belong to the coefficients `iv p .. iv p + bw - 1` -/
def design (a1 : ℕ → ℕ → K) (iv : ℕ → ℕ) (bw p c : ℕ) : K :=
  if iv p ≤ c ∧ c < iv p + bw then a1 p (c - iv p) else 0

/-- what `action` delivers in `lower`/`upper` (C08's `RowsOf`): the slice of segment `k` holds exactly the points of segment `k` -/
def Rows (lower upper : Array ℤ) (iv : ℕ → ℕ) (nx nseg : ℕ) : Prop :=
  ∀ p, p < nx → iv p < nseg ∧ ∀ k, k < nseg → (rowIn lower upper k p = true ↔ k = iv p)

theorem sum_rows (lower upper : Array ℤ) (iv : ℕ → ℕ) (nx nseg : ℕ) (hrows : Rows lower upper iv nx nseg)
    (cond : ℕ → Prop) [DecidablePred cond] (F : ℕ → ℕ → K) :
    ∑ k ∈ range nseg, (if cond k then ∑ p ∈ range nx, (if rowIn lower upper k p then F k p else 0) else 0)
      = ∑ p ∈ range nx, (if cond (iv p) then F (iv p) p else 0) := by
  -- with the sums exchanged, a point `p` contributes for the one segment `k = iv p` only
  simp only [Finset.ite_sum_zero, ← ite_and]
  rw [Finset.sum_comm]
  refine Finset.sum_congr rfl fun p hp => ?_
  obtain ⟨h1, h2⟩ := hrows p (Finset.mem_range.1 hp)
  rw [sum_ite_single nseg (iv p) _ _ fun k hk h => (h2 k hk).1 h.2]
  exact if_congr ⟨fun h => h.2.1, fun h => ⟨h1, h, (h2 _ h1).2 rfl⟩⟩ rfl rfl

theorem assembleAt_is_normal (itop : ℕ → ℕ) (a1 : ℕ → ℕ → K) (y w : ℕ → K) (lower upper : Array ℤ) (iv : ℕ → ℕ)
    (nx bw nseg : ℕ) (hrows : Rows lower upper iv nx nseg) :
    (∀ c r, r < bw → (assembleAtK itop a1 y w lower upper nx bw nseg).1 (c * bw + r) =
      ∑ p ∈ range nx, design a1 (fun p => itop (iv p)) bw p c * (design a1 (fun p => itop (iv p)) bw p (c + r) * w p)) ∧
    (∀ c, (assembleAtK itop a1 y w lower upper nx bw nseg).2 c =
      ∑ p ∈ range nx, y p * (design a1 (fun p => itop (iv p)) bw p c * w p)) := by
  obtain ⟨h1, h2⟩ := assembleAt_apply itop a1 y w lower upper nx bw nseg
  refine ⟨fun c r hr => ?_, fun c => ?_⟩
  · rw [h1 c r hr, sum_rows lower upper iv nx nseg hrows (fun k => itop k ≤ c ∧ (c - itop k) + r < bw)
      (fun k p => a1 p (c - itop k) * (a1 p (c - itop k + r) * w p))]
    refine Finset.sum_congr rfl fun p _ => ?_
    unfold design
    beta_reduce
    generalize itop (iv p) = q
    by_cases hc : q ≤ c ∧ (c - q) + r < bw
    · rw [if_pos hc, if_pos (by omega), if_pos (by omega), show c + r - q = c - q + r by omega]
    · rw [if_neg hc]
      by_cases h1 : q ≤ c ∧ c < q + bw
      · rw [if_pos h1, if_neg (by omega), zero_mul, mul_zero]
      · rw [if_neg h1, zero_mul]
  · rw [h2 c, sum_rows lower upper iv nx nseg hrows (fun k => itop k ≤ c ∧ c - itop k < bw)
      (fun k p => y p * (a1 p (c - itop k) * w p))]
    refine Finset.sum_congr rfl fun p _ => ?_
    unfold design
    beta_reduce
    generalize itop (iv p) = q
    by_cases hc : q ≤ c ∧ c - q < bw
    · rw [if_pos hc, if_pos (by omega)]
    · rw [if_neg hc, if_neg (by omega), zero_mul, mul_zero]

/-- the flat-index scatter of `fit` builds the lower band of `AᵀWA` and `AᵀWy` -/
theorem assemble_is_normal (a1 : ℕ → ℕ → K) (y w : ℕ → K) (lower upper : Array ℤ) (iv : ℕ → ℕ) (nx bw nseg : ℕ)
    (hrows : Rows lower upper iv nx nseg) :
    (∀ c r, r < bw → (assembleK a1 y w lower upper nx bw nseg).1 (c * bw + r) =
      ∑ p ∈ range nx, design a1 iv bw p c * (design a1 iv bw p (c + r) * w p)) ∧
    (∀ c, (assembleK a1 y w lower upper nx bw nseg).2 c = ∑ p ∈ range nx, y p * (design a1 iv bw p c * w p)) :=
  assembleAt_is_normal (fun k => k) a1 y w lower upper iv nx bw nseg hrows

section fitlayer
variable {α : Type} [Scalar α]

/-- `fit` once `action` has answered (its lines from `cholesky_band` on): the data `(ys, ws)` enter only through the normal
system `ab` and the weight sum `sw` -/
def fitFrom (K : Kernels α) (b : BS α) (nx : ℕ) (perm : List ℕ) (rows : List (List α)) (lower upper : Array ℤ)
    (ab : Array (Array α) × Array α) (sw : α) : R (FitOut α) := do
  let goodbk := b.mask.toList.drop b.nord
  let errb ← choleskyBand K ab.1 ((1.0e-10 : α) * sw / (Scalar.ofNat (goodIdx goodbk).length : α))
  match errb with
  | .bad idx _ =>
    let yfit ← yfitOf b rows lower upper nx perm
    pure { status := (maskpoints b.mask b.nord idx).1, yfit := yfit, obj := { b with mask := (maskpoints b.mask b.nord idx).2 },
           alpha := ab.1, beta := ab.2 }
  | .factor a =>
    let b' : BS α := { b with coeff := putGood b.coeff goodbk (choleskySolve K a ab.2) }
    let yfit ← yfitOf b' rows lower upper nx perm
    pure { status := 0, yfit := yfit, obj := b', alpha := ab.1, beta := ab.2 }

theorem fit_eq (K : Kernels α) (b : BS α) (xs ys ws : List α) (perm : List ℕ) :
    fit K b xs ys ws perm =
      if (goodIdx (b.mask.toList.drop b.nord)).length < b.nord then pure { status := -2, yfit := List.replicate xs.length 0, obj := b } else
      if b.nord = 0 then valueError else
      b.action xs >>= fun act => match act with
        | none => typeError
        | some (rows, lower, upper) =>
          if lower.size < (goodIdx (b.mask.toList.drop b.nord)).length - b.nord + 1 then indexError else
          fitFrom K b xs.length perm rows lower upper
            (normalSystem rows ys ws lower upper xs.length b.nord (goodIdx (b.mask.toList.drop b.nord)).length) (sumL ws) := rfl

theorem fitFrom_cases (K : Kernels α) (b : BS α) (nx : ℕ) (perm : List ℕ) (rows : List (List α)) (lower upper : Array ℤ)
    (ab : Array (Array α) × Array α) (sw : α) (out : FitOut α) (h : fitFrom K b nx perm rows lower upper ab sw = .ok out) :
    (∃ idx s, choleskyBand K ab.1 ((1.0e-10 : α) * sw / (Scalar.ofNat (goodIdx (b.mask.toList.drop b.nord)).length : α)) = .ok (.bad idx s) ∧
      out.status = (maskpoints b.mask b.nord idx).1 ∧ out.obj = { b with mask := (maskpoints b.mask b.nord idx).2 } ∧
      yfitOf b rows lower upper nx perm = .ok out.yfit) ∨
    (∃ a, choleskyBand K ab.1 ((1.0e-10 : α) * sw / (Scalar.ofNat (goodIdx (b.mask.toList.drop b.nord)).length : α)) = .ok (.factor a) ∧
      out.status = 0 ∧ out.obj = { b with coeff := putGood b.coeff (b.mask.toList.drop b.nord) (choleskySolve K a ab.2) } ∧
      yfitOf out.obj rows lower upper nx perm = .ok out.yfit) := by
  unfold fitFrom at h
  obtain ⟨errb, herr, h⟩ := bind_ok h
  cases errb with
  | bad idx s =>
    obtain ⟨v, hy, h⟩ := bind_ok h
    cases h
    exact Or.inl ⟨idx, s, herr, rfl, rfl, hy⟩
  | factor a =>
    obtain ⟨v, hy, h⟩ := bind_ok h
    cases h
    exact Or.inr ⟨a, herr, rfl, rfl, hy⟩

end fitlayer

end PydlVerif.BSplineFitLemmas
