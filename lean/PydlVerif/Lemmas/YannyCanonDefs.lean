/-
The written block `typedef K {body} NAME;`, struct body and enum body are one admissible rendering each
(`blockText_blockL`, `structBody_bodyL`, `enumBody_renders`), so the scans of the reader on them are the lemmas of
YannyLayBlock, YannyLayScan, YannyLayMem and YannyLayCont at that rendering.  Before them: continuation joining on lines
without a trailing backslash (`noCont`) and the typedef expression on lines without `typedef`; between the struct and the
enum scans: the text the writer returns for an enum and for `dtype_to_struct` (`enumText_shape`, `colLine_shape` … `structTexts_shape`).
-/
import PydlVerif.Lemmas.YannyCanonLine
import PydlVerif.Lemmas.YannyLayCont
namespace PydlVerif.YannyRT
open PydlVerif.Yanny

variable {F : Type}

/-- inside one line: every backslash is followed by a non-blank character somewhere -/
def noCont : Str → Bool
  | [] => true
  | c :: t => (c != '\\' || !t.all isSpace) && noCont t

theorem noCont_chunk (l : Str) (hn : '\n' ∉ l) (hl : noCont l = true) :
    YannyLayCont.ChunkRel (l ++ ['\n']) (l ++ ['\n']) := by
  intro R
  induction l with
  | nil => simp [contGo]
  | cons c t ih =>
    simp only [noCont, Bool.and_eq_true, Bool.or_eq_true, Bool.not_eq_true'] at hl
    rw [List.mem_cons, not_or] at hn
    simp only [List.cons_append, contGo, ih hn.2 hl.2]
    rcases hl.1 with hc | ha
    · have : (c == '\\') = false := by simpa using hc
      simp [this]
    · -- the white space behind the backslash ends inside the line, in front of its newline
      have : ((t ++ ['\n']) ++ R).takeWhile isSpace = t.takeWhile isSpace := by
        rw [List.append_assoc, takeWhile_append_of_not_all _ _ _ ha]
      rw [this, lastNlLen_zero _ (fun hm => hn.2 ((List.takeWhile_sublist _).subset hm))]
      simp

theorem rstrip_nil_of_all_space (t : Str) (h : t.all isSpace = true) : rstrip t = [] := by
  unfold rstrip
  rw [dropWhile_all _ _ fun a ha => List.all_eq_true.mp h a (List.mem_reverse.mp ha)]
  rfl

/-- a backslash with only white space behind it would be the last character of `rstrip l` -/
theorem noCont_of_rstrip (l : Str) (h : (rstrip l).getLast? ≠ some '\\') : noCont l = true := by
  induction l with
  | nil => rfl
  | cons c t ih =>
    rw [rstrip_cons] at h
    simp only [noCont, Bool.and_eq_true, Bool.or_eq_true, bne_iff_ne, Bool.not_eq_true']
    by_cases hr : rstrip t = []
    · refine ⟨Or.inl fun hc => h ?_, ih (by simp [hr])⟩
      subst hc
      rw [if_neg (fun hh => absurd hh.2 (by decide)), hr]
      rfl
    · rw [if_neg (fun hh => hr hh.1)] at h
      refine ⟨Or.inr (Bool.eq_false_iff.mpr fun ha => hr (rstrip_nil_of_all_space t ha)), ih ?_⟩
      cases hq : rstrip t with
      | nil => exact absurd hq hr
      | cons a u => rwa [hq, List.getLast?_cons_cons] at h

theorem noCont_of_last (l : Str) (h : ∀ c, l.getLast? = some c → isSpace c = false ∧ c ≠ '\\') : noCont l = true := by
  apply noCont_of_rstrip
  have e : rstrip l = l := by
    unfold rstrip
    rw [lstrip_id, List.reverse_reverse]
    intro c hc
    rw [List.head?_reverse] at hc
    exact (h c hc).1
  rw [e]
  exact fun hc => (h _ hc).2 rfl

theorem noMatchIn_nls (kw x B : Str) (hx : ∀ c ∈ x, c = '\n') : noMatchIn kw x B :=
  YannyLayBlock.noMatchIn_nt kw x B fun h => absurd (hx _ h) (by decide)

theorem noMatchIn_nl (kw B : Str) : noMatchIn kw ['\n'] B := noMatchIn_nls kw _ B (by simp)

theorem noMatchIn_line (kw l B : Str) (hl : noTypedef l = true) : noMatchIn kw (l ++ ['\n']) B :=
  noMatchIn_append _ _ _ _ (noMatchIn_piece kw l _ hl (.inr ⟨'\n', B, rfl, by rw [typedef_chars]; decide⟩)) (noMatchIn_nl kw B)

theorem tdFind_line (kw l B : Str) (hl : noTypedef l = true) :
    tdFind kw 0 (l ++ '\n' :: B) = tdFind kw 0 B := by
  simpa using tdFind_noMatch kw _ B (noMatchIn_line kw l B hl)

theorem tdRemove_line (kw l B : Str) (hl : noTypedef l = true) :
    tdRemove kw 0 (l ++ '\n' :: B) = l ++ '\n' :: tdRemove kw 0 B := by
  simpa using tdRemove_noMatch kw _ B (noMatchIn_line kw l B hl)

theorem noMatchIn_lines (kw : Str) (ls : List Str) (B : Str) (h : ∀ l ∈ ls, noTypedef l = true) :
    noMatchIn kw (ls.map (fun l => l ++ ['\n'])).flatten B := by
  induction ls with
  | nil => exact noMatchIn_nil _ _
  | cons l t ih =>
    rw [List.forall_mem_cons] at h
    exact noMatchIn_append _ _ _ _ (noMatchIn_line kw l _ h.1) (ih h.2)

theorem tdFind_lines (kw : Str) (ls : List Str) (B : Str) (h : ∀ l ∈ ls, noTypedef l = true) :
    tdFind kw 0 ((ls.map (fun l => l ++ ['\n'])).flatten ++ B) = tdFind kw 0 B :=
  tdFind_noMatch kw _ B (noMatchIn_lines kw ls B h)

theorem tdRemove_lines (kw : Str) (ls : List Str) (B : Str) (h : ∀ l ∈ ls, noTypedef l = true) :
    tdRemove kw 0 ((ls.map (fun l => l ++ ['\n'])).flatten ++ B) =
      (ls.map (fun l => l ++ ['\n'])).flatten ++ tdRemove kw 0 B :=
  tdRemove_noMatch kw _ B (noMatchIn_lines kw ls B h)

section
open PydlVerif.YannyLayBlock

theorem blockText_blockL (K body name : Str) : blockText K body name = blockL K [' '] [' '] body [' '] name [] := by
  unfold blockText blockL
  simp only [String.reduceToList, List.append_assoc, List.cons_append, List.nil_append]

theorem single_blank : ([' '] : Str) ≠ [] ∧ ∀ c ∈ ([' '] : Str), isSpace c = true := ⟨by simp, by decide⟩

theorem matchTypedef_block (K body name B : Str) (hK : isKw K) (hb : blockOK body name) :
    matchTypedef K (blockText K body name ++ B) = some ((blockText K body name).length - 1, body, name) := by
  rw [blockText_blockL]
  exact matchTypedef_lay K _ _ body _ name _ B hK single_blank single_blank.2 single_blank.2 (by simp) ⟨hb.1, hb.2.1⟩ hb.2.2.2

theorem noMatchIn_block (K kw body name B : Str) (hK : isKw K) (hkw : isKw kw) (hne : K ≠ kw)
    (hb : blockOK body name) : noMatchIn kw (blockText K body name) B := by
  rw [blockText_blockL]
  exact noMatchIn_lay_other K kw _ _ body _ name _ B hK hkw hne single_blank single_blank.2 single_blank.2 (by simp) hb.2.2.1 hb.2.2.2

end

theorem tdFind_block_other (K kw body name B : Str) (hK : isKw K) (hkw : isKw kw) (hne : K ≠ kw)
    (hb : blockOK body name) : tdFind kw 0 (blockText K body name ++ B) = tdFind kw 0 B :=
  tdFind_noMatch kw _ B (noMatchIn_block K kw body name B hK hkw hne hb)

theorem tdRemove_block_other (K kw body name B : Str) (hK : isKw K) (hkw : isKw kw) (hne : K ≠ kw)
    (hb : blockOK body name) :
    tdRemove kw 0 (blockText K body name ++ B) = blockText K body name ++ tdRemove kw 0 B :=
  tdRemove_noMatch kw _ B (noMatchIn_block K kw body name B hK hkw hne hb)

def blocksOf (K : Str) (bs : List (Str × Str)) : List Str := bs.map (fun b => blockText K b.1 b.2)

theorem blocksOf_cons (K : Str) (b : Str × Str) (bs : List (Str × Str)) :
    blocksOf K (b :: bs) = blockText K b.1 b.2 :: blocksOf K bs := rfl

theorem defsBlock_cons (a : Str) (t : List Str) : defsBlock (a :: t) = '\n' :: (a ++ '\n' :: defsBlock t) := by
  cases t with
  | nil => rfl
  | cons b t => simp [defsBlock, joinWith]

theorem Cuts.block (K body name : Str) (hK : isKw K) (hb : blockOK body name) :
    Cuts K (blockText K body name) [⟨blockText K body name, body, name⟩] [] := by
  have hne : blockText K body name ≠ [] := by
    rw [blockText_blockL]
    exact YannyLayBlock.blockL_ne_nil _ _ _ _ _ _ _
  exact Cuts.at_match hne fun B => matchTypedef_block K body name B hK hb

theorem Cuts.nl_cons {kw X X' : Str} {d : List TDef} (h : Cuts kw X d X') : Cuts kw ('\n' :: X) d ('\n' :: X') :=
  (Cuts.of_noMatch (noMatchIn_nl kw)).append h

/-- what stays is the newlines that framed the blocks: `defsBlock` of as many empty texts -/
theorem cuts_defs_same (K : Str) (bs : List (Str × Str)) (hK : isKw K) (hbs : ∀ b ∈ bs, blockOK b.1 b.2) :
    Cuts K (defsBlock (blocksOf K bs)) (bs.map (fun b => ⟨blockText K b.1 b.2, b.1, b.2⟩))
      (defsBlock (bs.map (fun _ => ([] : Str)))) := by
  induction bs with
  | nil => exact Cuts.nil K
  | cons b t ih =>
    rw [List.forall_mem_cons] at hbs
    rw [blocksOf_cons, defsBlock_cons, List.map_cons, List.map_cons, defsBlock_cons]
    exact ((Cuts.block K b.1 b.2 hK hbs.1).append (ih hbs.2).nl_cons).nl_cons

theorem noMatchIn_defs (K kw : Str) (bs : List (Str × Str)) (B : Str) (hK : isKw K) (hkw : isKw kw)
    (hne : K ≠ kw) (hbs : ∀ b ∈ bs, blockOK b.1 b.2) : noMatchIn kw (defsBlock (blocksOf K bs)) B := by
  induction bs with
  | nil => exact noMatchIn_nil _ _
  | cons b t ih =>
    rw [List.forall_mem_cons] at hbs
    rw [blocksOf_cons, defsBlock_cons]
    exact noMatchIn_cons_of_ne_t _ _ _ _ (by decide) (noMatchIn_append _ _ _ _
      (noMatchIn_block K kw b.1 b.2 _ hK hkw hne hbs.1) (noMatchIn_cons_of_ne_t _ _ _ _ (by decide) (ih hbs.2)))

theorem defsBlock_blank_nls {α} (bs : List α) : ∀ c ∈ defsBlock (bs.map (fun _ => ([] : Str))), c = '\n' := by
  induction bs with
  | nil => intro c hc; cases hc
  | cons a t ih =>
    rw [List.map_cons, defsBlock_cons, List.nil_append]
    exact List.forall_mem_cons.mpr ⟨rfl, List.forall_mem_cons.mpr ⟨rfl, ih⟩⟩

section
open PydlVerif.YannyLayScan

/-- a written member `\n    T N A;` as a laid-out declaration -/
def memL (m : Str × Str × Str) : Mem := ⟨"\n    ".toList, m.1, [' '], m.2.1, m.2.2⟩

theorem memL_text (m : Str × Str × Str) : (memL m).text = memberLine m := by
  unfold Mem.text memL memberLine
  generalize "\n    ".toList = ind
  simp only [List.append_assoc, List.cons_append, List.nil_append]

theorem arrL_of_arrOK (a : Str) (h : arrOK a) : arrL a := by
  refine ⟨h.1.imp_right fun ⟨hh, hl⟩ => ⟨⟨_, hh, rfl⟩, ⟨_, hl, rfl⟩⟩, fun c hc => ?_⟩
  rcases h.2 c hc with rfl | rfl | hd
  · exact Or.inl rfl
  · exact Or.inr (Or.inl rfl)
  · exact Or.inr (Or.inr hd)

theorem memL_ok (m : Str × Str × Str) (h : memOK m) : MemOK (memL m) :=
  ⟨by simp [memL], by simp only [memL, String.reduceToList]; decide, by simp [memL], by simp [memL, isBlank],
    h.1, h.2.1, arrL_of_arrOK _ h.2.2⟩

theorem structBody_bodyL (ms : List (Str × Str × Str)) : structBody ms = bodyL (ms.map memL) ['\n'] := by
  unfold structBody bodyL
  rw [List.map_map]
  congr 2
  exact List.map_congr_left fun m _ => (memL_text m).symm

/-- `re.search(r'(\S+)\s+VAR([\[<].*[\]>]|);', text).groups()` on a written struct finds the
line of the member called `VAR`; the first line of what follows the members is empty, so nothing is asked of `NAME` -/
theorem typeSearch_struct (ms : List (Str × Str × Str)) (NAME : Str) (hms : ∀ m ∈ ms, memOK m)
    (hnd : (ms.map (fun m => m.2.1)).Nodup) (m : Str × Str × Str) (hm : m ∈ ms) :
    typeSearch m.2.1 (blockText "struct".toList (structBody ms) NAME) = some (m.1, m.2.2) := by
  rw [blockText_blockL, structBody_bodyL]
  show typeSearch _ (structL [' '] [' '] (bodyL (ms.map memL) ['\n']) [' '] NAME []) = _
  rw [structL_members]
  exact typeSearch_members (ms.map memL) (List.forall_mem_map.mpr fun q hq => memL_ok q (hms q hq))
    (by rwa [List.map_map]) (LineOK_of_all _ (List.forall_mem_map.mpr fun q _ => by simp [memL]))
    -- the word `w0`, the stretch `J0` behind it and the text `tl` after the members; `w0` is a word, `J0` is junk,
    -- the first line of `tl` (it is empty) has no `];`
    "typedef".toList _ _ (by rw [typedef_chars]; simp) (by rw [typedef_chars]; decide)
    (junk_of_plain _ (by rw [struct_chars]; decide)) rfl (memL m) (List.mem_map_of_mem hm) _ (Nat.lt_succ_self _)

theorem columnsOf_structBody (ms : List (Str × Str × Str)) (hms : ∀ m ∈ ms, memOK m) :
    columnsOf (structBody ms) = ms.map (fun m => m.2.1) := by
  rw [structBody_bodyL, columnsOf_lay _ _ (List.forall_mem_map.mpr fun q hq => memL_ok q (hms q hq)) (by decide),
    List.map_map]
  rfl

end

theorem joinWith_cons (sep a : Str) (t : List Str) :
    joinWith sep (a :: t) = a ++ (t.map (sep ++ ·)).flatten := by
  induction t generalizing a with
  | nil => simp [joinWith]
  | cons b t ih => rw [joinWith, ih b]; simp

theorem joinWith_concat (sep : Str) (l : List Str) (z : Str) :
    joinWith sep (l ++ [z]) = (l.map (· ++ sep)).flatten ++ z := by
  induction l with
  | nil => rfl
  | cons a t ih =>
    cases ht : t ++ [z] with
    | nil => simp at ht
    | cons b r => rw [List.cons_append, ht, joinWith, ← ht, ih]; simp

theorem mem_joinWith (sep : Str) (l : List Str) (c : Char) (h : c ∈ joinWith sep l) :
    c ∈ sep ∨ ∃ a ∈ l, c ∈ a := by
  cases l with
  | nil => cases h
  | cons a t =>
    rw [joinWith_cons] at h
    simp only [List.mem_append, List.mem_flatten, List.mem_map] at h
    rcases h with h | ⟨_, ⟨b, hb, rfl⟩, h⟩
    · exact Or.inr ⟨a, by simp, h⟩
    · exact (List.mem_append.mp h).imp_right fun h => ⟨b, by simp [hb], h⟩

theorem stripCommas_line (x : Str) (h1 : ∀ c, x.head? = some c → c ≠ ',')
    (h2 : ∀ c, x.getLast? = some c → c ≠ ',') (hne : x ≠ []) : stripCommas (x ++ [',']) = x := by
  obtain ⟨a, t, rfl⟩ := List.exists_cons_of_ne_nil hne
  unfold stripCommas
  rw [dropWhile_head _ (a :: t ++ [',']) (fun c hc => by simpa using h1 c hc),
    List.reverse_append, List.reverse_singleton, List.singleton_append, List.dropWhile_cons_of_pos (by decide),
    dropWhile_head _ (a :: t).reverse (fun c hc => by
      rw [List.head?_reverse] at hc
      simpa using h2 c hc), List.reverse_reverse]

theorem enumText_shape (e : EnumDecl) (he : enumOK e = true) : enumText e = enumText' e := by
  obtain ⟨_, hne', hl⟩ := enumOK_props e he
  obtain ⟨init, last, hil⟩ : ∃ init last, e.labels = init ++ [last] :=
    ⟨e.labels.dropLast, e.labels.getLast hne', (List.dropLast_concat_getLast hne').symm⟩
  have hlast : wordy last := wordOK_wordy last (hl last (by simp [hil]))
  unfold enumText enumText' blockText enumBody
  simp only [hil, List.map_append, List.map_cons, List.map_nil, ← List.cons_append, List.dropLast_concat,
    List.getLastD_concat]
  rw [stripCommas_line]
  · -- both texts are their lines, each but the last with what separates it from the next
    rw [joinWith_concat, joinWith_concat]
    simp only [String.reduceToList, List.map_append, List.map_cons, List.map_nil, List.map_map,
      List.flatten_append, List.flatten_cons, List.flatten_nil, Function.comp_def, List.append_assoc,
      List.cons_append, List.nil_append]
  · intro c hc; simp at hc; subst hc; decide
  · intro c hc e
    subst e
    rcases List.mem_append.mp (List.mem_of_getLast? hc) with h | h
    · simp at h
    · exact wordy_not_mem last hlast ',' (by decide) h
  · simp

/-- a member line without its leading newline -/
def memberTail (m : Str × Str × Str) : Str := "    ".toList ++ m.1 ++ ' ' :: m.2.1 ++ m.2.2 ++ [';']

theorem memberLine_tail (m : Str × Str × Str) : memberLine m = '\n' :: memberTail m := by
  unfold memberLine memberTail
  rfl

theorem colLine_shape (enums : List EnumDecl) (c : Col) (h : supported c.ty = true) :
    colLine enums c = .ok (memberTail (member enums c)) := by
  rcases col_kinds enums c h with ⟨w, _, _, hss, hct, htw, hsuf, _⟩ |
    ⟨s, hss, _, ⟨e, hf, htw, hsuf, _⟩ | ⟨hf, htw, hsuf, _⟩⟩
  · simp only [colLine, memberTail, member, hss, hct, htw, hsuf, arrA]
  · simp only [colLine, memberTail, member, hss, hf, htw, hsuf, arrA]
  · simp only [colLine, memberTail, member, hss, hf, htw, hsuf, arrA, List.append_assoc]

theorem colLines_shape (enums : List EnumDecl) (cols : List Col) (h : ∀ c ∈ cols, supported c.ty = true) :
    colLines enums cols = .ok (cols.map (fun c => memberTail (member enums c))) := by
  induction cols with
  | nil => rfl
  | cons c cs ih =>
    simp only [colLines, colLine_shape enums c (h c (by simp)), ih (fun x hx => h x (by simp [hx])), List.map_cons]

theorem dtypeToStruct_shape (enums : List EnumDecl) (name : Str) (cols : List Col)
    (h : ∀ c ∈ cols, supported c.ty = true) :
    dtypeToStruct cols name enums = .ok (structText enums name cols) := by
  unfold dtypeToStruct structText blockText structBody
  rw [colLines_shape enums cols h]
  simp only [String.reduceToList, List.cons_append, List.nil_append, joinWith_cons, List.map_append, List.map_cons,
    List.map_nil, List.flatten_append, List.flatten_cons, List.flatten_nil, List.append_nil, List.append_assoc,
    List.map_map, Function.comp_def, ← memberLine_tail]

theorem structTexts_shape (enums : List EnumDecl) (ts : List (TableD F))
    (h : ∀ t ∈ ts, ∀ c ∈ t.cols, supported c.ty = true) :
    structTexts enums ts = .ok (ts.map (fun t => structText enums t.name t.cols)) := by
  induction ts with
  | nil => rfl
  | cons t ts ih =>
    simp only [structTexts, dtypeToStruct_shape enums t.name t.cols (h t (by simp)),
      ih (fun x hx => h x (by simp [hx]))]
    rfl

theorem member_ok (enums : List EnumDecl) (c : Col) (hc : colOK c = true) (he : ∀ e ∈ enums, enumOK e = true) :
    memOK (member enums c) := by
  have hc := colOK_parts c hc
  exact ⟨tyWord_wordy enums c hc.2 he, identOK_wordy _ hc.1, arrSuffix_arrOK enums c⟩

theorem structBody_plain (ms : List (Str × Str × Str)) (hms : ∀ m ∈ ms, memOK m) :
    ∀ c ∈ structBody ms, c ≠ '\\' ∧ c ≠ '{' ∧ c ≠ '}' := by
  rw [structBody_bodyL]
  exact YannyLay.body_plain _ _ (List.forall_mem_map.mpr fun q hq => memL_ok q (hms q hq)) (by decide)

theorem blockOK_of_plain (body name : Str) (hne : body ≠ []) (hp : ∀ c ∈ body, c ≠ '\\' ∧ c ≠ '{' ∧ c ≠ '}')
    (hn : wordOK name = true) : blockOK body (upper name) :=
  have hu := wordy_upper name (wordOK_wordy name hn)
  ⟨hne, fun h => (hp _ h).2.2 rfl, fun h => (hp _ h).2.1 rfl, hu.1, hu.2⟩

theorem structBody_blockOK (ms : List (Str × Str × Str)) (hms : ∀ m ∈ ms, memOK m) (name : Str)
    (hn : wordOK name = true) : blockOK (structBody ms) (upper name) :=
  blockOK_of_plain _ name (by simp [structBody]) (structBody_plain ms hms) hn

theorem typeOf_of_search (structs : List Str) (T text : Str) (enums : List EnumDecl) (c : Col)
    (hsel : selectDef structs T = some text)
    (hts : typeSearch c.name text = some (tyWord enums c, arrSuffix enums c)) :
    typeOf structs T c.name = .ok (typOf enums c) := by
  simp only [typeOf, hsel, hts, typOf]

/-- the written labels in `renderLabels` form: after every comma a newline and the indent `I` -/
theorem joinWith_renderLabels (I : Str) : ∀ labels : List Str, labels ≠ [] →
    ∃ lbl, renderLabels labels (List.replicate (labels.length - 1) ('\n' :: I)) = some lbl ∧
      joinWith [',', '\n'] (labels.map (I ++ ·)) = I ++ lbl
  | [], h => absurd rfl h
  | [a], _ => ⟨a, rfl, rfl⟩
  | a :: b :: t, _ => by
    obtain ⟨r, hr, e⟩ := joinWith_renderLabels I (b :: t) (by simp)
    refine ⟨a ++ ',' :: ('\n' :: I) ++ r, ?_, ?_⟩
    · simp only [List.length_cons, Nat.add_sub_cancel] at hr ⊢
      simp only [List.replicate_succ, renderLabels, hr]
    · simp only [List.map_cons, joinWith] at e ⊢
      rw [e]
      simp only [List.append_assoc, List.cons_append, List.nil_append]

theorem enumBody_renders (labels : List Str) (hne : labels ≠ []) :
    ∃ lbl, renderLabels labels (List.replicate (labels.length - 1) ['\n', ' ', ' ', ' ', ' ']) = some lbl ∧
      enumBody labels = ['\n', ' ', ' ', ' ', ' '] ++ lbl ++ ['\n'] := by
  obtain ⟨lbl, hr, e⟩ := joinWith_renderLabels [' ', ' ', ' ', ' '] labels hne
  refine ⟨lbl, hr, ?_⟩
  unfold enumBody
  simp only [String.reduceToList] at e ⊢
  rw [e]
  simp only [List.cons_append, List.nil_append]

theorem splitComma_enumBody (labels : List Str) (hne : labels ≠ []) (hl : ∀ l ∈ labels, wordOK l = true) :
    splitComma (strip (enumBody labels)) = labels := by
  obtain ⟨lbl, hr, hb⟩ := enumBody_renders labels hne
  rw [hb]
  refine YannyLay.splitComma_lay labels _ _ _ lbl (fun l h => wordOK_wordy l (hl l h)) ?_ (by decide) (by decide) hr
  intro w hw
  rw [List.eq_of_mem_replicate hw]
  decide

theorem enumBody_plain (labels : List Str) (hne : labels ≠ []) (hl : ∀ l ∈ labels, wordy l) :
    ∀ c ∈ enumBody labels, c ≠ '\\' ∧ c ≠ '{' ∧ c ≠ '}' := by
  obtain ⟨lbl, hr, hb⟩ := enumBody_renders labels hne
  have ws : ∀ c ∈ ['\n', ' ', ' ', ' ', ' '], c ≠ '\\' ∧ c ≠ '{' ∧ c ≠ '}' := by decide
  rw [hb]
  intro c hc
  simp only [List.mem_append] at hc
  rcases hc with (hc | hc) | hc
  · exact ws c hc
  · rcases YannyLay.renderLabels_chars _ _ _ hr c hc with ⟨a, ha, hca⟩ | rfl | ⟨w, hw, hcw⟩
    · exact YannyLay.wordCh_plain c ((hl a ha).2 c hca)
    · decide
    · exact ws c (List.eq_of_mem_replicate hw ▸ hcw)
  · exact ws c (List.mem_singleton.mp hc ▸ List.mem_cons_self)

theorem enumBody_blockOK (e : EnumDecl) (he : enumOK e = true) : blockOK (enumBody e.labels) (upper e.tyName) := by
  obtain ⟨hn, hne, hl⟩ := enumOK_props e he
  exact blockOK_of_plain _ _ (by simp [enumBody]) (enumBody_plain e.labels hne fun l h => wordOK_wordy l (hl l h)) hn

end PydlVerif.YannyRT
