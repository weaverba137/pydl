/-
C05: the occupancy bound of `chunks.assign`: one iteration (reset pass + append pass) adds at most one entry per VISITED
cell, and ranges of at most 3 bands with at most 3 indices each visit at most 9 cells.
-/
import PydlVerif.Model.FofGrid
import PydlVerif.Lemmas.SphereAssign
namespace PydlVerif.FofGrid
open PydlVerif.Sphere

def rowSum (f : Nat × Nat → Nat) (i m : Nat) : Nat := ((List.range m).map fun j => f (i, j)).sum

def tabSum (f : Nat × Nat → Nat) (nDec : Nat) (nRa : Array Nat) : Nat :=
  ((List.range nDec).map fun i => rowSum f i (nRa.getD i 0)).sum

theorem rowSum_succ (f : Nat × Nat → Nat) (i m : Nat) : rowSum f i (m + 1) = rowSum f i m + f (i, m) := by
  simp [rowSum, List.range_succ, List.map_append, List.sum_append]

theorem tabSum_succ (f : Nat × Nat → Nat) (k : Nat) (nRa : Array Nat) :
    tabSum f (k + 1) nRa = tabSum f k nRa + rowSum f k (nRa.getD k 0) := by
  simp [tabSum, List.range_succ, List.map_append, List.sum_append]

theorem rowSum_congr (f f' : Nat × Nat → Nat) (h : ∀ c, f' c = f c) (i m : Nat) : rowSum f' i m = rowSum f i m := by
  have : f' = f := funext h
  rw [this]

theorem rowSum_zero (f : Nat × Nat → Nat) (h : ∀ c, f c = 0) (i m : Nat) : rowSum f i m = 0 := by
  induction m with
  | zero => rfl
  | succ m ih => rw [rowSum_succ, ih, h]

theorem tabSum_zero (f : Nat × Nat → Nat) (h : ∀ c, f c = 0) (k : Nat) (nRa : Array Nat) : tabSum f k nRa = 0 := by
  induction k with
  | zero => rfl
  | succ k ih => rw [tabSum_succ, ih, rowSum_zero f h]

theorem rowSum_le (f f' : Nat × Nat → Nat) (c0 : Nat × Nat)
    (h : ∀ c, f' c ≤ f c + if c = c0 then 1 else 0) (i m : Nat) :
    rowSum f' i m ≤ rowSum f i m + if i = c0.1 ∧ c0.2 < m then 1 else 0 := by
  induction m with
  | zero => simp [rowSum]
  | succ m ih =>
    rw [rowSum_succ, rowSum_succ]
    have h1 := h (i, m)
    obtain ⟨a, b⟩ := c0
    simp only [Prod.mk.injEq] at h1
    dsimp only at ih ⊢
    have e : (if i = a ∧ b < m + 1 then 1 else 0) =
        (if i = a ∧ b < m then 1 else 0) + if i = a ∧ m = b then 1 else 0 := by
      split <;> split <;> split <;> omega
    omega

theorem tabSum_le (f f' : Nat × Nat → Nat) (c0 : Nat × Nat)
    (h : ∀ c, f' c ≤ f c + if c = c0 then 1 else 0) (k : Nat) (nRa : Array Nat) :
    tabSum f' k nRa ≤ tabSum f k nRa + if c0.1 < k then 1 else 0 := by
  induction k with
  | zero => simp [tabSum]
  | succ k ih =>
    rw [tabSum_succ, tabSum_succ]
    have h1 := rowSum_le f f' c0 h k (nRa.getD k 0)
    have e : (if c0.1 < k then 1 else 0) + (if k = c0.1 ∧ c0.2 < nRa.getD k 0 then 1 else 0) ≤
        if c0.1 < k + 1 then 1 else 0 := by
      split <;> split <;> split <;> omega
    omega

/-- total number of entries of the cell table -/
def occT (nDec : Nat) (nRa : Array Nat) (t : Tab CellSt) : Nat := tabSum (fun c => (t.get c).1.length) nDec nRa

theorem occ_eq (nDec : Nat) (nRa : Array Nat) (t : Tab CellSt) :
    ((cellLists nDec nRa t).map Array.size).sum = occT nDec nRa t := by
  have key : ∀ (l : List Nat) (F : Nat → List (Array Nat)),
      ((l.flatMap F).map Array.size).sum = (l.map fun i => ((F i).map Array.size).sum).sum := by
    intro l F
    induction l with
    | nil => rfl
    | cons x l ih => simp [List.flatMap_cons, List.map_append, List.sum_append, ih]
  unfold cellLists occT tabSum
  rw [key]
  congr 1
  apply List.map_congr_left
  intro i _
  simp only [rowSum, List.map_map]
  congr 1

theorem appStep_len (i : Nat) (t : Tab CellSt) (c0 c : Nat × Nat) :
    ((appStep i t c0).get c).1.length ≤ (t.get c).1.length + if c = c0 then 1 else 0 := by
  rw [appStep_get]
  split
  · rename_i h
    rw [if_pos h.1.symm]; simp
  · omega

theorem appendPass_occ (nDec : Nat) (nRa : Array Nat) (i : Nat) (cells : List (Nat × Nat)) (t : Tab CellSt) :
    occT nDec nRa (appendPass i t cells) ≤ occT nDec nRa t + cells.length := by
  induction cells generalizing t with
  | nil => exact Nat.le_refl _
  | cons c0 rest ih =>
    rw [appendPass_cons]
    have h1 := ih (appStep i t c0)
    have h2 : occT nDec nRa (appStep i t c0) ≤ occT nDec nRa t + if c0.1 < nDec then 1 else 0 :=
      tabSum_le _ _ c0 (fun c => appStep_len i t c0 c) nDec nRa
    simp only [List.length_cons]
    split at h2 <;> omega

theorem resetPass_occ (nDec : Nat) (nRa : Array Nat) (cells : List (Nat × Nat)) (t : Tab CellSt) :
    occT nDec nRa (resetPass t cells) = occT nDec nRa t := by
  unfold occT
  congr 1
  funext c
  rw [resetPass_fst]

theorem assignCells_occ (nDec : Nat) (nRa : Array Nat) (i : Nat) (t : Tab CellSt) (R V : List (Nat × Nat)) :
    occT nDec nRa (assignCells i t R V) ≤ occT nDec nRa t + V.length := by
  unfold assignCells
  have := appendPass_occ nDec nRa i V (resetPass t R)
  rw [resetPass_occ] at this
  exact this

theorem assignAll_occ (nDec : Nat) (nRa : Array Nat) (B n : Nat) (R V : Nat → List (Nat × Nat)) (init : Tab CellSt)
    (h0 : ∀ c, (init.get c).1 = []) (hV : ∀ i, i < n → (V i).length ≤ B) :
    occT nDec nRa (assignAll n R V init) ≤ B * n := by
  induction n with
  | zero =>
    have : occT nDec nRa init = 0 := tabSum_zero _ (fun c => by rw [h0 c]; rfl) nDec nRa
    simp [assignAll, this]
  | succ n ih =>
    rw [assignAll_succ]
    have h1 := assignCells_occ nDec nRa n (assignAll n R V init) (R n) (V n)
    have h2 := ih (fun i hi => hV i (by omega))
    have h3 := hV n (by omega)
    rw [Nat.mul_succ]
    omega

theorem flatMap_length_le {β γ : Type} (f : β → List γ) (b : Nat) (l : List β) (h : ∀ x ∈ l, (f x).length ≤ b) :
    (l.flatMap f).length ≤ b * l.length := by
  induction l with
  | nil => simp
  | cons x l ih =>
    rw [List.flatMap_cons, List.length_append, List.length_cons, Nat.mul_succ]
    have h1 := h x List.mem_cons_self
    have h2 := ih (fun y hy => h y (List.mem_cons_of_mem _ hy))
    omega

theorem irange_length (lo hi : Int) : (irange lo hi).length = (hi + 1 - lo).toNat := by
  simp [irange]

theorem cellsOfRange_length (nRa : Array Nat) (B : Bounds) (hn : B.ra.length ≤ 3)
    (hlen : ∀ x ∈ B.ra, (x.2 + 1 - x.1).toNat ≤ 3) : (cellsOfRange nRa B 0).length ≤ 9 := by
  unfold cellsOfRange
  have h1 := flatMap_length_le
    (fun (x : Nat × Int × Int) =>
      (irange (x.2.1 - 0) (x.2.2 + 0)).filterMap fun r => (wrapIdx (nRa.getD (x.1 + B.decMin) 0) r).map fun c =>
        (x.1 + B.decMin, c)) 3
    ((List.range (B.decMax + 1 - B.decMin)).zip B.ra) (by
      intro x hx
      have hx2 : x.2 ∈ B.ra := (List.of_mem_zip hx).2
      have := hlen x.2 hx2
      refine Nat.le_trans (List.length_filterMap_le _ _) ?_
      rw [irange_length]
      simp only [Int.sub_zero, Int.add_zero]
      exact this)
  have h2 : ((List.range (B.decMax + 1 - B.decMin)).zip B.ra).length ≤ 3 := by
    rw [List.length_zip]; omega
  calc _ ≤ 3 * ((List.range (B.decMax + 1 - B.decMin)).zip B.ra).length := h1
    _ ≤ 9 := by omega

end PydlVerif.FofGrid
