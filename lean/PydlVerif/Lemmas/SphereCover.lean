/-
C04: the cover over any linearly ordered field: the dec loops reach the band of p, the RA loops reach its cell in one band
including the 0/360 seam, and with the wrap index the cell of p is among the cells visited for q.
-/
import PydlVerif.Lemmas.SphereBracket
import PydlVerif.Lemmas.SphereBounds
import PydlVerif.Lemmas.SphereLoops
namespace PydlVerif.Sphere

section field
variable {K : Type} [Field K] [LinearOrder K] [IsStrictOrderedRing K] [FloorRing K]
attribute [local instance] fieldScalar
attribute [-instance] Scalar.instOfNat Scalar.instOfScientific

/-- `C04.dec_cover` with any fuel `f` that reaches `bp`, and `p` allowed ON the upper edge of its band -/
theorem dec_cover_mono (b : Array K) (nDec : Nat) (decq decp m : K) (d0 bp : Nat)
    (hmono : ∀ i j, i ≤ j → j ≤ nDec → b.getD i 0 ≤ b.getD j 0)
    (hd0 : d0 < nDec) (hbp : bp < nDec) (f : Nat) (hf : bp ≤ d0 + f)
    (hp : b.getD bp 0 ≤ decp ∧ decp ≤ b.getD (bp+1) 0)
    (hclose : |decq - decp| < m) :
    decDown b decq m d0 ≤ bp ∧ bp ≤ decUp b decq m d0 f := by
  have h2 := (abs_lt.1 hclose).2
  have h1 := (abs_lt.1 (abs_sub_comm decq decp ▸ hclose)).2
  exact ⟨(decDown_le_iff b decq m d0 bp).2 fun i hi hi' =>
      lt_of_le_of_lt (sub_le_sub_left (hp.2.trans (hmono (bp+1) i hi (hi'.trans hd0.le))) _) h2,
    (le_decUp_iff b decq m d0 f bp hf).2 fun i _ hi' =>
      lt_of_le_of_lt (sub_le_sub_right ((hmono (i+1) bp hi' hbp.le).trans hp.1) _) h1⟩

theorem dec_cover_edges {b : Array K} {nDec : Nat} (he : EdgesOK b nDec) (decq decp m : K) (d0 bp : Nat)
    (hd0 : d0 < nDec) (hbp : bp < nDec)
    (hp : b.getD bp 0 ≤ decp ∧ decp ≤ b.getD (bp+1) 0)
    (hclose : |decq - decp| < m) :
    decDown b decq m d0 ≤ bp ∧ bp ≤ decUp b decq m d0 (nDec - 1 - d0) :=
  dec_cover_mono b nDec decq decp m d0 bp he.mono hd0 hbp _ (by omega) hp hclose

/-- RA cover of one band INCLUDING the seam, with DIRECTED distances on the circle (`q` second list, its own cell `r0`; `p`
first list, cell `jp`).  The downward loop reaches `p` when the way from `q` down to `p` (straight, or through 0 = 360) is
AT MOST the margin `M`, since `p` lies strictly below the upper edge of its cell; the upward loop needs the way up BELOW the
margin.  At most ONE wrap cell (index -1 or nRa) is ever needed. -/
theorem ra_cover_directed {b : Array K} {n : Nat} (he : EdgesOK b n) (q p M : K) (r0 jp : Nat)
    (hr0 : r0 < n) (hjp : jp < n)
    (hq : b.getD r0 0 ≤ q ∧ q < b.getD (r0+1) 0) (hp : b.getD jp 0 ≤ p ∧ p < b.getD (jp+1) 0)
    (hp0 : 0 ≤ p) (hq0 : 0 ≤ q) (hp360 : p < 360) (hq360 : q < 360)
    (hclose : (p ≤ q ∧ q - p ≤ M) ∨ (q ≤ p ∧ q + 360 - p ≤ M) ∨ (q ≤ p ∧ p - q < M) ∨ (p ≤ q ∧ p + 360 - q < M))
    (hseam : (b.getD 0 0 = 0 ∧ b.getD n 0 = 360 ∧ M ≤ b.getD 1 0 - b.getD 0 0) ∨
      M ≤ b.getD 0 0 + 360 - b.getD n 0) :
    ∃ r : Int, raDown b q M r0 ≤ r ∧ r ≤ ((raUp b q M r0 (n - r0) : Nat) : Int) ∧
      (r % (n : Int)).toNat = jp := by
  have hn : (0 : Int) < n := by exact_mod_cast he.pos
  -- a band that stays away from the seam is shorter than the way through the seam
  have hgap : ∀ x y : K, b.getD 0 0 ≤ x → y < b.getD n 0 → x + 360 - y ≤ M → M ≤ b.getD 0 0 + 360 - b.getD n 0 → False :=
    fun x y hx hy hc hg => by linarith only [hx, hy, hc, hg]
  have hqlo := (he.mono 0 r0 (Nat.zero_le r0) hr0.le).trans hq.1
  have hqhi := hq.2.trans_le (he.mono (r0+1) n hr0 (le_refl n))
  have hplo := (he.mono 0 jp (Nat.zero_le jp) hjp.le).trans hp.1
  have hphi := hp.2.trans_le (he.mono (jp+1) n hjp (le_refl n))
  rw [raUp_eq_decUp]
  rcases hclose with ⟨hpq, hc⟩ | ⟨hqp, hc⟩ | ⟨hqp, hc⟩ | ⟨hpq, hc⟩
  · -- straight down: the cell of p is not above that of q, and every edge between them lies above p
    have hle : jp ≤ r0 := Nat.not_lt.1 fun h =>
      absurd (hq.2.trans_le ((he.mono (r0+1) jp h hjp.le).trans hp.1)) (not_lt.2 hpq)
    refine ⟨jp, (raDown_le_iff b q M r0 jp (by omega)).2 fun i h1 h2 => ?_,
      by exact_mod_cast hle.trans (decUp_ge b q M r0 _), by rw [Int.emod_eq_of_lt (by omega) (by omega)]; rfl⟩
    linarith only [he.mono (jp+1) i (by omega) (h2.trans hr0.le), hp.2, hc]
  · -- down through the seam: the loop runs to -1, which wraps onto the last cell, where p lies
    rcases hseam with ⟨hb0, hbn, hM⟩ | hg
    · have hjn : jp + 1 = n := by
        by_contra hne
        -- else p lies below the last cell, which is at least M wide
        have hstep := he.step (n - 1) (by omega)
        rw [show n - 1 + 1 = n by omega, ← he.step 0 he.pos] at hstep
        linarith only [he.mono (jp+1) (n - 1) (by omega) (by omega), hstep, hp.2, hM, hbn, hc, hq0]
      refine ⟨-1, (raDown_le_iff b q M r0 (-1) (Int.le_refl _)).2 fun i _ hi => ?_, ?_, ?_⟩
      · linarith only [he.mono 0 i (Nat.zero_le i) (hi.trans hr0.le), hb0, hc, hp360]
      · have := decUp_ge b q M r0 (n - r0); omega
      · have : (-1 : Int) % (n : Int) = (n : Int) - 1 := by
          rw [Int.emod_eq_add_self_emod, Int.emod_eq_of_lt (by omega) (by omega)]; omega
        rw [this]; omega
    · exact (hgap q p hqlo hphi hc hg).elim
  · -- straight up
    have hle : r0 ≤ jp := Nat.not_lt.1 fun h =>
      absurd (hp.2.trans_le ((he.mono (jp+1) r0 h hr0.le).trans hq.1)) (not_lt.2 hqp)
    refine ⟨jp, (raDown_le b q M r0).trans (by exact_mod_cast hle), ?_, by rw [Int.emod_eq_of_lt (by omega) (by omega)]; rfl⟩
    have := (le_decUp_iff b q M r0 (n - r0) jp (by omega)).2 fun i _ h2 => by
      linarith only [he.mono (i+1) jp h2 hjp.le, hp.1, hc]
    exact_mod_cast this
  · -- up through the seam: the loop runs to nRa, which wraps onto cell 0, where p lies
    rcases hseam with ⟨hb0, hbn, hM⟩ | hg
    · have hup := (le_decUp_iff b q M r0 (n - r0) n (by omega)).2 fun i _ h2 => by
        linarith only [he.mono (i+1) n h2 (le_refl n), hbn, hc, hp0]
      have hj0 : jp = 0 := by
        by_contra hne
        linarith only [he.mono 1 jp (Nat.pos_of_ne_zero hne) hjp.le, hp.1, hM, hb0, hc, hq360]
      refine ⟨(n : Int), ?_, by exact_mod_cast hup, by rw [Int.emod_self, hj0]; rfl⟩
      have := raDown_le b q M r0; omega
    · exact (hgap p q hplo hqhi hc.le hg).elim

/-- C04: in one band, seam included, the RA range that `getbounds` returns for q holds an index that wraps onto the cell of p when their difference
on the circle is below the margin (`ra_cover_directed` in either direction) -/
theorem ra_cover_band {b : Array K} {n : Nat} (he : EdgesOK b n) (q p M : K) (r0 jp : Nat)
    (hr0 : r0 < n) (hjp : jp < n)
    (hq : b.getD r0 0 ≤ q ∧ q < b.getD (r0+1) 0) (hp : b.getD jp 0 ≤ p ∧ p < b.getD (jp+1) 0)
    (hp0 : 0 ≤ p) (hq0 : 0 ≤ q) (hp360 : p < 360) (hq360 : q < 360)
    (hclose : |q - p| < M ∨ 360 - |q - p| < M)
    (hseam : (b.getD 0 0 = 0 ∧ b.getD n 0 = 360 ∧ M ≤ b.getD 1 0 - b.getD 0 0) ∨
      M ≤ b.getD 0 0 + 360 - b.getD n 0) :
    ∃ r : Int, raDown b q M r0 ≤ r ∧ r ≤ ((raUp b q M r0 (n - r0) : Nat) : Int) ∧
      (r % (n : Int)).toNat = jp := by
  refine ra_cover_directed he q p M r0 jp hr0 hjp hq hp hp0 hq0 hp360 hq360 ?_ hseam
  rcases le_total p q with h | h
  · rw [abs_of_nonneg (sub_nonneg.2 h)] at hclose
    exact hclose.elim (fun hc => Or.inl ⟨h, hc.le⟩) fun hc => Or.inr (Or.inr (Or.inr ⟨h, by linarith only [hc]⟩))
  · rw [abs_of_nonpos (sub_nonpos.2 h)] at hclose
    exact hclose.elim (fun hc => Or.inr (Or.inr (Or.inl ⟨h, by linarith only [hc]⟩)))
      fun hc => Or.inr (Or.inl ⟨h, by linarith only [hc]⟩)

end field

section grid
variable {K : Type} [Field K] [LinearOrder K] [IsStrictOrderedRing K] [FloorRing K] [TrigFns K]
attribute [local instance] fieldScalar fieldTrig
attribute [-instance] Scalar.instOfNat Scalar.instOfScientific

/-- composition of the dec cover, the RA cover of band bp and the wrap index: the cell (bp, jp) that `get` names for p is one
of the cells that `assign` visits for q -/
theorem cell_visited (g : Grid K) (hdec : EdgesOK g.decBounds g.nDec)
    (hra : ∀ d, d < g.nDec → EdgesOK (g.raBounds.getD d #[]) (g.nRa.getD d 0))
    (αp δp αq δq m : K) (bp jp : Nat) (B : Bounds)
    (hget : get g αp δp = .ok (bp, jp)) (hB : getbounds g αq δq m = .ok B)
    (hp0 : 0 ≤ αp) (hp360 : αp < 360) (hq0 : 0 ≤ αq) (hq360 : αq < 360)
    (hdclose : |δq - δp| < m)
    (hrclose : |αq - αp| < raMarginOf (cosDecMinOf g.decBounds bp) δq m ∨
      360 - |αq - αp| < raMarginOf (cosDecMinOf g.decBounds bp) δq m)
    (hseam : SeamOK g bp δq m) :
    (bp, jp) ∈ cellsOfRange g.nRa B 0 := by
  obtain ⟨hbp, hjp, hpd, hpr⟩ := get_bracket g αp δp bp jp hdec hra hget
  obtain ⟨d0, _, hd0n, hmin, hmax, _, hband⟩ := getbounds_inv g αq δq m B hB
  obtain ⟨h1, h2⟩ := dec_cover_edges hdec δq δp m d0 bp hd0n hbp ⟨hpd.1, hpd.2.1⟩ hdclose
  rw [← hmin] at h1
  rw [← hmax] at h2
  obtain ⟨r0, hr0, hr0n, hk⟩ := hband bp h1 h2
  have hq := cellIndex_bracket (hra bp hbp) αq r0 hr0n hr0
  obtain ⟨r, hr1, hr2, hr3⟩ := ra_cover_band (hra bp hbp) αq αp _ r0 jp hr0n hjp hq hpr hp0 hq0 hp360 hq360
    hrclose hseam
  refine mem_cellsOfRange g.nRa B bp jp _ _ r h1 h2 hk hr1 hr2 ?_
  rw [wrapIdx_eq _ (hra bp hbp).pos, hr3]

theorem cellsOfPoint_ok {g : Grid K} {ra dec : Array K} {m : K} {i : Nat} {B : Bounds} (w : Int)
    (hB : getbounds g (fmod360 (ra.getD i 0 + g.raOffset)) (dec.getD i 0) m = .ok B) :
    cellsOfPoint g ra dec m w i = cellsOfRange g.nRa B w := by
  unfold cellsOfPoint
  simp only [scalar_zero]
  rw [hB]

end grid
end PydlVerif.Sphere
