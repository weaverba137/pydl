/-
C04: the model's own `gcircDeg` at Mathlib's real functions is the haversine expression of Lemmas/Haversine.lean; against a
haversine bound stands the corrected RA margin of `getbounds` (`ra_margin_of_hav`; the audited `C04.ra_cover_fixed_of_hav` and
`C04.ra_cover_fixed` are declared here).
-/
import PydlVerif.Model.Sphere
import PydlVerif.Lemmas.RealTrig
import PydlVerif.Lemmas.Haversine
namespace PydlVerif.Sphere
open Real

theorem cos_cos_hav_le (x y t : ℝ) : cos x * cos y * sin (t / 2) ^ 2 ≤ sin (havAngle x y t / 2) ^ 2 := by
  rw [sin_sq_half_havAngle]
  exact le_add_of_nonneg_left (sq_nonneg _)

theorem abs_ddec_le_havAngle (x y t : ℝ) (hc : 0 ≤ cos x * cos y) (hxy : |y - x| ≤ π) :
    |y - x| ≤ havAngle x y t := by
  obtain ⟨hr0, hr1⟩ := havAngle_range x y t
  have hpi := Real.pi_pos
  by_contra hlt
  rw [not_le] at hlt
  -- then sin²(d/2) < sin²(|Δδ|/2) = sin²(Δδ/2), which is one of the two terms of sin²(d/2)
  have h1 : sin (havAngle x y t / 2) < sin (|y - x| / 2) :=
    Real.sin_lt_sin_of_lt_of_le_pi_div_two (by linarith only [hr0, hpi]) (by linarith only [hxy])
      (by linarith only [hlt])
  have h0 : 0 ≤ sin (havAngle x y t / 2) :=
    Real.sin_nonneg_of_nonneg_of_le_pi (by linarith only [hr0]) (by linarith only [hr1, hpi])
  have h2 : sin (havAngle x y t / 2) ^ 2 < sin (|y - x| / 2) ^ 2 := pow_lt_pow_left₀ h1 h0 (by norm_num)
  have h3 : sin (|y - x| / 2) ^ 2 = sin ((y - x) / 2) ^ 2 := by
    rw [Real.sin_sq, Real.sin_sq, ← Real.cos_abs ((y - x) / 2), abs_div, abs_two]
  rw [h3, sin_sq_half_havAngle] at h2
  exact absurd h2 (not_lt.2 (le_add_of_nonneg_right (mul_nonneg hc (sq_nonneg _))))

theorem gcircDeg_real (a1 d1 a2 d2 : ℝ) :
    @gcircDeg ℝ realTrig a1 d1 a2 d2 =
      havAngle (d1 * (π / 180)) (d2 * (π / 180)) (a2 * (π / 180) - a1 * (π / 180)) * (180 / π) := by
  unfold gcircDeg deg2rad rad2deg havAngle havExpr
  simp only [scalar_lit]
  push_cast
  have : ∀ z : ℝ, z * 3600 / 3600 = z := fun z => by ring
  rw [this]
  simp only [sq, mul_assoc]
  rfl

/-- the step of the corrected RA margin (fix D5): from cp·cq·sin²x ≤ sin²z and c ≤ cp to x ≤ arcsin (sin z / √(c·cq)), which is why `raMarginOf`
divides by √(cosDecMin · cos δq) -/
theorem half_rad_arcsin (c cq cp x z : ℝ) (hc : 0 < c) (hcp : c ≤ cp) (hcq : 0 < cq)
    (hx : 0 ≤ x) (hx2 : x ≤ π / 2) (hz : 0 ≤ z) (hz2 : z ≤ π / 2) (hs : sin z / sqrt (c * cq) < 1) :
    (cp * cq * sin x ^ 2 < sin z ^ 2 → x < arcsin (sin z / sqrt (c * cq))) ∧
    (cp * cq * sin x ^ 2 ≤ sin z ^ 2 → x ≤ arcsin (sin z / sqrt (c * cq))) := by
  have hpi := Real.pi_pos
  have hpos : 0 < c * cq := mul_pos hc hcq
  have hsq : 0 < sqrt (c * cq) := Real.sqrt_pos.2 hpos
  have hsz : 0 ≤ sin z := Real.sin_nonneg_of_nonneg_of_le_pi hz (by linarith only [hz2, hpi])
  have hmem : sin z / sqrt (c * cq) ∈ Set.Icc (-1 : ℝ) 1 := ⟨by linarith only [div_nonneg hsz hsq.le], hs.le⟩
  have hxm : x ∈ Set.Icc (-(π / 2)) (π / 2) := ⟨by linarith only [hx, hpi], hx2⟩
  -- compare squares: (sin x · √(c cq))² = sin²x · c cq ≤ cp cq sin²x
  have hle : (sin x * sqrt (c * cq)) ^ 2 ≤ cp * cq * sin x ^ 2 := by
    rw [mul_pow, Real.sq_sqrt hpos.le]
    have := mul_le_mul_of_nonneg_right hcp (mul_nonneg hcq.le (sq_nonneg (sin x)))
    linarith only [this]
  constructor
  · intro h
    rw [Real.lt_arcsin_iff_sin_lt hxm hmem, lt_div_iff₀ hsq]
    exact lt_of_pow_lt_pow_left₀ 2 hsz (lt_of_le_of_lt hle h)
  · intro h
    rw [Real.le_arcsin_iff_sin_le hxm hmem, le_div_iff₀ hsq]
    exact le_of_pow_le_pow_left₀ two_ne_zero hsz (le_trans hle h)

theorem raMarginOf_real (c δq m : ℝ) :
    @raMarginOf ℝ realTrig c δq m =
      if sin (0.5 * m * (π / 180)) / sqrt (c * cos (δq * (π / 180))) < 1
      then 2 * (arcsin (sin (0.5 * m * (π / 180)) / sqrt (c * cos (δq * (π / 180)))) * (180 / π)) else 360 := by
  unfold raMarginOf deg2rad rad2deg cosd
  simp only [scalar_lit, scalar_sci]
  push_cast
  rfl

/-- a bound on half an angle in radians, back in degrees: the form of `raMarginOf` -/
theorem deg_of_half_rad {x A : ℝ} :
    (x / 2 * (π / 180) < A → x < 2 * (A * (180 / π))) ∧ (x / 2 * (π / 180) ≤ A → x ≤ 2 * (A * (180 / π))) := by
  have h180 : 0 < 180 / π := div_pos (by norm_num) Real.pi_pos
  constructor
  · intro h
    have := mul_lt_mul_of_pos_right h h180
    rw [deg_mul_cancel] at this
    linarith only [this]
  · intro h
    have := mul_le_mul_of_nonneg_right h h180.le
    rw [deg_mul_cancel] at this
    linarith only [this]

theorem ra_margin_of_hav (c δq δp m Δ : ℝ) (hc : 0 < c) (hcp : c ≤ cos (δp * (π / 180)))
    (hcq : 0 < cos (δq * (π / 180))) (hΔ0 : 0 ≤ Δ) (hΔ : Δ ≤ 180) (hm0 : 0 ≤ m) (hm : m ≤ 180) :
    (cos (δp * (π / 180)) * cos (δq * (π / 180)) * sin (Δ / 2 * (π / 180)) ^ 2 < sin (m / 2 * (π / 180)) ^ 2 →
      Δ < @raMarginOf ℝ realTrig c δq m) ∧
    (cos (δp * (π / 180)) * cos (δq * (π / 180)) * sin (Δ / 2 * (π / 180)) ^ 2 ≤ sin (m / 2 * (π / 180)) ^ 2 →
      Δ ≤ @raMarginOf ℝ realTrig c δq m) := by
  rw [raMarginOf_real, show (0.5 : ℝ) * m * (π / 180) = m / 2 * (π / 180) by ring]
  split
  · rename_i hs
    obtain ⟨hx, hx2⟩ := half_deg_mem hΔ0 hΔ
    obtain ⟨hz, hz2⟩ := half_deg_mem hm0 hm
    obtain ⟨hlt, hle⟩ := half_rad_arcsin c _ _ _ _ hc hcp hcq hx hx2 hz hz2 hs
    exact ⟨fun h => deg_of_half_rad.1 (hlt h), fun h => deg_of_half_rad.2 (hle h)⟩
  · exact ⟨fun _ => lt_of_le_of_lt hΔ (by norm_num), fun _ => hΔ.trans (by norm_num)⟩

/-- the corrected RA margin of getbounds (fix D5) from the haversine inequality AS A HYPOTHESIS
(`hav`): the part of `ra_cover_fixed` that does not depend on how the separation is computed -/
theorem _root_.PydlVerif.C04.ra_cover_fixed_of_hav (c δq δp m Δ d : ℝ) (hc : 0 < c) (hcp : c ≤ cos (δp * (π / 180)))
    (hcq : 0 < cos (δq * (π / 180))) (hΔ0 : 0 ≤ Δ) (hΔ : Δ ≤ 180) (hd0 : 0 ≤ d) (hdm : d < m)
    (hm : m ≤ 180)
    (hav : cos (δp * (π / 180)) * cos (δq * (π / 180)) * sin (Δ / 2 * (π / 180)) ^ 2
            ≤ sin (d / 2 * (π / 180)) ^ 2) :
    Δ < @raMarginOf ℝ realTrig c δq m := by
  refine (ra_margin_of_hav c δq δp m Δ hc hcp hcq hΔ0 hΔ (hd0.trans hdm.le) hm).1 (lt_of_le_of_lt hav ?_)
  -- the haversine increases on [0°, 180°]
  obtain ⟨h0, -⟩ := half_deg_mem hd0 (hdm.le.trans hm)
  obtain ⟨-, h1⟩ := half_deg_mem (hd0.trans hdm.le) hm
  have hlt : d / 2 * (π / 180) < m / 2 * (π / 180) := mul_lt_mul_of_pos_right (by linarith only [hdm]) deg_pos
  exact pow_lt_pow_left₀
    (Real.sin_lt_sin_of_lt_of_le_pi_div_two (by linarith only [h0, Real.pi_pos]) h1 hlt)
    (Real.sin_nonneg_of_nonneg_of_le_pi h0 (by linarith only [hlt, h1, Real.pi_pos])) two_ne_zero

theorem gcirc_half (a1 d1 a2 d2 : ℝ) :
    @gcircDeg ℝ realTrig a1 d1 a2 d2 / 2 * (π / 180) =
      havAngle (d1 * (π / 180)) (d2 * (π / 180)) (a2 * (π / 180) - a1 * (π / 180)) / 2 := by
  rw [gcircDeg_real, mul_div_right_comm, rad_mul_cancel]

theorem gcirc_range (a1 d1 a2 d2 : ℝ) :
    0 ≤ @gcircDeg ℝ realTrig a1 d1 a2 d2 ∧ @gcircDeg ℝ realTrig a1 d1 a2 d2 ≤ 180 := by
  rw [gcircDeg_real]
  obtain ⟨h0, h1⟩ := havAngle_range (d1 * (π / 180)) (d2 * (π / 180)) (a2 * (π / 180) - a1 * (π / 180))
  have hk : 0 < 180 / π := div_pos (by norm_num) Real.pi_pos
  refine ⟨mul_nonneg h0 hk.le, (mul_le_mul_of_nonneg_right h1 hk.le).trans_eq ?_⟩
  rw [mul_div_assoc', mul_comm, mul_div_assoc, div_self Real.pi_pos.ne', mul_one]

/-- the corrected RA margin of getbounds (fix D5), over ℝ, degrees as in the code: p = (a1, δp) is a point of a band whose
extreme-declination cosine is `c`, q = (a2, δq); if their separation as computed by the model's own `gcircDeg` (the
haversine formula of goddard `gcirc`) is below m ≤ 180°, then their RA difference on the circle (`Δ`, any angle in [0°, 180°]
with the haversine of a2 - a1) is below `raMarginOf c δq m`, the bound the RA loops use. -/
theorem _root_.PydlVerif.C04.ra_cover_fixed (c a1 δp a2 δq m Δ : ℝ) (hc : 0 < c) (hcp : c ≤ cos (δp * (π / 180)))
    (hcq : 0 < cos (δq * (π / 180))) (hΔ0 : 0 ≤ Δ) (hΔ : Δ ≤ 180) (hm : m ≤ 180)
    (hΔs : sin (Δ / 2 * (π / 180)) ^ 2 = sin ((a2 * (π / 180) - a1 * (π / 180)) / 2) ^ 2)
    (hclose : @gcircDeg ℝ realTrig a1 δp a2 δq < m) :
    Δ < @raMarginOf ℝ realTrig c δq m := by
  apply C04.ra_cover_fixed_of_hav c δq δp m Δ _ hc hcp hcq hΔ0 hΔ (gcirc_range a1 δp a2 δq).1 hclose hm
  rw [hΔs, gcirc_half]
  exact cos_cos_hav_le _ _ _

theorem ddec_le_gcirc (a1 δp a2 δq : ℝ) (hp : |δp| < 90) (hq : |δq| < 90) :
    |δq - δp| ≤ @gcircDeg ℝ realTrig a1 δp a2 δq := by
  have h := abs_ddec_le_havAngle (δp * (π / 180)) (δq * (π / 180)) (a2 * (π / 180) - a1 * (π / 180))
    (mul_pos (cos_deg_pos hp) (cos_deg_pos hq)).le (by
      rw [← sub_mul, abs_mul, abs_of_pos deg_pos]
      exact deg_le_pi (by linarith only [abs_sub δq δp, hp, hq]))
  rw [← sub_mul, abs_mul, abs_of_pos deg_pos] at h
  rw [gcircDeg_real]
  calc |δq - δp| = |δq - δp| * (π / 180) * (180 / π) := (deg_mul_cancel _).symm
    _ ≤ _ := mul_le_mul_of_nonneg_right h (div_pos (by norm_num) Real.pi_pos).le

end PydlVerif.Sphere
