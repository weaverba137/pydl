/-
C04: for equally spaced edges the floor-formula index of `chunks.get` / `chunks.getbounds` is the cell whose tabulated edges
bracket the point (any linearly ordered field with floor).
-/
import PydlVerif.Lemmas.SphereGridDef
namespace PydlVerif.Sphere

section
variable {K : Type} [Field K] [LinearOrder K] [IsStrictOrderedRing K] [FloorRing K]
attribute [local instance] fieldScalar
attribute [-instance] Scalar.instOfNat Scalar.instOfScientific

theorem cellIndex_field (b : Array K) (n : Nat) (x : K) :
    cellIndex b n x = ⌊(x - b.getD 0 0) * (n : K) / (b.getD n 0 - b.getD 0 0)⌋ := by
  unfold cellIndex
  simp only [scalar_zero, scalar_floor, scalar_ofNat]

theorem EdgesOK.strictMono {b : Array K} {n : Nat} (h : EdgesOK b n) (i j : Nat) (hij : i < j) (hj : j ≤ n) :
    b.getD i 0 < b.getD j 0 := by
  rw [h.lin i (by omega), h.lin j hj]
  have hn : (0 : K) < n := by exact_mod_cast h.pos
  have hij' : (i : K) < j := by exact_mod_cast hij
  exact (add_lt_add_iff_left _).2 (div_lt_div_of_pos_right (mul_lt_mul_of_pos_left hij' (sub_pos.2 h.lt)) hn)

theorem EdgesOK.mono {b : Array K} {n : Nat} (h : EdgesOK b n) (i j : Nat) (hij : i ≤ j) (hj : j ≤ n) :
    b.getD i 0 ≤ b.getD j 0 := by
  rcases Nat.eq_or_lt_of_le hij with rfl | hlt
  · exact le_refl _
  · exact (h.strictMono i j hlt hj).le

omit [IsStrictOrderedRing K] in
theorem EdgesOK.step {b : Array K} {n : Nat} (h : EdgesOK b n) (k : Nat) (hk : k + 1 ≤ n) :
    b.getD (k + 1) 0 - b.getD k 0 = (b.getD n 0 - b.getD 0 0) / (n : K) := by
  rw [h.lin (k + 1) hk, h.lin k (by omega)]
  push_cast
  ring

theorem EdgesOK.le_iff {b : Array K} {n : Nat} (h : EdgesOK b n) (x : K) (k : Nat) (hk : k ≤ n) :
    b.getD k 0 ≤ x ↔ (k : K) ≤ (x - b.getD 0 0) * (n : K) / (b.getD n 0 - b.getD 0 0) := by
  have hn : (0 : K) < n := by exact_mod_cast h.pos
  rw [h.lin k hk, le_div_iff₀ (sub_pos.2 h.lt), ← le_sub_iff_add_le', div_le_iff₀ hn, mul_comm]

theorem EdgesOK.lt_iff {b : Array K} {n : Nat} (h : EdgesOK b n) (x : K) (k : Nat) (hk : k ≤ n) :
    x < b.getD k 0 ↔ (x - b.getD 0 0) * (n : K) / (b.getD n 0 - b.getD 0 0) < (k : K) := by
  rw [← not_le, ← not_le, h.le_iff x k hk]

/-- the index computed by the floor formula names the cell whose tabulated edges
bracket the point: `b[i] ≤ x < b[i+1]` -/
theorem cellIndex_bracket {b : Array K} {n : Nat} (h : EdgesOK b n) (x : K) (i : Nat) (hi : i < n)
    (hc : cellIndex b n x = (i : Int)) : b.getD i 0 ≤ x ∧ x < b.getD (i + 1) 0 := by
  rw [cellIndex_field, Int.floor_eq_iff, Int.cast_natCast] at hc
  exact ⟨(h.le_iff x i (by omega)).2 hc.1,
    (h.lt_iff x (i + 1) (by omega)).2 (by rw [Nat.cast_succ]; exact hc.2)⟩

theorem cellIndex_nonneg {b : Array K} {n : Nat} (h : EdgesOK b n) (x : K) (hx : b.getD 0 0 ≤ x) :
    0 ≤ cellIndex b n x := by
  rw [cellIndex_field]
  have := (h.le_iff x 0 (Nat.zero_le n)).1 hx
  rw [Nat.cast_zero] at this
  exact Int.floor_nonneg.2 this

theorem cellIndex_lt {b : Array K} {n : Nat} (h : EdgesOK b n) (x : K) (hx : x < b.getD n 0) :
    cellIndex b n x < (n : Int) := by
  rw [cellIndex_field, Int.floor_lt, Int.cast_natCast]
  exact (h.lt_iff x n (le_refl n)).1 hx

theorem cellIndex_last {b : Array K} {n : Nat} (h : EdgesOK b n) : cellIndex b n (b.getD n 0) = (n : Int) := by
  rw [cellIndex_field]
  have hw : b.getD n 0 - b.getD 0 0 ≠ 0 := (sub_pos.2 h.lt).ne'
  rw [mul_comm, mul_div_assoc, div_self hw, mul_one]
  exact Int.floor_natCast n

theorem cellIndex_unique {b : Array K} {n : Nat} (h : EdgesOK b n) (x : K) (j : Nat) (hj : j < n)
    (hx : b.getD j 0 ≤ x ∧ x < b.getD (j + 1) 0) : cellIndex b n x = (j : Int) := by
  rw [cellIndex_field, Int.floor_eq_iff, Int.cast_natCast]
  exact ⟨(h.le_iff x j (by omega)).1 hx.1,
    by rw [← Nat.cast_succ]; exact (h.lt_iff x (j + 1) (by omega)).1 hx.2⟩

end

theorem get_ok_iff {α : Type} [Trig α] (g : Grid α) (a δ : α) (d r : Nat) :
    get g a δ = .ok (d, r) ↔ decIndex g δ = (d : Int) ∧ d < g.nDec ∧
      cellIndex (g.raBounds.getD d #[]) (g.nRa.getD d 0) a = (r : Int) ∧ r < g.nRa.getD d 0 := by
  unfold get
  simp only [bind, Except.bind, pure, Except.pure]
  constructor
  · intro h
    split at h
    · split at h
      · cases h
      · simp only [Except.ok.injEq, Prod.mk.injEq] at h
        obtain ⟨h1, h2⟩ := h
        subst h1
        subst h2
        refine ⟨by omega, by omega, by omega, by omega⟩
    · cases h
  · rintro ⟨h0, h1, h2, h3⟩
    rw [h0, if_pos ⟨by omega, by omega⟩]
    simp only [Int.toNat_natCast, h2]
    rw [if_neg (by omega)]

section
variable {K : Type} [Field K] [LinearOrder K] [IsStrictOrderedRing K] [FloorRing K] [TrigFns K]
attribute [local instance] fieldScalar fieldTrig
attribute [-instance] Scalar.instOfNat Scalar.instOfScientific

theorem decIndex_field (g : Grid K) (dec : K) :
    decIndex g dec = if cellIndex g.decBounds g.nDec dec = (g.nDec : Int) ∧ dec ≤ g.decBounds.getD g.nDec 0
      then (g.nDec : Int) - 1 else cellIndex g.decBounds g.nDec dec := by
  unfold decIndex
  simp only [scalar_zero]

/-- the declination band of `get`/`getbounds` (floor formula + upper-boundary rule): its edges
bracket the point, `b[i] ≤ dec ≤ b[i+1]`, strictly on the right except ON the last edge -/
theorem decIndex_bracket (g : Grid K) (h : EdgesOK g.decBounds g.nDec) (dec : K) (i : Nat) (hi : i < g.nDec)
    (hc : decIndex g dec = (i : Int)) :
    g.decBounds.getD i 0 ≤ dec ∧ dec ≤ g.decBounds.getD (i + 1) 0 ∧
    (dec < g.decBounds.getD (i + 1) 0 ∨ (i + 1 = g.nDec ∧ dec = g.decBounds.getD g.nDec 0)) := by
  rw [decIndex_field] at hc
  split at hc
  · rename_i hcl
    have hin : i + 1 = g.nDec := by omega
    have heq : dec = g.decBounds.getD g.nDec 0 :=
      le_antisymm hcl.2 (not_lt.1 fun hlt => by have := cellIndex_lt h dec hlt; omega)
    refine ⟨?_, ?_, Or.inr ⟨hin, heq⟩⟩
    · rw [heq]; exact h.mono i g.nDec (by omega) (by omega)
    · rw [hin]; exact hcl.2
  · obtain ⟨h1, h2⟩ := cellIndex_bracket h dec i hi hc
    exact ⟨h1, h2.le, Or.inl h2⟩

theorem decIndex_range (g : Grid K) (h : EdgesOK g.decBounds g.nDec) (dec : K)
    (h0 : g.decBounds.getD 0 0 ≤ dec) (h1 : dec ≤ g.decBounds.getD g.nDec 0) :
    ∃ d0 : Nat, decIndex g dec = (d0 : Int) ∧ d0 < g.nDec := by
  have hpos : (0 : Int) < g.nDec := by exact_mod_cast h.pos
  have hnn := cellIndex_nonneg h dec h0
  rw [decIndex_field]
  split
  · exact ⟨g.nDec - 1, by omega, by omega⟩
  · rename_i hcl
    refine ⟨(cellIndex g.decBounds g.nDec dec).toNat, by omega, ?_⟩
    rcases lt_or_eq_of_le h1 with hlt | heq
    · have := cellIndex_lt h dec hlt; omega
    · exfalso; apply hcl; rw [heq]; exact ⟨cellIndex_last h, le_refl _⟩

/-- `C04.get_bracket` over any ordered field with floor -/
theorem get_bracket (g : Grid K) (ra dec : K) (d r : Nat)
    (hdec : EdgesOK g.decBounds g.nDec)
    (hra : ∀ d, d < g.nDec → EdgesOK (g.raBounds.getD d #[]) (g.nRa.getD d 0))
    (h : get g ra dec = .ok (d, r)) :
    d < g.nDec ∧ r < g.nRa.getD d 0 ∧
    (g.decBounds.getD d 0 ≤ dec ∧ dec ≤ g.decBounds.getD (d + 1) 0 ∧
      (dec < g.decBounds.getD (d + 1) 0 ∨ (d + 1 = g.nDec ∧ dec = g.decBounds.getD g.nDec 0))) ∧
    ((g.raBounds.getD d #[]).getD r 0 ≤ ra ∧ ra < (g.raBounds.getD d #[]).getD (r + 1) 0) := by
  obtain ⟨hd, hdn, hr, hrn⟩ := (get_ok_iff g ra dec d r).1 h
  exact ⟨hdn, hrn, decIndex_bracket g hdec dec d hdn hd, cellIndex_bracket (hra d hdn) ra r hrn hr⟩

end
end PydlVerif.Sphere
