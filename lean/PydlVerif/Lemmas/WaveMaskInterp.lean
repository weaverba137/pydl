/-
The mask interpolation `djs_maskinterp1` (index mode) as modelled in Model/Wave.lean: `goodsFrom` (the unmasked pixels with
their index) and `fillFrom` (the row with the masked pixels replaced) are read as a `filterMap` / `map` over the numbered row,
and the facts about the two are read off these.
-/
import PydlVerif.Lemmas.Wave
import PydlVerif.Lemmas.ListBasics

set_option linter.unusedSectionVars false

namespace PydlVerif.C19
open PydlVerif PydlVerif.Wave

section
variable {K : Type} [Field K] [LinearOrder K] [IsStrictOrderedRing K] [FloorRing K]
attribute [local instance] fieldScalar
attribute [local instance 5] Scalar.instOfNat Scalar.instOfScientific

theorem goodsFrom_eq {α : Type} (i : Nat) (m : List Bool) (y : List α) :
    goodsFrom i m y = ((m.zip y).zipIdx i).filterMap fun p => if p.1.1 then none else some (p.2, p.1.2) := by
  induction m generalizing i y with
  | nil => simp [goodsFrom]
  | cons b m ih => cases y with
    | nil => simp [goodsFrom]
    | cons v y => cases b <;> simp [goodsFrom, List.zipIdx_cons, ih]

theorem fillFrom_eq (g : List (Nat × K)) (i : Nat) (m : List Bool) (y : List K) :
    fillFrom g i m y = ((m.zip y).zipIdx i).map fun p => if p.1.1 then interpAt g p.2 else p.1.2 := by
  induction m generalizing i y with
  | nil => simp [fillFrom]
  | cons b m ih => cases y with
    | nil => simp [fillFrom]
    | cons v y => simp [fillFrom, List.zipIdx_cons, ih]

theorem fillFrom_length (g : List (Nat × K)) (i : Nat) (m : List Bool) (y : List K) (hlen : m.length = y.length) :
    (fillFrom g i m y).length = y.length := by
  rw [fillFrom_eq, List.length_map, List.length_zipIdx, List.length_zip, hlen, Nat.min_self]

theorem fillFrom_all_good (g : List (Nat × K)) (i : Nat) (m : List Bool) (y : List K)
    (hall : m.all (fun b => !b) = true) (hlen : m.length = y.length) : fillFrom g i m y = y := by
  have hm : ∀ p ∈ (m.zip y).zipIdx i, p.1.1 = false := fun p hp => by
    simpa using List.all_eq_true.1 hall _ (List.of_mem_zip (List.fst_mem_of_mem_zipIdx hp)).1
  rw [fillFrom_eq, List.map_congr_left (g := Prod.snd ∘ Prod.fst) fun p hp => by rw [hm p hp]; rfl, ← List.map_map,
    List.zipIdx_map_fst, List.map_snd_zip (by omega)]

theorem goodsFrom_values (i : Nat) (m : List Bool) (y : List K) : ∀ p ∈ goodsFrom i m y, p.2 ∈ y := by
  intro p hp
  rw [goodsFrom_eq, List.mem_filterMap] at hp
  obtain ⟨⟨⟨b, v⟩, j⟩, hq, e⟩ := hp
  cases b
  · cases e; exact (List.of_mem_zip (List.fst_mem_of_mem_zipIdx hq)).2
  · cases e

theorem goodsFrom_idx (i : Nat) (m : List Bool) (y : List K) : ∀ p ∈ goodsFrom i m y, i ≤ p.1 ∧ p.1 < i + m.length := by
  intro p hp
  rw [goodsFrom_eq, List.mem_filterMap] at hp
  obtain ⟨q, hq, e⟩ := hp
  have h1 := List.le_snd_of_mem_zipIdx hq
  have h2 := List.snd_lt_add_of_mem_zipIdx hq
  rw [List.length_zip] at h2
  split at e
  · cases e
  · cases e; exact ⟨h1, by omega⟩

theorem goodsFrom_ne_nil_of_mem (i : Nat) (m : List Bool) (y : List K) (hg : false ∈ m) (hlen : m.length = y.length) :
    goodsFrom i m y ≠ [] := by
  obtain ⟨t, e⟩ := List.mem_iff_getElem?.1 hg
  have ht : t < y.length := hlen ▸ (List.getElem?_eq_some_iff.1 e).1
  refine List.ne_nil_of_mem (a := (i + t, y[t])) ?_
  rw [goodsFrom_eq, List.mem_filterMap]
  exact ⟨((false, y[t]), i + t),
    List.mk_add_mem_zipIdx_iff_getElem?.2 (List.getElem?_zip_eq_some.2 ⟨e, List.getElem?_eq_getElem ht⟩), rfl⟩

theorem goodsFrom_map {α β : Type} (φ : α → β) (i : Nat) (m : List Bool) (l : List α) :
    goodsFrom i m (l.map φ) = (goodsFrom i m l).map fun p => (p.1, φ p.2) := by
  rw [goodsFrom_eq, goodsFrom_eq, List.zip_map_right, List.zipIdx_map, List.filterMap_map, List.map_filterMap]
  refine List.filterMap_congr fun p _ => ?_
  obtain ⟨⟨b, v⟩, j⟩ := p
  cases b <;> rfl

def IdxSorted (g : List (Nat × K)) : Prop := g.Pairwise (fun p q => p.1 < q.1)

theorem goodsFrom_sorted (i : Nat) (m : List Bool) (y : List K) : IdxSorted (goodsFrom i m y) := by
  fun_induction goodsFrom i m y with
  | case1 i m y ys ih => exact ih
  | case2 i b m y ys hb ih =>
    exact List.pairwise_cons.2 ⟨fun q hq => by have := (goodsFrom_idx (i + 1) m ys q hq).1; omega, ih⟩
  | case3 => exact List.Pairwise.nil

/-- `f` and `f'` have the length of the mask and agree on every unmasked pixel
(mask `true` = bad pixel, its value is arbitrary on both sides) -/
inductive AgreeUnmasked : List Bool → List K → List K → Prop
  | nil : AgreeUnmasked [] [] []
  | bad {m f f'} (x y : K) : AgreeUnmasked m f f' → AgreeUnmasked (true :: m) (x :: f) (y :: f')
  | good {m f f'} (x : K) : AgreeUnmasked m f f' → AgreeUnmasked (false :: m) (x :: f) (x :: f')

theorem AgreeUnmasked.length_eq {m : List Bool} {f f' : List K} (h : AgreeUnmasked m f f') :
    f.length = f'.length := by
  induction h <;> simp_all

theorem AgreeUnmasked.length_mask {m : List Bool} {f f' : List K} (h : AgreeUnmasked m f f') :
    m.length = f.length := by
  induction h <;> simp_all

theorem goodsFrom_agree {m : List Bool} {f f' : List K} (h : AgreeUnmasked m f f') (i : Nat) :
    goodsFrom i m f = goodsFrom i m f' := by
  induction h generalizing i with
  | nil => rfl
  | bad x y _ ih => simp only [goodsFrom, if_true]; exact ih (i + 1)
  | good x _ ih => simp only [goodsFrom, Bool.false_eq_true, if_false]; rw [ih (i + 1)]

theorem fillFrom_agree {m : List Bool} {f f' : List K} (h : AgreeUnmasked m f f') (g : List (Nat × K)) (i : Nat) :
    fillFrom g i m f = fillFrom g i m f' := by
  induction h generalizing i with
  | nil => rfl
  | bad x y _ ih => simp only [fillFrom, if_true]; rw [ih (i + 1)]
  | good x _ ih => simp only [fillFrom, Bool.false_eq_true, if_false]; rw [ih (i + 1)]

theorem interpAt_mem {s : Set K} (hs : Convex K s) (g : List (Nat × K)) (hne : g ≠ [])
    (h : ∀ p ∈ g, p.2 ∈ s) (i : Nat) : interpAt g i ∈ s := by
  fun_induction interpAt g i with
  | case1 => exact absurd rfl hne
  | case2 j v => exact h (j, v) (by simp)
  | case3 j0 v0 j1 v1 rest i hi1 hi0 => exact h (j0, v0) (by simp)
  | case4 j0 v0 j1 v1 rest i hi1 hi0 =>
    have hi0' : j0 < i := Nat.lt_of_not_le hi0
    simp only [scalar_ofNat]
    exact lerp_mem hs (h (j0, v0) (by simp)) (h (j1, v1) (by simp))
      (sub_pos.2 (Nat.cast_lt.2 (hi0'.trans hi1))) (sub_nonneg.2 (Nat.cast_le.2 hi0'.le))
      (sub_le_sub_right (Nat.cast_le.2 hi1.le) _)
  | case5 j0 v0 j1 v1 rest i hi1 ih => exact ih (by simp) (fun p hp => h p (by simp [hp]))

theorem fillFrom_mem {s : Set K} (hs : Convex K s) (g : List (Nat × K)) (hne : g ≠ [])
    (hg : ∀ p ∈ g, p.2 ∈ s) (i : Nat) (m : List Bool) (y : List K)
    (hy : ∀ p ∈ goodsFrom i m y, p.2 ∈ s) : ∀ x ∈ fillFrom g i m y, x ∈ s := by
  rw [fillFrom_eq, List.forall_mem_map]
  rintro ⟨⟨b, v⟩, j⟩ hq
  cases b
  · exact hy (j, v) (by rw [goodsFrom_eq, List.mem_filterMap]; exact ⟨_, hq, rfl⟩)
  · exact interpAt_mem hs g hne hg j

def lin (a b : K) (f g : List K) : List K := List.zipWith (fun x y => a * x + b * y) f g

/-- linearity is stated for three projections of ONE list of (index, `f`-value, `g`-value): the unmasked pixels of `f`, `g` and
`a·f + b·g` then have the same indices by construction (`goodsFrom_map`) -/
theorem interpAt_lin (a b : K) : ∀ (G : List (Nat × K × K)) (i : Nat),
    interpAt (G.map fun p => (p.1, a * p.2.1 + b * p.2.2)) i
      = a * interpAt (G.map fun p => (p.1, p.2.1)) i + b * interpAt (G.map fun p => (p.1, p.2.2)) i
  | [], i => by simp [interpAt]
  | [p], i => by simp [interpAt]
  | p :: q :: rest, i => by
    have ih := interpAt_lin a b (q :: rest) i
    simp only [List.map_cons, interpAt] at ih ⊢
    split
    · split
      · rfl
      · simp only [scalar_ofNat]; ring
    · exact ih

theorem fill_lin (a b : K) (G : List (Nat × K × K)) (i : Nat) (m : List Bool) (l : List (K × K)) :
    fillFrom (G.map fun p => (p.1, a * p.2.1 + b * p.2.2)) i m (l.map fun p => a * p.1 + b * p.2)
      = lin a b (fillFrom (G.map fun p => (p.1, p.2.1)) i m (l.map Prod.fst))
          (fillFrom (G.map fun p => (p.1, p.2.2)) i m (l.map Prod.snd)) := by
  simp only [fillFrom_eq, lin, List.zip_map_right, List.zipIdx_map, List.map_map, List.zipWith_map_left, List.zipWith_map_right,
    List.zipWith_self, interpAt_lin a b G]
  refine List.map_congr_left fun p _ => ?_
  obtain ⟨⟨c, v⟩, j⟩ := p
  cases c <;> rfl

theorem maskInterp_all_bad (m : List Bool) (y : List K) (h : goodsFrom 0 m y = []) : maskInterp m y = y := by
  unfold maskInterp
  rw [h]
  split <;> rfl

/-- with at least one unmasked pixel, every case of `djs_maskinterp1` is the general one: unmasked pixels are
kept, masked ones are read off the interpolation through the unmasked ones -/
theorem maskInterp_eq_fill (m : List Bool) (y : List K) (hlen : m.length = y.length) (hne : goodsFrom 0 m y ≠ []) :
    maskInterp m y = fillFrom (goodsFrom 0 m y) 0 m y := by
  unfold maskInterp
  split
  · rename_i hall
    exact (fillFrom_all_good _ 0 m y hall hlen).symm
  · match hgo : goodsFrom 0 m y with
    | [] => exact absurd hgo hne
    | [(j, v)] =>
      have hv : ∀ p ∈ goodsFrom 0 m y, p.2 = v := by rw [hgo]; simp
      simp only [scalar_ofNat, Nat.cast_zero, zero_add, List.map_const']
      exact (List.eq_replicate_iff.2 ⟨fillFrom_length _ 0 m y hlen,
        fillFrom_mem (convex_singleton v) _ (by simp) (by simp) 0 m y hv⟩).symm
    | _ :: _ :: _ => rfl

theorem maskInterp_length (m : List Bool) (y : List K) (hlen : m.length = y.length) :
    (maskInterp m y).length = y.length := by
  by_cases h : goodsFrom 0 m y = []
  · rw [maskInterp_all_bad m y h]
  · rw [maskInterp_eq_fill m y hlen h, fillFrom_length _ 0 m y hlen]

/-- mirror image of a list of (index, value) pairs in a row whose last pixel is `N` -/
def mirror (N : Nat) (g : List (Nat × K)) : List (Nat × K) := g.reverse.map (fun p => (N - p.1, p.2))

theorem goodsFrom_reverse (m : List Bool) (y : List K) (h : m.length = y.length) :
    goodsFrom 0 m.reverse y.reverse = mirror (m.length - 1) (goodsFrom 0 m y) := by
  have hz : m.reverse.zip y.reverse = (m.zip y).reverse := (List.reverse_zipWith h).symm
  rw [goodsFrom_eq, goodsFrom_eq, hz, zipIdx_reverse, List.filterMap_map, mirror, ← List.filterMap_reverse,
    List.map_filterMap, List.length_zip, ← h, Nat.min_self]
  refine List.filterMap_congr fun p _ => ?_
  obtain ⟨⟨b, v⟩, j⟩ := p
  cases b <;> rfl

theorem fillFrom_reverse (g g' : List (Nat × K)) (m : List Bool) (y : List K) (h : m.length = y.length)
    (hI : ∀ t, t < m.length → interpAt g' (m.length - 1 - t) = interpAt g t) :
    fillFrom g' 0 m.reverse y.reverse = (fillFrom g 0 m y).reverse := by
  have hz : m.reverse.zip y.reverse = (m.zip y).reverse := (List.reverse_zipWith h).symm
  rw [fillFrom_eq, fillFrom_eq, hz, zipIdx_reverse, List.map_map, ← List.map_reverse, List.length_zip, ← h, Nat.min_self]
  refine List.map_congr_left fun p hp => ?_
  have := List.snd_lt_of_mem_zipIdx (List.mem_reverse.1 hp)
  rw [List.length_zip, ← h, Nat.min_self, Nat.add_zero] at this
  simp only [Function.comp, hI p.2 this]

theorem interpAt_le_first (j : Nat) (v : K) (rest : List (Nat × K)) (hs : IdxSorted ((j, v) :: rest)) (i : Nat)
    (hi : i ≤ j) : interpAt ((j, v) :: rest) i = v := by
  cases rest with
  | nil => rfl
  | cons q rest =>
    obtain ⟨j1, v1⟩ := q
    have : j < j1 := (List.pairwise_cons.mp hs).1 (j1, v1) (by simp)
    simp only [interpAt, if_pos (show i < j1 by omega), if_pos hi]

theorem interpAt_snoc (jl : Nat) (vl : K) (j : Nat) (v : K) (hj : jl < j) (i : Nat) :
    ∀ (L : List (Nat × K)), L.getLast? = some (jl, vl) → (∀ p ∈ L, p.1 ≤ jl) →
    interpAt (L ++ [(j, v)]) i
      = if i ≤ jl then interpAt L i
        else if i < j then (v - vl) / (Scalar.ofNat j - Scalar.ofNat jl) * (Scalar.ofNat i - Scalar.ofNat jl) + vl
        else v := by
  intro L
  induction L with
  | nil => intro h; simp at h
  | cons p L ih =>
    intro hl hmax
    cases L with
    | nil =>
      simp only [List.getLast?_singleton, Option.some.injEq] at hl
      subst hl
      simp only [List.cons_append, List.nil_append, interpAt]
      by_cases h1 : i ≤ jl
      · simp only [if_pos h1, if_pos (h1.trans_lt hj)]
      · simp only [if_neg h1]
    | cons q L =>
      obtain ⟨j0, v0⟩ := p
      obtain ⟨j1, v1⟩ := q
      have hl' : ((j1, v1) :: L).getLast? = some (jl, vl) := by simpa [List.getLast?_cons_cons] using hl
      have ih' := ih hl' (fun p hp => hmax p (List.mem_cons_of_mem _ hp))
      have hq : j1 ≤ jl := hmax (j1, v1) (by simp)
      simp only [List.cons_append, interpAt] at ih' ⊢
      by_cases h1 : i < j1
      · simp only [if_pos h1, if_pos (show i ≤ jl by omega)]
      · simp only [if_neg h1, ih']

theorem lerp_symm {v0 v1 d t : K} (hd : d ≠ 0) : (v0 - v1) / d * (d - t) + v1 = (v1 - v0) / d * t + v0 := by
  field_simp
  ring

theorem mirror_cons (N : Nat) (p : Nat × K) (g : List (Nat × K)) :
    mirror N (p :: g) = mirror N g ++ [(N - p.1, p.2)] := by
  simp [mirror]

theorem interpAt_mirror (N : Nat) (i : Nat) (hi : i ≤ N) : ∀ (g : List (Nat × K)), IdxSorted g →
    (∀ p ∈ g, p.1 ≤ N) → interpAt (mirror N g) (N - i) = interpAt g i := by
  intro g
  induction g with
  | nil => intro _ _; rfl
  | cons p g ih =>
    intro hs hN
    cases g with
    | nil => simp [mirror, interpAt]
    | cons q rest =>
      obtain ⟨p1, p2⟩ := p
      obtain ⟨q1, q2⟩ := q
      have hs' : IdxSorted ((q1, q2) :: rest) := (List.pairwise_cons.mp hs).2
      have hpq : p1 < q1 := (List.pairwise_cons.mp hs).1 (q1, q2) (by simp)
      have hqN : q1 ≤ N := hN (q1, q2) (by simp)
      have ih' := ih hs' (fun r hr => hN r (List.mem_cons_of_mem _ hr))
      rw [mirror_cons]
      have hlast : (mirror N ((q1, q2) :: rest)).getLast? = some (N - q1, q2) := by
        rw [mirror_cons]; simp
      have hmax : ∀ r ∈ mirror N ((q1, q2) :: rest), r.1 ≤ N - q1 := by
        intro r hr
        simp only [mirror, List.mem_map, List.mem_reverse, List.mem_cons] at hr
        obtain ⟨t, rfl | ht, rfl⟩ := hr
        · exact le_rfl
        · exact Nat.sub_le_sub_left ((List.pairwise_cons.mp hs').1 t ht).le N
      -- the mirrored list ends with the mirror images of `q`, `p`: `interpAt_snoc` splits off that last segment, which
      -- is the first segment `[p1, q1]` of `g` read from the right (`lerp_symm`); left of it the induction hypothesis
      rw [interpAt_snoc (N - q1) q2 (N - p1) p2 (by omega) (N - i) _ hlast hmax, ih']
      simp only [interpAt]
      by_cases h1 : i < q1
      · rw [if_neg (show ¬ N - i ≤ N - q1 by omega), if_pos h1]
        by_cases h2 : i ≤ p1
        · rw [if_neg (show ¬ N - i < N - p1 by omega), if_pos h2]
        · rw [if_pos (show N - i < N - p1 by omega), if_neg h2]
          simp only [scalar_ofNat]
          rw [Nat.cast_sub (show p1 ≤ N by omega), Nat.cast_sub hqN, Nat.cast_sub hi]
          have e1 : ((N : K) - p1 - (N - q1)) = (q1 : K) - p1 := by ring
          have e2 : ((N : K) - i - (N - q1)) = (q1 : K) - p1 - (i - p1) := by ring
          rw [e1, e2]
          exact lerp_symm (sub_ne_zero.2 (Nat.cast_injective.ne hpq.ne'))
      · rw [if_pos (show N - i ≤ N - q1 by omega), if_neg h1]

end
end PydlVerif.C19
