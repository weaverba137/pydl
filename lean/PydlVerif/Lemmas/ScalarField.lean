/-
Interpretation of the `Scalar` operation class at an arbitrary linearly ordered field with a floor (ℚ, ℝ, ...).
Proof files make `fieldScalar` a local instance, or name it in `@f _ (fieldScalar _)`, and turn model terms into
ordinary field terms with the `scalar_*` lemmas.  Trap: where `fieldScalar` is a local instance a numeral of type `K`
is `Scalar`'s own literal, so a statement that means the field's `0` is written where the instance is not in scope.
-/
import PydlVerif.Model.Scalar
import Mathlib.Algebra.Order.Floor.Ring

namespace PydlVerif

@[reducible] noncomputable def fieldScalar (K : Type) [Field K] [LinearOrder K] [IsStrictOrderedRing K]
    [FloorRing K] : Scalar K where
  ofNat n := (n : K)
  ofSci m s e := (OfScientific.ofScientific m s e : K)
  floor x := ⌊x⌋
  decLt a b := inferInstance
  decLe a b := inferInstance
  beq a b := decide (a = b)

section
variable {K : Type} [Field K] [LinearOrder K] [IsStrictOrderedRing K] [FloorRing K]
attribute [local instance] fieldScalar

@[simp] theorem scalar_ofNat (n : Nat) : (Scalar.ofNat n : K) = (n : K) := rfl
@[simp] theorem scalar_lit (n : Nat) : (@OfNat.ofNat K n Scalar.instOfNat : K) = (n : K) := rfl
@[simp] theorem scalar_sci (m : Nat) (s : Bool) (e : Nat) :
    (@OfScientific.ofScientific K Scalar.instOfScientific m s e : K) = (OfScientific.ofScientific m s e : K) := rfl
@[simp] theorem scalar_floor (x : K) : Scalar.floor x = ⌊x⌋ := rfl
@[simp] theorem scalar_beq (a b : K) : (Scalar.beq a b = true) ↔ a = b := by simp [Scalar.beq]
end

section
variable {K : Type} [Field K] [LinearOrder K] [IsStrictOrderedRing K] [FloorRing K]

/-- the model's literals `0` and `1` are the field's (the right-hand sides are the field's numerals: no local instance here) -/
theorem scalar_zero : (@OfNat.ofNat K (nat_lit 0) (@Scalar.instOfNat K (fieldScalar K) (nat_lit 0)) : K) = 0 := Nat.cast_zero
theorem scalar_one : (@OfNat.ofNat K (nat_lit 1) (@Scalar.instOfNat K (fieldScalar K) (nat_lit 1)) : K) = 1 := Nat.cast_one
end

/-- the models spell `np.absolute` as `if x < 0 then -x else x` (the copies of `absS`) -/
theorem ite_neg_eq_abs {K : Type} [Field K] [LinearOrder K] [IsStrictOrderedRing K] (x : K) [Decidable (x < 0)] :
    (if x < 0 then -x else x) = |x| := by
  by_cases h : x < 0
  · rw [if_pos h, abs_of_neg h]
  · rw [if_neg h, abs_of_nonneg (not_lt.1 h)]

end PydlVerif
