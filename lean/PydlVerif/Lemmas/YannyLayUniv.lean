/-
C02, file level: the file as read in text mode.  `univNl` of the rendering of a layout is the rendering of `lay.univ`,
which under the CR conditions of `layoutOKU` is in the domain `layoutOKW` (`univ_reduce`).  The tool is `UN x y`: in front
of any text, `x` becomes `y`; it composes by `++`, so every renderer is followed piece by piece.
-/
import PydlVerif.Lemmas.YannyLayTop
namespace PydlVerif.YannyLay
open PydlVerif.Yanny PydlVerif.YannyRT PydlVerif.YannyLayScan

variable {F : Type}

theorem univNl_cons_ne (c : Char) (t : Str) (h : c ≠ '\r') : univNl (c :: t) = c :: univNl t := by
  rw [univNl]
  · exact fun _ e _ => h e
  · exact fun e => h e

theorem univNl_cr_lf (t : Str) : univNl ('\r' :: '\n' :: t) = '\n' :: univNl t := by
  rw [univNl]

theorem univNl_cr_other (t : Str) (h : t.head? ≠ some '\n') : univNl ('\r' :: t) = '\n' :: univNl t := by
  rw [univNl]
  rintro t' rfl
  exact h rfl

theorem univNl_ind {motive : Str → Prop} (nil : motive [])
    (crlf : ∀ t, motive t → motive ('\r' :: '\n' :: t))
    (cr : ∀ t, t.head? ≠ some '\n' → motive t → motive ('\r' :: t))
    (other : ∀ c t, c ≠ '\r' → motive t → motive (c :: t)) : ∀ s, motive s := by
  intro s
  induction s using univNl.induct with
  | case1 => exact nil
  | case2 t ih => exact crlf t ih
  | case3 t h ih =>
    refine cr t ?_ ih
    cases t with
    | nil => simp
    | cons d t' => intro e; simp at e; subst e; exact h t' rfl
  | case4 c t h1 h2 ih =>
    refine other c t ?_ ih
    intro e; first | exact h1 e | exact h2 e

theorem univNl_length_le (s : Str) : (univNl s).length ≤ s.length := by
  induction s using univNl_ind with
  | nil => simp [univNl]
  | crlf t ih => rw [univNl_cr_lf]; simp; omega
  | cr t ht ih => rw [univNl_cr_other t ht]; simp; omega
  | other c t hc ih => rw [univNl_cons_ne c t hc]; simp; omega

theorem univNl_append_noLF (a b : Str) (hb : b.head? ≠ some '\n') : univNl (a ++ b) = univNl a ++ univNl b := by
  induction a using univNl_ind with
  | nil => simp [univNl]
  | crlf t ih => simp only [List.cons_append, univNl_cr_lf, ih]
  | cr t ht ih =>
    have htb : (t ++ b).head? ≠ some '\n' := by
      cases t with
      | nil => simpa using hb
      | cons d t' => simpa using ht
    simp only [List.cons_append]
    rw [univNl_cr_other _ htb, univNl_cr_other _ ht, ih]
    rfl
  | other c t hc ih =>
    simp only [List.cons_append]
    rw [univNl_cons_ne c _ hc, univNl_cons_ne c _ hc, ih]
    rfl

theorem univNl_noCR_append (a b : Str) (h : '\r' ∉ a) : univNl (a ++ b) = a ++ univNl b := by
  induction a with
  | nil => rfl
  | cons c t ih =>
    have hc : c ≠ '\r' := fun e => h (by simp [e])
    simp only [List.cons_append]
    rw [univNl_cons_ne c _ hc, ih (fun hm => h (List.mem_cons_of_mem _ hm))]

theorem univNl_noCR (a : Str) (h : '\r' ∉ a) : univNl a = a := by
  simpa [univNl] using univNl_noCR_append a [] h

/-- `UN x y`: in front of ANY text, `x` becomes `y` under universal newlines (so `x` does not end in a CR
that could merge with a following LF) -/
def UN (x y : Str) : Prop := ∀ t, univNl (x ++ t) = y ++ univNl t

theorem UN.nil : UN [] [] := fun _ => rfl

theorem UN.append {x y x' y' : Str} (h : UN x y) (h' : UN x' y') : UN (x ++ x') (y ++ y') := by
  intro t
  rw [List.append_assoc, h, h', List.append_assoc]

theorem UN.of_noCR (x : Str) (h : '\r' ∉ x) : UN x x := fun t => univNl_noCR_append x t h

theorem UN.eol (crlf : Bool) : UN (eol crlf) ['\n'] := by
  intro t
  cases crlf
  · exact univNl_cons_ne '\n' t (by decide)
  · exact univNl_cr_lf t

theorem UN.cons (c : Char) (hc : c ≠ '\r') {x y : Str} (h : UN x y) : UN (c :: x) (c :: y) := by
  intro t
  rw [List.cons_append, univNl_cons_ne c _ hc, h]; rfl

theorem UN.ws (w : Str) {x y : Str} (h : UN x y) (hx : ∃ c r, x = c :: r ∧ c ≠ '\n') :
    UN (w ++ x) (univNl w ++ y) := by
  intro t
  obtain ⟨c, r, rfl, hc⟩ := hx
  rw [List.append_assoc, univNl_append_noLF w _ (by simpa using hc), h, List.append_assoc]

theorem blanks_noCR (s : Str) (h : ∀ c ∈ s, isBlank c = true) : '\r' ∉ s := not_mem_of_all h (by decide)

theorem UN.blank {s : Str} (h : ∀ c ∈ s, isBlank c = true) : UN s s := UN.of_noCR s (blanks_noCR s h)

theorem wordy_noCR (s : Str) (h : wordy s) : '\r' ∉ s := fun hm => absurd (h.2 _ hm) (by decide)

theorem wordy_head_ne (s : Str) (h : wordy s) : ∃ c r, s = c :: r ∧ c ≠ '\n' := by
  cases s with
  | nil => exact absurd rfl h.1
  | cons c r =>
    refine ⟨c, r, rfl, ?_⟩
    intro e; subst e
    exact absurd (h.2 '\n' (by simp)) (by decide)

theorem comment_noCR (cm : Option Str) (h : commentOK cm = true) : '\r' ∉ commentText cm :=
  eol_comment cm h _ (Or.inr rfl)

theorem mem_univNl (s : Str) (c : Char) (h : c ∈ univNl s) : c = '\n' ∨ c ∈ s := by
  induction s using univNl_ind with
  | nil => simp [univNl] at h
  | crlf t ih =>
    rw [univNl_cr_lf] at h
    rcases List.mem_cons.mp h with e | h
    · exact Or.inl e
    · exact (ih h).imp_right (fun m => List.mem_cons_of_mem _ (List.mem_cons_of_mem _ m))
  | cr t ht ih =>
    rw [univNl_cr_other t ht] at h
    rcases List.mem_cons.mp h with e | h
    · exact Or.inl e
    · exact (ih h).imp_right (List.mem_cons_of_mem _)
  | other d t hd ih =>
    rw [univNl_cons_ne d t hd] at h
    rcases List.mem_cons.mp h with e | h
    · exact Or.inr (e ▸ List.mem_cons_self)
    · exact (ih h).imp_right (List.mem_cons_of_mem _)

theorem univNl_ne_nil (s : Str) (h : s ≠ []) : univNl s ≠ [] := by
  induction s using univNl_ind with
  | nil => exact absurd rfl h
  | crlf t _ => rw [univNl_cr_lf]; simp
  | cr t ht _ => rw [univNl_cr_other t ht]; simp
  | other c t hc _ => rw [univNl_cons_ne c t hc]; simp

theorem univNl_keeps_nl (s : Str) (h : '\n' ∈ s) : '\n' ∈ univNl s := by
  induction s using univNl_ind with
  | nil => simp at h
  | crlf t _ => rw [univNl_cr_lf]; simp
  | cr t ht _ => rw [univNl_cr_other t ht]; simp
  | other c t hc ih =>
    rw [univNl_cons_ne c t hc]
    rcases List.mem_cons.mp h with e | hm
    · rw [← e]; simp
    · exact List.mem_cons_of_mem _ (ih hm)

theorem tdWs_univ (b : Bool) (s : Str) (h : tdWsOK b s = true) (hc : tdWsCrOK b s = true) :
    tdWsOK b (univNl s) = true := by
  induction s using univNl_ind generalizing b with
  | nil => simpa [univNl] using h
  | crlf t ih =>
    -- CRLF ends a comment and is white space outside one
    rw [univNl_cr_lf]
    cases b <;> simp [tdWsOK, wsChar, tdWsCrOK] at h hc ⊢ <;> exact ih false h hc
  | cr t ht ih =>
    -- a lone CR cannot stand inside a comment
    rw [univNl_cr_other t ht]
    cases b with
    | false =>
      simp [tdWsOK, wsChar, tdWsCrOK] at h hc ⊢
      exact ih false h hc
    | true =>
      simp [tdWsCrOK] at hc
      exact absurd hc.1 ht
  | other c t hcr ih =>
    rw [univNl_cons_ne c t hcr]
    cases b with
    | false =>
      by_cases hh : c = '#'
      · subst hh
        simp [tdWsOK, tdWsCrOK] at h hc ⊢
        exact ih true h hc
      · have hb : (c == '#') = false := by simp [hh]
        simp [tdWsOK, tdWsCrOK, hb] at h hc ⊢
        exact ⟨h.1, ih false h.2 hc⟩
    | true =>
      by_cases hn : c = '\n'
      · subst hn
        simp [tdWsOK, tdWsCrOK] at h hc ⊢
        exact ih false h hc
      · simp [tdWsOK, tdWsCrOK, hn, hcr] at h hc ⊢
        exact ⟨h.1, ih true h.2 hc⟩

/-! ### the layout `lay.univ` is in the domain -/

theorem sep_univ_ok (s : Sep) : s.univ.ok = s.ok := by
  obtain ⟨a, cont⟩ := s
  cases cont with
  | none => rfl
  | some x => obtain ⟨b, f, c⟩ := x; rfl

theorem sep_univ_logical (s : Sep) : s.univ.logical = s.logical := by
  obtain ⟨a, cont⟩ := s
  cases cont with
  | none => rfl
  | some x => obtain ⟨b, f, c⟩ := x; rfl

theorem sep_univ_a (s : Sep) : s.univ.a = s.a := rfl

theorem sep_univ_none (s : Sep) : s.univ.cont.isNone = s.cont.isNone := by
  obtain ⟨a, cont⟩ := s
  cases cont <;> rfl

/-! `Sep.univ` changes only the line end inside a continuation: legality and the logical text do not see it -/

theorem elemsLayOK_univ (io : FloatIO F) (vs : List (Sc F)) (ls : List (Sep × QStyle)) :
    elemsLayOK io vs (ls.map (fun x => (x.1.univ, x.2))) = elemsLayOK io vs ls ∧
    renderElems Sep.logical io vs (ls.map (fun x => (x.1.univ, x.2))) = renderElems Sep.logical io vs ls := by
  induction vs generalizing ls with
  | nil => cases ls <;> exact ⟨rfl, rfl⟩
  | cons v vs ih =>
    cases ls with
    | nil => exact ⟨rfl, rfl⟩
    | cons l ls => simp only [List.map_cons, elemsLayOK, renderElems, sep_univ_ok, sep_univ_logical, ih ls, and_self]

theorem cellLayOK_univ (io : FloatIO F) (x : Cell F) (l : CellLay) :
    cellLayOK io x l.univ = cellLayOK io x l ∧ renderCell Sep.logical io x l.univ = renderCell Sep.logical io x l := by
  cases x with
  | one v => cases l <;> exact ⟨rfl, rfl⟩
  | many vs =>
    cases l with
    | one q => cases vs <;> exact ⟨rfl, rfl⟩
    | many op q rest cl =>
      cases vs with
      | nil => exact ⟨rfl, rfl⟩
      | cons v vs => simp only [CellLay.univ, cellLayOK, renderCell, elemsLayOK_univ, and_self]

theorem cellsLayOK_univ (io : FloatIO F) (xs : List (Cell F)) (ls : List (Sep × CellLay)) :
    cellsLayOK io xs (ls.map (fun x => (x.1.univ, x.2.univ))) = cellsLayOK io xs ls ∧
    renderCells Sep.logical io xs (ls.map (fun x => (x.1.univ, x.2.univ))) = renderCells Sep.logical io xs ls := by
  induction xs generalizing ls with
  | nil => cases ls <;> exact ⟨rfl, rfl⟩
  | cons x xs ih =>
    cases ls with
    | nil => exact ⟨rfl, rfl⟩
    | cons l ls =>
      simp only [List.map_cons, cellsLayOK, renderCells, sep_univ_ok, sep_univ_logical, cellLayOK_univ, ih ls, and_self]

theorem rowLayOK_univ (io : FloatIO F) (t : TableD F) (r : List (Cell F)) (lay : RowLay) :
    rowLayOK io t r lay.univ = rowLayOK io t r lay := by
  simp only [rowLayOK, RowLay.univ, cellsLayOK_univ]

theorem pairLayOK_univ (kv : Str × Str) (lay : PairLay) : pairLayOK kv lay.univ = pairLayOK kv lay := by
  simp only [pairLayOK, PairLay.univ, sep_univ_ok, sep_univ_a, sep_univ_none]

theorem all_ws_univ (s : Str) (h : s.all wsChar = true) : (univNl s).all wsChar = true := by
  rw [List.all_eq_true] at h ⊢
  intro c hc
  rcases mem_univNl s c hc with rfl | hm
  · rfl
  · exact h c hm

theorem isEmpty_univ (s : Str) (h : (!s.isEmpty) = true) : (!(univNl s).isEmpty) = true := by
  simpa using univNl_ne_nil s (by simpa using h)

theorem colsLayOK_univ (cols : List Col) (ls : List ColLay) (h : colsLayOK cols ls = true)
    (hc : ls.all (fun l => tdWsCrOK false l.pre) = true) : colsLayOK cols (ls.map ColLay.univ) = true := by
  revert hc
  revert cols ls
  refine colsLayOK_induction ?_ ?_
  · intro _; rfl
  · intro c cs l ls hl _ ih hc
    simp only [colLayOK, Bool.and_eq_true, and_assoc] at hl
    obtain ⟨h1, h2, h3, h4⟩ := hl
    simp only [List.all_cons, Bool.and_eq_true] at hc
    simp only [List.map_cons, colsLayOK, colLayOK, ColLay.univ, Bool.and_eq_true, and_assoc]
    exact ⟨isEmpty_univ _ h1, tdWs_univ false _ h2 hc.1, h3, h4, ih hc.2⟩

theorem unsizedOK_univ (enums : List EnumDecl) (t : TableD F) (j : Nat) (cols : List Col) (ls : List ColLay) :
    unsizedOK enums t j cols (ls.map ColLay.univ) = unsizedOK enums t j cols ls := by
  induction cols generalizing ls j with
  | nil => cases ls <;> rfl
  | cons c cs ih =>
    cases ls with
    | nil => rfl
    | cons l ls => simp only [List.map_cons, unsizedOK, ColLay.univ, ih]

-- read by position: the goal is the Boolean `structLayOK` itself, of which `SLP` is only a consequence
theorem structLayOK_univ (enums : List EnumDecl) (t : TableD F) (l : StructLay) (h : structLayOK enums t l = true)
    (hc : slotCrOK (.sdef l) = true) : structLayOK enums t l.univ = true := by
  simp only [slotCrOK, Bool.and_eq_true] at hc
  simp only [structLayOK, Bool.and_eq_true, and_assoc] at h
  obtain ⟨a1, a2, a3, a4, a5, a6, a7, a8, rest⟩ := h
  simp only [structLayOK, StructLay.univ, Bool.and_eq_true, unsizedOK_univ, and_assoc]
  exact ⟨a1, isEmpty_univ _ a2, all_ws_univ _ a3, all_ws_univ _ a4, colsLayOK_univ _ _ a5 hc.1,
    tdWs_univ false _ a6 hc.2, all_ws_univ _ a7, all_ws_univ _ a8, rest⟩

theorem enumLayOK_univ (e : EnumDecl) (l : EnumLay) (h : enumLayOK e l = true) : enumLayOK e l.univ = true := by
  simp only [enumLayOK, Bool.and_eq_true, and_assoc] at h
  obtain ⟨a1, a2, a3, a4, a5, a6, a7, a8, a9, a10, rest⟩ := h
  simp only [enumLayOK, EnumLay.univ, Bool.and_eq_true, List.length_map, and_assoc]
  refine ⟨a1, isEmpty_univ _ a2, all_ws_univ _ a3, all_ws_univ _ a4, all_ws_univ _ a5, ?_, a7,
    all_ws_univ _ a8, all_ws_univ _ a9, all_ws_univ _ a10, rest⟩
  rw [List.all_eq_true] at a6 ⊢
  intro w hw
  obtain ⟨w0, hw0, rfl⟩ := List.mem_map.mp hw
  exact all_ws_univ _ (a6 w0 hw0)

theorem item_univ_ok (io : FloatIO F) (enums : List EnumDecl) (i : Item F) (h : i.ok io enums = true)
    (hc : slotCrOK i.slot = true) : i.univ.ok io enums = true := by
  cases i with
  | pair kv lay => rw [← h]; exact pairLayOK_univ kv lay
  | row t tb r lay => rw [← h]; exact rowLayOK_univ io tb r lay
  | sdef t lay => exact structLayOK_univ enums t lay h hc
  | edef e lay => exact enumLayOK_univ e lay h
  | filler text crlf => exact h

theorem slotsOK_univ (io : FloatIO F) (d : Doc F) (ss : List Slot) (st : RSt F) (h : slotsOK io d st ss = true)
    (hc : ss.all slotCrOK = true) : slotsOK io d st (ss.map Slot.univ) = true := by
  obtain ⟨is, htk, h⟩ := takes_of io d ss st h
  rw [takes_slots htk, List.all_map, List.all_eq_true] at hc
  rw [takes_ok (takes_univ htk), List.all_map, List.all_eq_true]
  exact fun i hi => item_univ_ok io d.enums i (h i hi) (hc i hi)

theorem lineRestOK_univ (enums : List EnumDecl) (cols : List Col) (ls : List ColLay)
    (h : lineRestOK enums cols ls = true) : lineRestOK enums cols (ls.map ColLay.univ) = true := by
  induction cols generalizing ls with
  | nil => cases ls <;> rfl
  | cons c cs ih =>
    cases ls with
    | nil => rfl
    | cons l ls =>
      simp only [lineRestOK, Bool.or_eq_true, Bool.and_eq_true] at h
      simp only [List.map_cons, lineRestOK, ColLay.univ, Bool.or_eq_true, Bool.and_eq_true]
      rcases h with h | h
      · left
        rw [List.contains_iff_mem] at h ⊢
        exact univNl_keeps_nl _ h
      · exact Or.inr ⟨h.1, ih ls h.2⟩

theorem declLineOK_univ (enums : List EnumDecl) (cols : List Col) (ls : List ColLay)
    (h : declLineOK enums cols ls = true) : declLineOK enums cols (ls.map ColLay.univ) = true := by
  induction cols generalizing ls with
  | nil => cases ls <;> rfl
  | cons c cs ih =>
    cases ls with
    | nil => rfl
    | cons l ls =>
      simp only [declLineOK, Bool.or_eq_true, Bool.and_eq_true] at h
      simp only [List.map_cons, declLineOK, Bool.or_eq_true, Bool.and_eq_true]
      refine ⟨?_, ih ls h.2⟩
      rcases h.1 with h1 | h1
      · exact Or.inl h1
      · exact Or.inr (lineRestOK_univ enums cs ls h1)

theorem sdefsLineOK_univ (enums : List EnumDecl) (ts : List (TableD F)) (ss : List Slot)
    (h : sdefsLineOK enums ts ss = true) : sdefsLineOK enums ts (ss.map Slot.univ) = true := by
  induction ss generalizing ts with
  | nil => cases ts <;> rfl
  | cons s ss ih =>
    cases s with
    | sdef lay =>
      cases ts with
      | nil => simpa only [List.map_cons, sdefsLineOK, Slot.univ] using ih [] (by simpa only [sdefsLineOK] using h)
      | cons t rest =>
        simp only [sdefsLineOK, Bool.and_eq_true] at h
        simp only [List.map_cons, Slot.univ, sdefsLineOK, Bool.and_eq_true, StructLay.univ]
        exact ⟨declLineOK_univ enums t.cols lay.cols h.1, ih rest h.2⟩
    | _ =>
      cases ts <;> simpa only [List.map_cons, sdefsLineOK, Slot.univ] using ih _ (by simpa only [sdefsLineOK] using h)

theorem layoutOKW_univ (io : FloatIO F) (d : Doc F) (lay : Layout) (h : layoutOKW io d lay = true)
    (hc : layoutCrOK lay = true) : layoutOKW io d lay.univ = true := by
  simp only [layoutOKW, layoutOK, Bool.and_eq_true] at h
  simp only [layoutOKW, layoutOK, Layout.univ, Bool.and_eq_true]
  exact ⟨slotsOK_univ io d lay.slots _ h.1 hc, sdefsLineOK_univ d.enums d.tables lay.slots h.2⟩

/-! ### the layout `lay.univ` renders the universal-newline text -/

theorem UN_sep (s : Sep) (h : s.Blank) : UN s.phys s.univ.phys := by
  obtain ⟨a, cont⟩ := s
  cases cont with
  | none => exact UN.blank h.1
  | some x =>
    obtain ⟨b, f, c⟩ := x
    obtain ⟨hb, hc⟩ := h.2 b f c rfl
    show UN (a ++ '\\' :: (b ++ eol f ++ c)) (a ++ '\\' :: (b ++ eol false ++ c))
    exact (UN.blank h.1).append (UN.cons _ (by decide) ((UN.blank hb).append (UN.eol f) |>.append (UN.blank hc)))

theorem quoteTok_noCR (q : QStyle) (s : Str) (hl : tokLegal q s = true)
    (hs : '\r' ∉ s) : '\r' ∉ quoteTok q s := by
  cases q with
  | bare => exact hs
  | quoted =>
    intro hm
    simp only [quoteTok, List.mem_cons, List.mem_append, List.mem_nil_iff, or_false] at hm
    rcases hm with hm | hm | hm
    · cases hm
    · exact hs hm
    · cases hm
  | braced pad =>
    have hp : pad.all isBlank = true := (legal_braced hl).1
    intro hm
    simp only [quoteTok, List.mem_cons, List.mem_append, List.mem_nil_iff, or_false] at hm
    rcases hm with hm | (hm | hm) | hm
    · cases hm
    · exact blanks_noCR _ (List.all_eq_true.mp hp) hm
    · exact hs hm
    · cases hm

theorem renderElems_univ (io : FloatIO F) (vs : List (Sc F)) (ls : List (Sep × QStyle)) (t : Str)
    (hr : renderElems Sep.phys io vs ls = some t) (hok : elemsLayOK io vs ls = true)
    (hcr : ∀ v ∈ vs, '\r' ∉ scText io v) :
    ∃ t', renderElems Sep.phys io vs (ls.map (fun x => (x.1.univ, x.2))) = some t' ∧ UN t t' := by
  refine renderElems_induction (P := fun vs ls t => (∀ v ∈ vs, '\r' ∉ scText io v) →
    ∃ t', renderElems Sep.phys io vs (ls.map (fun x => (x.1.univ, x.2))) = some t' ∧ UN t t')
    (fun _ => ⟨[], rfl, UN.nil⟩) ?_ vs ls t hok hr hcr
  intro v vs s q ls t hs hq _ _ ih hcr
  obtain ⟨t', h1, h2⟩ := ih (fun x hx => hcr x (List.mem_cons_of_mem _ hx))
  exact ⟨_, by simp only [List.map_cons, renderElems, h1],
    (UN_sep s (Sep.blank_of_ok hs)).append (UN.of_noCR _ (quoteTok_noCR q _ (elemLegal_tokLegal _ _ hq) (hcr v List.mem_cons_self))) |>.append h2⟩

theorem renderCell_univ (io : FloatIO F) (x : Cell F) (l : CellLay) (t : Str)
    (hr : renderCell Sep.phys io x l = some t) (hok : cellLayOK io x l = true) (hcr : cellCrOK io x = true) :
    ∃ t', renderCell Sep.phys io x l.univ = some t' ∧ UN t t' := by
  refine renderCell_cases (P := fun x l t => cellCrOK io x = true →
    ∃ t', renderCell Sep.phys io x l.univ = some t' ∧ UN t t') ?_ ?_ x l t hok hr hcr
  · intro v q hq hcr
    exact ⟨_, rfl, UN.of_noCR _ (quoteTok_noCR q _ hq (not_contains_mem hcr))⟩
  · intro v vs op q rest cl t hop hcl hq hel hr hcr
    simp only [cellCrOK, List.all_cons, Bool.and_eq_true, List.all_eq_true] at hcr
    obtain ⟨t', h1, h2⟩ := renderElems_univ io vs rest t hr hel (fun x hx => not_contains_mem (hcr.2 x hx))
    refine ⟨_, by simp only [CellLay.univ, renderCell, h1]; rfl, UN.cons _ (by decide) ?_⟩
    exact (UN.blank (List.all_eq_true.mp hop)).append (UN.of_noCR _ (quoteTok_noCR q _ (elemLegal_tokLegal _ _ hq) (not_contains_mem hcr.1)))
      |>.append h2 |>.append (UN.blank (List.all_eq_true.mp hcl)) |>.append (UN.of_noCR _ (by decide))

theorem renderCells_univ (io : FloatIO F) (xs : List (Cell F)) (ls : List (Sep × CellLay)) (t : Str)
    (hr : renderCells Sep.phys io xs ls = some t) (hok : cellsLayOK io xs ls = true)
    (hcr : xs.all (cellCrOK io) = true) :
    ∃ t', renderCells Sep.phys io xs (ls.map (fun x => (x.1.univ, x.2.univ))) = some t' ∧ UN t t' := by
  refine renderCells_induction (P := fun xs ls t => xs.all (cellCrOK io) = true →
    ∃ t', renderCells Sep.phys io xs (ls.map (fun x => (x.1.univ, x.2.univ))) = some t' ∧ UN t t')
    (fun _ => ⟨[], rfl, UN.nil⟩) ?_ xs ls t hok hr hcr
  intro x xs s l ls a b hs hl _ ha _ ih hcr
  simp only [List.all_cons, Bool.and_eq_true] at hcr
  obtain ⟨a', h1, h2⟩ := renderCell_univ io x l a ha hl hcr.1
  obtain ⟨b', h3, h4⟩ := ih hcr.2
  exact ⟨_, by simp only [List.map_cons, renderCells, h1, h3], (UN_sep s (Sep.blank_of_ok hs)).append h2 |>.append h4⟩

theorem renderRow_univ (io : FloatIO F) (tb : TableD F) (r : List (Cell F)) (lay : RowLay) (l : Str)
    (hr : renderRow Sep.phys io r lay = some l) (hok : rowLayOK io tb r lay = true)
    (hcr : r.all (cellCrOK io) = true) :
    ∃ l', renderRow Sep.phys io r lay.univ = some l' ∧ UN l l' := by
  obtain ⟨_, hp⟩ := rowLayOK_props io tb r lay hok
  simp only [renderRow] at hr
  split at hr
  · rename_i b hb
    cases hr
    obtain ⟨b', h1, h2⟩ := renderCells_univ io r lay.cells b hb hp.cells hcr
    exact ⟨_, by simp only [renderRow, RowLay.univ, h1],
      (UN.blank hp.lead).append (UN.of_noCR _ (wordy_noCR _ (wordOK_wordy _ hp.name))) |>.append h2
        |>.append (UN.blank hp.trail) |>.append (UN.of_noCR _ (comment_noCR _ hp.com))⟩
  · cases hr

theorem cellChar_noCR (s : Str) (h : s.all cellChar = true) : '\r' ∉ s :=
  not_mem_of_all (List.all_eq_true.mp h) (by decide)

theorem renderPair_univ (tn : List Str) (kv : Str × Str) (lay : PairLay) (hp : pairOK2 tn kv = true)
    (hok : pairLayOK kv lay = true) :
    UN (renderPair Sep.phys kv lay) (renderPair Sep.phys kv lay.univ) := by
  have hpo := (pairOK2_props tn kv hp).1
  have hk : '\r' ∉ kv.1 := fun hm => absurd (hpo.kch _ hm).1 (by decide)
  have ho := pairLayOK_props kv lay hok
  show UN (lay.lead ++ kv.1 ++ lay.sep.phys ++ kv.2 ++ lay.trail ++ commentText lay.comment)
    (lay.lead ++ kv.1 ++ lay.sep.univ.phys ++ kv.2 ++ lay.trail ++ commentText lay.comment)
  exact (UN.blank ho.lead).append (UN.of_noCR _ hk) |>.append (UN_sep _ ho.blank)
    |>.append (UN.of_noCR _ (cellChar_noCR _ (List.all_eq_true.mpr hpo.vch))) |>.append (UN.blank ho.trail)
    |>.append (UN.of_noCR _ (comment_noCR _ ho.com))

theorem UN_tail (trail : Str) (cm : Option Str) (ht : ∀ c ∈ trail, isBlank c = true) (hc : commentOK cm = true) :
    UN (trail ++ commentText cm) (trail ++ commentText cm) :=
  UN.append (UN.of_noCR _ (blanks_noCR _ ht)) (UN.of_noCR _ (comment_noCR _ hc))

theorem UN_block (T K g1 g2 body body' cp g3 name g4 : Str) (hT : wordy T) (hK : wordy K) (hn : wordy name)
    (hb : UN body body') :
    UN (blockLT T K g1 g2 (body ++ cp) g3 name g4)
       (blockLT T K (univNl g1) (univNl g2) (body' ++ univNl cp) (univNl g3) name (univNl g4)) := by
  have e : ∀ (g1 g2 body cp g3 g4 : Str), blockLT T K g1 g2 (body ++ cp) g3 name g4 =
      T ++ (g1 ++ (K ++ (g2 ++ ('{' :: (body ++ (cp ++ ('}' :: (g3 ++ (name ++ (g4 ++ [';'])))))))))) := by
    intro g1 g2 body cp g3 g4
    unfold blockLT
    simp only [List.append_assoc, List.cons_append]
  rw [e, e]
  obtain ⟨k, kr, hk, hkn⟩ := wordy_head_ne K hK
  obtain ⟨n, nr, hn', hnn⟩ := wordy_head_ne name hn
  apply UN.append (UN.of_noCR _ (wordy_noCR _ hT))
  apply UN.ws g1 _ ⟨k, kr ++ _, by rw [hk]; rfl, hkn⟩
  apply UN.append (UN.of_noCR _ (wordy_noCR _ hK))
  apply UN.ws g2 _ ⟨'{', _, rfl, by decide⟩
  apply UN.cons _ (by decide)
  apply UN.append hb
  apply UN.ws cp _ ⟨'}', _, rfl, by decide⟩
  apply UN.cons _ (by decide)
  apply UN.ws g3 _ ⟨n, nr ++ _, by rw [hn']; rfl, hnn⟩
  apply UN.append (UN.of_noCR _ (wordy_noCR _ hn))
  exact UN.ws g4 (UN.of_noCR [';'] (by decide)) ⟨';', [], rfl, by decide⟩

theorem UN_mem (m : Mem) (h : MemOK m) : UN m.text ({ m with pre := univNl m.pre } : Mem).text := by
  obtain ⟨_, _, _, hgb, hT, hN, hA⟩ := h
  have e : ∀ m : Mem, m.text = m.pre ++ (m.T ++ (m.gap ++ (m.N ++ (m.arr ++ [';'])))) := by
    intro m; unfold Mem.text; simp only [List.append_assoc]
  rw [e, e]
  obtain ⟨c, r, hc, hcn⟩ := wordy_head_ne m.T hT
  apply UN.ws m.pre _ ⟨c, r ++ _, by rw [hc]; rfl, hcn⟩
  apply UN.of_noCR
  intro hm
  simp only [List.mem_append, List.mem_singleton] at hm
  rcases hm with hm | hm | hm | hm | hm
  · exact wordy_noCR _ hT hm
  · exact blanks_noCR _ hgb hm
  · exact wordy_noCR _ hN hm
  · exact absurd (arrCh_facts _ (hA.2 _ hm)).1 (by decide)
  · cases hm

theorem memsOf_univ (enums : List EnumDecl) (cols : List Col) (ls : List ColLay) :
    memsOf enums cols (ls.map ColLay.univ) =
      (memsOf enums cols ls).map (fun m => ({ m with pre := univNl m.pre } : Mem)) := by
  rw [memsOf_eq, memsOf_eq, List.zipWith_map_right, List.map_zipWith]
  rfl

theorem UN_mems (ms : List Mem) (h : ∀ m ∈ ms, MemOK m) :
    UN (ms.map Mem.text).flatten
      ((ms.map (fun m => ({ m with pre := univNl m.pre } : Mem))).map Mem.text).flatten := by
  induction ms with
  | nil => exact UN.nil
  | cons m ms ih =>
    simp only [List.map_cons, List.flatten_cons]
    exact UN.append (UN_mem m (h m (by simp))) (ih (fun x hx => h x (by simp [hx])))

theorem wordy_typedef : wordy "typedef".toList := by
  unfold wordy
  decide +kernel

theorem renderStruct_univ (enums : List EnumDecl) (he : ∀ e ∈ enums, enumOK e = true) (t : TableD F) (l : StructLay)
    (ht : tableOK2 enums t = true) (hl : structLayOK enums t l = true) (hc : slotCrOK (.sdef l) = true)
    (txt : Str) (hr : renderStruct enums t l = some txt) :
    ∃ txt', renderStruct enums t l.univ = some txt' ∧ UN txt txt' := by
  have hl' := structLayOK_univ enums t l hl hc
  rw [renderStruct_shape enums t l ht hl] at hr
  injection hr with hr; subst hr
  refine ⟨_, renderStruct_shape enums t l.univ ht hl', ?_⟩
  obtain ⟨_, _, hcols, _, _⟩ := tableOK2_props enums t ht
  have hp := structLayOK_props enums t l hl
  have hms := memsOf_ok enums he t.cols l.cols hcols hp.cols
  apply UN.append
  · apply UN.append (UN.of_noCR _ (blanks_noCR _ hp.lead))
    have e2 : structBlk enums t l.univ = blockLT "typedef".toList "struct".toList (univNl l.g1) (univNl l.g2)
        ((((memsOf enums t.cols l.cols).map (fun m => ({ m with pre := univNl m.pre } : Mem))).map Mem.text).flatten ++
          univNl l.closePre) (univNl l.g3) l.name (univNl l.g4) := by
      rw [← memsOf_univ]; rfl
    rw [e2]
    exact UN_block _ _ _ _ _ _ _ _ _ _ wordy_typedef (isKw_wordy _ isKw_S) (wordOK_wordy _ hp.name) (UN_mems _ hms)
  · exact UN_tail _ _ hp.trail hp.com

theorem renderLabels_univ (labels ws : List Str) (lbl : Str) (hl : ∀ a ∈ labels, wordy a)
    (h : renderLabels labels ws = some lbl) :
    ∃ lbl', renderLabels labels (ws.map univNl) = some lbl' ∧ UN lbl lbl' ∧ ∃ c r, lbl = c :: r ∧ c ≠ '\n' := by
  refine renderLabels_induction (P := fun labels ws lbl => (∀ a ∈ labels, wordy a) →
    ∃ lbl', renderLabels labels (ws.map univNl) = some lbl' ∧ UN lbl lbl' ∧ ∃ c r, lbl = c :: r ∧ c ≠ '\n')
    ?_ ?_ labels ws lbl h hl
  · intro a hl
    have ha := hl a List.mem_cons_self
    exact ⟨a, rfl, UN.of_noCR _ (wordy_noCR _ ha), wordy_head_ne a ha⟩
  · intro a b t w ws r0 _ ih hl
    have ha := hl a List.mem_cons_self
    obtain ⟨c, r, hc, hcn⟩ := wordy_head_ne a ha
    obtain ⟨r0', h1, h2, h3⟩ := ih (fun x hx => hl x (List.mem_cons_of_mem _ hx))
    refine ⟨a ++ ',' :: univNl w ++ r0', by simp only [List.map_cons, renderLabels, h1], ?_,
      c, r ++ (',' :: w ++ r0), by rw [hc]; simp, hcn⟩
    have e : ∀ w r0 : Str, a ++ ',' :: w ++ r0 = a ++ (',' :: (w ++ r0)) := by
      intro w r0; simp only [List.append_assoc, List.cons_append]
    rw [e, e]
    exact (UN.of_noCR _ (wordy_noCR _ ha)).append (UN.cons _ (by decide) (UN.ws w h2 h3))

theorem renderEnum_univ (e : EnumDecl) (l : EnumLay) (he : enumOK e = true) (hl : enumLayOK e l = true)
    (txt : Str) (hr : renderEnum e l = some txt) :
    ∃ txt', renderEnum e l.univ = some txt' ∧ UN txt txt' := by
  have hp := enumLayOK_props e l hl
  obtain ⟨hw, _, hlab⟩ := enumOK_props e he
  unfold renderEnum at hr
  split at hr
  · rename_i lbl hlb
    cases hr
    obtain ⟨lbl', h1, h2, h3⟩ := renderLabels_univ e.labels l.afterComma lbl
      (fun a ha => wordOK_wordy _ (hlab a ha)) hlb
    refine ⟨_, by simp only [renderEnum, EnumLay.univ, h1]; rfl, ?_⟩
    rw [enum_assoc, enum_assoc]
    exact UN.append (UN.append (UN.of_noCR _ (blanks_noCR _ hp.lead))
      (UN_block _ _ _ _ _ _ _ _ _ _ wordy_typedef (isKw_wordy _ isKw_E) (wordy_upper _ (wordOK_wordy _ hw)) (UN.ws l.op h2 h3)))
      (UN_tail _ _ hp.trail hp.com)
  · cases hr

theorem joinChunks_univ (fe : Bool) (cs cs' : List (Str × Bool))
    (h : all2 (fun a b => UN a.1 b.1 ∧ b.2 = false) cs cs') :
    univNl (joinChunks fe cs) = joinChunks fe cs' :=
  joinChunks_acts univNl (fun _ => false) rfl (fun c R => UN.eol c R) fe cs cs'
    (all2_imp (fun _ _ hab => ⟨fun B _ => hab.1 B, hab.2⟩) cs cs' h)

theorem item_univ_render (io : FloatIO F) (d : Doc F) (hd : docOK2 d = true) (ht : tokCrOK io d = true) (i : Item F)
    (hdoc : i.inDoc d) (h : i.ok io d.enums = true) (hc : slotCrOK i.slot = true) (c : Str × Bool)
    (hr : i.render Sep.phys io d.enums = some c) :
    ∃ c', i.univ.render Sep.phys io d.enums = some c' ∧ UN c.1 c'.1 ∧ c'.2 = false := by
  obtain ⟨he, _, htab, _, hp, _⟩ := docOK2_props d hd
  cases i with
  | pair kv lay => cases hr; exact ⟨_, rfl, renderPair_univ _ kv lay (hp kv hdoc) h, rfl⟩
  | row t tb r lay =>
    obtain ⟨l, hl, rfl⟩ := Option.map_eq_some_iff.mp hr
    simp only [tokCrOK, List.all_eq_true] at ht
    obtain ⟨l', h1, h2⟩ := renderRow_univ io tb r lay l hl h (List.all_eq_true.mpr (ht tb (List.mem_of_getElem? hdoc.1) r hdoc.2))
    exact ⟨(l', false), by simp only [Item.univ, Item.render, h1]; rfl, h2, rfl⟩
  | sdef t lay =>
    obtain ⟨l, hl, rfl⟩ := Option.map_eq_some_iff.mp hr
    obtain ⟨l', h1, h2⟩ := renderStruct_univ d.enums he t lay (htab t hdoc) h hc l hl
    exact ⟨(l', false), by simp only [Item.univ, Item.render, h1]; rfl, h2, rfl⟩
  | edef e lay =>
    obtain ⟨l, hl, rfl⟩ := Option.map_eq_some_iff.mp hr
    obtain ⟨l', h1, h2⟩ := renderEnum_univ e lay (he e hdoc) h l hl
    exact ⟨(l', false), by simp only [Item.univ, Item.render, h1]; rfl, h2, rfl⟩
  | filler text crlf => cases hr; exact ⟨_, rfl, UN.of_noCR _ (fillerOK_props _ h).2.2, rfl⟩

theorem renders_univ (io : FloatIO F) (d : Doc F) (lay : Layout) (text : Str) (hd : docOK2 d = true)
    (hl : layoutOK io d lay = true) (hc : layoutCrOK lay = true) (ht : tokCrOK io d = true)
    (hr : renders io d lay = some text) : renders io d lay.univ = some (univNl text) := by
  obtain ⟨cs, hcs, rfl⟩ := Option.map_eq_some_iff.mp hr
  obtain ⟨is, htk, hok⟩ := takes_of io d _ _ hl
  have hdoc := takes_inDoc htk (rest_init d)
  rw [layoutCrOK, takes_slots htk, List.all_map, List.all_eq_true] at hc
  rw [takes_render _ io htk] at hcs
  obtain ⟨cs', h1, h2⟩ := allSome_rel is cs
    (fun i hi c hcr => item_univ_render io d hd ht i (hdoc i hi) (hok i hi) (hc i hi) c hcr) hcs
  rw [← allSome_map, ← takes_render _ io (takes_univ htk)] at h1
  simp only [renders, Layout.univ, h1, Option.map_some, joinChunks_univ lay.finalEol cs cs' h2]

/-- text mode reduced to binary mode -/
theorem univ_reduce (io : FloatIO F) (d : Doc F) (lay : Layout) (text : Str)
    (hd : docOK2 d = true) (hl : layoutOKU io d lay = true) (hr : renders io d lay = some text) :
    layoutOKW io d lay.univ = true ∧ renders io d lay.univ = some (univNl text) := by
  simp only [layoutOKU, Bool.and_eq_true] at hl
  obtain ⟨⟨hw, hc⟩, ht⟩ := hl
  have hlo : layoutOK io d lay = true := by
    simp only [layoutOKW, Bool.and_eq_true] at hw; exact hw.1
  exact ⟨layoutOKW_univ io d lay hw hc, renders_univ io d lay text hd hlo hc ht hr⟩

end PydlVerif.YannyLay
