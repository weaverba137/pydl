/-
Line level: what `lineStep` does with one data line, keyword line or filler line in ANY admissible layout.  The lines the
writer emits are cases of these (`lineStep_row`, `lineStep_pair` of Props/C01.lean).
-/
import PydlVerif.Lemmas.YannyLayout
namespace PydlVerif.YannyLayLine
open PydlVerif.Yanny PydlVerif.YannyRT
variable {F : Type}

theorem rstrip_spaces (l ws : Str) (hws : ∀ c ∈ ws, isSpace c = true) : rstrip (l ++ ws) = rstrip l := by
  unfold rstrip
  rw [List.reverse_append, List.dropWhile_append_of_pos (by intro x hx; exact hws x (by simpa using hx))]

theorem rstrip_mid (a : Str) (x : Char) (t : Str) (hx : isSpace x = false) :
    rstrip (a ++ x :: t) = a ++ x :: rstrip t := by
  have hc : rstrip (x :: t) = x :: rstrip t := by rw [rstrip_cons, if_neg (by simp [hx])]
  rw [rstrip_append, hc, if_neg (by simp)]

theorem rstrip_key (k X : Str) (hk : ∀ c ∈ k, isSpace c = false) : rstrip (k ++ X) = k ++ rstrip X := by
  rw [rstrip_append]
  split
  · rename_i h
    rw [h, List.append_nil]
    simpa using rstrip_append_space k [] (by simp) (lastNS_all k hk)
  · rfl

theorem lastNS_rstrip (l : Str) : lastNS (rstrip l) := by
  intro x hx
  have := List.head?_dropWhile_not isSpace l.reverse
  rw [rstrip, List.getLast?_reverse] at hx
  rw [hx] at this
  exact this

theorem skipLine_false (lead rest : Str) (hlead : ∀ x ∈ lead, isSpace x = true) (hne : rest ≠ [])
    (h : ∀ c, rest.head? = some c → isSpace c = false ∧ c ≠ '#') : skipLine (lead ++ rest) = false := by
  cases rest with
  | nil => exact absurd rfl hne
  | cons c t =>
    unfold skipLine
    rw [dropWhile_app_stop _ lead c t hlead (h c rfl).1]
    simpa using (h c rfl).2

theorem cr_space (cr : Str) (hcr : cr = [] ∨ cr = ['\r']) : ∀ c ∈ cr, isSpace c = true := by
  intro c hc
  rcases hcr with h | h
  · subst h; cases hc
  · subst h; simp at hc; subst hc; decide

/-- `strip`, `trailing_comment`, `double_braces.sub` leave exactly the core of the line -/
theorem cleanLine_lay (lead core trail : Str) (comment : Option Str) (cr : Str)
    (hlead : ∀ c ∈ lead, isSpace c = true) (htrail : ∀ c ∈ trail, isSpace c = true)
    (hcom : commentOK comment = true) (hcr : cr = [] ∨ cr = ['\r'])
    (hhead : ∀ c, core.head? = some c → isSpace c = false) (hne : core ≠ [])
    (hlast : lastNS core)
    (hgood : comment = none → trailingComment core = core)
    (hdb : dbFree core = true) :
    cleanLine (lead ++ (core ++ (trail ++ (commentText comment ++ cr)))) = core := by
  have hcrs := cr_space cr hcr
  unfold cleanLine strip lstrip
  rw [List.dropWhile_append_of_pos hlead, lstrip_id _ (head_append_of _ hne hhead)]
  cases comment with
  | none =>
    have e : core ++ (trail ++ (commentText none ++ cr)) = core ++ (trail ++ cr) := by simp [commentText]
    rw [e, rstrip_append_space core (trail ++ cr) (List.forall_mem_append.mpr ⟨htrail, hcrs⟩)
      hlast, hgood rfl, doubleBraces_dbFree _ hdb]
  | some c =>
    obtain ⟨hc1, hc2, _⟩ := commentOK_props c hcom
    have e : core ++ (trail ++ (commentText (some c) ++ cr)) = (core ++ trail) ++ '#' :: (c ++ cr) := by
      simp [commentText]
    rw [e, rstrip_mid _ '#' _ (by decide), rstrip_spaces c cr hcrs]
    obtain ⟨ws, hws, hsp⟩ := rstrip_split_spaces c
    have h1 : '#' ∉ rstrip c := by
      intro hm; apply hc1; rw [hws]; exact List.mem_append_left _ hm
    have h2 : (rstrip c).count '"' % 2 = 0 := by
      have hz : ws.count '"' = 0 := by
        apply List.count_eq_zero.mpr
        intro hm
        exact (space_not_special _ (hsp _ hm)).1 rfl
      have : c.count '"' = (rstrip c).count '"' + ws.count '"' := by
        have := congrArg (List.count '"') hws
        rw [List.count_append] at this
        exact this
      omega
    rw [trailingComment_cut _ _ h1 h2, rstrip_append_space core trail htrail hlast,
      doubleBraces_dbFree _ hdb]

theorem wordOK_bare (name : Str) (h : wordOK name = true) : bareLegal name = true := by
  obtain ⟨hne, hch⟩ := wordOK_props name h
  have hall := fun c hc => word_char_props c (hch c hc).1
  simp only [bareLegal, Bool.and_eq_true, Bool.not_eq_true', List.all_eq_true, bne_iff_ne, ne_eq]
  refine ⟨⟨by simpa using hne, fun c hc => ⟨⟨(hall c hc).1, (hall c hc).2.2.1⟩, (hall c hc).2.1⟩⟩, ?_⟩
  cases name with
  | nil => exact absurd rfl hne
  | cons a t => simpa using (hall a (by simp)).2.2.2.2.1

theorem lineStep_row_lay (io : FloatIO F) (h1 : H1 io) (specs : List (Str × Except String (List ColSpec)))
    (st : LoopSt F) (sch : List ColSpec) (r : List (Cell F)) (lay : RowLay) (b cr : Str)
    (hlead : ∀ c ∈ lay.lead, isBlank c = true) (htrail : ∀ c ∈ lay.trail, isBlank c = true)
    (hname : bareLegal lay.name = true) (hcom : commentOK lay.comment = true)
    (hcells : cellsLayOK io r lay.cells = true) (hb : renderCells Sep.logical io r lay.cells = some b)
    (hdb : dbFree (lay.name ++ b) = true) (hk : rowKinds sch r = true)
    (hs : lookupSpec specs (upper lay.name) = some (.ok sch)) (hcr : cr = [] ∨ cr = ['\r']) :
    lineStep io specs st (lay.lead ++ lay.name ++ b ++ lay.trail ++ commentText lay.comment ++ cr) =
      .ok { st with rows := addRow st.rows (upper lay.name) r } := by
  obtain ⟨hne, hall, _⟩ := bareLegal_props lay.name hname
  -- the struct name and the cells behind it are one piece of the line
  have hc := renderCells_follows io r lay.cells b hcells hb
  obtain ⟨pne, phead, plast, _, pgood⟩ := hc.1 _ (quoteTok_piece .bare lay.name hname)
  have hleads := blank_isSpace hlead
  have htrails := blank_isSpace htrail
  have hclean := cleanLine_lay lay.lead (lay.name ++ b) lay.trail lay.comment cr hleads htrails hcom hcr
    phead pne plast (fun _ => trailingComment_good _ pgood) hdb
  have hget : getToken (lay.name ++ b) = .ok (lay.name, b.dropWhile isSpace) :=
    getToken_quote_any .bare lay.name b hname hc.2 (fun hm => hc.nonl ((List.dropWhile_sublist _).subset hm))
  have hparse : parseRow io sch (b.dropWhile isSpace) = .ok r := by
    simpa using parseRow_layout' io h1 sch r lay.cells b [] hk hcells hb (by intro c hc; cases hc)
  rw [show lay.lead ++ lay.name ++ b ++ lay.trail ++ commentText lay.comment ++ cr =
    lay.lead ++ ((lay.name ++ b) ++ (lay.trail ++ (commentText lay.comment ++ cr))) by simp only [List.append_assoc]]
  have hskip : ∀ X, skipLine (lay.lead ++ (lay.name ++ b ++ X)) = false := fun X =>
    skipLine_false lay.lead _ hleads (by simp [hne])
      (by rw [List.append_assoc]; exact head_append_mem _ hne fun c hc => ⟨(hall c hc).1, (hall c hc).2.1⟩)
  unfold lineStep
  simp only [hskip, Bool.false_eq_true, if_false, hclean, hget, hs, hparse]

theorem skipLine_of (bl rest : Str) (hbl : ∀ c ∈ bl, isSpace c = true)
    (hr : (∀ c ∈ rest, isSpace c = true) ∨ rest.head? = some '#') : skipLine (bl ++ rest) = true := by
  unfold skipLine
  rw [List.dropWhile_append_of_pos hbl]
  rcases hr with hr | hr
  · rw [dropWhile_all _ _ hr]
  · cases rest with
    | nil => cases hr
    | cons c t =>
      injection hr with hr
      subst hr
      rfl

theorem skipLine_filler (text cr : Str) (hf : fillerOK text = true) (hcr : cr = [] ∨ cr = ['\r']) :
    skipLine (text ++ cr) = true := by
  obtain ⟨bl, rest, rfl, hbl, hr⟩ := fillerOK_cases text hf
  rw [List.append_assoc]
  apply skipLine_of _ _ (blank_isSpace hbl)
  rcases hr with rfl | ⟨t, rfl, _⟩
  · exact Or.inl (cr_space cr hcr)
  · exact Or.inr rfl

theorem skipLine_resid (lead trail : Str) (comment : Option Str) (cr : Str)
    (hlead : ∀ c ∈ lead, isBlank c = true) (htrail : ∀ c ∈ trail, isBlank c = true)
    (hcr : cr = [] ∨ cr = ['\r']) : skipLine (lead ++ trail ++ commentText comment ++ cr) = true := by
  rw [List.append_assoc (lead ++ trail)]
  apply skipLine_of _ _ (List.forall_mem_append.mpr ⟨blank_isSpace hlead, blank_isSpace htrail⟩)
  cases comment with
  | none => exact Or.inl (cr_space cr hcr)
  | some c => exact Or.inr rfl

theorem lineStep_key (io : FloatIO F) (specs : List (Str × Except String (List ColSpec)))
    (st : LoopSt F) (lead k rest : Str) (comment : Option Str) (cr : Str)
    (hlead : ∀ c ∈ lead, isSpace c = true) (hcom : commentOK comment = true)
    (hne : k ≠ []) (hk : ∀ c ∈ k, isSpace c = false ∧ c ≠ '#')
    (hh1 : k.head? ≠ some '"') (hh2 : k.head? ≠ some '{')
    (hrest : ∀ c, rest.head? = some c → isSpace c = true) (hv : '#' ∉ rest)
    (hdb : dbFree (k ++ rstrip rest) = true)
    (hs : lookupSpec specs (upper k) = none) (hcr : cr = [] ∨ cr = ['\r']) :
    lineStep io specs st (lead ++ k ++ rest ++ commentText comment ++ cr) =
      .ok { st with pairs := setPair st.pairs k (strip rest) } := by
  have hks : ∀ c ∈ k, isSpace c = false := fun c hc => (hk c hc).1
  obtain ⟨ws, hws, hsp⟩ := rstrip_split_spaces rest
  -- what `rstrip` leaves of the rest is empty or starts as the rest does
  have hX : ∀ c, (rstrip rest).head? = some c → isSpace c = true := by
    intro c hc
    apply hrest c
    rw [hws, List.head?_append, hc]
    rfl
  have hnh : '#' ∉ k ++ rstrip rest := by
    intro hm
    rcases List.mem_append.mp hm with h | h
    · exact (hk _ h).2 rfl
    · exact hv (hws ▸ List.mem_append_left _ h)
  -- the line is cleaned to the key and the rest without its trailing white space
  have hclean := cleanLine_lay lead (k ++ rstrip rest) ws comment cr hlead hsp hcom hcr
    (head_append_mem _ hne hks) (by simp [hne]) (rstrip_key k rest hks ▸ lastNS_rstrip _)
    (fun _ => trailingComment_nohash _ hnh) hdb
  have hskip : skipLine (lead ++ (k ++ rstrip rest ++ (ws ++ (commentText comment ++ cr)))) = false :=
    skipLine_false lead _ hlead (by simp [hne])
      (by rw [List.append_assoc]; exact head_append_mem _ hne hk)
  have hline : lead ++ k ++ rest ++ commentText comment ++ cr =
      lead ++ (k ++ rstrip rest ++ (ws ++ (commentText comment ++ cr))) := by
    conv => lhs; rw [hws]
    simp only [List.append_assoc]
  rw [hline]
  unfold lineStep
  simp only [hskip, Bool.false_eq_true, if_false, hclean, getToken_bareWord k _ hne hks hh1 hh2 hX, hs]
  rw [show (rstrip rest).dropWhile isSpace = strip rest from lstrip_rstrip_comm rest]

theorem lineStep_pair_lay (io : FloatIO F) (specs : List (Str × Except String (List ColSpec)))
    (st : LoopSt F) (lead k sep v trail : Str) (comment : Option Str) (cr : Str)
    (hlead : ∀ c ∈ lead, isBlank c = true) (hsep : ∀ c ∈ sep, isBlank c = true)
    (htrail : ∀ c ∈ trail, isBlank c = true) (hcom : commentOK comment = true)
    (hne : k ≠ []) (hk : ∀ c ∈ k, isSpace c = false ∧ c ≠ '#')
    (hh1 : k.head? ≠ some '"') (hh2 : k.head? ≠ some '{')
    (hv : '#' ∉ v) (hvs : strip v = v) (hsne : v ≠ [] → sep ≠ [])
    (hdb : dbFree (k ++ sep ++ v) = true)
    (hs : lookupSpec specs (upper k) = none) (hcr : cr = [] ∨ cr = ['\r']) :
    lineStep io specs st (lead ++ k ++ sep ++ v ++ trail ++ commentText comment ++ cr) =
      .ok { st with pairs := setPair st.pairs k v } := by
  have hleads := blank_isSpace hlead
  have hseps := blank_isSpace hsep
  have htrails := blank_isSpace htrail
  have hnh : ∀ ws : Str, (∀ c ∈ ws, isSpace c = true) → '#' ∉ ws :=
    fun ws h hm => (space_not_special _ (h _ hm)).2 rfl
  cases v with
  | nil =>
    -- no value: what follows the key is white space
    have hall := List.forall_mem_append.mpr ⟨hseps, htrails⟩
    have hr : rstrip (sep ++ trail) = [] := rstrip_spaces [] _ hall
    have hst : strip (sep ++ trail) = [] := by
      rw [strip, lstrip, dropWhile_all _ _ hall]
      rfl
    have := lineStep_key io specs st lead k _ comment cr hleads hcom hne hk hh1 hh2
      (fun c hc => hall c (List.mem_of_mem_head? hc)) (hnh _ hall)
      (by rw [hr]; exact dbFree_prefix _ sep (by simpa using hdb)) hs hcr
    rw [hst] at this
    simpa only [List.append_assoc, List.append_nil] using this
  | cons a w =>
    obtain ⟨vh, vl⟩ := strip_fix_props (a :: w) hvs
    have hr : rstrip (sep ++ (a :: w) ++ trail) = sep ++ a :: w :=
      rstrip_append_space _ _ htrails (lastNS_append _ _ (by simp) vl)
    have hst : strip (sep ++ (a :: w) ++ trail) = a :: w := by
      rw [strip, lstrip, List.append_assoc, List.dropWhile_append_of_pos hseps,
        lstrip_id _ (head_append_of _ (by simp) vh)]
      exact rstrip_append_space _ _ htrails vl
    have := lineStep_key io specs st lead k (sep ++ (a :: w) ++ trail) comment cr hleads
      hcom hne hk hh1 hh2 (by rw [List.append_assoc]; exact head_append_mem _ (hsne (by simp)) hseps)
      (by simp only [List.mem_append, not_or]; exact ⟨⟨hnh _ hseps, hv⟩, hnh _ htrails⟩)
      (by rw [hr, ← List.append_assoc]; exact hdb) hs hcr
    rw [hst] at this
    simpa only [List.append_assoc] using this

/-- two texts that differ at most in one white-space run that follows non-space characters -/
def RespaceRel (X Y v a b : Str) : Prop :=
  a = b ∨ ∃ k2, (∀ c ∈ k2, isSpace c = false) ∧ a = k2 ++ (X ++ v) ∧ b = k2 ++ (Y ++ v)

theorem respace_step (X Y v a b : Str) (hX : ∀ c ∈ X, isSpace c = true) (hY : ∀ c ∈ Y, isSpace c = true)
    (h : RespaceRel X Y v a b) (x : Char) (r : Str) (ha : a.dropWhile isSpace = x :: r) :
    ∃ r', b.dropWhile isSpace = x :: r' ∧ RespaceRel X Y v r r' := by
  rcases h with h | ⟨k2, hk2, rfl, rfl⟩
  · subst h; exact ⟨r, ha, Or.inl rfl⟩
  · cases k2 with
    | nil =>
      simp only [List.nil_append] at ha ⊢
      rw [List.dropWhile_append_of_pos hX] at ha
      rw [List.dropWhile_append_of_pos hY]
      exact ⟨r, ha, Or.inl rfl⟩
    | cons d k' =>
      have hd : isSpace d = false := hk2 d (by simp)
      rw [List.cons_append, dropWhile_head_false _ _ _ hd] at ha
      injection ha with h1 h2
      subst h1; subst h2
      refine ⟨k' ++ (Y ++ v), ?_, Or.inr ⟨k', fun c hc => hk2 c (by simp [hc]), rfl, rfl⟩⟩
      rw [List.cons_append, dropWhile_head_false _ _ _ hd]

theorem matchDB_rel (X Y v a b : Str) (hX : ∀ c ∈ X, isSpace c = true) (hY : ∀ c ∈ Y, isSpace c = true)
    (h : RespaceRel X Y v a b) (hm : (matchDB ('{' :: a)).isSome = true) : (matchDB ('{' :: b)).isSome = true := by
  obtain ⟨t, t2, t4, t6, e, h2, h4, h6⟩ := (matchDB_some_iff _).mp hm
  injection e with _ e; subst e
  obtain ⟨u2, g2, r2⟩ := respace_step X Y v _ _ hX hY h _ _ h2
  obtain ⟨u4, g4, r4⟩ := respace_step X Y v _ _ hX hY r2 _ _ h4
  obtain ⟨u6, g6, _⟩ := respace_step X Y v _ _ hX hY r4 _ _ h6
  exact (matchDB_some_iff _).mpr ⟨b, u2, u4, u6, rfl, g2, g4, g6⟩

theorem matchDB_head (c : Char) (t : Str) (h : (matchDB (c :: t)).isSome = true) : c = '{' := by
  obtain ⟨_, _, _, _, e, _⟩ := (matchDB_some_iff _).mp h
  injection e

theorem dbFree_spaces (ws v : Str) (hws : ∀ c ∈ ws, isSpace c = true) (h : dbFree v = true) :
    dbFree (ws ++ v) = true := by
  induction ws with
  | nil => exact h
  | cons c t ih =>
    simp only [List.cons_append, dbFree, Bool.and_eq_true]
    refine ⟨?_, ih (fun x hx => hws x (by simp [hx]))⟩
    cases hm : matchDB (c :: (t ++ v)) with
    | none => rfl
    | some n =>
      have := matchDB_head c _ (by rw [hm]; rfl)
      subst this
      exact absurd (hws '{' (by simp)) (by decide)

theorem dbFree_respace_runs (k v X Y : Str) (hk : ∀ c ∈ k, isSpace c = false)
    (hX : ∀ c ∈ X, isSpace c = true) (hY : ∀ c ∈ Y, isSpace c = true)
    (h : dbFree (k ++ (Y ++ v)) = true) : dbFree (k ++ (X ++ v)) = true := by
  induction k with
  | nil => exact dbFree_spaces X v hX (dbFree_drop Y v h)
  | cons c t ih =>
    simp only [List.cons_append, dbFree, Bool.and_eq_true] at h ⊢
    have hk' : ∀ x ∈ t, isSpace x = false := fun x hx => hk x (by simp [hx])
    refine ⟨?_, ih hk' h.2⟩
    cases hm : matchDB (c :: (t ++ (X ++ v))) with
    | none => rfl
    | some n =>
      exfalso
      have hs : (matchDB (c :: (t ++ (X ++ v)))).isSome = true := by rw [hm]; rfl
      have hc := matchDB_head c _ hs
      subst hc
      have := matchDB_rel X Y v _ _ hX hY (Or.inr ⟨t, hk', rfl, rfl⟩) hs
      have h1 := h.1
      cases hq : matchDB ('{' :: (t ++ (Y ++ v))) with
      | none => rw [hq] at this; cases this
      | some m => rw [hq] at h1; cases h1

/-- the `{ws{ws}ws}` pattern does not depend on how much white space separates key and value -/
theorem dbFree_respace (k v ws : Str) (hk : ∀ c ∈ k, isSpace c = false) (hws : ∀ c ∈ ws, isSpace c = true)
    (h : dbFree (k ++ ' ' :: v) = true) : dbFree (k ++ ws ++ v) = true := by
  rw [List.append_assoc]
  apply dbFree_respace_runs k v ws [' '] hk hws (by intro c hc; simp at hc; subst hc; decide)
  exact h

end PydlVerif.YannyLayLine
