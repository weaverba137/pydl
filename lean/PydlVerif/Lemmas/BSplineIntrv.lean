/-
The interval search `intrv` of Model/BSpline.lean finds the least `r ≥ k-1` at which the loop condition fails (any knots);
on sorted points the stateful scan returns it for every point.
-/
import PydlVerif.Lemmas.BSplineField
import PydlVerif.Lemmas.BSplineRows
namespace PydlVerif.C08
open PydlVerif PydlVerif.BSpline PydlVerif.AtField

variable {K : Type} [Field K] [LinearOrder K] [IsStrictOrderedRing K] [FloorRing K]

/-- the loop condition of `intrv` at position `m`: `x > gb[m+1] and m < n-1` -/
def Cond (t : ℕ → K) (n : ℕ) (x : K) (m : ℕ) : Prop := t (m+1) < x ∧ m + 1 < n

theorem adv_spec (t : ℕ → K) (n : ℕ) (x : K) (fuel i : ℕ) :
    i ≤ advK t n x fuel i ∧ (∀ m, i ≤ m → m < advK t n x fuel i → Cond t n x m) ∧
      (n ≤ i + fuel → ¬ Cond t n x (advK t n x fuel i)) := by
  induction fuel generalizing i with
  | zero => exact ⟨Nat.le_refl i, fun m h1 h2 => absurd h2 (Nat.not_lt.2 h1), fun hf h => by have h2 : i + 1 < n := h.2; omega⟩
  | succ f ih =>
    simp only [intrvAdvance, sc_lt]
    split
    · rename_i hc
      obtain ⟨h1, h2, h3⟩ := ih (i+1)
      exact ⟨Nat.le_of_succ_le h1, fun m hm hlt => (Nat.eq_or_lt_of_le hm).elim (fun e => e ▸ hc) (fun h => h2 m h hlt),
        fun hf => h3 (by omega)⟩
    · rename_i hc
      exact ⟨Nat.le_refl i, fun m h1 h2 => absurd h2 (Nat.not_lt.2 h1), fun _ => hc⟩

theorem adv_unique (t : ℕ → K) (n : ℕ) (x : K) (fuel i r : ℕ) (hf : n ≤ i + fuel) (hir : i ≤ r)
    (hall : ∀ m, i ≤ m → m < r → Cond t n x m) (hstop : ¬ Cond t n x r) : advK t n x fuel i = r := by
  obtain ⟨hge, hall', hstop'⟩ := adv_spec t n x fuel i
  exact Nat.le_antisymm (Nat.le_of_not_lt fun h => hstop (hall' r hir h))
    (Nat.le_of_not_lt fun h => hstop' hf (hall _ hge h))

/-- the carried `ileft` does not matter for sorted points -/
theorem scan_pointwise (t : ℕ → K) (n k0 : ℕ) (xs : List K) (hs : xs.Pairwise (· ≤ ·)) (i : ℕ) (hi : k0 ≤ i)
    (hinv : ∀ m, k0 ≤ m → m < i → ∀ x ∈ xs, Cond t n x m) :
    scanK t n xs i = xs.map (fun x => advK t n x (n - k0) k0) := by
  induction xs generalizing i with
  | nil => rfl
  | cons x xs ih =>
    rw [List.pairwise_cons] at hs
    obtain ⟨hge, hall, hstop⟩ := adv_spec t n x (n-i) i
    -- every position before the index found for `x` satisfies the loop condition of `x`, hence of the later points
    have hc : ∀ m, k0 ≤ m → m < advK t n x (n-i) i → Cond t n x m := fun m h1 h2 =>
      if hm : m < i then hinv m h1 hm x List.mem_cons_self else hall m (by omega) h2
    have hx := adv_unique t n x (n-k0) k0 _ (by omega) (Nat.le_trans hi hge) hc (hstop (by omega))
    simp only [intrvScan, List.map_cons]
    rw [ih hs.2 _ (Nat.le_trans hi hge) fun m h1 h2 y hy =>
      ⟨lt_of_lt_of_le (hc m h1 h2).1 (hs.1 y hy), (hc m h1 h2).2⟩, hx]

/-- on points sorted in non-decreasing order `intrv` returns for every point
the interval found by searching from the first interval (no assumption on the knots) -/
theorem intrv_pointwise (t : ℕ → K) (k n : ℕ) (xs : List K) (hs : xs.Pairwise (· ≤ ·)) :
    scanK t n xs (k - 1) = xs.map (intrvOfK t k n) := by
  rw [scan_pointwise t n (k-1) xs hs (k-1) (Nat.le_refl _) (by intro m h1 h2; omega)]
  rfl

theorem intrvOf_spec (t : ℕ → K) (k n : ℕ) (x : K) :
    k - 1 ≤ intrvOfK t k n x ∧ (∀ m, k - 1 ≤ m → m < intrvOfK t k n x → Cond t n x m) ∧
      ¬ Cond t n x (intrvOfK t k n x) :=
  ⟨(adv_spec t n x _ _).1, (adv_spec t n x _ _).2.1, (adv_spec t n x _ _).2.2 (by omega)⟩

theorem intrvOf_ge (t : ℕ → K) (k n : ℕ) (x : K) : k - 1 ≤ intrvOfK t k n x := (intrvOf_spec t k n x).1

theorem intrvOf_le (t : ℕ → K) (k n : ℕ) (x : K) (hk : 1 ≤ k) (hkn : k ≤ n) : intrvOfK t k n x ≤ n - 1 :=
  Nat.le_sub_one_of_lt (@adv_succ_le K (fieldScalar K) t n x _ (k-1) (by omega))

/-- for `t[k-1] ≤ x ≤ t[n]` the interval `intrv` finds brackets `x`,
and it is non-empty when the first one is (`t[k-1] < t[k]`):
`intrv` never stops at an empty interior interval -/
theorem intrv_bracket (t : ℕ → K) (k n : ℕ) (x : K) (hk : 1 ≤ k) (hkn : k ≤ n)
    (hlo : t (k-1) ≤ x) (hhi : x ≤ t n) :
    k - 1 ≤ intrvOfK t k n x ∧ intrvOfK t k n x ≤ n - 1 ∧
    t (intrvOfK t k n x) ≤ x ∧ x ≤ t (intrvOfK t k n x + 1) ∧
    (t (k-1) < t k → t (intrvOfK t k n x) < t (intrvOfK t k n x + 1)) := by
  obtain ⟨hge, hall, hstop⟩ := intrvOf_spec t k n x
  have hle := intrvOf_le t k n x hk hkn
  generalize intrvOfK t k n x = r at hge hall hstop hle ⊢
  -- past the first interval, the loop condition held at `r-1`
  have hprev : k - 1 < r → t r < x := fun h => by
    have := (hall (r-1) (Nat.le_sub_one_of_lt h) (Nat.sub_lt (Nat.zero_lt_of_lt h) Nat.one_pos)).1
    rwa [Nat.sub_add_cancel (Nat.one_le_of_lt h)] at this
  have hup : x ≤ t (r+1) := by
    by_cases hr : r + 1 < n
    · exact not_lt.1 (fun hc => hstop ⟨hc, hr⟩)
    · rw [show r + 1 = n by omega]; exact hhi
  rcases Nat.eq_or_lt_of_le hge with h | h
  · refine ⟨hge, hle, ?_, hup, fun hfirst => ?_⟩
    · rw [← h]; exact hlo
    · rw [← h, Nat.sub_add_cancel hk]; exact hfirst
  · exact ⟨hge, hle, (hprev h).le, hup, fun _ => lt_of_lt_of_le (hprev h) hup⟩

/-- the interval index is monotone in the point -/
theorem intrv_mono (t : ℕ → K) (k n : ℕ) (x y : K) (hxy : x ≤ y) : intrvOfK t k n x ≤ intrvOfK t k n y := by
  obtain ⟨hgy, _, hstopy⟩ := intrvOf_spec t k n y
  obtain ⟨_, hallx, _⟩ := intrvOf_spec t k n x
  refine Nat.le_of_not_lt (fun hc => ?_)
  have h1 := hallx _ hgy hc
  exact hstopy ⟨lt_of_lt_of_le h1.1 hxy, h1.2⟩

theorem scan_sorted_range (t : ℕ → K) (k n : ℕ) (hk : 1 ≤ k) (hkn : k ≤ n) (xw : List K) (hne : xw ≠ [])
    (hsorted : xw.Pairwise (· ≤ ·)) :
    scanK t n xw (k-1) ≠ [] ∧ (scanK t n xw (k-1)).Pairwise (· ≤ ·) ∧
    ∀ v ∈ scanK t n xw (k-1), k - 1 ≤ v ∧ v + 1 ≤ n := by
  rw [intrv_pointwise t k n xw hsorted]
  refine ⟨by simpa using hne, ?_, ?_⟩
  · exact hsorted.map _ fun x y h => intrv_mono t k n x y h
  · rw [List.forall_mem_map]
    exact fun x _ => ⟨intrvOf_ge t k n x, by have := intrvOf_le t k n x hk hkn; omega⟩

/-- for points sorted in non-decreasing order (any knots), the `lower`/`upper` that the
model's `action` computes through `uniq` from the scanned interval indices satisfy `RowsOf` -/
theorem rowsOf_action (t : ℕ → K) (k n : ℕ) (hk : 1 ≤ k) (hkn : k ≤ n) (xw : List K) (hne : xw ≠ [])
    (hsorted : xw.Pairwise (· ≤ ·)) :
    RowsOf (lowerUpper k n (scanK t n xw (k-1)).toArray).1 (lowerUpper k n (scanK t n xw (k-1)).toArray).2
      (scanK t n xw (k-1)) k (n-k+1) := by
  obtain ⟨h1, h2, h3⟩ := scan_sorted_range t k n hk hkn xw hne hsorted
  exact rowsOf_lowerUpper k n _ hk hkn h1 h2 h3

end PydlVerif.C08
