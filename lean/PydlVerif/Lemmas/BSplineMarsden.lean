/-
Marsden's identity for the Cox-de Boor pieces of Model/BSpline.lean (`coxDeBoorAt`, which is what `bsplvn` computes)
and its consequence that the B-splines of order `k` on ANY non-decreasing knot vector reproduce every polynomial of
degree `< k`, with coefficients that do not depend on the knot interval.
-/
import PydlVerif.Lemmas.BSplineEval
import PydlVerif.Lemmas.FinsetSums
import Mathlib.Algebra.Polynomial.Roots
namespace PydlVerif.C09
open PydlVerif PydlVerif.BSpline Finset
open scoped PydlVerif.C08
open PydlVerif.AtField

-- `dualPsi_succ`, `marsden_step`, `dualPoly_eval` need only `Field K` of the classes below
set_option linter.unusedSectionVars false
variable {K : Type} [Field K] [LinearOrder K] [IsStrictOrderedRing K] [FloorRing K]

/-- the dual polynomial of Marsden's identity: `ψ_{j,k}(τ) = Π_{r=1}^{k-1} (t_{j+r} - τ)` (here with `k-1 = m`) -/
def dualPsi (t : ℕ → K) (m j : ℕ) (τ : K) : K := ∏ r ∈ range m, (t (j + 1 + r) - τ)

theorem dualPsi_succ (t : ℕ → K) (m j : ℕ) (τ : K) : dualPsi t (m+1) j τ = dualPsi t m j τ * (t (j + (m+1)) - τ) := by
  unfold dualPsi
  rw [Finset.prod_range_succ, Nat.add_right_comm j 1 m]; rfl

theorem dualPsi_succ' (t : ℕ → K) (m j : ℕ) (τ : K) : dualPsi t (m+1) j τ = (t (j+1) - τ) * dualPsi t m (j+1) τ := by
  unfold dualPsi
  rw [Finset.prod_range_succ', mul_comm]
  refine congrArg _ (Finset.prod_congr rfl fun r _ => ?_)
  rw [Nat.add_right_comm (j+1) 1 r]; rfl

theorem marsden_step (ψ x τ tl tr : K) (h : tl < tr) :
    ψ * (tr - τ) * ((x - tl) / (tr - tl)) + (tl - τ) * ψ * ((tr - x) / (tr - tl)) = ψ * (x - τ) := by
  have hc : (tr - tl)⁻¹ * (tr - tl) = 1 := inv_mul_cancel₀ (sub_pos.2 h).ne'
  rw [div_eq_mul_inv, div_eq_mul_inv, ← mul_one (ψ * (x - τ)), ← hc]
  ring

/-- Marsden's identity (order `m+1`, on the knot interval `i ≥ m`, sum over any index range `N > i`;
the proof reads only the `2m` knots around the interval):
`Σ_j Π_{r=1}^{m} (t_{j+r} - τ) · B_{j,m+1}(x) = (x - τ)^m` for every `x` and `τ` -/
theorem marsden (t : ℕ → K) (i N : ℕ) (x τ : K) (hiN : i < N) (hstrict : t i < t (i+1)) :
    ∀ m, m ≤ i → (∀ a b, a ≤ b → b ≤ i + m → t a ≤ t b) →
      ∑ j ∈ range N, dualPsi t m j τ * cdbAtK t i (m+1) j x = (x - τ) ^ m := by
  intro m
  induction m with
  | zero =>
    intro _ _
    simp only [dualPsi, Finset.range_zero, Finset.prod_empty, one_mul, pow_zero, Nat.zero_add, C08.cdbAt_one]
    rw [Finset.sum_ite_eq' (range N) i (fun _ => (1 : K)), if_pos (Finset.mem_range.2 hiN)]
  | succ k ih =>
    intro hk hmono
    -- the coefficient recurrence turns the claim into one about order `k+1`, where the coefficients are compared on the support
    rw [C08.cdbAt_deBoor t i N k x _ hiN hk, pow_succ, ← ih (by omega) (fun a b hab hb => hmono a b hab (by omega)),
      Finset.sum_mul]
    simp_rw [mul_right_comm _ (cdbAtK t i (k+1) _ x) (x - τ)]
    refine C08.cdbAt_sum_congr t i N (k+1) x _ _ fun j hji hij => ?_
    have hlt := C08.support_lt t _ i j (k+1) hmono hstrict hji hij (by omega)
    obtain ⟨j', rfl⟩ : ∃ j', j = j' + 1 := ⟨j - 1, by omega⟩
    rw [C08.W_pos t _ (k+1) x hlt, C08.W'_pos t _ (k+1) x hlt, dualPsi_succ, Nat.add_sub_cancel, dualPsi_succ' t k j' τ]
    exact marsden_step _ x τ _ _ hlt

open Polynomial in
/-- the dual polynomial in the variable `s = -τ`: `Π_{r=1}^{m} (X + t_{j+r})` -/
noncomputable def dualPoly (t : ℕ → K) (m j : ℕ) : K[X] := ∏ r ∈ range m, (X + C (t (j + 1 + r)))

open Polynomial in
theorem dualPoly_eval (t : ℕ → K) (m j : ℕ) (s : K) : (dualPoly t m j).eval s = dualPsi t m j (-s) := by
  unfold dualPoly dualPsi
  rw [Polynomial.eval_prod]
  apply Finset.prod_congr rfl
  intro r _
  simp only [eval_add, eval_X, eval_C]
  ring

/-- coefficient `j` of the monomial `x^d` in the B-spline basis of order `m+1`: the elementary symmetric function of
degree `d` of the knots `t[j+1..j+m]` divided by `C(m, d)` (`d = 0`: 1; `d = 1`: the Greville abscissa
`(t[j+1] + … + t[j+m]) / m`) -/
noncomputable def monoCoeff (t : ℕ → K) (m d j : ℕ) : K :=
  (dualPoly t m j).coeff (m - d) / (m.choose (m - d) : K)

open Polynomial in
/-- monomial reproduction: `Σ_j monoCoeff_j · B_{j,m+1}(x) = x^d` for every degree `d ≤ m` (Marsden's identity
read coefficientwise in `τ`) -/
theorem monomial_reproduction (t : ℕ → K) (i N : ℕ) (x : K) (hiN : i < N) (hstrict : t i < t (i+1)) (m : ℕ) (hm : m ≤ i)
    (hmono : ∀ a b, a ≤ b → b ≤ i + m → t a ≤ t b) (d : ℕ) (hd : d ≤ m) :
    ∑ j ∈ range N, monoCoeff t m d j * cdbAtK t i (m+1) j x = x ^ d := by
  have : Infinite K := Infinite.of_injective (Nat.cast : ℕ → K) Nat.cast_injective
  have hpoly : ∑ j ∈ range N, dualPoly t m j * C (cdbAtK t i (m+1) j x) = (X + C x) ^ m := by
    apply Polynomial.funext
    intro s
    rw [Polynomial.eval_finsetSum]
    simp only [eval_mul, eval_C, eval_pow, eval_add, eval_X, dualPoly_eval]
    rw [marsden t i N x (-s) hiN hstrict m hm hmono]
    ring
  have hc := congrArg (fun p => p.coeff (m - d)) hpoly
  simp only [Polynomial.finsetSum_coeff, coeff_mul_C, coeff_X_add_C_pow] at hc
  rw [show m - (m - d) = d by omega] at hc
  have hch : ((m.choose (m - d) : ℕ) : K) ≠ 0 := by
    have : 0 < m.choose (m - d) := Nat.choose_pos (by omega)
    exact_mod_cast (Nat.pos_iff_ne_zero.1 this)
  unfold monoCoeff
  simp_rw [div_mul_eq_mul_div, div_eq_mul_inv]
  rw [← Finset.sum_mul, hc, mul_inv_cancel_right₀ hch]

open Polynomial in
/-- the B-spline coefficients of a polynomial `q` of degree `< m+1` (order `m+1`) -/
noncomputable def polyCoeff (t : ℕ → K) (m : ℕ) (q : K[X]) (j : ℕ) : K :=
  ∑ d ∈ range (m+1), q.coeff d * monoCoeff t m d j

open Polynomial in
/-- polynomial reproduction (pieces): `Σ_j polyCoeff_j · B_{j,m+1}(x) = q(x)`; the coefficients do not
depend on `i` or `x` -/
theorem poly_in_span (t : ℕ → K) (i N : ℕ) (x : K) (hiN : i < N) (hstrict : t i < t (i+1)) (m : ℕ) (hm : m ≤ i)
    (hmono : ∀ a b, a ≤ b → b ≤ i + m → t a ≤ t b) (q : K[X]) (hq : q.natDegree ≤ m) :
    ∑ j ∈ range N, polyCoeff t m q j * cdbAtK t i (m+1) j x = q.eval x := by
  unfold polyCoeff
  simp_rw [Finset.sum_mul]
  rw [Finset.sum_comm, Polynomial.eval_eq_sum_range' (n := m+1) (by omega) x]
  apply Finset.sum_congr rfl
  intro d hd
  rw [Finset.mem_range] at hd
  simp_rw [mul_assoc]
  rw [← Finset.mul_sum, monomial_reproduction t i N x hiN hstrict m hm hmono d (by omega)]

open Polynomial in
/-- the spline that `value`
evaluates (C08 `splineAt`) with the coefficients `polyCoeff t (k-1) q` IS the polynomial `q` (degree `< k`) at every
point of the breakpoint range `[t[k-1], t[n]]` -/
theorem spline_of_poly (t : ℕ → K) (k n : ℕ) (hk : 1 ≤ k) (hkn : k ≤ n)
    (hmono : ∀ a b, a ≤ b → b ≤ n + k - 1 → t a ≤ t b) (hfirst : t (k-1) < t k)
    (q : K[X]) (hq : q.natDegree < k) (x : K) (hlo : t (k-1) ≤ x) (hhi : x ≤ t n) :
    splineAtK t (polyCoeff t (k-1) q) k n x = q.eval x := by
  rw [C08.splineAt_eq_coxDeBoorAt t _ k n x hk hkn hmono hfirst hlo hhi, sum_map_range]
  have hB := C08.intrv_isBracket t k n x hk hkn hmono hfirst hlo hhi
  have hik := hB.hik
  have hle := C08.intrvOf_le t k n x hk hkn
  have := poly_in_span t (intrvOfK t k n x) n x (by omega) hB.strict (k-1) (by omega)
    (fun a b hab hb => hB.mono a b hab (by omega)) q (by omega)
  rwa [show k - 1 + 1 = k by omega] at this

end PydlVerif.C09
