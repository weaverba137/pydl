/-
`Char.toUpper` by code point: it moves `a..z` down by 32 and fixes every other character, so it is idempotent
(`str.upper()` of the yanny reader and of the maskbits names).
-/
namespace PydlVerif

/-- in `UInt32`, `Char.toUpper` adds `2^32 - 32` -/
theorem toUpper_lower (c : Char) (h : 97 ≤ c.toNat ∧ c.toNat ≤ 122) : c.toUpper.toNat = c.toNat - 32 := by
  unfold Char.toUpper
  rw [dif_pos ⟨UInt32.le_iff_toNat_le.mpr h.1, UInt32.le_iff_toNat_le.mpr h.2⟩]
  show (c.val + ('A'.val - 'a'.val)).toNat = c.val.toNat - 32
  rw [UInt32.toNat_add, show ('A'.val - 'a'.val).toNat = 4294967264 from rfl]
  have : c.val.toNat = c.toNat := rfl
  omega

theorem toUpper_other (c : Char) (h : ¬ (97 ≤ c.toNat ∧ c.toNat ≤ 122)) : c.toUpper = c := by
  unfold Char.toUpper
  rw [dif_neg]
  exact fun h' => h ⟨UInt32.le_iff_toNat_le.mp h'.1, UInt32.le_iff_toNat_le.mp h'.2⟩

theorem toUpper_lt (c : Char) (h : c.toNat < 128) : c.toUpper.toNat < 128 := by
  by_cases hl : 97 ≤ c.toNat ∧ c.toNat ≤ 122
  · rw [toUpper_lower c hl]
    omega
  · rw [toUpper_other c hl]
    exact h

theorem toUpper_not_lower (c : Char) : ¬ (97 ≤ c.toUpper.toNat ∧ c.toUpper.toNat ≤ 122) := by
  by_cases hl : 97 ≤ c.toNat ∧ c.toNat ≤ 122
  · rw [toUpper_lower c hl]
    omega
  · rw [toUpper_other c hl]
    exact hl

theorem toUpper_toUpper (c : Char) : c.toUpper.toUpper = c.toUpper :=
  toUpper_other _ (toUpper_not_lower c)

end PydlVerif
