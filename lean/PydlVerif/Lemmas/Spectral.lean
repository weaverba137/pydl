/-
Entrywise matrix identities over a field behind the contracts of the LAPACK kernels of C15: what follows from a right
inverse (`solves_of_inverse`: the contract `MulEqOne` of computechi2), from an orthogonal matrix (`rot_invariant`: the
`eigh` vectors of HMF's reorder), from `V Vᵀ = VᵀV = 1` with a spectral factorisation (`spectral_inverse`: `SpectralSvd`,
the covariance) or with `C V = V diag λ` (`spectral_reconstruct`, `spectral_trace`, `spectral_diag`: `EighOK` of pcomp).
-/
import Mathlib.Algebra.BigOperators.Fin
import Mathlib.Tactic.Ring
import Mathlib.Tactic.FieldSimp
open Finset
namespace PydlVerif.C15
section
variable {K : Type} [Field K]

theorem sum_mul_delta {m : ℕ} (k : Fin m) (f : Fin m → K) : ∑ l, f l * (if k = l then (1 : K) else 0) = f k := by
  simp only [mul_ite, mul_one, mul_zero, Finset.sum_ite_eq, Finset.mem_univ, if_true]

theorem solves_of_inverse {m : ℕ} {G Gi : Fin m → Fin m → K} {F c : Fin m → K}
    (hc : ∀ k, c k = ∑ l, Gi k l * F l)
    (hinv : ∀ k l, ∑ j, G k j * Gi j l = if k = l then 1 else 0) (k : Fin m) :
    ∑ l, G k l * c l = F k := by
  simp_rw [hc, Finset.mul_sum]
  rw [Finset.sum_comm]
  simp_rw [← mul_assoc, ← Finset.sum_mul, hinv k]
  simp only [ite_mul, one_mul, zero_mul, Finset.sum_ite_eq, Finset.mem_univ, if_true]

theorem rot_invariant {m : ℕ} (U : Fin m → Fin m → K) (x y : Fin m → K)
    (hU : ∀ l l' : Fin m, ∑ k, U l k * U l' k = if l = l' then 1 else 0) :
    ∑ k, (∑ l, x l * U l k) * (∑ l', U l' k * y l') = ∑ l, x l * y l := by
  simp_rw [Finset.sum_mul_sum]
  rw [Finset.sum_comm]
  apply Finset.sum_congr rfl; intro l _
  rw [Finset.sum_comm]
  have e : ∀ l' : Fin m, ∑ k, x l * U l k * (U l' k * y l') = x l * y l' * (if l = l' then 1 else 0) := by
    intro l'; rw [← hU l l', Finset.mul_sum]; apply Finset.sum_congr rfl; intros; ring
  simp_rw [e, sum_mul_delta]

theorem spectral_reconstruct {m : ℕ} {C V : Fin m → Fin m → K} {lam : Fin m → K}
    (rows : ∀ i l : Fin m, ∑ j, V i j * V l j = if i = l then 1 else 0)
    (eig : ∀ i j : Fin m, ∑ l, C i l * V l j = lam j * V i j) (i l : Fin m) :
    ∑ j, V i j * V l j * lam j = C i l := by
  have e : ∀ j, V i j * V l j * lam j = ∑ t, C i t * (V t j * V l j) := by
    intro j
    rw [mul_right_comm, mul_comm (V i j), ← eig i j, Finset.sum_mul]
    exact Finset.sum_congr rfl fun t _ => mul_assoc _ _ _
  simp_rw [e]
  rw [Finset.sum_comm]
  simp_rw [← Finset.mul_sum, rows, eq_comm (b := l), sum_mul_delta]

theorem spectral_trace {m : ℕ} {C V : Fin m → Fin m → K} {lam : Fin m → K}
    (rows : ∀ i l : Fin m, ∑ j, V i j * V l j = if i = l then 1 else 0)
    (cols : ∀ j j' : Fin m, ∑ i, V i j * V i j' = if j = j' then 1 else 0)
    (eig : ∀ i j : Fin m, ∑ l, C i l * V l j = lam j * V i j) :
    ∑ i, C i i = ∑ j, lam j := by
  simp_rw [← spectral_reconstruct rows eig]
  rw [Finset.sum_comm]
  apply Finset.sum_congr rfl; intro j _
  rw [← Finset.sum_mul, cols j j, if_pos rfl]; ring

theorem spectral_diag {m : ℕ} {C V : Fin m → Fin m → K} {lam : Fin m → K}
    (cols : ∀ j j' : Fin m, ∑ i, V i j * V i j' = if j = j' then 1 else 0)
    (eig : ∀ i j : Fin m, ∑ l, C i l * V l j = lam j * V i j) (j l : Fin m) :
    ∑ k, ∑ k', V k j * C k k' * V k' l = if j = l then lam l else 0 := by
  simp_rw [mul_assoc, ← Finset.mul_sum, eig, mul_left_comm _ (lam l), ← Finset.mul_sum, cols, mul_ite, mul_one, mul_zero]

theorem spectral_inverse {m : ℕ} {v : Fin m → Fin m → K} {w : Fin m → K} (hne : ∀ t, w t ≠ 0)
    (rows : ∀ t u : Fin m, ∑ j : Fin m, v t j * v u j = if t = u then 1 else 0)
    (cols : ∀ i l : Fin m, ∑ t : Fin m, v t i * v t l = if i = l then 1 else 0) (i l : Fin m) :
    ∑ j, (∑ c, (1 / w c) * v c i * v c j) * (∑ d, v d j * w d * v d l) = if i = l then 1 else 0 := by
  -- the sum over `j` is the orthogonality of the rows; what is left is `Σ_c (1/w c)·w c · v c i · v c l`
  have h := rot_invariant v (fun c => 1 / w c * v c i) (fun d => w d * v d l) rows
  simp only [← mul_assoc] at h
  rw [h, ← cols i l]
  exact Finset.sum_congr rfl fun c _ => by field_simp [hne c]

end
end PydlVerif.C15
