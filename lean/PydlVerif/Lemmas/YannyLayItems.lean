/-
C02, file level: the slots of a layout, resolved once.  `slotsOK`, `renderSlots` and `slotInfos` each walk a slot list
popping from what is left of the document what each slot writes; `Takes d st ss is` does the popping once, and along it
every such walk is the item-wise one, so that a property of a file is a property of one item, lifted by `allSome_rel`.
`allSome` (a list of options, all present) and its list facts stand in front.
-/
import PydlVerif.Lemmas.YannyLayout
namespace PydlVerif.YannyLay
open PydlVerif.Yanny PydlVerif.YannyRT

variable {F : Type}

/-- the conjuncts of `docOK2` that the layout chain uses (distinct enum column names, its second, is not among them) -/
theorem docOK2_props (d : Doc F) (hd : docOK2 d = true) :
    (∀ e ∈ d.enums, enumOK e = true) ∧ nodup (d.enums.map (fun e => upper e.tyName)) = true ∧
    (∀ t ∈ d.tables, tableOK2 d.enums t = true) ∧ nodup (d.tables.map (fun t => upper t.name)) = true ∧
    (∀ kv ∈ d.hdr, pairOK2 (d.tables.map (fun t => upper t.name)) kv = true) ∧
    nodup (d.hdr.map (·.1)) = true := by
  simp only [docOK2, Bool.and_eq_true, List.all_eq_true, and_assoc] at hd
  obtain ⟨he, _, het, ht, htn, hp, hpn⟩ := hd
  exact ⟨he, het, ht, htn, hp, hpn⟩

def allSome {α β : Type} (f : α → Option β) : List α → Option (List β)
  | [] => some []
  | a :: l =>
    match f a, allSome f l with
    | some b, some bs => some (b :: bs)
    | _, _ => none

theorem allSome_cons {α β : Type} {f : α → Option β} {a : α} {l : List α} {bs : List β}
    (h : allSome f (a :: l) = some bs) : ∃ b bs', f a = some b ∧ allSome f l = some bs' ∧ bs = b :: bs' := by
  simp only [allSome] at h
  split at h
  · rename_i b bs' hb hbs
    cases h
    exact ⟨b, bs', hb, hbs, rfl⟩
  · cases h

theorem allSome_rel {α β γ : Type} {f : α → Option β} {g : α → Option γ} {R : β → γ → Prop} :
    ∀ (l : List α) (bs : List β), (∀ a ∈ l, ∀ b, f a = some b → ∃ c, g a = some c ∧ R b c) →
      allSome f l = some bs → ∃ cs, allSome g l = some cs ∧ all2 R bs cs
  | [], bs, _, h => by cases h; exact ⟨[], rfl, trivial⟩
  | a :: l, bs, hp, h => by
    obtain ⟨b, bs', hb, hbs, rfl⟩ := allSome_cons h
    obtain ⟨c, hc, hr⟩ := hp a (by simp) b hb
    obtain ⟨cs, hcs, hrs⟩ := allSome_rel l bs' (fun x hx => hp x (by simp [hx])) hbs
    exact ⟨c :: cs, by simp only [allSome, hc, hcs], hr, hrs⟩

theorem allSome_isSome {α β : Type} {f : α → Option β} {l : List α} {bs : List β} (h : allSome f l = some bs) :
    ∀ a ∈ l, ∃ b, f a = some b := by
  induction l generalizing bs with
  | nil => exact fun _ ha => nomatch ha
  | cons a l ih =>
    obtain ⟨b, bs', hb, hbs, _⟩ := allSome_cons h
    exact List.forall_mem_cons.mpr ⟨⟨b, hb⟩, ih hbs⟩

theorem allSome_eq_map {α β : Type} {f : α → Option β} (g : α → β) (l : List α) (bs : List β)
    (hp : ∀ a ∈ l, ∀ b, f a = some b → b = g a) (h : allSome f l = some bs) : bs = l.map g := by
  induction l generalizing bs with
  | nil => cases h; rfl
  | cons a l ih =>
    obtain ⟨b, bs', hb, hbs, rfl⟩ := allSome_cons h
    rw [List.map_cons, ← hp a (by simp) b hb, ← ih bs' (fun x hx => hp x (by simp [hx])) hbs]

theorem allSome_map {α α' β : Type} (f : α' → Option β) (u : α → α') (l : List α) :
    allSome f (l.map u) = allSome (fun a => f (u a)) l := by
  induction l with
  | nil => rfl
  | cons a l ih => simp only [List.map_cons, allSome, ih]

/-- a slot together with the item of the document it writes -/
inductive Item (F : Type) where
  | pair (kv : Str × Str) (lay : PairLay)
  | row (t : Nat) (tb : TableD F) (r : List (Cell F)) (lay : RowLay)
  | sdef (t : TableD F) (lay : StructLay)
  | edef (e : EnumDecl) (lay : EnumLay)
  | filler (text : Str) (crlf : Bool)

def Item.ok (io : FloatIO F) (enums : List EnumDecl) : Item F → Bool
  | .pair kv lay => pairLayOK kv lay
  | .row _ tb r lay => rowLayOK io tb r lay
  | .sdef t lay => structLayOK enums t lay
  | .edef e lay => enumLayOK e lay
  | .filler text _ => fillerOK text

def Item.render (sepT : Sep → Str) (io : FloatIO F) (enums : List EnumDecl) : Item F → Option (Str × Bool)
  | .pair kv lay => some (renderPair sepT kv lay, lay.crlf)
  | .row _ _ r lay => (renderRow sepT io r lay).map (·, lay.crlf)
  | .sdef t lay => (renderStruct enums t lay).map (·, lay.crlf)
  | .edef e lay => (renderEnum e lay).map (·, lay.crlf)
  | .filler text crlf => some (text, crlf)

def Item.univ : Item F → Item F
  | .pair kv lay => .pair kv lay.univ
  | .row t tb r lay => .row t tb r lay.univ
  | .sdef t lay => .sdef t lay.univ
  | .edef e lay => .edef e lay.univ
  | .filler text _ => .filler text false

def Item.slot : Item F → Slot
  | .pair _ lay => .pair lay
  | .row t _ _ lay => .row t lay
  | .sdef _ lay => .sdef lay
  | .edef _ lay => .edef lay
  | .filler text crlf => .filler text crlf

def Item.inDoc (d : Doc F) : Item F → Prop
  | .pair kv _ => kv ∈ d.hdr
  | .row t tb r _ => d.tables[t]? = some tb ∧ r ∈ tb.rows
  | .sdef t _ => t ∈ d.tables
  | .edef e _ => e ∈ d.enums
  | .filler _ _ => True

/-- `Takes d st ss is`: the slots `ss` use up exactly what is left in `st`; `is` are the items they write -/
inductive Takes (d : Doc F) : RSt F → List Slot → List (Item F) → Prop
  | nil {st : RSt F} : (st.hdr.isEmpty && st.enums.isEmpty && st.defs.isEmpty && st.rows.all List.isEmpty) = true →
      Takes d st [] []
  | pair {st : RSt F} {kv rest lay ss is} : st.hdr = kv :: rest → Takes d { st with hdr := rest } ss is →
      Takes d st (.pair lay :: ss) (.pair kv lay :: is)
  | row {st : RSt F} {t r rows' tb lay ss is} : popAt t st.rows = some (r, rows') → d.tables[t]? = some tb →
      Takes d { st with rows := rows' } ss is → Takes d st (.row t lay :: ss) (.row t tb r lay :: is)
  | sdef {st : RSt F} {t rest lay ss is} : st.defs = t :: rest → Takes d { st with defs := rest } ss is →
      Takes d st (.sdef lay :: ss) (.sdef t lay :: is)
  | edef {st : RSt F} {e rest lay ss is} : st.enums = e :: rest → Takes d { st with enums := rest } ss is →
      Takes d st (.edef lay :: ss) (.edef e lay :: is)
  | filler {st : RSt F} {text crlf ss is} : Takes d st ss is →
      Takes d st (.filler text crlf :: ss) (.filler text crlf :: is)

theorem takes_slots {d : Doc F} {st : RSt F} {ss : List Slot} {is : List (Item F)} (h : Takes d st ss is) :
    ss = is.map Item.slot := by
  induction h with
  | nil => rfl
  | pair _ _ ih | row _ _ _ ih | sdef _ _ ih | edef _ _ ih | filler _ ih => rw [List.map_cons, ← ih]; rfl

theorem takes_exists (io : FloatIO F) (d : Doc F) : ∀ (ss : List Slot) (st : RSt F), slotsOK io d st ss = true →
    ∃ is, Takes d st ss is := by
  intro ss
  induction ss with
  | nil => exact fun st hok => ⟨[], .nil hok⟩
  | cons s ss ih =>
    intro st hok
    cases s with
    | pair lay =>
      cases hh : st.hdr with
      | nil => simp only [slotsOK, hh] at hok; cases hok
      | cons kv rest =>
        simp only [slotsOK, hh, Bool.and_eq_true] at hok
        obtain ⟨is, h⟩ := ih _ hok.2
        exact ⟨_, .pair hh h⟩
    | row t lay =>
      cases hp : popAt t st.rows with
      | none => simp only [slotsOK, hp] at hok; cases hok
      | some res =>
        obtain ⟨r, rows'⟩ := res
        cases htb : d.tables[t]? with
        | none => simp only [slotsOK, hp, htb] at hok; cases hok
        | some tb =>
          simp only [slotsOK, hp, htb, Bool.and_eq_true] at hok
          obtain ⟨is, h⟩ := ih _ hok.2
          exact ⟨_, .row hp htb h⟩
    | sdef lay =>
      cases hh : st.defs with
      | nil => simp only [slotsOK, hh] at hok; cases hok
      | cons t rest =>
        simp only [slotsOK, hh, Bool.and_eq_true] at hok
        obtain ⟨is, h⟩ := ih _ hok.2
        exact ⟨_, .sdef hh h⟩
    | edef lay =>
      cases hh : st.enums with
      | nil => simp only [slotsOK, hh] at hok; cases hok
      | cons e rest =>
        simp only [slotsOK, hh, Bool.and_eq_true] at hok
        obtain ⟨is, h⟩ := ih _ hok.2
        exact ⟨_, .edef hh h⟩
    | filler text crlf =>
      simp only [slotsOK, Bool.and_eq_true] at hok
      obtain ⟨is, h⟩ := ih _ hok.2
      exact ⟨_, .filler h⟩

theorem takes_ok {io : FloatIO F} {d : Doc F} {st : RSt F} {ss : List Slot} {is : List (Item F)}
    (h : Takes d st ss is) : slotsOK io d st ss = is.all (Item.ok io d.enums) := by
  induction h with
  | nil h => simp only [slotsOK, h, List.all_nil]
  | pair hh _ ih => simp only [slotsOK, hh, ih, List.all_cons, Item.ok]
  | row hp htb _ ih => simp only [slotsOK, hp, htb, ih, List.all_cons, Item.ok]
  | sdef hh _ ih => simp only [slotsOK, hh, ih, List.all_cons, Item.ok]
  | edef hh _ ih => simp only [slotsOK, hh, ih, List.all_cons, Item.ok]
  | filler _ ih => simp only [slotsOK, ih, List.all_cons, Item.ok]

theorem takes_of (io : FloatIO F) (d : Doc F) (ss : List Slot) (st : RSt F) (hok : slotsOK io d st ss = true) :
    ∃ is, Takes d st ss is ∧ ∀ i ∈ is, i.ok io d.enums = true := by
  obtain ⟨is, h⟩ := takes_exists io d ss st hok
  exact ⟨is, h, List.all_eq_true.mp (takes_ok h ▸ hok)⟩

theorem takes_render (sepT : Sep → Str) (io : FloatIO F) {d : Doc F} {st : RSt F} {ss : List Slot}
    {is : List (Item F)} (h : Takes d st ss is) :
    renderSlots sepT io d st ss = allSome (Item.render sepT io d.enums) is := by
  induction h with
  | nil h => simp only [renderSlots, h, if_true, allSome]
  | pair hh _ ih =>
    simp only [renderSlots, hh, ih, allSome, Item.render]
    cases allSome (Item.render sepT io d.enums) _ <;> rfl
  | @row _ _ r _ _ lay _ _ hp _ _ ih =>
    simp only [renderSlots, hp, ih, allSome, Item.render]
    cases renderRow sepT io r lay <;> cases allSome (Item.render sepT io d.enums) _ <;> rfl
  | @sdef _ t _ lay _ _ hh _ ih =>
    simp only [renderSlots, hh, ih, allSome, Item.render]
    cases renderStruct d.enums t lay <;> cases allSome (Item.render sepT io d.enums) _ <;> rfl
  | @edef _ e _ lay _ _ hh _ ih =>
    simp only [renderSlots, hh, ih, allSome, Item.render]
    cases renderEnum e lay <;> cases allSome (Item.render sepT io d.enums) _ <;> rfl
  | filler _ ih =>
    simp only [renderSlots, ih, allSome, Item.render]
    cases allSome (Item.render sepT io d.enums) _ <;> rfl

theorem takes_univ {d : Doc F} {st : RSt F} {ss : List Slot} {is : List (Item F)} (h : Takes d st ss is) :
    Takes d st (ss.map Slot.univ) (is.map Item.univ) := by
  induction h with
  | nil h => exact .nil h
  | pair hh _ ih => exact .pair hh ih
  | row hp htb _ ih => exact .row hp htb ih
  | sdef hh _ ih => exact .sdef hh ih
  | edef hh _ ih => exact .edef hh ih
  | filler _ ih => exact .filler ih

/-- what is still to be written is part of the document -/
structure Rest (d : Doc F) (st : RSt F) : Prop where
  hdr : ∀ kv ∈ st.hdr, kv ∈ d.hdr
  enums : ∀ e ∈ st.enums, e ∈ d.enums
  defs : ∀ t ∈ st.defs, t ∈ d.tables
  rows : all2 (fun (tb : TableD F) rs => ∀ r ∈ rs, r ∈ tb.rows) d.tables st.rows

theorem rest_init (d : Doc F) : Rest d (initRSt d) := by
  refine ⟨fun _ h => h, fun _ h => h, fun _ h => h, ?_⟩
  show all2 _ d.tables (d.tables.map (·.rows))
  induction d.tables with
  | nil => trivial
  | cons t ts ih => exact ⟨fun _ h => h, ih⟩

theorem popAt_forall {α β : Type} (P : β → α → Prop) : ∀ (t : Nat) (tabs : List β) (rows : List (List α)) (r : α)
    (rows' : List (List α)), popAt t rows = some (r, rows') → all2 (fun tb rs => ∀ x ∈ rs, P tb x) tabs rows →
    ∀ tb, tabs[t]? = some tb → P tb r ∧ all2 (fun tb rs => ∀ x ∈ rs, P tb x) tabs rows'
  | _, [], [], _, _, hp, _, _, _ => by simp [popAt] at hp
  | _, [], _ :: _, _, _, _, hf, _, _ => hf.elim
  | _, _ :: _, [], _, _, _, hf, _, _ => hf.elim
  | 0, b :: bs, [] :: qs, _, _, hp, _, _, _ => by simp [popAt] at hp
  | 0, b :: bs, (x :: xs) :: qs, r, rows', hp, ⟨h1, h2⟩, tb, htb => by
    simp only [popAt, Option.some.injEq, Prod.mk.injEq] at hp
    obtain ⟨rfl, rfl⟩ := hp
    simp only [List.getElem?_cons_zero, Option.some.injEq] at htb
    subst htb
    exact ⟨h1 _ (by simp), fun y hy => h1 y (by simp [hy]), h2⟩
  | n + 1, b :: bs, q :: qs, r, rows', hp, ⟨h1, h2⟩, tb, htb => by
    simp only [popAt] at hp
    split at hp
    · rename_i x rest' hq
      cases hp
      obtain ⟨k1, k2⟩ := popAt_forall P n bs qs _ rest' hq h2 tb (by simpa using htb)
      exact ⟨k1, h1, k2⟩
    · cases hp

theorem takes_inDoc {d : Doc F} {st : RSt F} {ss : List Slot} {is : List (Item F)} (h : Takes d st ss is)
    (inv : Rest d st) : ∀ i ∈ is, i.inDoc d := by
  induction h with
  | nil => exact fun _ h => nomatch h
  | pair hh _ ih =>
    obtain ⟨h1, h2⟩ := List.forall_mem_cons.mp (hh ▸ inv.hdr)
    exact List.forall_mem_cons.mpr ⟨h1, ih ⟨h2, inv.enums, inv.defs, inv.rows⟩⟩
  | row hp htb _ ih =>
    obtain ⟨h1, h2⟩ := popAt_forall (fun (tb : TableD F) r => r ∈ tb.rows) _ d.tables _ _ _ hp inv.rows _ htb
    exact List.forall_mem_cons.mpr ⟨⟨htb, h1⟩, ih ⟨inv.hdr, inv.enums, inv.defs, h2⟩⟩
  | sdef hh _ ih =>
    obtain ⟨h1, h2⟩ := List.forall_mem_cons.mp (hh ▸ inv.defs)
    exact List.forall_mem_cons.mpr ⟨h1, ih ⟨inv.hdr, inv.enums, h2, inv.rows⟩⟩
  | edef hh _ ih =>
    obtain ⟨h1, h2⟩ := List.forall_mem_cons.mp (hh ▸ inv.enums)
    exact List.forall_mem_cons.mpr ⟨h1, ih ⟨inv.hdr, h2, inv.defs, inv.rows⟩⟩
  | filler _ ih => exact List.forall_mem_cons.mpr ⟨trivial, ih inv⟩

end PydlVerif.YannyLay
