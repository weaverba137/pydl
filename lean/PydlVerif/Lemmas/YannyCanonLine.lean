/-
What `protect`, `fmtCell`, `fmtRow` write is one of the legal renderings of a token, a cell, a row in the sense of
Model/YannyLayout.lean, so reading it back is the layout lemmas' business; C01's hypothesis `H2` provides the legality
of the style for a printed float.
-/
import PydlVerif.Lemmas.YannyLayDefs
namespace PydlVerif.Yanny

variable {F : Type}

theorem protect_cases (s : Str) :
    protect s = '"' :: (s ++ ['"']) ∨
      (protect s = s ∧ s ≠ [] ∧ '#' ∉ s ∧ ∀ c ∈ s, isSpace c = false) := by
  unfold protect
  split
  · exact Or.inl rfl
  · rename_i h
    refine Or.inr ⟨rfl, ?_⟩
    simpa [needsQuote, and_assoc] using h

theorem protect_head (s : Str) : ∃ c t, protect s = c :: t ∧ isSpace c = false := by
  rcases protect_cases s with e | ⟨e, hne, _, hsp⟩
  · exact ⟨'"', _, e, by decide⟩
  · obtain ⟨c, t, rfl⟩ := List.exists_cons_of_ne_nil hne
    exact ⟨c, t, e, hsp c (by simp)⟩

/-- the quoting style `protect` picks -/
def protStyle (s : Str) : QStyle := if needsQuote s then .quoted else .bare

theorem protect_quoteTok (s : Str) : protect s = quoteTok (protStyle s) s := by
  unfold protect protStyle
  split <;> rfl

theorem protStyle_legal (s : Str) (hs : tokOK s = true) :
    tokLegal (protStyle s) s = true ∧ ('}' ∉ s → elemLegal (protStyle s) s = true) := by
  obtain ⟨hq, hb, hn⟩ := (tokOK_iff s).mp hs
  unfold protStyle
  split
  · simp [tokLegal, elemLegal, hq, hn]
  · rename_i h
    -- not quoted: the datum is not empty and has no `#` and no white space
    have hbare : bareLegal s = true := by
      simp only [needsQuote, Bool.or_eq_true, not_or, Bool.not_eq_true, List.isEmpty_eq_false_iff,
        List.any_eq_false] at h
      simp only [bareLegal, Bool.and_eq_true, Bool.not_eq_true', List.all_eq_true, bne_iff_ne, ne_eq]
      refine ⟨⟨by simpa using h.1.1, fun c hc => ⟨⟨by simpa using h.2 c hc, ?_⟩, ?_⟩⟩, by simpa using hb⟩
      · rintro rfl; exact absurd (List.contains_iff_mem.mpr hc) (by simpa using h.1.2)
      · rintro rfl; exact hq hc
    exact ⟨hbare, fun hc => by simp [elemLegal, hbare, hc]⟩

theorem getToken_protect (s rest : Str) (hs : tokOK s = true)
    (hr : ∀ c, rest.head? = some c → isSpace c = false) (hn : '\n' ∉ rest) :
    getToken (protect s ++ ' ' :: rest) = .ok (s, rest) := by
  rw [protect_quoteTok]
  exact getToken_quote_sep _ s [' '] rest (protStyle_legal s hs).1 (by simp) (by decide) hr hn

def spaced (l : List Str) : Str := (l.map (' ' :: ·)).flatten

theorem joinSp_cons (a : Str) (t : List Str) : joinSp (a :: t) = a ++ spaced t := by
  induction t generalizing a with
  | nil => simp [joinSp, spaced]
  | cons b t ih => rw [joinSp, ih b]; simp [spaced]

theorem intChar_ne (c : Char) (h : intChar c = true) : c ≠ '"' ∧ c ≠ '{' ∧ c ≠ '}' ∧ c ≠ '\n' := by
  refine ⟨?_, ?_, ?_, ?_⟩ <;> (intro e; subst e; exact absurd h (by decide))

theorem tokOK_of_chars (s : Str) (h : ∀ c ∈ s, c ≠ '"' ∧ c ≠ '{' ∧ c ≠ '}' ∧ c ≠ '\n') :
    tokOK s = true ∧ '}' ∉ s :=
  ⟨(tokOK_iff s).mpr ⟨fun hm => (h _ hm).1 rfl, fun e => (h _ (List.mem_of_mem_head? e)).2.1 rfl,
    fun hm => (h _ hm).2.2.2 rfl⟩, fun hm => (h _ hm).2.2.1 rfl⟩

theorem scText_ok (io : FloatIO F) (h2 : H2 io) (c : Conv) (arr : Bool) (v : Sc F)
    (hv : scFits c arr v = true) :
    tokOK (scText io v) = true ∧ (arr = true → '}' ∉ scText io v) := by
  cases v with
  | int n => exact (tokOK_of_chars _ fun c hc => intChar_ne c (fmtInt_chars n c hc)).imp_right fun h _ => h
  | flt w x => exact (tokOK_of_chars _ (h2 w x)).imp_right fun h _ => h
  | str s =>
    simp only [scFits, Bool.and_eq_true, Bool.or_eq_true, Bool.not_eq_true'] at hv
    refine ⟨hv.1.2, fun ha hm => ?_⟩
    rcases hv.2 with h | h
    · rw [ha] at h; cases h
    · have h' : '}' ∉ s := by simpa using h
      exact h' hm

theorem scFits_kind (c : Conv) (arr : Bool) (v : Sc F) (h : scFits c arr v = true) : scKind c v = true := by
  cases v with
  | int n => exact h
  | flt w x => exact h
  | str s =>
    simp only [scFits, Bool.and_eq_true] at h
    exact h.1.1

theorem cellFits_many (col : ColSpec) (vs : List (Sc F)) (hx : cellFits col (.many vs) = true) :
    col.isArr = true ∧ ∀ v ∈ vs, scFits col.conv true v = true := by
  simp only [cellFits, Bool.and_eq_true, List.all_eq_true] at hx
  exact ⟨hx.1.1, hx.2⟩

/-- the single blank the writer puts between data -/
def oneBlank : Sep := ⟨[' '], none⟩

theorem elems_written (io : FloatIO F) (h2 : H2 io) (c : Conv) (vs : List (Sc F))
    (hv : ∀ v ∈ vs, scFits c true v = true) :
    ∃ ls, elemsLayOK io vs ls = true ∧
      renderElems Sep.logical io vs ls = some (spaced (vs.map fun v => protect (scText io v))) := by
  induction vs with
  | nil => exact ⟨[], rfl, rfl⟩
  | cons v vs ih =>
    obtain ⟨ls, i1, i2⟩ := ih (fun w hw => hv w (by simp [hw]))
    obtain ⟨hok, hbr⟩ := scText_ok io h2 c true v (hv v (by simp))
    refine ⟨(oneBlank, protStyle (scText io v)) :: ls, ?_, ?_⟩
    · simp only [elemsLayOK, (protStyle_legal _ hok).2 (hbr rfl), i1, Bool.and_true]
      rfl
    · simp [renderElems, i2, oneBlank, Sep.logical, protect_quoteTok, spaced]

/-- the layout of what `fmtCell` writes: the style `protect` picks for every datum, no padding inside the braces,
one blank between the elements of an array -/
theorem cell_written (io : FloatIO F) (h2 : H2 io) (col : ColSpec) (x : Cell F) (hx : cellFits col x = true) :
    cellKind col x = true ∧
      ∃ l, cellLayOK io x l = true ∧ renderCell Sep.logical io x l = some (fmtCell io x) := by
  match x with
  | .one v =>
    simp only [cellFits, Bool.and_eq_true] at hx
    exact ⟨by simp [cellKind, hx.1, scFits_kind _ _ _ hx.2], .one (protStyle (scText io v)),
      (protStyle_legal _ (scText_ok io h2 col.conv false v hx.2).1).1,
      by simp [renderCell, fmtCell, protect_quoteTok]⟩
  | .many [] => simp [cellFits] at hx
  | .many (v :: vs) =>
    obtain ⟨ha, hv⟩ := cellFits_many col (v :: vs) hx
    obtain ⟨ls, i1, i2⟩ := elems_written io h2 col.conv vs (fun w hw => hv w (by simp [hw]))
    obtain ⟨hok, hbr⟩ := scText_ok io h2 col.conv true v (hv v (by simp))
    refine ⟨?_, .many [] (protStyle (scText io v)) ls [], ?_, ?_⟩
    · simp only [cellKind, ha, Bool.true_and, List.all_eq_true]
      exact fun w hw => scFits_kind _ _ _ (hv w hw)
    · simp only [cellLayOK, List.all_nil, (protStyle_legal _ hok).2 (hbr rfl), i1, Bool.and_self]
    · simp [renderCell, i2, fmtCell, joinSp_cons, protect_quoteTok]

theorem row_written (io : FloatIO F) (h2 : H2 io) (sch : List ColSpec) (r : List (Cell F))
    (hr : rowFits sch r = true) :
    rowKinds sch r = true ∧ ∃ lays, cellsLayOK io r lays = true ∧
      renderCells Sep.logical io r lays = some (spaced (r.map (fmtCell io))) := by
  induction sch generalizing r with
  | nil =>
    cases r with
    | nil => exact ⟨rfl, [], rfl, rfl⟩
    | cons x xs => simp [rowFits] at hr
  | cons c cs ih =>
    cases r with
    | nil => simp [rowFits] at hr
    | cons x xs =>
      simp only [rowFits, Bool.and_eq_true] at hr
      obtain ⟨a1, l, a2, a3⟩ := cell_written io h2 c x hr.1
      obtain ⟨b1, ls, b2, b3⟩ := ih xs hr.2
      refine ⟨by simp [rowKinds, a1, b1], (oneBlank, l) :: ls, ?_, ?_⟩
      · simp only [cellsLayOK, a2, b2, Bool.and_true]
        rfl
      · simp [renderCells, a3, b3, oneBlank, Sep.logical, spaced]

theorem fmtCell_head (io : FloatIO F) (x : Cell F) : ∃ c t, fmtCell io x = c :: t ∧ isSpace c = false := by
  cases x with
  | one v => exact protect_head _
  | many vs => exact ⟨'{', _, rfl, by decide⟩

/-- the white space in front of the first cell is its one blank -/
theorem lstrip_cells (io : FloatIO F) (r : List (Cell F)) :
    (spaced (r.map (fmtCell io))).dropWhile isSpace = fmtRowBody io r := by
  cases r with
  | nil => rfl
  | cons x xs =>
    obtain ⟨c, t, e, hc⟩ := fmtCell_head io x
    rw [fmtRowBody, List.map_cons, joinSp_cons, e]
    show (' ' :: (c :: t ++ spaced (xs.map (fmtCell io)))).dropWhile isSpace = _
    rw [List.dropWhile_cons_of_pos (by decide)]
    exact dropWhile_head_false _ _ _ hc

theorem fmtCell_read (io : FloatIO F) (h1 : H1 io) (h2 : H2 io) (col : ColSpec) (x : Cell F)
    (hx : cellFits col x = true) (tail : Str) (ht : ∀ c, tail.head? = some c → isSpace c = true)
    (hn : '\n' ∉ tail) :
    ∃ data, getToken (fmtCell io x ++ tail) = .ok (data, tail.dropWhile isSpace) ∧
      parseCell io col data = .ok x := by
  obtain ⟨hk, l, hok, hr⟩ := cell_written io h2 col x hx
  exact getToken_cellLay io h1 col x l _ hok hr hk tail ht hn

end PydlVerif.Yanny
