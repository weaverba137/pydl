/-
`np.interp` is modelled twice, word for word: `Interp.interpGo`/`Interp.npInterp` (djs_maskinterp, combine1fiber) and
`Wave.interpGo`/`Wave.npInterp` (filter_thru).  The two walks are the same function (`wave_interpGo_eq`); what is proved here is proved
for `Interp.interpGo`: the walk passes every sample not right of `x` (`interpGo_append`, `interpGo_last`, read at `Wave.interpGo` by
`Wave`'s `npInterp_right`), and where it stops depends on the abscissae only (`interpGo_loc`).  Lemmas/Wave.lean proves convexity
(`interpGo_mem`) on its own copy of the walk.
-/
import PydlVerif.Model.Interp
import PydlVerif.Model.Wave
import PydlVerif.Lemmas.ScalarField
namespace PydlVerif

theorem wave_interpGo_eq {α : Type} [Scalar α] (x : α) (rest : List (α × α)) :
    ∀ x0 f0 : α, Wave.interpGo x x0 f0 rest = Interp.interpGo x x0 f0 rest := by
  induction rest with
  | nil => exact fun _ _ => rfl
  | cons q rest ih =>
    intro x0 f0
    rw [Wave.interpGo, Interp.interpGo, ih]

section field
variable {K : Type} [Field K] [LinearOrder K] [IsStrictOrderedRing K] [FloorRing K]
attribute [local instance] fieldScalar
attribute [-instance] Scalar.instOfNat Scalar.instOfScientific

theorem interpGo_append (x : K) (r : List (K × K)) : ∀ (l : List (K × K)) (x0 f0 : K), (∀ q ∈ l, q.1 ≤ x) →
    Interp.interpGo x x0 f0 (l ++ r) = Interp.interpGo x (((x0, f0) :: l).getLast (List.cons_ne_nil _ _)).1
      (((x0, f0) :: l).getLast (List.cons_ne_nil _ _)).2 r := by
  intro l
  induction l with
  | nil => intro x0 f0 _; rfl
  | cons q l ih =>
    intro x0 f0 h
    rw [List.cons_append, Interp.interpGo, if_neg (not_lt.2 (h q List.mem_cons_self)),
      ih q.1 q.2 (fun q hq => h q (List.mem_cons_of_mem _ hq)), List.getLast_cons (List.cons_ne_nil _ _)]

theorem interpGo_last (x : K) (rest : List (K × K)) (x0 f0 : K) (h : ∀ q ∈ rest, q.1 ≤ x) :
    Interp.interpGo x x0 f0 rest = (((x0, f0) :: rest).getLast (List.cons_ne_nil _ _)).2 := by
  have := interpGo_append x [] rest x0 f0 h
  rwa [List.append_nil, Interp.interpGo] at this

/-- where the walk stops depends on the abscissae (`key`) only: the same place whatever value column `v` is read -/
theorem interpGo_loc {β : Type} (key : β → K) (lam : K) : ∀ (rest : List β) (p0 : β), key p0 ≤ lam →
    (∃ pre a b post, p0 :: rest = pre ++ a :: b :: post ∧ key a < lam ∧ lam < key b ∧
      ∀ v : β → K, Interp.interpGo lam (key p0) (v p0) (rest.map fun p => (key p, v p))
        = (v b - v a) / (key b - key a) * (lam - key a) + v a) ∨
    (∃ a, a ∈ p0 :: rest ∧ key a ≤ lam ∧ (key a = lam ∨ a = (p0 :: rest).getLast (List.cons_ne_nil _ _)) ∧
      ∀ v : β → K, Interp.interpGo lam (key p0) (v p0) (rest.map fun p => (key p, v p)) = v a) := by
  intro rest
  induction rest with
  | nil => exact fun p0 h0 => Or.inr ⟨p0, List.mem_singleton.2 rfl, h0, Or.inr rfl, fun _ => rfl⟩
  | cons p1 rest ih =>
    intro p0 h0
    by_cases hlt : lam < key p1
    · by_cases heq : key p0 = lam
      · refine Or.inr ⟨p0, List.mem_cons_self, h0, Or.inl heq, fun v => ?_⟩
        rw [List.map_cons, Interp.interpGo, if_pos hlt, if_pos ((scalar_beq _ _).2 heq)]
      · refine Or.inl ⟨[], p0, p1, rest, rfl, lt_of_le_of_ne h0 heq, hlt, fun v => ?_⟩
        rw [List.map_cons, Interp.interpGo, if_pos hlt, if_neg fun hb => heq ((scalar_beq _ _).1 hb)]
    · -- the walk moves on to `p1`; what it finds there is found in the longer list one place later
      have step : ∀ v : β → K, Interp.interpGo lam (key p0) (v p0) ((p1 :: rest).map fun p => (key p, v p))
          = Interp.interpGo lam (key p1) (v p1) (rest.map fun p => (key p, v p)) := fun v => by
        rw [List.map_cons, Interp.interpGo, if_neg hlt]
      rcases ih p1 (not_lt.1 hlt) with ⟨pre, a, b, post, hsplit, ha, hb, e⟩ | ⟨a, hm, ha, hloc, e⟩
      · exact Or.inl ⟨p0 :: pre, a, b, post, by rw [hsplit]; rfl, ha, hb, fun v => (step v).trans (e v)⟩
      · refine Or.inr ⟨a, List.mem_cons_of_mem _ hm, ha, hloc.imp_right fun h => ?_, fun v => (step v).trans (e v)⟩
        rw [h, List.getLast_cons (List.cons_ne_nil _ _)]

end field
end PydlVerif
