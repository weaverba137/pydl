/-
The file-system lookup of readspec (Model/SpecFiles.lean): zero-padded numbers parse back to themselves, so file names,
paths and plate directories are injective; a run of digits ends at the '-', which is what the glob and the regular
expression of latest_mjd rest on; so latest_mjd over a listing is the abstract `latestMjd` over its (plate, MJD) pairs.
Core Lean only.
-/
import PydlVerif.Model.SpecFiles
import PydlVerif.Lemmas.Except
import PydlVerif.Lemmas.ListBasics
import PydlVerif.Lemmas.Loops
namespace PydlVerif.C16
open PydlVerif PydlVerif.SpecOrder

theorem digitChar_isDigit : ∀ d, d < 10 → (digitChar d).isDigit = true := by decide
theorem digitChar_val : ∀ d, d < 10 → (digitChar d).toNat - 48 = d := by decide
theorem digitChar_ne_dash : ∀ d, d < 10 → digitChar d ≠ '-' := by decide

theorem decVal_append (a : List Char) (c : Char) : decVal (a ++ [c]) = 10 * decVal a + (c.toNat - 48) := by
  simp [decVal, List.foldl_append]

theorem decVal_decDigits (n : Nat) : decVal (decDigits n) = n := by
  induction n using decDigits.induct with
  | case1 n h =>
    rw [decDigits, if_pos h]
    exact (Nat.zero_add _).trans (digitChar_val n h)
  | case2 n h ih =>
    rw [decDigits, if_neg h, decVal_append, ih, digitChar_val _ (Nat.mod_lt _ (by decide))]
    exact Nat.div_add_mod n 10

theorem decDigits_all_digit (n : Nat) : ∀ c ∈ decDigits n, c.isDigit = true := by
  induction n using decDigits.induct with
  | case1 n h =>
    rw [decDigits, if_pos h]
    intro c hc
    rw [List.mem_singleton.mp hc]
    exact digitChar_isDigit n h
  | case2 n h ih =>
    rw [decDigits, if_neg h]
    intro c hc
    rcases List.mem_append.mp hc with hc | hc
    · exact ih c hc
    · rw [List.mem_singleton.mp hc]
      exact digitChar_isDigit _ (Nat.mod_lt _ (by decide))

theorem decDigits_length_pos (n : Nat) : 0 < (decDigits n).length := by
  rw [decDigits]
  split <;> simp

theorem decDigits_length_le (k : Nat) : ∀ n, n < 10 ^ (k + 1) → (decDigits n).length ≤ k + 1 := by
  induction k with
  | zero =>
    intro n h
    rw [decDigits, if_pos h]
    exact Nat.le_refl 1
  | succ k ih =>
    intro n h
    rw [decDigits]
    split
    · exact Nat.le_add_left 1 _
    · rw [List.length_append]
      exact Nat.succ_le_succ (ih (n / 10) ((Nat.div_lt_iff_lt_mul (by decide)).mpr h))

theorem decVal_zeros (k : Nat) (l : List Char) : decVal (List.replicate k '0' ++ l) = decVal l := by
  induction k with
  | zero => rfl
  | succ k ih =>
    rw [List.replicate_succ, List.cons_append]
    exact ih

theorem decVal_fmtD (w n : Nat) : decVal (fmtD w n) = n := by
  rw [fmtD, padL, decVal_zeros, decVal_decDigits]

/-- zero-padded decimal formatting is injective, whatever the width and however many digits -/
theorem fmtD_injective (w a b : Nat) (h : fmtD w a = fmtD w b) : a = b := by
  have := congrArg decVal h
  rwa [decVal_fmtD, decVal_fmtD] at this

theorem fmtD_all_digit (w n : Nat) : ∀ c ∈ fmtD w n, c.isDigit = true := by
  intro c hc
  rcases List.mem_append.mp hc with hc | hc
  · rw [(List.mem_replicate.mp hc).2]
    rfl
  · exact decDigits_all_digit n c hc

theorem fmtD_length_ge (w n : Nat) : w ≤ (fmtD w n).length := by
  rw [fmtD, padL, List.length_append, List.length_replicate]
  omega

theorem fmtD_length_eq (k n : Nat) (h : n < 10 ^ (k + 1)) : (fmtD (k + 1) n).length = k + 1 := by
  have := decDigits_length_le k n h
  rw [fmtD, padL, List.length_append, List.length_replicate]
  omega

/-- this is how the fields of "{0:04d}-{1:05d}" are told apart, and what the greedy `[0-9]{4,}-` of the expression takes -/
theorem span_digits (a r : List Char) (ha : ∀ c ∈ a, c.isDigit = true) :
    (a ++ '-' :: r).takeWhile Char.isDigit = a ∧ (a ++ '-' :: r).dropWhile Char.isDigit = '-' :: r :=
  Prod.mk.inj (span_append _ ha fun _ h => Option.some.inj h ▸ rfl)

theorem digits_dash_inj (a a' r r' : List Char) (ha : ∀ c ∈ a, c.isDigit = true) (ha' : ∀ c ∈ a', c.isDigit = true)
    (h : a ++ '-' :: r = a' ++ '-' :: r') : a = a' ∧ r = r' := by
  have e : a = a' := by rw [← (span_digits a r ha).1, h, (span_digits a' r' ha').1]
  subst e
  exact ⟨rfl, (List.cons.inj (List.append_cancel_left h)).2⟩

theorem specFileName_shape (p m : Nat) :
    specFileName p m = sPfx ++ (fmtD 4 p ++ '-' :: (fmtD 5 m ++ sSfx)) := by
  rw [specFileName, pmjdStr, List.append_assoc, List.cons_append]

/-- two requests share a file name only when they are the same (plate, MJD) - for ALL plates and MJDs, also
plates ≥ 10000 (5 and more digits) and MJDs ≥ 100000 -/
theorem specFileName_injective (p m q n : Nat) (h : specFileName p m = specFileName q n) : p = q ∧ m = n := by
  rw [specFileName_shape, specFileName_shape] at h
  have h2 := digits_dash_inj _ _ _ _ (fmtD_all_digit 4 p) (fmtD_all_digit 4 q) (List.append_cancel_left h)
  exact ⟨fmtD_injective 4 p q h2.1, fmtD_injective 5 m n (List.append_cancel_right h2.2)⟩

theorem pathJoin_injective (a b b' : List Char) (hb : b.head? ≠ some '/') (hb' : b'.head? ≠ some '/')
    (h : pathJoin a b = pathJoin a b') : b = b' := by
  have e : ∀ c : List Char, c.head? ≠ some '/' →
      pathJoin a c = if a = [] ∨ a.getLast? = some '/' then a ++ c else a ++ '/' :: c := by
    intro c hc
    unfold pathJoin
    split
    · exact absurd rfl hc
    · rfl
  rw [e b hb, e b' hb'] at h
  split at h
  · exact List.append_cancel_left h
  · exact (List.cons.inj (List.append_cancel_left h)).2

/-- the full path `os.path.join(dir, "spPlate-pppp-mmmmm.fits")` is injective in (plate, MJD) for every directory -/
theorem specFile_injective (dir : List Char) (p m q n : Nat) (h : specFile dir p m = specFile dir q n) : p = q ∧ m = n :=
  specFileName_injective p m q n (pathJoin_injective dir _ _ (by decide : some 's' ≠ some '/') (by decide : some 's' ≠ some '/') h)

/-- the directory of a plate (`spec_path` without `path=`) is injective in the plate, so plates never share a directory -/
theorem specPath_injective (topdir run2d : List Char) (p q : Nat)
    (h : specPath none topdir run2d [p] = specPath none topdir run2d [q]) : p = q := by
  -- the last component starts with a digit, never with '/'
  have hd : ∀ n, (fmtD 4 n).head? ≠ some '/' := fun n hh =>
    absurd (fmtD_all_digit 4 n '/' (List.mem_of_mem_head? hh)) (by decide)
  exact fmtD_injective 4 p q (pathJoin_injective _ _ _ (hd p) (hd q) (List.cons.inj h).1)

/-- the glob of plate p picks the spPlate file of plate q iff p = q: decoy plates whose number contains the digits of
p (266 / 2660 / 1266 / 10266 ...) never match, whatever their MJD -/
theorem globMatch_specFileName (p q m : Nat) : globMatch p (specFileName q m) = true ↔ p = q := by
  simp only [globMatch, Bool.and_eq_true, List.isPrefixOf_iff_prefix, List.isSuffixOf_iff_suffix, specFileName_shape]
  constructor
  · intro h
    obtain ⟨t, ht⟩ := List.prefix_append_right_inj _ |>.mp h.1
    rw [List.append_assoc, List.singleton_append] at ht
    exact fmtD_injective 4 p q (digits_dash_inj _ _ _ _ (fmtD_all_digit 4 p) (fmtD_all_digit 4 q) ht).1
  · intro h
    subst h
    have e : sPfx ++ (fmtD 4 p ++ '-' :: (fmtD 5 m ++ sSfx)) = (sPfx ++ (fmtD 4 p ++ ['-'])) ++ (fmtD 5 m ++ sSfx) := by
      simp only [List.append_assoc, List.singleton_append]
    rw [e, List.drop_left]
    exact ⟨List.prefix_append _ _, List.suffix_append _ _⟩

theorem reMatchAt_of_shape (a b rest : List Char) (c : Char) (ha : ∀ x ∈ a, x.isDigit = true) (ha4 : 4 ≤ a.length)
    (hb : b.length = 5) (hbd : ∀ x ∈ b, x.isDigit = true) (hc : c ≠ '\n')
    (hr : ['f', 'i', 't', 's'].isPrefixOf rest = true) :
    reMatchAt (sPfx ++ (a ++ '-' :: (b ++ c :: rest))) = some (decVal b) := by
  have hd : (sPfx ++ (a ++ '-' :: (b ++ c :: rest))).drop 8 = a ++ '-' :: (b ++ c :: rest) := List.drop_left' rfl
  have tw := span_digits a (b ++ c :: rest) ha
  have hall : b.all Char.isDigit = true := List.all_eq_true.mpr hbd
  unfold reMatchAt
  rw [if_pos (List.isPrefixOf_iff_prefix.mpr (List.prefix_append _ _))]
  simp only [hd, tw.1, tw.2, List.take_left' hb, List.drop_left' hb, hb, ha4, hall, hc, hr, and_self, if_true, ne_eq,
    not_false_eq_true]

/-- `{:05d}` writes exactly five digits only below 100000, and the expression wants exactly five before `.fits`; a six-digit MJD
is the case of `latestMjdFS_malformed_raises` -/
theorem reMatchAt_specFileName (p m : Nat) (hm : m < 100000) : reMatchAt (specFileName p m) = some m := by
  rw [specFileName_shape]
  have := reMatchAt_of_shape (fmtD 4 p) (fmtD 5 m) ['f', 'i', 't', 's'] '.' (fmtD_all_digit 4 p) (fmtD_length_ge 4 p)
    (fmtD_length_eq 4 m hm) (fmtD_all_digit 5 m) (by decide) rfl
  rw [decVal_fmtD] at this
  exact this

theorem reMatchAt_P (l : List Char) (v : Nat) (h : reMatchAt l = some v) : l[2]? = some 'P' := by
  unfold reMatchAt at h
  split at h
  · rename_i hp
    obtain ⟨t, rfl⟩ := List.isPrefixOf_iff_prefix.mp hp
    rfl
  · cases h

/-- no match can begin inside a stretch without 'P' (its third character would be one) -/
theorem reSearch_skip (pre s : List Char) (h : 'P' ∉ pre ++ s.take 2) : reSearch (pre ++ s) = reSearch s := by
  induction pre with
  | nil => rfl
  | cons x t ih =>
    rw [List.cons_append, reSearch]
    cases hm : reMatchAt (x :: (t ++ s)) with
    | some v =>
      -- the 'P' of the match is the second character of `t ++ s`, so it is in `t` or among the first two of `s`
      have h1 : (t ++ s)[1]? = some 'P' := reMatchAt_P _ v hm
      have hP : 'P' ∈ (t ++ s).take (t.length + 2) :=
        List.mem_of_getElem? ((List.getElem?_take_of_lt (Nat.lt_add_left _ (by decide))).trans h1)
      rw [List.take_length_add_append] at hP
      exact absurd (List.mem_cons_of_mem x hP) h
    | none => exact ih (fun hh => h (List.mem_cons_of_mem x hh))

theorem reSearch_of_match (l : List Char) (v : Nat) (h : reMatchAt l = some v) : reSearch l = some v := by
  cases l with
  | nil => cases h
  | cons c cs => rw [reSearch, h]

/-- `mjdre.search(dir + "/" + name)` returns the MJD written in the name when the directory contains no 'P'
(no spurious earlier match inside the directory part) -/
theorem reSearch_specFile (dir : List Char) (p m : Nat) (hP : 'P' ∉ dir) (hm : m < 100000) :
    reSearch (dir ++ '/' :: specFileName p m) = some m := by
  rw [← List.singleton_append, ← List.append_assoc, reSearch_skip, reSearch_of_match _ _ (reMatchAt_specFileName p m hm)]
  show 'P' ∉ (dir ++ ['/']) ++ ['s', 'p']
  simpa using hP

/-- the abstract `latestMjd` is the largest MJD among the plate's files, it is the MJD of one of them, and 0
exactly when the plate has no file with a positive MJD (this last follows from the two clauses stated) -/
theorem latestMjd_spec (files : List (Nat × Nat)) (plate : Nat) :
    (∀ m, (plate, m) ∈ files → m ≤ latestMjd files plate) ∧
    (latestMjd files plate = 0 ∨ (plate, latestMjd files plate) ∈ files) := by
  -- the loop is a running maximum, from 0, over the MJDs of the plate's files
  have e : latestMjd files plate
      = ((files.filter (·.1 == plate)).map (·.2)).foldl (fun big m => if big < m then m else big) 0 := by
    rw [List.foldl_map, List.foldl_filter, latestMjd]
    congr 1
    funext big f
    cases f.1 == plate
    · rfl
    · simp only [Bool.true_and, gt_iff_lt, decide_eq_true_eq, if_true]
  have hmem : ∀ m, m ∈ (files.filter (·.1 == plate)).map (·.2) ↔ (plate, m) ∈ files := fun m => by
    simp only [List.mem_map, List.mem_filter, beq_iff_eq]
    exact ⟨fun ⟨f, ⟨hf, hp⟩, hm⟩ => hp ▸ hm ▸ hf, fun h => ⟨_, ⟨h, rfl⟩, rfl⟩⟩
  -- `foldl_pick` with the order `R := (· ≥ ·)`: the newcomer `m` replaces `big` when `big < m`
  obtain ⟨h1, h2⟩ := foldl_pick (p := fun big m : Nat => big < m) (· ≥ ·) Nat.le_refl (fun _ _ _ h h' => Nat.le_trans h' h)
    (fun _ _ => Nat.le_of_lt) (fun _ _ => Nat.le_of_not_lt) ((files.filter (·.1 == plate)).map (·.2)) 0
  rw [← e] at h1 h2
  exact ⟨fun m hm => h2 m (List.mem_cons_of_mem _ ((hmem m).mpr hm)), (List.mem_cons.mp h1).imp_right (hmem _).mp⟩

/-- the listing of a directory that holds the spPlate files `files` (any plates, decoys included) -/
def listingOf (files : List (Nat × Nat)) : List (List Char) := files.map (fun f => specFileName f.1 f.2)

theorem mem_listingOf (files : List (Nat × Nat)) (p m : Nat) : specFileName p m ∈ listingOf files ↔ (p, m) ∈ files := by
  constructor
  · intro h
    obtain ⟨f, hf, he⟩ := List.mem_map.mp h
    obtain ⟨e1, e2⟩ := specFileName_injective _ _ _ _ he
    rw [← e1, ← e2]
    exact hf
  · exact fun h => List.mem_map.mpr ⟨_, h, rfl⟩

/-- the body of latest_mjd's loop over the listing -/
def latestStep (dir : List Char) (plate big : Nat) (name : List Char) : Except String Nat :=
  if globMatch plate name then
    match reSearch (dir ++ '/' :: name) with
    | none => throw "AttributeError"
    | some m => pure (if m > big then m else big)
  else pure big

theorem latestMjdFS_eq_foldlM (dir : List Char) (listing : List (List Char)) (plate : Nat) :
    latestMjdFS dir listing plate = listing.foldlM (latestStep dir plate) 0 := rfl

theorem latestStep_specFileName (dir : List Char) (hP : 'P' ∉ dir) (plate big q m : Nat) (hm : m < 100000) :
    latestStep dir plate big (specFileName q m) = pure (if q == plate && m > big then m else big) := by
  unfold latestStep
  by_cases hq : plate = q
  · rw [if_pos ((globMatch_specFileName plate q m).mpr hq), reSearch_specFile dir q m hP hm, hq, beq_self_eq_true,
      Bool.true_and]
    simp only [gt_iff_lt, decide_eq_true_eq]
  · rw [if_neg (fun h => hq ((globMatch_specFileName plate q m).mp h)), beq_eq_false_iff_ne.mpr (Ne.symm hq),
      Bool.false_and, if_neg Bool.false_ne_true]

/-- on a directory that holds spPlate files of any plates (decoys, plates ≥ 10000, repeated entries, any order),
latest_mjd over the LISTING (glob + regular expression + int) returns what the abstract `latestMjd` returns over the
(plate, MJD) pairs - so every theorem stated with `latestMjd` speaks about file names -/
theorem latestMjdFS_eq_latestMjd (dir : List Char) (plate : Nat) (hP : 'P' ∉ dir) (files : List (Nat × Nat))
    (hm : ∀ f ∈ files, f.2 < 100000) :
    latestMjdFS dir (listingOf files) plate = .ok (latestMjd files plate) := by
  rw [latestMjdFS_eq_foldlM, listingOf, List.foldlM_map,
    foldlM_congr _ _ files (fun f hf big => latestStep_specFileName dir hP plate big f.1 f.2 (hm f hf)),
    List.foldlM_pure]
  rfl

/-- latest_mjd over a listing returns the maximum MJD among the names of that plate, a file with that MJD is in
the listing (unless the result is 0 = "no file"), and files of other plates - decoys - play no role -/
theorem latestMjdFS_spec (dir : List Char) (plate : Nat) (hP : 'P' ∉ dir) (files : List (Nat × Nat))
    (hm : ∀ f ∈ files, f.2 < 100000) :
    ∃ M, latestMjdFS dir (listingOf files) plate = .ok M ∧
      (∀ m, specFileName plate m ∈ listingOf files → m ≤ M) ∧
      (M = 0 ∨ specFileName plate M ∈ listingOf files) ∧
      ((∀ m, specFileName plate m ∉ listingOf files) → M = 0) := by
  obtain ⟨hmax, hin⟩ := latestMjd_spec files plate
  simp only [mem_listingOf]
  exact ⟨latestMjd files plate, latestMjdFS_eq_latestMjd dir plate hP files hm, hmax, hin,
    fun hno => hin.resolve_right (hno _)⟩

/-- every directory entry the glob does not pick (other plates, spZbest/photoPlate/platelist files, sub-directories,
anything) is irrelevant to latest_mjd -/
theorem latestMjdFS_ignores_unmatched (dir : List Char) (plate : Nat) (listing : List (List Char)) :
    latestMjdFS dir listing plate = latestMjdFS dir (listing.filter (globMatch plate)) plate := by
  rw [latestMjdFS_eq_foldlM, latestMjdFS_eq_foldlM, List.foldlM_filter]
  -- the loop body is itself `if globMatch .. then .. else pure big`
  congr 1
  funext big name
  unfold latestStep
  split <;> rfl

/-- A name that the plate's glob picks but in which the regular expression finds no MJD
(`spPlate-0266-final.fits`, a 4- or 6-digit MJD, ...) makes latest_mjd raise AttributeError, wherever it stands in the listing
and whatever else is there: no MJD is made up for it, and it is not skipped. -/
theorem latestMjdFS_malformed_raises (dir : List Char) (listing : List (List Char)) (plate : Nat) (name : List Char)
    (hmem : name ∈ listing) (hg : globMatch plate name = true) (hre : reSearch (dir ++ '/' :: name) = none) :
    latestMjdFS dir listing plate = .error "AttributeError" := by
  obtain ⟨e, he, big, x, hx⟩ := foldlM_error_of_mem (latestStep dir plate) listing name hmem
    (fun big => ⟨_, by rw [latestStep, if_pos hg, hre]; rfl⟩) 0
  -- the body of the loop raises nothing else
  obtain rfl : e = "AttributeError" := by
    unfold latestStep at hx
    split at hx
    · split at hx <;> cases hx
      rfl
    · cases hx
  exact he

end PydlVerif.C16
