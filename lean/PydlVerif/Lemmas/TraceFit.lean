/-
What the definitions of the trace-set model (Model/Trace.lean, Model/TraceIter.lean) return, read backwards from a
successful `func_fit` / `TraceSet(...)`.  Nothing here opens `xnorm1` or `jfrac` (`xy_of_fit` has the same `xnorm` term on
both sides): a theorem about the jump or the range [-1, 1] starts from the definitions.  `goodIdx_of_pos`, `xnorm_nojump`,
`tsTempivar_default`, `tsTempivar_size`, `sum_kernel_const` have their only user in Lemmas/WaveFit.lean (C19).
-/
import PydlVerif.Lemmas.Trace
import PydlVerif.Lemmas.Except
import PydlVerif.Lemmas.Loops

namespace PydlVerif.C13
open PydlVerif PydlVerif.Trace

/- The lemmas that interpret the `Scalar` literals and casts at a field are used by name only: as default simp lemmas they
fire on the field's own terms, whose left sides they match by unfolding reducibly (`scalar_ofNat` rewrites every `Nat.cast` into itself). -/
attribute [-simp] scalar_ofNat scalar_lit scalar_sci scalar_floor

section inversion
variable {α : Type} [Scalar α]

theorem fitMain_ok {solve : Array (Array α) → Array α → R (Array α)} {inp : FitIn α} {w : Array α}
    {ia : Array Bool} {ngood : ℕ} {out : FitOut α} (h : fitMain solve inp w ia ngood = .ok out)
    (m : ℕ) (hm : m = min ngood inp.ncoeff) (free : List ℕ) (hfree : free = freeIdx ia m) :
    ∃ legarr ysub sol, fitBasis inp m = .ok legarr ∧ fitYsub (at2 legarr) inp ia m = .ok ysub ∧
      fitSol solve (alphaOf (fun a i => at2 legarr (free.getD a 0) i) w free.length inp.x.size)
        (betaOf (fun a i => at2 legarr (free.getD a 0) i) w ysub free.length inp.x.size) free.length = .ok sol ∧
      out.res = resOf sol (fitAns inp) ia free m inp.ncoeff ∧
      out.yfit = yfitOf (at2 legarr) out.res m inp.x.size := by
  subst hm hfree
  unfold fitMain at h
  obtain ⟨legarr, h1, h⟩ := bind_ok h
  obtain ⟨ysub, h2, h⟩ := bind_ok h
  obtain ⟨sol, h3, h⟩ := bind_ok h
  cases h
  exact ⟨legarr, ysub, sol, h1, h2, h3, rfl, rfl⟩

theorem funcFit_ok {solve : Array (Array α) → Array α → R (Array α)} {inp : FitIn α} {out : FitOut α}
    (h : funcFit solve inp = .ok out) :
    inp.y.size = inp.x.size ∧ ∃ w ia, fitWeights inp = .ok w ∧ fitIa inp = .ok ia ∧
      (goodIdx w = [] → out = ⟨Array.replicate inp.ncoeff 0, Array.replicate inp.x.size 0⟩) ∧
      (∀ i0, goodIdx w = [i0] → inp.ncoeff ≠ 0 ∧
        out = ⟨tab inp.ncoeff fun k => if k = 0 then at1 inp.y i0 else 0,
               Array.replicate inp.x.size (0 + at1 inp.y i0)⟩) ∧
      (2 ≤ (goodIdx w).length → fitMain solve inp w ia (goodIdx w).length = .ok out) := by
  unfold funcFit at h
  by_cases hsz : inp.y.size ≠ inp.x.size
  · rw [if_pos hsz] at h
    cases h
  · rw [if_neg hsz] at h
    obtain ⟨w, hw, h⟩ := bind_ok h
    obtain ⟨ia, hia, h⟩ := bind_ok h
    refine ⟨not_not.mp hsz, w, ia, hw, hia, ?_⟩
    split at h
    · rename_i hg
      refine ⟨fun _ => by cases h; rfl, fun i0 h0 => by simp [hg] at h0, fun h2 => by simp [hg] at h2⟩
    · rename_i i0 hg
      refine ⟨fun h0 => by simp [hg] at h0, fun i1 h1 => ?_, fun h2 => by simp [hg] at h2⟩
      have : i1 = i0 := by simpa [hg] using h1.symm
      subst this
      by_cases hn : inp.ncoeff = 0
      · rw [if_pos hn] at h
        cases h
      · rw [if_neg hn] at h
        cases h
        exact ⟨hn, rfl⟩
    · rename_i g hg0 hg1
      refine ⟨fun h0 => absurd h0 hg0, fun i0 h0 => absurd h0 (hg1 i0), fun _ => h⟩

theorem at1_resOf (sol ans : Array α) (ia : Array Bool) (free : List ℕ) (m nc k : ℕ) (hm : m ≤ nc) :
    at1 (resOf sol ans ia free m nc) k =
      if k < m then (if ia.getD k true then at1 sol (free.idxOf k) else at1 ans k) else 0 := by
  unfold at1 resOf
  rw [tab_getD]
  by_cases hk : k < nc
  · rw [if_pos hk]; rfl
  · rw [if_neg hk, if_neg (by omega)]

omit [Scalar α] in
theorem fitIter_some (fit : R (FitOut α)) (n fuel : ℕ) (r : FitOut α × Array Bool)
    (h : fitIter fit n fuel false none = .ok (some r)) : fit = .ok r.1 ∧ r.2 = Array.replicate n true := by
  cases fuel with
  | zero => cases h
  | succ fuel =>
    obtain ⟨o, ho, h⟩ := bind_ok (show (fit >>= fun o =>
      fitIter fit n fuel true (some (o, Array.replicate n true))) = .ok (some r) from h)
    -- `qdone` is set: the next pass returns the accumulator, whatever fuel is left
    cases fuel <;> cases h <;> exact ⟨ho, rfl⟩
end inversion

section fit
variable {K : Type} [Field K] [LinearOrder K] [IsStrictOrderedRing K] [FloorRing K]
/- Inside this section the only `Scalar K` is the field interpretation, and arithmetic written in a
statement is the field's own (the operation instances of `Scalar` are switched off for elaboration). -/
attribute [-instance] Scalar.toAdd Scalar.toSub Scalar.toMul Scalar.toDiv Scalar.toNeg Scalar.toLT Scalar.toLE
  Scalar.instOfNat Scalar.instOfScientific Scalar.decLt Scalar.decLe
attribute [local instance] fieldScalar
open Finset

/-- contract of the `solve` parameter (numpy.linalg.solve): whenever it returns, `a · s = b` -/
def SolveContract (solve : Array (Array K) → Array K → R (Array K)) : Prop :=
  ∀ a b s, solve a b = .ok s → ∀ r, r < b.size → ∑ c ∈ range b.size, at2 a r c * at1 s c = at1 b r

theorem fitYsub_spec (L : ℕ → ℕ → K) (inp : FitIn K) (ia : Array Bool) (m : ℕ) (ysub : Array K)
    (h : fitYsub L inp ia m = .ok ysub) (i : ℕ) (hi : i < inp.x.size) :
    at1 ysub i = at1 inp.y i - ∑ j ∈ range m, L j i * (at1 (fitAns inp) j * (if ia.getD j true then 0 else 1)) := by
  unfold fitYsub at h
  dsimp only at h
  by_cases he : (fixedIdx ia m).isEmpty = true
  · -- nothing below `m` is fixed: every term of the subtracted sum is 0
    rw [if_pos he] at h
    cases h
    rw [Finset.sum_eq_zero fun j hj => ?_, sub_zero]
    have hj := List.filter_eq_nil_iff.mp (List.isEmpty_iff.mp he) j (List.mem_range.mpr (Finset.mem_range.mp hj))
    rw [Bool.not_eq_true, Bool.not_eq_false'] at hj
    rw [hj, if_pos rfl, mul_zero, mul_zero]
  rw [if_neg he] at h
  by_cases h1 : (fitAns inp).size ≠ inp.ncoeff
  · rw [if_pos h1] at h
    split at h <;> cases h
  rw [if_neg h1] at h
  by_cases h3 : m ≠ inp.ncoeff
  · rw [if_pos h3] at h
    cases h
  · rw [if_neg h3] at h
    cases h
    obtain rfl : m = inp.ncoeff := not_not.mp h3
    unfold ysubOf
    rw [at1_tab _ _ _ hi, sumN_eq]
    refine congrArg (at1 inp.y i - ·) (Finset.sum_congr rfl fun j _ => ?_)
    cases ia.getD j true
    · simp only [scalar_one]; rfl
    · simp only [if_true, scalar_zero]

/-- by the contract of `solve`, or, when a single coefficient is free, by the division (pivot not zero) -/
theorem fitSol_spec (solve : Array (Array K) → Array K → R (Array K)) (hsolve : SolveContract solve)
    (alpha : Array (Array K)) (beta sol : Array K) (np : ℕ) (hb : beta.size = np)
    (hpiv : np = 1 → at2 alpha 0 0 ≠ 0)
    (h : fitSol solve alpha beta np = .ok sol) (a : ℕ) (ha : a < np) :
    ∑ b ∈ range np, at2 alpha a b * at1 sol b = at1 beta a := by
  unfold fitSol at h
  split at h
  · have := hsolve alpha beta sol h a (by omega)
    rwa [hb] at this
  · cases h
    have h1 : np = 1 := by omega
    have h0 : a = 0 := by omega
    subst h1; subst h0
    rw [Finset.sum_range_one, at1_tab _ _ _ (by omega)]
    exact mul_div_cancel₀ _ (hpiv rfl)

theorem free_mem (ia : Array Bool) (m a : ℕ) (ha : a < (freeIdx ia m).length) :
    (freeIdx ia m).getD a 0 < m ∧ ia.getD ((freeIdx ia m).getD a 0) true = true := by
  have hmem : (freeIdx ia m).getD a 0 ∈ freeIdx ia m := by
    rw [getD_lt _ _ _ ha]; exact List.getElem_mem ha
  unfold freeIdx at hmem ⊢
  rw [List.mem_filter, List.mem_range] at hmem
  exact hmem

theorem at2_alphaOf (F : ℕ → ℕ → K) (w : Array K) (np n a b : ℕ) (ha : a < np) (hb : b < np) :
    at2 (alphaOf F w np n) a b = ∑ i ∈ range n, F a i * (F b i * at1 w i) := by
  unfold alphaOf
  rw [at2_tab_tab _ _ _ _ _ ha hb, sumN_eq]

/-- `yfit = dot(legarr.T, res[0:m])` (`TSet.xy`'s `evalRow legarr c m n` is `yfitOf (at2 legarr) c m n`) -/
theorem yfitOf_eq (L : ℕ → ℕ → K) (c : Array K) (m n : ℕ) :
    yfitOf L c m n = tab n fun i => ∑ k ∈ range m, L k i * at1 c k :=
  tab_congr _ _ _ fun _ _ => sumN_eq _ _

/-- number of coefficients actually fitted -/
noncomputable def ncfit (inp : FitIn K) (w : Array K) : ℕ := min (goodIdx w).length inp.ncoeff

/-- the model kernels behind the function names of `func_fit` -/
noncomputable def kernelOf (name : String) : Option (K → ℕ → K) :=
  if name = "legendre" ∨ name = "flegendre" then some legK
  else if name = "chebyshev" ∨ name = "fchebyshev" then some chebK
  else if name = "chebyshev_split" ∨ name = "fchebyshev_split" then some splitK
  else if name = "poly" ∨ name = "fpoly" then some polyK
  else none

/-- the dispatch tables `fitFunc` and `kernelOf` test the same names -/
theorem fitFunc_spec (name : String) (f : XIn K → ℕ → R (Array (Array K))) (hf : fitFunc name = some f) :
    ∃ φ m0, kernelOf name = some φ ∧
      ∀ xs m, f (.arr xs) m = if m < m0 then valueError else .ok (rows φ xs m) := by
  unfold fitFunc at hf
  unfold kernelOf
  by_cases h1 : name = "legendre" ∨ name = "flegendre"
  · rw [if_pos h1] at hf ⊢; cases hf; exact ⟨_, 1, rfl, fun _ _ => rfl⟩
  rw [if_neg h1] at hf ⊢
  by_cases h2 : name = "chebyshev" ∨ name = "fchebyshev"
  · rw [if_pos h2] at hf ⊢; cases hf; exact ⟨_, 1, rfl, fun _ _ => rfl⟩
  rw [if_neg h2] at hf ⊢
  by_cases h3 : name = "chebyshev_split" ∨ name = "fchebyshev_split"
  · rw [if_pos h3] at hf ⊢; cases hf; exact ⟨_, 2, rfl, fun _ _ => rfl⟩
  rw [if_neg h3] at hf ⊢
  by_cases h4 : name = "poly" ∨ name = "fpoly"
  · rw [if_pos h4] at hf ⊢; cases hf; exact ⟨_, 1, rfl, fun _ _ => rfl⟩
  · rw [if_neg h4] at hf; cases hf

/-- `TraceSet._func_map`: three of the four functions, each with row 0 the constant 1 -/
theorem tsetFunc_spec (name : String) (f : XIn K → ℕ → R (Array (Array K))) (h : tsetFunc name = some f) :
    ∃ φ, kernelOf name = some φ ∧ (∀ x, φ x 0 = 1) ∧
      ∀ xs m, f (.arr xs) m = if m < 1 then valueError else .ok (rows φ xs m) := by
  unfold tsetFunc at h
  split_ifs at h with h1 h2 h3
  · cases h; subst h1; exact ⟨polyK, rfl, fun _ => scalar_one, fun _ _ => rfl⟩
  · cases h; subst h2; exact ⟨legK, rfl, fun _ => scalar_one, fun _ _ => rfl⟩
  · cases h; subst h3; exact ⟨chebK, rfl, fun _ => scalar_one, fun _ _ => rfl⟩

omit [LinearOrder K] [IsStrictOrderedRing K] [FloorRing K] in
/-- for C19: a constant pixel size is fitted and evaluated as itself -/
theorem sum_kernel_const (φ : ℕ → K) (h0 : φ 0 = 1) (c : ℕ → K) (hc : ∀ k, 1 ≤ k → c k = 0) (m : ℕ) (hm : 1 ≤ m) :
    ∑ k ∈ range m, φ k * c k = c 0 := by
  rw [Finset.sum_eq_single_of_mem 0 (Finset.mem_range.mpr hm) fun k _ hk => by
    rw [hc k (Nat.pos_of_ne_zero hk), mul_zero], h0, one_mul]

theorem evalRow_rows (φ : K → ℕ → K) (xs c : Array K) (m : ℕ) :
    evalRow (rows φ xs m) c m xs.size = tab xs.size fun j => ∑ k ∈ range m, φ (at1 xs j) k * at1 c k :=
  (yfitOf_eq (at2 (rows φ xs m)) c m xs.size).trans (tab_congr _ _ _ fun j hj =>
    Finset.sum_congr rfl fun k hk => by rw [at2_rows _ _ _ _ _ (Finset.mem_range.mp hk) hj])

theorem funcFit_sizes (solve : Array (Array K) → Array K → R (Array K)) (inp : FitIn K) (out : FitOut K)
    (h : funcFit solve inp = .ok out) :
    out.res.size = inp.ncoeff ∧ out.yfit.size = inp.x.size ∧ inp.y.size = inp.x.size ∧
      ∀ v, inp.invvar = some v → v.size = inp.x.size := by
  obtain ⟨hy, w, ia, hw, hia, h0, h1, h2⟩ := funcFit_ok h
  refine ⟨?_, ?_, hy, ?_⟩
  · rcases hg : goodIdx w with _ | ⟨i0, _ | ⟨i1, rest⟩⟩
    · rw [h0 hg]; exact Array.size_replicate
    · rw [(h1 i0 hg).2]; exact tab_size _ _
    · obtain ⟨legarr, ysub, sol, -, -, -, hres, -⟩ := fitMain_ok (h2 (by rw [hg]; simp)) _ rfl _ rfl
      rw [hres]; exact tab_size _ _
  · match hg : goodIdx w with
    | [] => rw [h0 hg]; simp
    | [i0] => rw [(h1 i0 hg).2]; simp
    | a :: b :: t =>
      obtain ⟨legarr, ysub, sol, -, -, -, -, hyf⟩ := fitMain_ok (h2 (by rw [hg]; simp)) _ rfl _ rfl
      rw [hyf, yfitOf_eq]; exact tab_size _ _
  · intro v hv
    unfold fitWeights at hw
    rw [hv] at hw
    dsimp only at hw
    split at hw
    · cases hw
    · rename_i hs; simpa using hs

theorem goodIdx_of_pos (w : Array K) (h : ∀ j, j < w.size → 0 < at1 w j) : goodIdx w = List.range w.size :=
  List.filter_eq_self.2 fun j hj => decide_eq_true (by rw [scalar_zero]; exact h j (List.mem_range.1 hj))

theorem nx_integral (t : TSet K) (N : ℕ) (hN : t.xmax - t.xmin = N) : t.nx = .ok (N + 1) := by
  unfold TSet.nx
  have hv : t.xmax - t.xmin + (@OfNat.ofNat K 1 (@Scalar.instOfNat K (fieldScalar K) 1)) = ((N + 1 : ℕ) : K) := by
    rw [scalar_one, hN]; push_cast; ring
  dsimp only
  rw [hv, scalar_zero, if_pos (Nat.cast_nonneg _)]
  simp only [Scalar.floor, Int.floor_natCast, Int.toNat_natCast]
  rfl

theorem xnorm_size (t : TSet K) (xs : Array K) (jump : Bool) (xv : Array K) (h : t.xnorm xs jump = .ok xv) :
    xv.size = xs.size := by
  unfold TSet.xnorm at h
  obtain ⟨j, -, h⟩ := bind_ok h
  cases h
  simp

theorem xnorm_nojump (t : TSet K) (xs : Array K) : t.xnorm xs false = .ok (xs.map (xnorm1 t.xmin t.xmax none)) := rfl

/-- `f`, `φ`, `hspec` are what `tsetFunc_spec` returns -/
theorem xyRow_eq (t : TSet K) (f : XIn K → ℕ → R (Array (Array K))) (φ : K → ℕ → K) (hf : tsetFunc t.func = some f)
    (hspec : ∀ xs m, f (.arr xs) m = if m < 1 then valueError else .ok (rows φ xs m)) (hnc : 1 ≤ t.ncoeff)
    (xp : Array (Array K)) (dj : Bool) (i : ℕ) (hi : i < xp.size) (xvec : Array K)
    (hx : t.xnorm (xp.getD i #[]) dj = .ok xvec) (hc : (t.coeff.getD i #[]).size = t.ncoeff) :
    t.xyRow xp dj i =
      .ok (tab xvec.size fun j => ∑ k ∈ range t.ncoeff, φ (at1 xvec j) k * at1 (t.coeff.getD i #[]) k) := by
  unfold TSet.xyRow
  rw [if_neg (by omega)]
  simp only [hx, hf, hspec, if_neg (by omega : ¬ t.ncoeff < 1), bind, Except.bind, hc, ne_eq, not_true_eq_false,
    if_false, pure, Except.pure]
  rw [← xnorm_size _ _ _ _ hx, evalRow_rows]

/-- rows of `xpos` beyond `nTrace` keep their zeros -/
theorem xy_of_rows (t : TSet K) (xpos : Option (Array (Array K))) (xp : Array (Array K)) (ign : Bool) (Y : ℕ → Array K)
    (hp : t.xyPos xpos = .ok xp)
    (h : ∀ i, i < t.coeff.size → t.xyRow xp (t.xjumplo.isSome && !ign) i = .ok (Y i)) :
    t.xy xpos ign = .ok (xp, tab xp.size fun i =>
      if i < t.coeff.size then Y i else Array.replicate (xp.getD i #[]).size 0) := by
  unfold TSet.xy
  have hrows := (mapM_congr _ (fun i => pure (Y i)) (List.range t.coeff.size)
    fun i hi => h i (List.mem_range.mp hi)).trans List.mapM_pure
  simp only [hp, bind, Except.bind, pure, Except.pure, hrows]
  refine congrArg (fun y => Except.ok (xp, y)) (tab_congr _ _ _ fun i _ => ?_)
  by_cases hi : i < t.coeff.size
  · rw [if_pos hi, if_pos hi, List.getD_eq_getElem?_getD, List.getElem?_map, List.getElem?_range hi]
    rfl
  · rw [if_neg hi, if_neg hi, scalar_zero]

theorem tsTempivar_default (inp : TsIn K) (hv : inp.invvar = none) (hm : inp.inmask = none) (i j : ℕ)
    (hj : j < (inp.xpos.getD 0 #[]).size) : at1 (tsTempivar inp i) j = 1 := by
  unfold tsTempivar
  rw [hv, hm]
  dsimp only
  rw [at1_tab _ _ _ hj, at1_replicate _ _ _ hj, scalar_one, mul_one]

theorem tsTempivar_size (inp : TsIn K) (i : ℕ) : (tsTempivar inp i).size = (inp.xpos.getD 0 #[]).size := by
  unfold tsTempivar
  cases inp.inmask <;> exact tab_size _ _

omit [Field K] [LinearOrder K] [IsStrictOrderedRing K] [FloorRing K] in
theorem ts_rows_rect (inp : TsIn K) (hs : tsShapeOk inp = true) (i : ℕ) (hi : i < inp.xpos.size) :
    (inp.xpos.getD i #[]).size = (inp.xpos.getD 0 #[]).size ∧ (inp.ypos.getD i #[]).size = (inp.xpos.getD 0 #[]).size := by
  unfold tsShapeOk at hs
  simp only [Bool.and_eq_true] at hs
  have h1 := hs.1.1.1
  have h2 := hs.1.1.2
  unfold rect at h1 h2
  simp only [Bool.and_eq_true, beq_iff_eq, Array.all_eq_true] at h1 h2
  have a := h1.2 i hi
  have b := h2.2 i (by omega)
  have hi2 : i < inp.ypos.size := by omega
  exact ⟨by simpa [Array.getD, hi] using a, by simpa [Array.getD, hi2] using b⟩

/-- the trace set under construction when the loop over traces runs -/
def ts0 (inp : TsIn K) (xmin xmax : K) : TSet K :=
  ⟨inp.func, xmin, xmax, #[], inp.ncoeff, inp.xjumplo, inp.xjumphi, inp.xjumpval⟩

theorem tsetFit_ok (solve : Array (Array K) → Array K → R (Array K)) (inp : TsIn K) (o : TsOut K)
    (h : tsetFit solve inp = .ok o) :
    tsShapeOk inp = true ∧ ∃ xmin xmax, tsXmin inp = .ok xmin ∧ tsXmax inp = .ok xmax ∧
      o.tset.xmin = xmin ∧ o.tset.xmax = xmax ∧
      (o.tset.func = inp.func ∧ o.tset.ncoeff = inp.ncoeff ∧ o.tset.xjumplo = inp.xjumplo ∧
        o.tset.xjumphi = inp.xjumphi ∧ o.tset.xjumpval = inp.xjumpval) ∧
      o.tset.coeff.size = inp.xpos.size ∧ o.yfit.size = inp.xpos.size ∧ o.outmask.size = inp.xpos.size ∧
      ∀ i, i < inp.xpos.size → tsFitRow solve inp (ts0 inp xmin xmax) i =
        .ok (⟨o.tset.coeff.getD i #[], o.yfit.getD i #[]⟩, o.outmask.getD i #[]) := by
  unfold tsetFit at h
  split at h
  · cases h
  rename_i hshape
  obtain ⟨xmin, hxmin, h⟩ := bind_ok h
  obtain ⟨xmax, hxmax, h⟩ := bind_ok h
  obtain ⟨fits, hfits, h⟩ := bind_ok h
  cases h
  obtain ⟨hlen, hfi⟩ := mapM_ok _ _ _ hfits
  rw [List.length_range] at hlen
  refine ⟨by simpa using hshape, xmin, xmax, hxmin, hxmax, rfl, rfl, ⟨rfl, rfl, rfl, rfl, rfl⟩, by simp [hlen], by simp [hlen], by simp [hlen], ?_⟩
  intro i hi
  have hF := hfi i (by simpa using hi) (by omega)
  rw [List.getElem_range] at hF
  have hi' : i < fits.length := by omega
  refine Eq.trans hF ?_
  simp [Array.getD, hi']
end fit

section fold
variable {K : Type}

/-- `xpos.min()` / `xpos.max()` on the flattened array: `minAll a` is `foldBest (· < ·)` and `maxAll a` is
`foldBest (fun v m => m < v)` of `a.toList.flatMap Array.toList`, by unfolding -/
def foldBest (r : K → K → Prop) [DecidableRel r] : List K → R K
  | [] => valueError
  | x :: xs => pure (xs.foldl (fun m v => if r v m then v else m) x)

theorem foldBest_congr (r le : K → K → Prop) [DecidableRel r] (hrefl : ∀ a, le a a)
    (htrans : ∀ a b c, le a b → le b c → le a c) (h1 : ∀ a b, r a b → le a b) (h2 : ∀ a b, ¬ r a b → le b a)
    (hanti : ∀ a b, le a b → le b a → a = b) (l l' : List K) (h : ∀ v, v ∈ l ↔ v ∈ l') :
    foldBest r l = foldBest r l' := by
  cases l with
  | nil =>
    cases l' with
    | nil => rfl
    | cons y ys => exact absurd ((h y).mpr List.mem_cons_self) List.not_mem_nil
  | cons x xs =>
    cases l' with
    | nil => exact absurd ((h x).mp List.mem_cons_self) List.not_mem_nil
    | cons y ys =>
      -- both folds end at a member that is `le` all elements (`xpos.min()`: `r = (· < ·)`, `le = (· ≤ ·)`; `xpos.max()`: both reversed)
      obtain ⟨m1, l1⟩ := foldl_pick (p := fun m v => r v m) le hrefl htrans (fun m v => h1 v m) (fun m v => h2 v m) xs x
      obtain ⟨m2, l2⟩ := foldl_pick (p := fun m v => r v m) le hrefl htrans (fun m v => h1 v m) (fun m v => h2 v m) ys y
      exact congrArg Except.ok (hanti _ _ (l1 _ ((h _).mpr m2)) (l2 _ ((h _).mp m1)))

theorem reorder_mem (a : Array (Array K)) (σ : ℕ → ℕ) (hσ : ∀ i, i < a.size → σ i < a.size)
    (hsurj : ∀ k, k < a.size → ∃ i, i < a.size ∧ σ i = k) (v : K) :
    v ∈ (tab a.size fun i => a.getD (σ i) #[]).toList.flatMap Array.toList ↔ v ∈ a.toList.flatMap Array.toList := by
  have hget : ∀ k (hk : k < a.size), a.getD k #[] = a[k] := fun k hk => by
    rw [Array.getD_eq_getD_getElem?, Array.getElem?_eq_getElem hk, Option.getD_some]
  simp only [List.mem_flatMap, Array.mem_toList_iff, mem_tab]
  constructor
  · rintro ⟨_, ⟨i, hi, rfl⟩, hv⟩
    exact ⟨_, hget _ (hσ i hi) ▸ Array.getElem_mem _, hv⟩
  · rintro ⟨row, hrow, hv⟩
    obtain ⟨k, hk, rfl⟩ := Array.mem_iff_getElem.mp hrow
    obtain ⟨i, hi, rfl⟩ := hsurj k hk
    exact ⟨_, ⟨i, hi, rfl⟩, by rwa [hget _ hk]⟩

end fold
end PydlVerif.C13
