/-
C05: the intrusive first/next member lists that `link` builds from a labelling (`IsLists`), their walk and the counting loop.
-/
import PydlVerif.Model.Fof
import PydlVerif.Lemmas.Loops
namespace PydlVerif.Fof

@[simp] theorem upd_get {α} (f : Arr α) (i : Nat) (v : α) (j : Nat) :
    (upd f i v).get j = if j = i then v else f.get j := rfl

@[simp] theorem const_get {α} (v : α) (j : Nat) : (Arr.const v).get j = v := rfl

@[simp] theorem freeze_eq {α} (n : Nat) (f : Arr α) : freeze n f = f := by
  cases f with | mk g =>
  simp only [freeze, Arr.mk.injEq]
  funext j
  split
  · simp
  · rfl

theorem foldl_upd_const {α} (v : α) (l : List Nat) (g : Arr α) (x : Nat) :
    (l.foldl (fun g j => upd g j v) g).get x = if x ∈ l then v else g.get x := by
  induction l generalizing g with
  | nil => simp
  | cons a l ih =>
    simp only [List.foldl_cons, ih, upd_get, List.mem_cons]
    by_cases h1 : x ∈ l <;> by_cases h2 : x = a <;> simp [h1, h2]

/-- `first`/`next` are the sorted member lists of the labelling `g` restricted to `[lo, top)` -/
structure IsLists (g : Arr Nat) (lo top : Nat) (L : Lists) : Prop where
  first_none : ∀ c, L.first.get c = none → ∀ x, lo ≤ x → x < top → g.get x ≠ c
  first_some : ∀ c y, L.first.get c = some y →
    lo ≤ y ∧ y < top ∧ g.get y = c ∧ ∀ x, lo ≤ x → x < y → g.get x ≠ c
  next_none : ∀ x, lo ≤ x → x < top → L.next.get x = none → ∀ z, x < z → z < top → g.get z ≠ g.get x
  next_some : ∀ x, lo ≤ x → x < top → ∀ y, L.next.get x = some y →
    x < y ∧ y < top ∧ g.get y = g.get x ∧ ∀ z, x < z → z < y → g.get z ≠ g.get x

theorem isLists_step (g : Arr Nat) (k top : Nat) (hk : k < top) (s : Lists) (h : IsLists g (k+1) top s) :
    IsLists g k top ⟨upd s.first (g.get k) (some k), upd s.next k (s.first.get (g.get k))⟩ := by
  refine ⟨?_, ?_, ?_, ?_⟩
  · intro c hc x hx1 hx2
    simp only [upd_get] at hc
    split at hc
    · cases hc
    · rename_i hne
      by_cases hxk : x = k
      · subst hxk; exact fun e => hne e.symm
      · exact h.first_none c hc x (by omega) hx2
  · intro c y hc
    simp only [upd_get] at hc
    split at hc
    · rename_i he
      cases hc
      exact ⟨Nat.le_refl _, hk, he.symm, fun x h1 h2 => by omega⟩
    · rename_i hne
      obtain ⟨a, b, c', d⟩ := h.first_some c y hc
      refine ⟨by omega, b, c', fun x h1 h2 => ?_⟩
      by_cases hxk : x = k
      · subst hxk; exact fun e => hne e.symm
      · exact d x (by omega) h2
  · intro x hx1 hx2 hn z hz1 hz2
    simp only [upd_get] at hn
    split at hn
    · rename_i he
      subst he
      exact h.first_none _ hn z (by omega) hz2
    · exact h.next_none x (by omega) hx2 hn z hz1 hz2
  · intro x hx1 hx2 y hn
    simp only [upd_get] at hn
    split at hn
    · rename_i he
      subst he
      obtain ⟨a, b, c', d⟩ := h.first_some _ y hn
      exact ⟨by omega, b, c', fun z h1 h2 => d z (by omega) h2⟩
    · exact h.next_some x (by omega) hx2 y hn

theorem isLists_link (g : Arr Nat) (top : Nat) : ∀ k, k ≤ top → ∀ s, IsLists g k top s →
    IsLists g 0 top (link g k s) := by
  intro k
  induction k with
  | zero => intro _ s h; exact h
  | succ k ih =>
    intro hk s h
    simp only [link]
    exact ih (by omega) _ (isLists_step g k top (by omega) s h)

theorem isLists_empty (g : Arr Nat) (top : Nat) (f nx : Arr (Option Nat)) (hf : ∀ c, f.get c = none) :
    IsLists g top top ⟨f, nx⟩ := by
  refine ⟨?_, ?_, ?_, ?_⟩
  · intro c _ x h1 h2; omega
  · intro c y h; rw [hf c] at h; cases h
  · intro x h1 h2; omega
  · intro x h1 h2; omega

theorem isLists_rebuild (g : Arr Nat) (n : Nat) (nx : Arr (Option Nat)) :
    IsLists g 0 n (link g n ⟨Arr.const none, nx⟩) :=
  isLists_link g n n (Nat.le_refl _) _ (isLists_empty g n _ nx (fun _ => rfl))

/-- members of class `c` in `[lo, top)`, increasing -/
def members (g : Arr Nat) (c lo top : Nat) : List Nat :=
  (List.range' lo (top - lo)).filter (fun x => g.get x = c)

theorem members_nil (g : Arr Nat) (c lo top : Nat) (h : ∀ x, lo ≤ x → x < top → g.get x ≠ c) :
    members g c lo top = [] := by
  simp only [members, List.filter_eq_nil_iff, List.mem_range'_1, decide_eq_true_eq]
  intro x hx
  exact h x hx.1 (by omega)

theorem members_cons (g : Arr Nat) (c lo top y : Nat) (h1 : lo ≤ y) (h2 : y < top) (h3 : g.get y = c)
    (h4 : ∀ x, lo ≤ x → x < y → g.get x ≠ c) :
    members g c lo top = y :: members g c (y+1) top := by
  have e1 : List.range' lo (top - lo) = List.range' lo (y - lo) ++ List.range' y (top - y) := by
    have := List.range'_append_1 (s := lo) (m := y - lo) (n := top - y)
    rw [show lo + (y - lo) = y by omega, show y - lo + (top - y) = top - lo by omega] at this
    exact this.symm
  have e2 : List.range' y (top - y) = y :: List.range' (y+1) (top - (y+1)) := by
    rw [show top - y = (top - (y+1)) + 1 by omega, List.range'_succ]
  have e3 : (List.range' lo (y - lo)).filter (fun x => g.get x = c) = [] := by
    simp only [List.filter_eq_nil_iff, List.mem_range'_1, decide_eq_true_eq]
    intro x hx
    exact h4 x hx.1 (by omega)
  simp only [members]
  rw [e1, List.filter_append, e3, e2, List.nil_append, List.filter_cons]
  simp [h3]

theorem walk_members (g : Arr Nat) (top : Nat) (L : Lists) (hL : IsLists g 0 top L) (c : Nat) :
    ∀ fuel lo (k : Option Nat), top ≤ fuel + lo →
    (k = none → ∀ x, lo ≤ x → x < top → g.get x ≠ c) →
    (∀ y, k = some y → lo ≤ y ∧ y < top ∧ g.get y = c ∧ ∀ x, lo ≤ x → x < y → g.get x ≠ c) →
    walkEnds L.next fuel k = true ∧ walk L.next fuel k = members g c lo top := by
  intro fuel
  induction fuel with
  | zero =>
    intro lo k hf hn hs
    cases k with
    | none => exact ⟨rfl, by rw [members_nil g c lo top (hn rfl)]; rfl⟩
    | some y => obtain ⟨a, b, _, _⟩ := hs y rfl; omega
  | succ fuel ih =>
    intro lo k hf hn hs
    cases k with
    | none => exact ⟨rfl, by rw [members_nil g c lo top (hn rfl)]; rfl⟩
    | some y =>
      obtain ⟨a, b, hc, d⟩ := hs y rfl
      have := ih (y+1) (L.next.get y) (by omega)
        (fun hnone x h1 h2 => by
          have := hL.next_none y (Nat.zero_le _) b hnone x (by omega) h2
          rw [hc] at this; exact this)
        (fun z hz => by
          obtain ⟨p, q, r, s⟩ := hL.next_some y (Nat.zero_le _) b z hz
          exact ⟨by omega, q, by rw [r, hc], fun x h1 h2 => by
            have := s x (by omega) h2
            rw [hc] at this; exact this⟩)
      simp only [walk, walkEnds]
      exact ⟨this.1, by rw [this.2, members_cons g c lo top y a b hc d]⟩

theorem walk_first (g : Arr Nat) (top fuel : Nat) (L : Lists) (hL : IsLists g 0 top L) (hf : top ≤ fuel) (c : Nat) :
    walkEnds L.next fuel (L.first.get c) = true ∧
    walk L.next fuel (L.first.get c) = (List.range top).filter (fun x => g.get x = c) := by
  have := walk_members g top L hL c fuel 0 (L.first.get c) (by omega)
    (fun h x _ h2 => hL.first_none c h x (Nat.zero_le _) h2)
    (fun y h => hL.first_some c y h)
  refine ⟨this.1, ?_⟩
  rw [this.2, members, List.range_eq_range']
  simp

theorem mem_walk_first (g : Arr Nat) (top fuel : Nat) (L : Lists) (hL : IsLists g 0 top L) (hf : top ≤ fuel)
    (c x : Nat) : x ∈ walk L.next fuel (L.first.get c) ↔ x < top ∧ g.get x = c := by
  rw [(walk_first g top fuel L hL hf c).2]
  simp

theorem foldl_count (c : Nat) (l : List Nat) (m : Arr Nat) (j : Nat) :
    (l.foldl (fun m _ => upd m c (m.get c + 1)) m).get j = if j = c then m.get c + l.length else m.get j := by
  induction l generalizing m with
  | nil => by_cases h : j = c <;> simp [h]
  | cons a l ih =>
    simp only [List.foldl_cons, ih, upd_get, List.length_cons]
    by_cases h : j = c <;> simp [h]; omega

theorem countAll_get (fuel : Nat) (L : Lists) (reset : Bool) (mult : Arr Nat) (ng j : Nat) :
    (countAll fuel L reset ng mult).get j =
      if j < ng then (if reset then 0 else mult.get j) + (walk L.next fuel (L.first.get j)).length
      else mult.get j := by
  induction ng with
  | zero => simp [countAll]
  | succ ng ih =>
    simp only [countAll] at ih ⊢
    rw [List.range_succ, List.foldl_append, List.foldl_cons, List.foldl_nil]
    simp only [countStep, foldl_count]
    by_cases h : j = ng
    · subst h
      cases reset <;> simp [ih]
    · by_cases h2 : j < ng
      · have : j < ng + 1 := by omega
        cases reset <;> simp [h, h2, this, ih]
      · have : ¬ j < ng + 1 := by omega
        cases reset <;> simp [h, h2, this, ih]

theorem countOk_of {g : Arr Nat} {n : Nat} {L : Lists} (hL : IsLists g 0 n L) (ng : Nat) : countOk n L ng = true := by
  simp [countOk, fun c => (walk_first g n n L hL (Nat.le_refl _) c).1]

end PydlVerif.Fof
