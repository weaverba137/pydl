/-
What the model functions `BS.action` / `BS.value` return, by unfolding.  Core Lean only, generic over `[Scalar α]`: the statements
hold literally for the `Float` and `Rat` runs of the driver and for the field interpretation of the theorems.
-/
import PydlVerif.Model.BSpline
namespace PydlVerif.C08
open PydlVerif PydlVerif.BSpline

variable {α : Type} [Scalar α]

theorem adv_succ_le (t : Nat → α) (n : Nat) (x : α) (fuel i : Nat) (hi : i + 1 ≤ n) :
    intrvAdvance t n x fuel i + 1 ≤ n := by
  induction fuel generalizing i with
  | zero => simpa [intrvAdvance] using hi
  | succ f ih =>
    simp only [intrvAdvance]
    split
    · rename_i h; exact ih (i+1) h.2
    · exact hi

theorem scan_le (t : Nat → α) (n : Nat) (xs : List α) (i : Nat) (hi : i + 1 ≤ n) :
    ∀ v ∈ intrvScan t n xs i, v + 1 ≤ n := by
  induction xs generalizing i with
  | nil => intro v hv; cases hv
  | cons x xs ih =>
    exact List.forall_mem_cons.2 ⟨adv_succ_le t n x _ i hi, ih _ (adv_succ_le t n x _ i hi)⟩

theorem scan_length (t : Nat → α) (n : Nat) (xs : List α) (i : Nat) : (intrvScan t n xs i).length = xs.length := by
  induction xs generalizing i with
  | nil => rfl
  | cons x xs ih => simp only [intrvScan, List.length_cons, ih]

/-- with `1 ≤ nord`, at least `2·nord` good breakpoints and at least one point, `action`
returns the `bsplvn` rows at the scanned interval indices and the `uniq` bookkeeping of those indices -/
theorem action_eq (b : BS α) (xw : List α) (hk : 1 ≤ b.nord) (hsize : 2 * b.nord ≤ b.gb.size) (hne : xw ≠ []) :
    b.action xw = .ok (some
      (List.zipWith (fun x i => bsplvn1 (knotAt b.gb) b.nord x i) xw
          (intrvScan (knotAt b.gb) (b.gb.size - b.nord) xw (b.nord - 1)),
        lowerUpper b.nord (b.gb.size - b.nord)
          (intrvScan (knotAt b.gb) (b.gb.size - b.nord) xw (b.nord - 1)).toArray)) := by
  have hemp : xw.isEmpty = false := by cases xw with | nil => exact absurd rfl hne | cons _ _ => rfl
  have hle := scan_le (knotAt b.gb) (b.gb.size - b.nord) xw (b.nord - 1) (by omega)
  have hany' : ¬ (2 ≤ b.nord ∧ ∃ x, x ∈ intrvScan (knotAt b.gb) (b.gb.size - b.nord) xw (b.nord - 1) ∧
      b.gb.size ≤ x + b.nord - 1) := by
    rintro ⟨_, x, hx, h⟩
    have := hle x hx
    omega
  simp only [BS.action, BS.intrv, BS.bsplvn, hemp, bind, Except.bind, pure, Except.pure]
  simp [show ¬ b.gb.size < 2 * b.nord by omega, show ¬ b.gb.size ≤ b.nord by omega, hany']

/-- the converse of `action_eq`: `action` delivers rows (not the `(-2, 0, 0)` return, no exception) only then -/
theorem action_some (b : BS α) (xw : List α) (rows : List (List α)) (lower upper : Array Int) (hk : 1 ≤ b.nord)
    (h : b.action xw = .ok (some (rows, lower, upper))) :
    2 * b.nord ≤ b.gb.size ∧ xw ≠ [] ∧
      rows = List.zipWith (fun x i => bsplvn1 (knotAt b.gb) b.nord x i) xw
          (intrvScan (knotAt b.gb) (b.gb.size - b.nord) xw (b.nord - 1)) ∧
      lower = (lowerUpper b.nord (b.gb.size - b.nord)
          (intrvScan (knotAt b.gb) (b.gb.size - b.nord) xw (b.nord - 1)).toArray).1 ∧
      upper = (lowerUpper b.nord (b.gb.size - b.nord)
          (intrvScan (knotAt b.gb) (b.gb.size - b.nord) xw (b.nord - 1)).toArray).2 := by
  by_cases hsize : 2 * b.nord ≤ b.gb.size
  · by_cases hne : xw = []
    · exfalso  -- no point: `action` raises (IndexError)
      subst hne
      simp [BS.action, BS.intrv, BS.bsplvn, bind, Except.bind, pure, Except.pure, indexError,
        show ¬ b.gb.size < 2 * b.nord by omega] at h
    · rw [action_eq b xw hk hsize hne] at h
      injection h with h
      injection h with h
      injection h with h1 h2
      exact ⟨hsize, hne, h1.symm, congrArg Prod.fst h2.symm, congrArg Prod.snd h2.symm⟩
  · exfalso  -- fewer than `2·nord` good breakpoints: `action` returns `none`
    simp [BS.action, pure, Except.pure, show b.gb.size < 2 * b.nord by omega] at h

/-- `goodcoeff[j]` (the coefficient accessor `value` hands to `fillRows`) -/
def coeffAt (b : BS α) : Nat → α := fun j => b.goodcoeff[j]!

/-- the model function `BS.value` - what the driver executes - IS
`(unsort perm (fillRows …), maskOf …)`, the expressions the theorems `value_spec`, `value_perm`,
`mask_outside` talk about -/
theorem value_eq (b : BS α) (xs : List α) (perm : List Nat) (hk : 1 ≤ b.nord) (hsize : 2 * b.nord ≤ b.gb.size)
    (hne : perm ≠ []) :
    b.value xs perm = .ok
      (unsort perm (fillRows
          (List.zipWith (fun x i => bsplvn1 (knotAt b.gb) b.nord x i) (perm.map (fun p => xs.getD p 0))
            (intrvScan (knotAt b.gb) (b.gb.size - b.nord) (perm.map (fun p => xs.getD p 0)) (b.nord - 1)))
          (coeffAt b)
          (lowerUpper b.nord (b.gb.size - b.nord)
            (intrvScan (knotAt b.gb) (b.gb.size - b.nord) (perm.map (fun p => xs.getD p 0)) (b.nord - 1)).toArray).1
          (lowerUpper b.nord (b.gb.size - b.nord)
            (intrvScan (knotAt b.gb) (b.gb.size - b.nord) (perm.map (fun p => xs.getD p 0)) (b.nord - 1)).toArray).2
          (b.gb.size - b.nord - b.nord + 1) xs.length),
       maskOf (fun i => b.breakpoints[i]!) (knotAt b.gb) (goodIdx b.mask.toList) b.nord (b.gb.size - b.nord) xs) := by
  have hne' : perm.map (fun p => xs.getD p 0) ≠ [] := by
    cases perm with | nil => exact absurd rfl hne | cons _ _ => simp
  simp only [BS.value, action_eq b _ hk hsize hne', bind, Except.bind, pure, Except.pure]
  simp [show ¬ b.gb.size < b.nord by omega, show ¬ b.nord = 0 by omega]
  rfl

end PydlVerif.C08
