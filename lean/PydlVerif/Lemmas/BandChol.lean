/-
Correctness of the banded factorisation + solve of Model/BandChol.lean over a linearly ordered field.  The recurrences of a
banded `M E Mᵀ` factorisation and of the substitutions are treated as pure algebra on functions `ℕ → ℕ → K`; the executable
definitions satisfy them because nothing is updated in place (every array is a table or a `buildUp`).  Both kernels
(`L D Lᵀ`, Cholesky) are one proof through `Variant` / `VariantOK`.
-/
import PydlVerif.Model.BandChol
import PydlVerif.Lemmas.BSplineFit
namespace PydlVerif.BandCholLemmas
open PydlVerif PydlVerif.BSplineFit PydlVerif.BandChol Finset

-- not every lemma under the `variable` line uses the order and the floor
set_option linter.unusedSectionVars false

namespace AtField
scoped notation "colEntryK" => @colEntry _ (fieldScalar _)
scoped notation "factorColsK" => @factorCols _ (fieldScalar _)
scoped notation "bandFactorK" => @bandFactor _ (fieldScalar _)
scoped notation "fwdStepK" => @fwdStep _ (fieldScalar _)
scoped notation "bwdStepK" => @bwdStep _ (fieldScalar _)
scoped notation "bandSolveK" => @bandSolve _ (fieldScalar _)
scoped notation "padBandK" => @padBand _ (fieldScalar _)
scoped notation "kernelsLdltK" => @kernelsLdlt _ (fieldScalar _)
scoped notation "ldltVK" => @ldltV _ (fieldScalar _)
scoped notation "cholVK" => @cholV _ (fieldScalar _)
end AtField
open PydlVerif.AtField PydlVerif.BandCholLemmas.AtField

section algebra
variable {K : Type} [Field K]

/-- entry `(i, j)` of the symmetric matrix whose lower band is `a r c = A[c+r][c]`, `r < bw`; zero outside the band -/
def bandSym (a : ℕ → ℕ → K) (bw i j : ℕ) : K :=
  if i ≤ j then (if j - i < bw then a (j - i) i else 0) else (if i - j < bw then a (i - j) j else 0)

/-- entry `(i, j)` of the banded lower triangular matrix with diagonal `dg` and sub-diagonals `f r c = M[c+r][c]` -/
def lowM (f : ℕ → ℕ → K) (dg : ℕ → K) (bw i j : ℕ) : K :=
  if i = j then dg j else if j < i ∧ i - j < bw then f (i - j) j else 0

theorem bandSym_symm (a : ℕ → ℕ → K) (bw i j : ℕ) : bandSym a bw i j = bandSym a bw j i := by
  unfold bandSym
  rcases Nat.lt_trichotomy i j with h | h | h
  · rw [if_pos (show i ≤ j by omega), if_neg (show ¬ j ≤ i by omega)]
  · subst h; rfl
  · rw [if_neg (show ¬ i ≤ j by omega), if_pos (show j ≤ i by omega)]

theorem lowM_upper (f : ℕ → ℕ → K) (dg : ℕ → K) (bw i j : ℕ) (h : i < j) : lowM f dg bw i j = 0 := by
  unfold lowM
  rw [if_neg (by omega), if_neg (by omega)]

theorem lowM_diag (f : ℕ → ℕ → K) (dg : ℕ → K) (bw i : ℕ) : lowM f dg bw i i = dg i := by
  unfold lowM
  rw [if_pos rfl]

theorem lowM_lower (f : ℕ → ℕ → K) (dg : ℕ → K) (bw i j : ℕ) (h : j < i) :
    lowM f dg bw i j = if i - j < bw then f (i - j) j else 0 := by
  unfold lowM
  rw [if_neg (by omega)]
  by_cases h2 : i - j < bw
  · rw [if_pos ⟨h, h2⟩, if_pos h2]
  · rw [if_neg (fun hh => h2 hh.2), if_neg h2]

def facProd (f : ℕ → ℕ → K) (dg e : ℕ → K) (bw n i j : ℕ) : K :=
  ∑ k ∈ range n, lowM f dg bw i k * e k * lowM f dg bw j k

theorem facProd_symm (f : ℕ → ℕ → K) (dg e : ℕ → K) (bw n i j : ℕ) : facProd f dg e bw n i j = facProd f dg e bw n j i := by
  unfold facProd
  apply Finset.sum_congr rfl
  intro k _
  ring

/-- the column recurrences of the banded factorisation (`H0` pivot, `H1` sub-diagonal; sums over the `k` inside the band)
say `M E Mᵀ = A` for every pair of indices below `n`, `A` the symmetric matrix
with that lower band and ZERO outside it -/
theorem factor_dense (a f : ℕ → ℕ → K) (e dg : ℕ → K) (n bw : ℕ) (hbw : 0 < bw)
    (H0 : ∀ c, c < n → a 0 c = (∑ k ∈ range c, if c < k + bw then f (c - k) k * e k * f (c - k) k else 0) + dg c * e c * dg c)
    (H1 : ∀ c r, 1 ≤ r → r < bw → c + r < n →
      a r c = (∑ k ∈ range c, if c + r < k + bw then f (c - k) k * e k * f (c + r - k) k else 0) + f r c * e c * dg c)
    (i j : ℕ) (hi : i < n) (hj : j < n) : facProd f dg e bw n i j = bandSym a bw i j := by
  wlog hji : j ≤ i generalizing i j
  · rw [facProd_symm, bandSym_symm]
    exact this j i hj hi (by omega)
  obtain ⟨d, rfl⟩ := Nat.exists_eq_add_of_le hji
  -- left of column `j` the product of rows `j+d` and `j` is the term of the recurrence for band `d`
  have hterm : ∀ k ∈ range j, lowM f dg bw (j + d) k * e k * lowM f dg bw j k
      = if j + d < k + bw then f (j - k) k * e k * f (j + d - k) k else 0 := by
    intro k hk
    have hk := Finset.mem_range.1 hk
    rw [lowM_lower f dg bw j k hk, lowM_lower f dg bw (j + d) k (by omega)]
    by_cases h : j + d < k + bw
    · rw [if_pos h, if_pos (by omega), if_pos (by omega)]
      ring
    · rw [if_neg h, if_neg (by omega), zero_mul, zero_mul]
  unfold facProd
  rw [← Finset.sum_subset (Finset.range_mono (Nat.succ_le_of_lt hj)) fun k _ hk => by
    rw [lowM_upper f dg bw j k (by have := Finset.mem_range.not.1 hk; omega), mul_zero],
    Finset.sum_range_succ, lowM_diag, Finset.sum_congr rfl hterm]
  unfold bandSym
  rcases Nat.eq_zero_or_pos d with rfl | hd
  · rw [Nat.add_zero, lowM_diag, if_pos le_rfl, Nat.sub_self, if_pos hbw]
    exact (H0 j hj).symm
  · rw [lowM_lower f dg bw (j + d) j (by omega), Nat.add_sub_cancel_left, if_neg (show ¬ j + d ≤ j by omega)]
    by_cases hband : d < bw
    · rw [if_pos hband, if_pos hband]
      exact (H1 j d hd hband hi).symm
    · rw [if_neg hband, if_neg hband, zero_mul, zero_mul, add_zero]
      exact Finset.sum_eq_zero fun k hk => if_neg (by have := Finset.mem_range.1 hk; omega)

theorem sum_range_lt_comm (a b : ℕ) (h : ℕ → K) :
    ∑ t ∈ range a, (if t < b then h t else 0) = ∑ t ∈ range b, (if t < a then h t else 0) := by
  rw [← Finset.sum_filter, ← Finset.sum_filter]
  refine Finset.sum_congr (Finset.ext fun t => ?_) fun _ _ => rfl
  rw [Finset.mem_filter, Finset.mem_filter, Finset.mem_range, Finset.mem_range, and_comm]

/-- forward substitution solves `M z = b`: row `i` of `M` left of the diagonal, read from the diagonal outwards (`k = i-1-t`),
is the loop `r = t+1 = 1..bw-1` of the substitution -/
theorem fwd_dense (f : ℕ → ℕ → K) (dg b z : ℕ → K) (n bw : ℕ) (hbw : 0 < bw)
    (Hz : ∀ i, i < n → z i * dg i = b i - ∑ t ∈ range (bw - 1), if t + 1 ≤ i then f (t + 1) (i - (t + 1)) * z (i - (t + 1)) else 0)
    (i : ℕ) (hi : i < n) : ∑ k ∈ range n, lowM f dg bw i k * z k = b i := by
  have hrow : ∑ k ∈ range i, lowM f dg bw i k * z k
      = ∑ t ∈ range (bw - 1), if t + 1 ≤ i then f (t + 1) (i - (t + 1)) * z (i - (t + 1)) else 0 := by
    rw [← Finset.sum_range_reflect]
    refine Eq.trans (Finset.sum_congr rfl fun t ht => ?_) (sum_range_lt_comm i (bw - 1) _)
    have ht := Finset.mem_range.1 ht
    rw [lowM_lower f dg bw i _ (by omega), show i - (i - 1 - t) = t + 1 by omega, show i - 1 - t = i - (t + 1) by omega]
    by_cases h : t + 1 < bw
    · rw [if_pos h, if_pos (by omega)]
    · rw [if_neg h, if_neg (by omega), zero_mul]
  rw [← Finset.sum_subset (Finset.range_mono hi) fun k _ hk => by
    rw [lowM_upper f dg bw i k (by have := Finset.mem_range.not.1 hk; omega), zero_mul]]
  rw [Finset.sum_range_succ, lowM_diag, hrow, mul_comm, Hz i hi, add_sub_cancel]

/-- back substitution solves `Mᵀ x = w`: column `k` of `M` below the diagonal (`j = k+1+t`) is the loop `r = t+1` -/
theorem bwd_dense (f : ℕ → ℕ → K) (dg w x : ℕ → K) (n bw : ℕ) (hbw : 0 < bw)
    (Hx : ∀ i, i < n → x i * dg i = w i - ∑ t ∈ range (bw - 1), if i + (t + 1) < n then f (t + 1) i * x (i + (t + 1)) else 0)
    (k : ℕ) (hk : k < n) : ∑ j ∈ range n, lowM f dg bw j k * x j = w k := by
  have hcol : ∑ j ∈ Finset.Ico (k + 1) n, lowM f dg bw j k * x j
      = ∑ t ∈ range (bw - 1), if k + (t + 1) < n then f (t + 1) k * x (k + (t + 1)) else 0 := by
    rw [Finset.sum_Ico_eq_sum_range]
    refine Eq.trans (Finset.sum_congr rfl fun t _ => ?_) ((sum_range_lt_comm (n - (k + 1)) (bw - 1) _).trans
      (Finset.sum_congr rfl fun t _ => if_congr (by omega) rfl rfl))
    rw [lowM_lower f dg bw _ k (by omega), show k + 1 + t - k = t + 1 by omega, show k + 1 + t = k + (t + 1) by omega]
    by_cases h : t + 1 < bw
    · rw [if_pos h, if_pos (by omega)]
    · rw [if_neg h, if_neg (by omega), zero_mul]
  rw [← Finset.sum_range_add_sum_Ico _ (Nat.succ_le_of_lt hk), Finset.sum_range_succ,
    Finset.sum_eq_zero fun j hj => by rw [lowM_upper f dg bw j k (Finset.mem_range.1 hj), zero_mul],
    lowM_diag, hcol, zero_add, mul_comm, Hx k hk, sub_add_cancel]

theorem solve_dense (f : ℕ → ℕ → K) (dg e b z w x : ℕ → K) (n bw : ℕ)
    (Hz : ∀ i, i < n → ∑ k ∈ range n, lowM f dg bw i k * z k = b i) (Hw : ∀ i, i < n → w i * e i = z i)
    (Hx : ∀ k, k < n → ∑ j ∈ range n, lowM f dg bw j k * x j = w k)
    (i : ℕ) (hi : i < n) : ∑ j ∈ range n, facProd f dg e bw n i j * x j = b i := by
  rw [← Hz i hi]
  unfold facProd
  simp_rw [Finset.sum_mul]
  rw [Finset.sum_comm]
  refine Finset.sum_congr rfl fun k hk => ?_
  have hk := Finset.mem_range.1 hk
  rw [← Hw k hk, ← Hx k hk, Finset.sum_mul, Finset.mul_sum]
  exact Finset.sum_congr rfl fun j _ => by ring

theorem facProd_congr (f f' : ℕ → ℕ → K) (dg dg' e e' : ℕ → K) (bw n : ℕ)
    (hf : ∀ r c, r < bw → c < n → f r c = f' r c) (hd : ∀ c, c < n → dg c = dg' c) (he : ∀ c, c < n → e c = e' c)
    (i j : ℕ) : facProd f dg e bw n i j = facProd f' dg' e' bw n i j := by
  have hl : ∀ i k, k < n → lowM f dg bw i k = lowM f' dg' bw i k := fun i k hk =>
    if_ctx_congr Iff.rfl (fun _ => hd k hk) fun _ => if_ctx_congr Iff.rfl (fun h => hf _ _ h.2 hk) fun _ => rfl
  unfold facProd
  refine Finset.sum_congr rfl fun k hk => ?_
  rw [Finset.mem_range] at hk
  rw [hl i k hk, hl j k hk, he k hk]

theorem bandSym_congr (a a' : ℕ → ℕ → K) (bw n : ℕ) (h : ∀ r c, r < bw → c < n → a r c = a' r c)
    (i j : ℕ) (hi : i < n) (hj : j < n) : bandSym a bw i j = bandSym a' bw i j :=
  if_ctx_congr Iff.rfl (fun _ => if_ctx_congr Iff.rfl (fun h2 => h _ _ h2 hi) fun _ => rfl)
    fun _ => if_ctx_congr Iff.rfl (fun h2 => h _ _ h2 hj) fun _ => rfl

end algebra

section arrays
variable {β : Type} [Inhabited β]

theorem getElem!_mapRange (g : ℕ → β) (n r : ℕ) (hr : r < n) : ((List.range n).map g).toArray[r]! = g r := by
  rw [toArray_getElem!, getD_map_range_lt n r g _ hr]

theorem size_mapRange (g : ℕ → β) (n : ℕ) : ((List.range n).map g).toArray.size = n := by simp

theorem buildUp_size (step : Array β → ℕ → β) (c : ℕ) : (buildUp step c).size = c := by
  induction c with
  | zero => rfl
  | succ c ih => simp only [buildUp, Array.size_push, ih]

theorem buildUp_get (step : Array β → ℕ → β) (c k : ℕ) (hk : k < c) : (buildUp step c)[k]! = step (buildUp step k) k := by
  induction c with
  | zero => omega
  | succ c ih =>
    have hs := buildUp_size step c
    have e : buildUp step (c + 1) = (buildUp step c).push (step (buildUp step c) c) := rfl
    rw [e, getElem!_pos _ k (by rw [Array.size_push]; omega)]
    by_cases h : k < c
    · rw [Array.getElem_push_lt (by omega), ← ih h, getElem!_pos _ k (by omega)]
    · have hkc : k = c := by omega
      subst hkc
      simp [Array.getElem_push, hs]

theorem buildUp_fix (step : Array β → ℕ → β)
    (hcongr : ∀ i p p', (∀ k, k < i → p[k]! = p'[k]!) → step p i = step p' i) (n i : ℕ) (hi : i < n) :
    (buildUp step n)[i]! = step (buildUp step n) i := by
  rw [buildUp_get step n i hi]
  apply hcongr
  intro k hk
  rw [buildUp_get step i k hk, buildUp_get step n k (by omega)]

theorem extract_get (row : Array β) (n c : ℕ) (hc : c < n) : (row.extract 0 n)[c]! = row[c]! := by
  simp only [getElem!_def, Array.getElem?_extract]
  by_cases h : c < row.size
  · simp [hc, h]
  · simp [h]

end arrays

section exec
open PydlVerif.BSplineFitLemmas
variable {K : Type} [Field K] [LinearOrder K] [IsStrictOrderedRing K] [FloorRing K]

/-- the `Inhabited` instance the model's `arr[i]!` reads use (default `Scalar.ofNat 0`) -/
noncomputable local instance instInhabitedK : Inhabited K := @PydlVerif.instInhabitedOfScalar K (fieldScalar K)

theorem get2_table (g : ℕ → ℕ → K) (bw N r c : ℕ) (hr : r < bw) (hc : c < N) :
    get2K ((List.range bw).map fun r => ((List.range N).map fun c => g r c).toArray).toArray r c = g r c := by
  unfold get2
  rw [getElem!_mapRange _ bw r hr, getElem!_mapRange _ N c hc]

theorem table_row_size (g : ℕ → ℕ → K) (bw N : ℕ) (hbw : 0 < bw) :
    (((List.range bw).map fun r => ((List.range N).map fun c => g r c).toArray).toArray[0]!).size = N := by
  rw [getElem!_mapRange _ bw 0 hbw]
  exact size_mapRange _ N

/-- what the theorems need of a `Variant` on a positive pivot `p`: with `g = root p`, `ew_md` and `root_md` make the last terms of
`H0`, `H1` of `factor_dense` come out (`diag`, `factorCols_sub`) -/
structure VariantOK (V : Variant K) : Prop where
  root_ne : ∀ p, 0 < p → V.root p ≠ 0
  ew_md : ∀ p, 0 < p → V.ew (V.root p) * V.md (V.root p) = V.root p
  root_md : ∀ p, 0 < p → V.root p * V.md (V.root p) = p

namespace VariantOK
variable {V : Variant K} (hV : VariantOK V) {p : K} (hp : 0 < p)
include hV hp

theorem md_ne : V.md (V.root p) ≠ 0 := fun hz =>
  hV.root_ne p hp (by rw [← hV.ew_md p hp, hz, mul_zero])

theorem diag : V.md (V.root p) * V.ew (V.root p) * V.md (V.root p) = p := by
  rw [mul_comm (V.md _), hV.ew_md p hp, hV.root_md p hp]

/-- `ew g · (md g)² = p > 0` -/
theorem ew_pos : 0 < V.ew (V.root p) := by
  have h := hV.diag hp
  rw [mul_comm (V.md _), mul_assoc] at h
  exact pos_of_mul_pos_left (h ▸ hp) (mul_self_nonneg _)

end VariantOK

theorem ldltV_ok : VariantOK (@ldltV K (fieldScalar K)) where
  root_ne := fun p hp => ne_of_gt hp
  ew_md := fun p _ => by
    show p * (@OfNat.ofNat K 1 (@Scalar.instOfNat K (fieldScalar K) 1) : K) = p
    rw [scalar_one, mul_one]
  root_md := fun p _ => by
    show p * (@OfNat.ofNat K 1 (@Scalar.instOfNat K (fieldScalar K) 1) : K) = p
    rw [scalar_one, mul_one]

theorem cholV_ok (sqrt : K → K) (hs : ∀ p, 0 < p → sqrt p * sqrt p = p) : VariantOK (@cholV K (fieldScalar K) sqrt) where
  root_ne := fun p hp h0 => hp.ne' (by rw [← hs p hp, show sqrt p = 0 from h0, mul_zero])
  ew_md := fun p _ => by
    show (@OfNat.ofNat K 1 (@Scalar.instOfNat K (fieldScalar K) 1) : K) * sqrt p = sqrt p
    rw [scalar_one, one_mul]
  root_md := fun p hp => hs p hp

theorem foldl_sub (l : List ℕ) (P : ℕ → Prop) [DecidablePred P] (t : ℕ → K) (a0 : K) :
    l.foldl (fun acc k => if P k then acc - t k else acc) a0 = a0 - (l.map (fun k => if P k then t k else 0)).sum := by
  induction l generalizing a0 with
  | nil => simp
  | cons k l ih =>
    rw [List.foldl_cons, ih, List.map_cons, List.sum_cons]
    by_cases h : P k
    · rw [if_pos h, if_pos h]; ring
    · rw [if_neg h, if_neg h]; ring

theorem colEntry_eq (V : Variant K) (bw : ℕ) (a : ℕ → ℕ → K) (cols : Array (Array K)) (c r : ℕ) :
    colEntryK V bw a cols c r = a r c - ∑ k ∈ range c,
      (if c + r < k + bw then get2K cols k (c - k) * V.ew (get2K cols k 0) * get2K cols k (c + r - k) else 0) := by
  unfold colEntry
  rw [foldl_sub, sum_map_range]

theorem colEntry_congr (V : Variant K) (bw : ℕ) (a : ℕ → ℕ → K) (cols cols' : Array (Array K)) (c r : ℕ)
    (h : ∀ k, k < c → cols[k]! = cols'[k]!) : colEntryK V bw a cols c r = colEntryK V bw a cols' c r := by
  have e : ∀ k, k < c → ∀ s, get2K cols k s = get2K cols' k s := fun k hk s => congrArg (·[s]!) (h k hk)
  rw [colEntry_eq, colEntry_eq]
  exact congrArg (a r c - ·) (Finset.sum_congr rfl fun k hk => by simp only [e k (Finset.mem_range.1 hk)])

theorem factorCols_fix (V : Variant K) (bw n : ℕ) (a : ℕ → ℕ → K) (c : ℕ) (hc : c < n) :
    (factorColsK V bw n a n)[c]! = @newCol _ (fieldScalar _) V bw n a (factorColsK V bw n a n) c :=
  buildUp_fix _ (fun i p p' h => by
    unfold newCol
    simp only [fun r => colEntry_congr V bw a p p' i r h]) n c hc

theorem factorCols_entry (V : Variant K) (bw n : ℕ) (a : ℕ → ℕ → K) (c r : ℕ) (hc : c < n) (hr : r < bw) :
    get2K (factorColsK V bw n a n) c r =
      if r = 0 then V.root (colEntryK V bw a (factorColsK V bw n a n) c 0)
      else if c + r < n then colEntryK V bw a (factorColsK V bw n a n) c r / V.root (colEntryK V bw a (factorColsK V bw n a n) c 0)
      else a r c := by
  unfold get2
  rw [factorCols_fix V bw n a c hc]
  unfold newCol
  simp only []
  rw [getElem!_mapRange _ bw r hr]

/-- the recurrence `H0`/`H1` of `factor_dense` read off `colEntry`: `x` is its last term (the product with the diagonal of
column `c`), `e` the diagonal `E`, both left free so that `pos_def_bandFactor` can put its own `e c` -/
theorem colEntry_rec (V : Variant K) (bw : ℕ) (a : ℕ → ℕ → K) (cols : Array (Array K)) (e : ℕ → K) (c r : ℕ)
    (he : ∀ k, k < c → e k = V.ew (get2K cols k 0)) (x : K) (hx : x = colEntryK V bw a cols c r) :
    a r c = (∑ k ∈ range c, if c + r < k + bw then get2K cols k (c - k) * e k * get2K cols k (c + r - k) else 0) + x := by
  rw [hx, colEntry_eq, Finset.sum_congr rfl fun k hk => by rw [he k (Finset.mem_range.1 hk)], add_sub_cancel]

/-- the last term of the pivot recurrence (`x` of `colEntry_rec`, `r = 0`) for a column with positive pivot -/
theorem factorCols_diag (V : Variant K) (hV : VariantOK V) (bw n : ℕ) (hbw : 0 < bw) (a : ℕ → ℕ → K) (c : ℕ) (hc : c < n)
    (hp : 0 < colEntryK V bw a (factorColsK V bw n a n) c 0) :
    V.md (get2K (factorColsK V bw n a n) c 0) * V.ew (get2K (factorColsK V bw n a n) c 0) * V.md (get2K (factorColsK V bw n a n) c 0)
      = colEntryK V bw a (factorColsK V bw n a n) c 0 := by
  rw [factorCols_entry V bw n a c 0 hc hbw, if_pos rfl, hV.diag hp]

/-- the last term of the sub-diagonal recurrence (`x` of `colEntry_rec`, `r ≥ 1`) -/
theorem factorCols_sub (V : Variant K) (hV : VariantOK V) (bw n : ℕ) (hbw : 0 < bw) (a : ℕ → ℕ → K) (c r : ℕ)
    (h1 : 1 ≤ r) (hr : r < bw) (hcr : c + r < n) (hp : 0 < colEntryK V bw a (factorColsK V bw n a n) c 0) :
    get2K (factorColsK V bw n a n) c r * V.ew (get2K (factorColsK V bw n a n) c 0) * V.md (get2K (factorColsK V bw n a n) c 0)
      = colEntryK V bw a (factorColsK V bw n a n) c r := by
  rw [factorCols_entry V bw n a c r (by omega) hr, if_neg (by omega), if_pos hcr, factorCols_entry V bw n a c 0 (by omega) hbw,
    if_pos rfl, mul_assoc, hV.ew_md _ hp, div_mul_cancel₀ _ (hV.root_ne _ hp)]

/-- the pivot of column `c` as `bandFactor` computes it: entry `(c, c)` of the Schur complement after the columns `< c` -/
noncomputable def pivotK (V : Variant K) (bw n : ℕ) (A : Array (Array K)) (c : ℕ) : K :=
  colEntryK V bw (fun r c => get2K A r c) (factorColsK V bw n (fun r c => get2K A r c) n) c 0

theorem bandFactor_isSome (V : Variant K) (bw n : ℕ) (A : Array (Array K)) :
    (∃ F, bandFactorK V bw n A = some F) ↔ ∀ c, c < n → 0 < pivotK V bw n A c := by
  unfold bandFactor pivotK
  simp only [List.all_eq_true, List.mem_range, decide_eq_true_iff, scalar_zero]
  split
  · exact ⟨fun _ => ‹_›, fun _ => ⟨_, rfl⟩⟩
  · exact ⟨fun ⟨_, h⟩ => (nomatch h), fun h => absurd h ‹_›⟩

theorem bandFactor_some (V : Variant K) (bw n : ℕ) (A F : Array (Array K)) (h : bandFactorK V bw n A = some F) :
    (∀ c, c < n → 0 < colEntryK V bw (fun r c => get2K A r c) (factorColsK V bw n (fun r c => get2K A r c) n) c 0) ∧
    (∀ r c, r < bw → c < n → get2K F r c = get2K (factorColsK V bw n (fun r c => get2K A r c) n) c r) := by
  refine ⟨(bandFactor_isSome V bw n A).1 ⟨F, h⟩, fun r c hr hc => ?_⟩
  unfold bandFactor at h
  simp only [] at h
  split at h
  · injection h with h
    subst h
    exact get2_table _ bw n r c hr hc
  · cases h

/-- `M E Mᵀ = A` with `M` the banded lower triangular matrix read from `F` (diagonal `md F[0][c]`),
`E = diag (ew F[0][c])`, `A` the symmetric matrix whose lower band is the input (zero outside the band) -/
theorem bandFactor_facProd (V : Variant K) (hV : VariantOK V) (bw n : ℕ) (hbw : 0 < bw) (A F : Array (Array K))
    (h : bandFactorK V bw n A = some F) :
    (∀ c, c < n → ∃ p, 0 < p ∧ get2K F 0 c = V.root p) ∧
    ∀ i j, i < n → j < n →
      facProd (fun r c => get2K F r c) (fun c => V.md (get2K F 0 c)) (fun c => V.ew (get2K F 0 c)) bw n i j
        = bandSym (fun r c => get2K A r c) bw i j := by
  obtain ⟨hpos, hF⟩ := bandFactor_some V bw n A F h
  have hD := fun c hc => factorCols_diag V hV bw n hbw (fun r c => get2K A r c) c hc (hpos c hc)
  have hO := fun c r h1 hr (hcr : c + r < n) =>
    factorCols_sub V hV bw n hbw (fun r c => get2K A r c) c r h1 hr hcr (hpos c (by omega))
  have hroot := fun c hc => factorCols_entry V bw n (fun r c => get2K A r c) c 0 hc hbw
  generalize factorColsK V bw n (fun r c => get2K A r c) n = cols at hpos hF hD hO hroot
  have hF0 : ∀ c, c < n → get2K F 0 c = get2K cols c 0 := fun c hc => hF 0 c hbw hc
  refine ⟨fun c hc => ⟨_, hpos c hc, ?_⟩, fun i j hi hj => ?_⟩
  · rw [hF0 c hc, hroot c hc, if_pos rfl]
  · exact (facProd_congr _ _ _ _ _ _ bw n hF (fun c hc => by rw [hF0 c hc]) (fun c hc => by rw [hF0 c hc]) i j).trans
      (factor_dense (fun r c => get2K A r c) (fun r c => get2K cols c r) (fun c => V.ew (get2K cols c 0))
        (fun c => V.md (get2K cols c 0)) n bw hbw
        (fun c hc => colEntry_rec V bw _ cols _ c 0 (fun _ _ => rfl) _ (hD c hc))
        (fun c r h1 hr hcr => colEntry_rec V bw _ cols _ c r (fun _ _ => rfl) _ (hO c r h1 hr hcr)) i j hi hj)

theorem bandFactor_diag_ok (V : Variant K) (hV : VariantOK V) (bw n : ℕ) (hbw : 0 < bw) (A F : Array (Array K))
    (h : bandFactorK V bw n A = some F) (c : ℕ) (hc : c < n) : V.md (get2K F 0 c) ≠ 0 ∧ 0 < V.ew (get2K F 0 c) := by
  obtain ⟨p, hp, e⟩ := (bandFactor_facProd V hV bw n hbw A F h).1 c hc
  rw [e]
  exact ⟨hV.md_ne hp, hV.ew_pos hp⟩

theorem fwdStep_eq (V : Variant K) (bw : ℕ) (F : Array (Array K)) (b z : Array K) (i : ℕ) :
    fwdStepK V bw F b z i = (b[i]! - ∑ t ∈ range (bw - 1),
      (if t + 1 ≤ i then get2K F (t + 1) (i - (t + 1)) * z[i - (t + 1)]! else 0)) / V.md (get2K F 0 i) := by
  unfold fwdStep
  rw [foldl_sub, sum_map_range]

theorem bwdStep_eq (V : Variant K) (bw n : ℕ) (F : Array (Array K)) (w xr : Array K) (ii : ℕ) :
    bwdStepK V bw n F w xr ii = (w[n - 1 - ii]! - ∑ t ∈ range (bw - 1),
      (if (n - 1 - ii) + (t + 1) < n then get2K F (t + 1) (n - 1 - ii) * xr[ii - (t + 1)]! else 0)) / V.md (get2K F 0 (n - 1 - ii)) := by
  unfold bwdStep
  rw [foldl_sub, sum_map_range]

theorem fwdStep_congr (V : Variant K) (bw : ℕ) (F : Array (Array K)) (b z z' : Array K) (i : ℕ)
    (h : ∀ k, k < i → z[k]! = z'[k]!) : fwdStepK V bw F b z i = fwdStepK V bw F b z' i := by
  rw [fwdStep_eq, fwdStep_eq]
  exact congrArg (fun s => (b[i]! - s) / _) (Finset.sum_congr rfl fun t _ =>
    if_ctx_congr Iff.rfl (fun ht => by rw [h _ (by omega)]) fun _ => rfl)

theorem bwdStep_congr (V : Variant K) (bw n : ℕ) (F : Array (Array K)) (w xr xr' : Array K) (ii : ℕ)
    (h : ∀ k, k < ii → xr[k]! = xr'[k]!) : bwdStepK V bw n F w xr ii = bwdStepK V bw n F w xr' ii := by
  rw [bwdStep_eq, bwdStep_eq]
  exact congrArg (fun s => (w[n - 1 - ii]! - s) / _) (Finset.sum_congr rfl fun t _ =>
    if_ctx_congr Iff.rfl (fun ht => by rw [h _ (by omega)]) fun _ => rfl)

theorem bandSolve_size (V : Variant K) (bw n : ℕ) (F : Array (Array K)) (b : Array K) : (bandSolveK V bw n F b).size = n :=
  size_mapRange _ n

theorem bandSolve_facProd (V : Variant K) (bw n : ℕ) (hbw : 0 < bw) (F : Array (Array K)) (b : Array K)
    (hmd : ∀ i, i < n → V.md (get2K F 0 i) ≠ 0) (hew : ∀ i, i < n → V.ew (get2K F 0 i) ≠ 0) (i : ℕ) (hi : i < n) :
    ∑ j ∈ range n, facProd (fun r c => get2K F r c) (fun c => V.md (get2K F 0 c)) (fun c => V.ew (get2K F 0 c)) bw n i j
      * (bandSolveK V bw n F b)[j]! = b[i]! := by
  -- the three arrays of `bandSolve`
  generalize hz : buildUp (fun z i => fwdStepK V bw F b z i) n = z
  generalize hw : ((List.range n).map fun i => z[i]! / V.ew (get2K F 0 i)).toArray = w
  generalize hxr : buildUp (fun xr ii => bwdStepK V bw n F w xr ii) n = xr
  have hx : bandSolveK V bw n F b = ((List.range n).map fun i => xr[n - 1 - i]!).toArray := by
    unfold bandSolve
    simp only []
    rw [hz, hw, hxr]
  have Z : ∀ i, i < n → z[i]! = fwdStepK V bw F b z i := fun i hi =>
    hz ▸ buildUp_fix _ (fun i p p' h => fwdStep_congr V bw F b p p' i h) n i hi
  have W : ∀ i, i < n → w[i]! = z[i]! / V.ew (get2K F 0 i) := fun i hi => hw ▸ getElem!_mapRange _ n i hi
  have XR : ∀ ii, ii < n → xr[ii]! = bwdStepK V bw n F w xr ii := fun ii hii =>
    hxr ▸ buildUp_fix _ (fun i p p' h => bwdStep_congr V bw n F w p p' i h) n ii hii
  have X : ∀ i, i < n → (bandSolveK V bw n F b)[i]! = xr[n - 1 - i]! := fun i hi => by
    rw [hx, getElem!_mapRange _ n i hi]
  refine solve_dense _ _ _ (fun i => b[i]!) (fun i => z[i]!) (fun i => w[i]!) _ n bw
    (fwd_dense _ _ _ _ n bw hbw ?_) ?_ (bwd_dense _ _ _ _ n bw hbw ?_) i hi
  · intro i hi
    rw [Z i hi, fwdStep_eq, div_mul_cancel₀ _ (hmd i hi)]
  · intro i hi
    rw [W i hi, div_mul_cancel₀ _ (hew i hi)]
  · intro i hi
    rw [X i hi, XR (n - 1 - i) (by omega), bwdStep_eq, show n - 1 - (n - 1 - i) = i by omega, div_mul_cancel₀ _ (hmd i hi)]
    congr 1
    apply Finset.sum_congr rfl
    intro t _
    by_cases ht : i + (t + 1) < n
    · rw [if_pos ht, if_pos ht, X (i + (t + 1)) ht, show n - 1 - (i + (t + 1)) = n - 1 - i - (t + 1) by omega]
    · rw [if_neg ht, if_neg ht]

/-- factor + solve give `A x = b`; the solve may be handed any `F'` that agrees with the factor on the band (in
`cholesky_solve`: the padded factor cut back to `n` columns) -/
theorem band_solves (V : Variant K) (hV : VariantOK V) (bw n : ℕ) (hbw : 0 < bw) (A F F' : Array (Array K)) (b : Array K)
    (h : bandFactorK V bw n A = some F) (hF' : ∀ r c, r < bw → c < n → get2K F' r c = get2K F r c) (i : ℕ) (hi : i < n) :
    ∑ j ∈ range n, bandSym (fun r c => get2K A r c) bw i j * (bandSolveK V bw n F' b)[j]! = b[i]! := by
  obtain ⟨hg, hmem⟩ := bandFactor_facProd V hV bw n hbw A F h
  have hok := fun c hc => hF' 0 c hbw hc ▸ bandFactor_diag_ok V hV bw n hbw A F h c hc
  rw [← bandSolve_facProd V bw n hbw F' b (fun c hc => (hok c hc).1) (fun c hc => (hok c hc).2.ne') i hi]
  refine Finset.sum_congr rfl fun j hj => congrArg (· * _) ?_
  exact (hmem i j hi (Finset.mem_range.1 hj)).symm.trans (facProd_congr _ _ _ _ _ _ bw n (fun r c hr hc => (hF' r c hr hc).symm)
    (fun c hc => by rw [hF' 0 c hbw hc]) (fun c hc => by rw [hF' 0 c hbw hc]) i j)

theorem get2_padBand (bw n nn : ℕ) (L : Array (Array K)) (r c : ℕ) (hr : r < bw) (hc : c < n) (hn : n ≤ nn) :
    get2K (padBandK bw n nn L) r c = get2K L r c :=
  (get2_table _ bw nn r c hr (by omega)).trans (if_pos hc)

theorem get2_map_extract (m : Array (Array K)) (n r c : ℕ) (hc : c < n) :
    get2K (m.map (fun row => row.extract 0 n)) r c = get2K m r c := by
  show ((m.map _)[r]!)[c]! = (m[r]!)[c]!
  rw [getElem!_map m _ (by simp; exact Or.inl rfl) r, extract_get _ n c hc]

theorem padBand_size (bw n nn : ℕ) (L : Array (Array K)) : (padBandK bw n nn L).size = bw :=
  size_mapRange _ bw

theorem choleskySolve_get (Kn : Kernels K) (a : Array (Array K)) (bb : Array K) (bw n : ℕ) (ha : a.size = bw)
    (hbb : bb.size = n + bw) (j : ℕ) (hj : j < n) :
    (choleskySolveK Kn a bb)[j]! = (Kn.cholSolve bw n (a.map (fun row => row.extract 0 n)) (bb.extract 0 n))[j]! := by
  have e : bb.size - a.size = n := by omega
  unfold choleskySolve
  simp only []
  rw [e, ha, getElem!_mapRange _ _ j (by omega), if_pos hj]

theorem choleskySolve_solves (Kn : Kernels K) (V : Variant K) (hV : VariantOK V) (hs : Kn.cholSolve = bandSolveK V)
    (l : Array (Array K)) (bb : Array K) (bw n : ℕ) (hbw : 0 < bw) (hbb : bb.size = n + bw) (L : Array (Array K))
    (hL : bandFactorK V bw n (l.map (fun row => row.extract 0 n)) = some L) (i : ℕ) (hi : i < n) :
    ∑ j ∈ range n, bandSym (fun r c => get2K l r c) bw i j * (choleskySolveK Kn (padBandK bw n (n + bw) L) bb)[j]! = bb[i]! := by
  have hF' : ∀ r c, r < bw → c < n →
      get2K ((padBandK bw n (n + bw) L).map (fun row => row.extract 0 n)) r c = get2K L r c := by
    intro r c hr hc
    rw [get2_map_extract _ n r c hc, get2_padBand bw n (n + bw) L r c hr hc (by omega)]
  have key := band_solves V hV bw n hbw _ L _ (bb.extract 0 n) hL hF' i hi
  rw [extract_get bb n i hi] at key
  rw [← key]
  apply Finset.sum_congr rfl
  intro j hj
  rw [Finset.mem_range] at hj
  rw [choleskySolve_get Kn _ bb bw n (padBand_size bw n (n + bw) L) hbb j hj, hs]
  congr 1
  exact (bandSym_congr _ _ bw n (fun r c _ hc => get2_map_extract l n r c hc) i j hi hj).symm

theorem fallbackCol_ldlt (kn j : ℕ) (lower : Array (Array K)) : @fallbackCol _ (fieldScalar _) kernelsLdltK kn j lower = none := by
  unfold fallbackCol
  simp only []
  -- the `L D Lᵀ` kernels have no square root (`sqrt := 0`): the test `0 < d` fails
  exact if_pos (by rw [Bool.not_eq_true', Bool.and_eq_false_iff, decide_eq_false_iff_not]; exact Or.inl (lt_irrefl _))

theorem fallbackLoop_ldlt (kn j : ℕ) (js : List ℕ) (lower : Array (Array K)) :
    @fallbackLoop _ (fieldScalar _) kernelsLdltK kn (j :: js) lower = .inl j := by
  unfold fallbackLoop
  rw [fallbackCol_ldlt]

theorem range_pos_cons (n : ℕ) (hn : 0 < n) : List.range n = 0 :: (List.range (n - 1)).map Nat.succ := by
  obtain ⟨m, rfl⟩ : ∃ m, n = m + 1 := ⟨n - 1, by omega⟩
  rw [List.range_succ_eq_map]
  rfl

/-- the two ways in which `cholesky_band` answers a factor: the kernel factored (the answer is its
factor, padded), or the kernel refused (`LinAlgError`) and the fallback loop ran through all `n` columns -/
theorem choleskyBand_factor_cases (Kn : Kernels K) (l : Array (Array K)) (mininf : K) (bw n : ℕ) (hbw : 0 < bw)
    (hl : l.size = bw) (hl0 : (l[0]!).size = n + bw) (a : Array (Array K))
    (h : choleskyBandK Kn l mininf = .ok (.factor a)) :
    (∃ L, Kn.cholFactor bw n (l.map (fun row => row.extract 0 n)) = some L ∧ a = padBandK bw n (n + bw) L) ∨
    (Kn.cholFactor bw n (l.map (fun row => row.extract 0 n)) = none ∧
      ∃ lower, @fallbackLoop _ (fieldScalar _) Kn (bw - 1) (List.range n) l = .inr lower) := by
  unfold choleskyBand at h
  simp only [hl, hl0, Nat.add_sub_cancel] at h
  rw [if_neg (by omega), if_neg (by omega)] at h
  split at h
  · cases h
  · split at h
    · rename_i L hL
      injection h with h
      injection h with h
      exact Or.inl ⟨L, hL, h.symm⟩
    · rename_i hnone
      split at h
      · cases h
      · rename_i lower hlower
        exact Or.inr ⟨hnone, lower, hlower⟩

theorem choleskyBand_ldlt_factor (l : Array (Array K)) (mininf : K) (bw n : ℕ) (hbw : 0 < bw) (hn : 0 < n)
    (hl : l.size = bw) (hl0 : (l[0]!).size = n + bw) (a : Array (Array K))
    (h : choleskyBandK kernelsLdltK l mininf = .ok (.factor a)) :
    ∃ L, bandFactorK ldltVK bw n (l.map (fun row => row.extract 0 n)) = some L ∧ a = padBandK bw n (n + bw) L := by
  rcases choleskyBand_factor_cases kernelsLdltK l mininf bw n hbw hl hl0 a h with hL | ⟨_, lower, hlower⟩
  · exact hL
  · rw [range_pos_cons n hn, fallbackLoop_ldlt] at hlower
    cases hlower

/-- for ANY kernels whose factorisation kernel is `bandFactor V`, on a matrix that this kernel factors, the
factor comes from the kernel (the fallback loop is not entered) -/
theorem choleskyBand_band_solves (Kn : Kernels K) (V : Variant K) (hV : VariantOK V) (hf : Kn.cholFactor = bandFactorK V)
    (hs : Kn.cholSolve = bandSolveK V) (l : Array (Array K)) (bb : Array K) (mininf : K) (bw n : ℕ) (hbw : 0 < bw)
    (hl : l.size = bw) (hl0 : (l[0]!).size = n + bw) (hbb : bb.size = n + bw)
    (hsome : ∃ L, bandFactorK V bw n (l.map (fun row => row.extract 0 n)) = some L) (a : Array (Array K))
    (h : choleskyBandK Kn l mininf = .ok (.factor a)) (i : ℕ) (hi : i < n) :
    ∑ j ∈ range n, bandSym (fun r c => get2K l r c) bw i j * (choleskySolveK Kn a bb)[j]! = bb[i]! := by
  rcases choleskyBand_factor_cases Kn l mininf bw n hbw hl hl0 a h with ⟨L, hL, rfl⟩ | ⟨hnone, _⟩
  · exact choleskySolve_solves Kn V hV hs l bb bw n hbw hbb L (hf ▸ hL) i hi
  · obtain ⟨L, hL⟩ := hsome
    rw [hf, hL] at hnone
    cases hnone

end exec

section quadForm
variable {K : Type} [Field K]

/-- the quadratic form of `M E Mᵀ` is `Σ_k e_k ((Mᵀ x)_k)²` -/
theorem quad_facProd (f : ℕ → ℕ → K) (dg e x : ℕ → K) (n bw : ℕ) :
    ∑ i ∈ range n, ∑ j ∈ range n, x i * facProd f dg e bw n i j * x j
      = ∑ k ∈ range n, e k * (∑ i ∈ range n, lowM f dg bw i k * x i) ^ 2 := by
  unfold facProd
  -- both sides as triple sums of products; on the left `k` is moved outwards
  simp only [sq, Finset.mul_sum, Finset.sum_mul]
  rw [Finset.sum_congr rfl fun i _ => Finset.sum_comm, Finset.sum_comm]
  exact Finset.sum_congr rfl fun k _ => Finset.sum_congr rfl fun i _ => Finset.sum_congr rfl fun j _ => by ring

/-- `Mᵀ x = w` is solvable: the last equation gives `x_n`,
the others are a system of size `n` with the right-hand side `w_k - M[n][k] x_n` -/
theorem bwd_exists (f : ℕ → ℕ → K) (dg : ℕ → K) (n bw : ℕ) (hdg : ∀ i, i < n → dg i ≠ 0) (w : ℕ → K) :
    ∃ x : ℕ → K, ∀ k, k < n → ∑ j ∈ range n, lowM f dg bw j k * x j = w k := by
  induction n generalizing w with
  | zero => exact ⟨fun _ => 0, fun k hk => absurd hk (Nat.not_lt_zero k)⟩
  | succ n ih =>
    obtain ⟨x, hx⟩ := ih (fun i hi => hdg i (by omega)) (fun k => w k - lowM f dg bw n k * (w n / dg n))
    refine ⟨Function.update x n (w n / dg n), fun k hk => ?_⟩
    rw [Finset.sum_range_succ, Function.update_self,
      Finset.sum_congr rfl fun j hj => by rw [Function.update_of_ne (ne_of_lt (Finset.mem_range.1 hj))]]
    rcases Nat.lt_succ_iff_lt_or_eq.1 hk with hk' | rfl
    · rw [hx k hk', sub_add_cancel]
    · rw [Finset.sum_eq_zero fun j hj => by rw [lowM_upper f dg bw j k (Finset.mem_range.1 hj), zero_mul], lowM_diag, zero_add,
        mul_div_cancel₀ _ (hdg k hk)]
end quadForm

section posDef
variable {K : Type} [Field K] [LinearOrder K] [IsStrictOrderedRing K]

theorem last_nonzero (x : ℕ → K) (n : ℕ) (h : ∃ i, i < n ∧ x i ≠ 0) :
    ∃ m, m < n ∧ x m ≠ 0 ∧ ∀ i, m < i → i < n → x i = 0 := by
  classical
  obtain ⟨i, hi, hxi⟩ := h
  obtain ⟨m, hm, hmax⟩ := Finset.exists_max_image ((range n).filter fun i => x i ≠ 0) id
    ⟨i, Finset.mem_filter.2 ⟨Finset.mem_range.2 hi, hxi⟩⟩
  rw [Finset.mem_filter, Finset.mem_range] at hm
  refine ⟨m, hm.1, hm.2, fun j hmj hj => by_contra fun hxj => ?_⟩
  exact absurd (hmax j (Finset.mem_filter.2 ⟨Finset.mem_range.2 hj, hxj⟩)) (not_le.2 hmj)

/-- positive definiteness of the leading `n × n` block of `A` -/
def PosDef (A : ℕ → ℕ → K) (n : ℕ) : Prop :=
  ∀ x : ℕ → K, (∃ i, i < n ∧ x i ≠ 0) → 0 < ∑ i ∈ range n, ∑ j ∈ range n, x i * A i j * x j

theorem PosDef_congr (A A' : ℕ → ℕ → K) (n : ℕ) (h : ∀ i j, i < n → j < n → A i j = A' i j) : PosDef A n ↔ PosDef A' n := by
  unfold PosDef
  exact forall₂_congr fun x _ => iff_of_eq (congrArg (0 < ·) (Finset.sum_congr rfl fun i hi =>
    Finset.sum_congr rfl fun j hj => by rw [h i j (Finset.mem_range.1 hi) (Finset.mem_range.1 hj)]))

theorem PosDef.leading {A : ℕ → ℕ → K} {n : ℕ} (h : PosDef A n) {m : ℕ} (hm : m ≤ n) : PosDef A m := by
  intro x hx
  obtain ⟨i, hi, hxi⟩ := hx
  -- the form of the block at `x` is the form of `A` at `x` extended by zeros
  have hq := h (fun i => if i < m then x i else 0) ⟨i, by omega, by rw [if_pos hi]; exact hxi⟩
  rw [← Finset.sum_subset (Finset.range_mono hm) fun i _ hi =>
    Finset.sum_eq_zero fun j _ => by rw [if_neg (mt Finset.mem_range.2 hi), zero_mul, zero_mul]] at hq
  refine lt_of_lt_of_eq hq (Finset.sum_congr rfl fun i hi => ?_)
  rw [← Finset.sum_subset (Finset.range_mono hm) fun j _ hj => by rw [if_neg (mt Finset.mem_range.2 hj), mul_zero]]
  exact Finset.sum_congr rfl fun j hj => by rw [if_pos (Finset.mem_range.1 hi), if_pos (Finset.mem_range.1 hj)]

theorem facProd_pos_def (f : ℕ → ℕ → K) (dg e : ℕ → K) (n bw : ℕ) (he : ∀ k, k < n → 0 < e k) (hdg : ∀ k, k < n → dg k ≠ 0) :
    PosDef (facProd f dg e bw n) n := by
  intro x hx
  rw [quad_facProd]
  obtain ⟨m, hm, hxm, hz⟩ := last_nonzero x n hx
  have hy : ∑ i ∈ range n, lowM f dg bw i m * x i = dg m * x m := by
    rw [Finset.sum_eq_single m]
    · rw [lowM_diag]
    · intro i hi hne
      rw [Finset.mem_range] at hi
      rcases Nat.lt_or_gt_of_ne hne with h | h
      · rw [lowM_upper f dg bw i m h]; ring
      · rw [hz i h hi]; ring
    · intro h; exact absurd (Finset.mem_range.2 hm) h
  have hnn : ∀ k ∈ range n, 0 ≤ e k * (∑ i ∈ range n, lowM f dg bw i k * x i) ^ 2 :=
    fun k hk => mul_nonneg (he k (Finset.mem_range.1 hk)).le (sq_nonneg _)
  apply lt_of_lt_of_le _ (Finset.single_le_sum hnn (Finset.mem_range.2 hm))
  rw [hy]
  have hne : dg m * x m ≠ 0 := mul_ne_zero (hdg m hm) hxm
  exact mul_pos (he m hm) (lt_of_le_of_ne (sq_nonneg _) (pow_ne_zero 2 hne).symm)
end posDef

section factorPosDef
open PydlVerif.BSplineFitLemmas
variable {K : Type} [Field K] [LinearOrder K] [IsStrictOrderedRing K] [FloorRing K]

theorem bandFactor_pos_def (V : Variant K) (hV : VariantOK V) (bw n : ℕ) (hbw : 0 < bw) (A F : Array (Array K))
    (h : bandFactorK V bw n A = some F) : PosDef (bandSym (fun r c => get2K A r c) bw) n := by
  obtain ⟨hg, hmem⟩ := bandFactor_facProd V hV bw n hbw A F h
  exact (PosDef_congr _ _ n hmem).1 (facProd_pos_def _ _ _ n bw
    (fun k hk => (bandFactor_diag_ok V hV bw n hbw A F h k hk).2) (fun k hk => (bandFactor_diag_ok V hV bw n hbw A F h k hk).1))

theorem pos_def_bandFactor (V : Variant K) (hV : VariantOK V) (bw n : ℕ) (hbw : 0 < bw) (A : Array (Array K))
    (hpd : PosDef (bandSym (fun r c => get2K A r c) bw) n) : ∃ F, bandFactorK V bw n A = some F := by
  rw [bandFactor_isSome]
  intro c
  -- by induction on the column: the pivots before `c` are positive, and the form at a suitable vector is the pivot `p_c`
  induction c using Nat.strong_induction_on with | _ c ih => ?_
  intro hcn
  have hposk : ∀ k, k < c → 0 < pivotK V bw n A k := fun k hk => ih k hk (by omega)
  unfold pivotK at hposk ⊢
  generalize ha : (fun r c => get2K A r c) = a at hpd hposk ⊢
  have hD := fun k (hk : k < c) => factorCols_diag V hV bw n hbw a k (by omega) (hposk k hk)
  have hO := fun k r h1 hr (hkr : k + r < c + 1) =>
    factorCols_sub V hV bw n hbw a k r h1 hr (by omega) (hposk k (by omega))
  have hroot := fun k (hk : k < c) => factorCols_entry V bw n a k 0 (by omega) hbw
  generalize factorColsK V bw n a n = cols at hposk hD hO hroot ⊢
  -- the leading (c+1)-block is `M E Mᵀ` with `e_c = p_c` (the pivot in question) and `M[c][c] = 1`
  let f : ℕ → ℕ → K := fun r k => get2K cols k r
  let e' : ℕ → K := fun k => if k = c then colEntryK V bw a cols c 0 else V.ew (f 0 k)
  let dg' : ℕ → K := fun k => if k = c then 1 else V.md (f 0 k)
  have he' : ∀ k, k < c → e' k = V.ew (f 0 k) := fun k hk => if_neg (by omega)
  have hdg' : ∀ k, k < c → dg' k = V.md (f 0 k) := fun k hk => if_neg (by omega)
  have he'c : e' c = colEntryK V bw a cols c 0 := if_pos rfl
  have hdg'c : dg' c = 1 := if_pos rfl
  have hmem : ∀ i j, i < c + 1 → j < c + 1 → facProd f dg' e' bw (c + 1) i j = bandSym a bw i j := by
    apply factor_dense a f e' dg' (c + 1) bw hbw
    · intro k hk
      refine colEntry_rec V bw a cols e' k 0 (fun j hj => he' j (by omega)) _ ?_
      rcases Nat.lt_succ_iff_lt_or_eq.1 hk with hk' | rfl
      · rw [he' k hk', hdg' k hk', hD k hk']
      · rw [he'c, hdg'c, one_mul, mul_one]
    · intro k r h1 hr hkr
      have hk' : k < c := by omega
      refine colEntry_rec V bw a cols e' k r (fun j hj => he' j (by omega)) _ ?_
      rw [he' k hk', hdg' k hk', hO k r h1 hr hkr]
  have hdgne : ∀ k, k < c + 1 → dg' k ≠ 0 := by
    intro k hk
    rcases Nat.lt_succ_iff_lt_or_eq.1 hk with hk' | rfl
    · rw [hdg' k hk']
      show V.md (get2K cols k 0) ≠ 0
      rw [hroot k hk', if_pos rfl]
      exact hV.md_ne (hposk k hk')
    · rw [hdg'c]
      exact one_ne_zero
  -- `x` with `Mᵀ x = e_c` (unit vector): the quadratic form of the block at `x` is `p_c`, hence positive
  obtain ⟨x, hLT⟩ := bwd_exists f dg' (c + 1) bw hdgne (Pi.single c 1)
  have hx0 : ∃ i, i < c + 1 ∧ x i ≠ 0 := by
    by_contra h
    push Not at h
    have h1 := hLT c (by omega)
    rw [Finset.sum_eq_zero fun j hj => by rw [h j (Finset.mem_range.1 hj), mul_zero], Pi.single_eq_same] at h1
    exact zero_ne_one h1
  have hq := (PosDef_congr _ _ (c + 1) hmem).2 (hpd.leading hcn) x hx0
  rw [quad_facProd, Finset.sum_eq_single c, hLT c (by omega), Pi.single_eq_same, one_pow, mul_one, he'c] at hq
  · exact hq
  · intro k hk hkc
    rw [hLT k (Finset.mem_range.1 hk), Pi.single_eq_of_ne hkc, zero_pow two_ne_zero, mul_zero]
  · intro h
    exact absurd (Finset.mem_range.2 (Nat.lt_succ_self c)) h
end factorPosDef

end PydlVerif.BandCholLemmas
