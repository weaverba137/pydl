/-
The haversine formula over ℝ, without any model: `gcirc` (goddard/astro.py) computes `2 arcsin √h`,
`h = sin²(Δδ/2) + cos δ₁ cos δ₂ sin²(Δα/2) = (1 - c)/2` for the inner product `c` of the unit vectors of the two points, so the
angle IS the angle between them.  `Sphere.gcircDeg` (C04), `FofGrid.gcircRad` (C05) and `Geom.gcircRad` (C18) are this
expression by unfolding.
-/
import PydlVerif.Lemmas.MangleGeom
import Mathlib.Analysis.SpecialFunctions.Trigonometric.Inverse
import Mathlib.Analysis.SpecialFunctions.Sqrt
namespace PydlVerif.Sphere
open Real

/-- the haversine expression of gcirc (radians): latitudes `x`, `y`, longitude difference `t` -/
noncomputable def havExpr (x y t : ℝ) : ℝ :=
  sin ((y - x) / 2) ^ 2 + cos x * cos y * sin (t / 2) ^ 2

theorem havExpr_eq (x y t : ℝ) : havExpr x y t = (1 - (sin x * sin y + cos x * cos y * cos t)) / 2 := by
  unfold havExpr
  rw [Real.sin_sq_eq_half_sub, Real.sin_sq_eq_half_sub]
  have h1 : 2 * ((y - x) / 2) = y - x := by ring
  have h2 : 2 * (t / 2) = t := by ring
  rw [h1, h2, Real.cos_sub]
  ring

theorem havExpr_comm (x y t : ℝ) : havExpr x y t = havExpr y x (-t) := by
  rw [havExpr_eq, havExpr_eq, Real.cos_neg]; ring

/-- the inner product of the unit vectors `(cos x, 0, sin x)` and `(cos y cos t, cos y sin t, sin y)` -/
theorem cosD_bounds (x y t : ℝ) :
    -1 ≤ sin x * sin y + cos x * cos y * cos t ∧ sin x * sin y + cos x * cos y * cos t ≤ 1 := by
  have h := MangleGeom.unit_dot_bounds (cos x) 0 (sin x) (cos y * cos t) (cos y * sin t) (sin y)
    (by linear_combination cos_sq_add_sin_sq x)
    (by linear_combination (cos y) ^ 2 * cos_sq_add_sin_sq t + cos_sq_add_sin_sq y)
  constructor
  · linarith only [h.1]
  · linarith only [h.2]

theorem havExpr_nonneg (x y t : ℝ) : 0 ≤ havExpr x y t := by
  rw [havExpr_eq]; linarith [(cosD_bounds x y t).2]

theorem havExpr_le_one (x y t : ℝ) : havExpr x y t ≤ 1 := by
  rw [havExpr_eq]; linarith [(cosD_bounds x y t).1]

/-- the angle returned by the haversine formula (radians) -/
noncomputable def havAngle (x y t : ℝ) : ℝ := 2 * arcsin (sqrt (havExpr x y t))

theorem havAngle_range (x y t : ℝ) : 0 ≤ havAngle x y t ∧ havAngle x y t ≤ π := by
  unfold havAngle
  have h0 := Real.arcsin_nonneg.2 (Real.sqrt_nonneg (havExpr x y t))
  have h1 := Real.arcsin_le_pi_div_two (sqrt (havExpr x y t))
  constructor <;> linarith

theorem sin_sq_half_havAngle (x y t : ℝ) : sin (havAngle x y t / 2) ^ 2 = havExpr x y t := by
  unfold havAngle
  have h2 : 2 * arcsin (sqrt (havExpr x y t)) / 2 = arcsin (sqrt (havExpr x y t)) := by ring
  rw [h2, Real.sin_arcsin]
  · exact Real.sq_sqrt (havExpr_nonneg x y t)
  · linarith [Real.sqrt_nonneg (havExpr x y t)]
  · calc sqrt (havExpr x y t) ≤ sqrt 1 := Real.sqrt_le_sqrt (havExpr_le_one x y t)
      _ = 1 := Real.sqrt_one

/-- spherical law of cosines -/
theorem cos_havAngle (x y t : ℝ) : cos (havAngle x y t) = sin x * sin y + cos x * cos y * cos t := by
  -- `cos A = 1 - 2 sin²(A/2)` and `sin²(A/2) = (1 - c)/2`
  have h := sin_sq_half_havAngle x y t
  rw [havExpr_eq, Real.sin_sq_eq_half_sub, mul_div_cancel₀ _ (two_ne_zero' ℝ)] at h
  linear_combination (-2) * h

end PydlVerif.Sphere
