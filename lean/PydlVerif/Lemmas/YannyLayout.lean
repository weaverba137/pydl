/-
What the YannyLay* files (C02) share: the reader's token and row functions on one token, cell and row written in any
admissible way; the reader with the selection rule as a parameter is, at `selectDef`, the reader of Model/YannyFile.lean.
-/
import PydlVerif.Model.YannyLayout
import PydlVerif.Lemmas.YannyGlue
import PydlVerif.Lemmas.ListBasics
namespace PydlVerif.Yanny

variable {F : Type}

/- The letters of `struct`, evaluated once: a string literal is decoded each time it is reduced. -/
theorem struct_chars : "struct".toList = ['s', 't', 'r', 'u', 'c', 't'] := by decide

theorem takeWhile_append_stop {α} (p : α → Bool) (a b : List α) (ha : ∀ x ∈ a, p x = true)
    (hb : ∀ x, b.head? = some x → p x = false) : (a ++ b).takeWhile p = a :=
  (Prod.mk.inj (span_append p ha hb)).1

theorem dropWhile_append_stop {α} (p : α → Bool) (a b : List α) (ha : ∀ x ∈ a, p x = true)
    (hb : ∀ x, b.head? = some x → p x = false) : (a ++ b).dropWhile p = b :=
  (Prod.mk.inj (span_append p ha hb)).2

theorem not_mem_of_all {p : Char → Bool} {l : Str} (h : ∀ c ∈ l, p c = true) {d : Char} (hd : p d = false) :
    d ∉ l := fun hm => by rw [h d hm] at hd; cases hd

theorem bne_of_not_mem {l : Str} {d : Char} (h : d ∉ l) : ∀ a ∈ l, (a != d) = true := by
  intro a ha
  have : a ≠ d := fun e => h (e ▸ ha)
  simpa using this

theorem head_append_of {p : Char → Prop} {a : Str} (b : Str) (hne : a ≠ [])
    (h : ∀ c, a.head? = some c → p c) : ∀ c, (a ++ b).head? = some c → p c := by
  cases a with
  | nil => exact absurd rfl hne
  | cons y t => exact h

theorem head_append_mem {p : Char → Prop} {a : Str} (b : Str) (hne : a ≠ []) (h : ∀ c ∈ a, p c) :
    ∀ c, (a ++ b).head? = some c → p c :=
  head_append_of b hne (fun c hc => h c (List.mem_of_mem_head? hc))

theorem isBlank_isSpace (c : Char) (h : isBlank c = true) : isSpace c = true := by
  simp only [isBlank, Bool.or_eq_true, beq_iff_eq] at h
  rcases h with h | h <;> subst h <;> decide

theorem blank_isSpace {l : Str} (h : ∀ c ∈ l, isBlank c = true) : ∀ c ∈ l, isSpace c = true :=
  fun c hc => isBlank_isSpace c (h c hc)

theorem blank_space {l : Str} (h : l.all isBlank = true) : ∀ c ∈ l, isSpace c = true :=
  blank_isSpace (List.all_eq_true.mp h)

theorem blank_nonl (l : Str) (h : ∀ c ∈ l, isBlank c = true) : '\n' ∉ l := not_mem_of_all h (by decide)

theorem wsChar_facts (c : Char) (h : wsChar c = true) :
    isSpace c = true ∧ isOpenB c = false ∧ isCloseB c = false ∧ c ≠ ';' ∧ c ≠ '\\' ∧ c ≠ '{' ∧ c ≠ '}' := by
  simp only [wsChar, Bool.or_eq_true, beq_iff_eq] at h
  rcases h with ((h | h) | h) | h <;> subst h <;> decide

theorem tdWs_cons (b : Bool) (a : Char) (t : Str) (h : tdWsOK b (a :: t) = true) :
    ∃ b', tdWsOK b' t = true ∧ (a ≠ ';' ∧ a ≠ '\\' ∧ a ≠ '{' ∧ a ≠ '}') ∧ (isOpenB a = true → b' = true) ∧
      (b' = false → isSpace a = true) := by
  cases b <;> simp only [tdWsOK] at h <;> split at h
  · rename_i e
    simp only [beq_iff_eq] at e
    subst e
    exact ⟨true, h, by decide, fun _ => rfl, fun e => absurd e (by decide)⟩
  · simp only [Bool.and_eq_true] at h
    obtain ⟨hs, ho, _, h1, h2⟩ := wsChar_facts a h.1
    exact ⟨false, h.2, ⟨h1, h2⟩, fun hc => absurd (ho ▸ hc) (by decide), fun _ => hs⟩
  · rename_i e
    simp only [beq_iff_eq] at e
    subst e
    exact ⟨false, h, by decide, fun hc => absurd hc (by decide), fun _ => by decide⟩
  · simp only [Bool.and_eq_true, bne_iff_ne, ne_eq] at h
    exact ⟨true, h.2, ⟨h.1.1.1.1.1.1.1, h.1.1.1.2, h.1.1.1.1.1.1.2, h.1.1.1.1.1.2⟩, fun _ => rfl, fun e => absurd e (by decide)⟩

theorem tdWs_chars (b : Bool) (s : Str) (h : tdWsOK b s = true) :
    ∀ c ∈ s, c ≠ ';' ∧ c ≠ '\\' ∧ c ≠ '{' ∧ c ≠ '}' := by
  induction s generalizing b with
  | nil => intro c hc; cases hc
  | cons a t ih =>
    obtain ⟨b', hb', ha, _⟩ := tdWs_cons b a t h
    intro c hc
    rcases List.mem_cons.mp hc with rfl | hc
    · exact ha
    · exact ih b' hb' c hc

theorem rstrip_append_space (l ws : Str) (hws : ∀ c ∈ ws, isSpace c = true)
    (hl : ∀ x, l.getLast? = some x → isSpace x = false) : rstrip (l ++ ws) = l := by
  unfold rstrip
  rw [List.reverse_append, List.dropWhile_append_of_pos (by intro x hx; exact hws x (by simpa using hx))]
  rw [lstrip_id l.reverse (by intro c hc; rw [List.head?_reverse] at hc; exact hl c hc)]
  simp

/-- the last character is no white space -/
def lastNS (s : Str) : Prop := ∀ x, s.getLast? = some x → isSpace x = false

theorem lastNS_append (a b : Str) (hb : b ≠ []) (h : lastNS b) : lastNS (a ++ b) := by
  intro x hx
  rw [List.getLast?_append] at hx
  cases hl : b.getLast? with
  | none => exact absurd (List.getLast?_eq_none_iff.mp hl) hb
  | some y => rw [hl] at hx; simp at hx; subst hx; exact h _ hl

theorem lastNS_concat (a : Str) (c : Char) (h : isSpace c = false) : lastNS (a ++ [c]) := by
  intro x hx
  rw [List.getLast?_concat] at hx
  injection hx with hx; subst hx; exact h

theorem lastNS_all (s : Str) (h : ∀ c ∈ s, isSpace c = false) : lastNS s :=
  fun x hx => h x (List.mem_of_getLast? hx)

theorem strip_fix_props (v : Str) (h : strip v = v) :
    (∀ c, v.head? = some c → isSpace c = false) ∧ lastNS v := by
  refine ⟨fun c hc => ?_, fun x hx => ?_⟩
  · have := List.head?_dropWhile_not isSpace (rstrip v)
    rw [show (rstrip v).dropWhile isSpace = v from (lstrip_rstrip_comm v).trans h, hc] at this
    exact this
  · have := List.head?_dropWhile_not isSpace (lstrip v).reverse
    rw [← h, strip, rstrip, List.getLast?_reverse] at hx
    rw [hx] at this
    exact this

theorem space_not_special (c : Char) (h : isSpace c = true) : c ≠ '"' ∧ c ≠ '#' := by
  have := isSpace_codes c h
  refine ⟨?_, ?_⟩ <;> rintro rfl <;> exact absurd this (by decide)

theorem good_spaces (s : Str) (h : ∀ c ∈ s, isSpace c = true) : good s = true :=
  good_plain s (fun hm => (space_not_special _ (h _ hm)).1 rfl) (fun hm => (space_not_special _ (h _ hm)).2 rfl)

/-- a piece of a line (a token in its quotes, a cell, the struct name with its cells): not empty, starts and
ends with a non-blank, has no newline, every `#` in it stands between quotes -/
def Piece (a : Str) : Prop :=
  a ≠ [] ∧ (∀ c, a.head? = some c → isSpace c = false) ∧ lastNS a ∧ '\n' ∉ a ∧ good a = true

theorem Piece.sep {a b : Str} (ha : Piece a) (s : Str) (hs : ∀ c ∈ s, isBlank c = true) (hb : Piece b) :
    Piece (a ++ s ++ b) := by
  obtain ⟨a0, a1, _, a3, a4⟩ := ha
  obtain ⟨b0, _, b2, b3, b4⟩ := hb
  refine ⟨by simp [a0], ?_, lastNS_append _ _ b0 b2, ?_,
    good_append _ _ (good_append _ _ a4 (good_spaces s (blank_isSpace hs))) b4⟩
  · rw [List.append_assoc]
    exact head_append_of _ a0 a1
  · simp [a3, b3, not_mem_of_all hs (d := '\n') (by decide)]

theorem piece_char (c : Char) (h1 : isSpace c = false) (h2 : good [c] = true) : Piece [c] := by
  refine ⟨by simp, ?_, ?_, ?_, h2⟩
  · intro x hx; cases hx; exact h1
  · intro x hx; cases hx; exact h1
  · intro hm
    rw [← List.mem_singleton.mp hm] at h1
    cases h1

/-- what may follow a piece on its line: nothing, or blanks and a piece, and again -/
def Follows (t : Str) : Prop := (∀ a, Piece a → Piece (a ++ t)) ∧ ∀ c, t.head? = some c → isSpace c = true

theorem follows_nil : Follows [] := ⟨fun a ha => by simpa using ha, fun c hc => by cases hc⟩

theorem follows_cons {s b t : Str} (hne : s ≠ []) (hs : ∀ c ∈ s, isBlank c = true) (hb : Piece b) (ht : Follows t) :
    Follows (s ++ b ++ t) :=
  ⟨fun a ha => by simpa only [List.append_assoc] using ht.1 _ (ha.sep s hs hb),
   by rw [List.append_assoc]; exact head_append_mem _ hne (blank_isSpace hs)⟩

theorem Follows.nonl {t : Str} (h : Follows t) : '\n' ∉ t :=
  fun hm => (h.1 ['x'] (piece_char 'x' (by decide) (by decide))).2.2.2.1 (List.mem_append_right _ hm)

theorem Follows.last {t : Str} (h : Follows t) : lastNS t := by
  cases t with
  | nil => intro x hx; cases hx
  | cons y u =>
    have := (h.1 ['x'] (piece_char 'x' (by decide) (by decide))).2.2.1
    exact fun x hx => this x (by rw [List.singleton_append, List.getLast?_cons_cons]; exact hx)

theorem bareLegal_props (s : Str) (h : bareLegal s = true) :
    s ≠ [] ∧ (∀ a ∈ s, isSpace a = false ∧ a ≠ '#' ∧ a ≠ '"') ∧ s.head? ≠ some '{' := by
  simp only [bareLegal, Bool.and_eq_true, Bool.not_eq_true', List.all_eq_true, bne_iff_ne, ne_eq] at h
  refine ⟨?_, ?_, h.2⟩
  · intro e; subst e; simp at h
  · intro a ha
    have := h.1.2 a ha
    exact ⟨this.1.1, this.1.2, this.2⟩

theorem elemLegal_tokLegal (q : QStyle) (s : Str) (h : elemLegal q s = true) : tokLegal q s = true := by
  cases q with
  | bare => simp only [elemLegal, Bool.and_eq_true] at h; exact h.1
  | quoted =>
    simp only [elemLegal, Bool.and_eq_true] at h
    simp only [tokLegal, Bool.and_eq_true]
    exact h.1
  | braced pad => cases h

theorem legal_quoted {s : Str} (hl : tokLegal .quoted s = true) : '"' ∉ s ∧ '\n' ∉ s := by
  simp only [tokLegal, Bool.and_eq_true] at hl
  exact ⟨YannyRT.not_contains_mem hl.1, YannyRT.not_contains_mem hl.2⟩

theorem legal_braced {pad s : Str} (hl : tokLegal (.braced pad) s = true) :
    pad.all isBlank = true ∧ '}' ∉ s ∧ '#' ∉ s ∧ '"' ∉ s ∧ '\n' ∉ s ∧
      ∀ c, s.head? = some c → isSpace c = false := by
  simp only [tokLegal, Bool.and_eq_true] at hl
  obtain ⟨⟨⟨⟨⟨hpad, h1⟩, h2⟩, h3⟩, h4⟩, hhd⟩ := hl
  refine ⟨hpad, YannyRT.not_contains_mem h1, YannyRT.not_contains_mem h2, YannyRT.not_contains_mem h3,
    YannyRT.not_contains_mem h4, ?_⟩
  intro c hc
  rw [hc] at hhd
  simpa using hhd

theorem quoteTok_piece (q : QStyle) (s : Str) (hl : tokLegal q s = true) : Piece (quoteTok q s) := by
  cases q with
  | bare =>
    obtain ⟨hne, hall, _⟩ := bareLegal_props s hl
    exact ⟨hne, fun c hc => (hall c (List.mem_of_mem_head? hc)).1, lastNS_all s fun c hc => (hall c hc).1,
      fun hm => absurd (hall '\n' hm).1 (by decide),
      good_plain s (fun hm => (hall _ hm).2.2 rfl) (fun hm => (hall _ hm).2.1 rfl)⟩
  | quoted =>
    refine ⟨by simp [quoteTok], ?_, lastNS_concat ('"' :: s) '"' (by decide),
      by simp [quoteTok, (legal_quoted hl).2], good_quoted s (legal_quoted hl).1⟩
    intro c hc; simp [quoteTok] at hc; subst hc; decide
  | braced pad =>
    obtain ⟨hpad, _, hh, hq, hnl, _⟩ := legal_braced hl
    have hp := List.all_eq_true.mp hpad
    refine ⟨by simp [quoteTok], ?_, lastNS_concat ('{' :: (pad ++ s)) '}' (by decide), ?_, good_plain _ ?_ ?_⟩
    · intro c hc; simp [quoteTok] at hc; subst hc; decide
    · simp [quoteTok, hnl, not_mem_of_all hp (d := '\n') (by decide)]
    · simp [quoteTok, hq, not_mem_of_all hp (d := '"') (by decide)]
    · simp [quoteTok, hh, not_mem_of_all hp (d := '#') (by decide)]

theorem elem_no_close (q : QStyle) (s : Str) (hl : elemLegal q s = true) : '}' ∉ quoteTok q s := by
  cases q with
  | bare =>
    simp only [elemLegal, Bool.and_eq_true] at hl
    exact YannyRT.not_contains_mem hl.2
  | quoted =>
    simp only [elemLegal, Bool.and_eq_true] at hl
    simp [quoteTok, YannyRT.not_contains_mem hl.2]
  | braced pad => simp [elemLegal] at hl

theorem getToken_brace (pad inner b : Str) (hpad : pad.all isBlank = true) (hin : '}' ∉ inner)
    (hhd : ∀ c, (inner ++ '}' :: b).head? = some c → isSpace c = false) (hn : '\n' ∉ b.dropWhile isSpace) :
    getToken ('{' :: (pad ++ (inner ++ '}' :: b))) = .ok (inner, b.dropWhile isSpace) := by
  have hcb := bne_of_not_mem hin
  unfold getToken
  simp only
  rw [List.dropWhile_append_of_pos (blank_space hpad), lstrip_id _ hhd,
    dropWhile_app_stop _ inner '}' _ hcb (by decide), takeWhile_app_stop _ inner '}' _ hcb (by decide)]
  simp only [restOfLine_id _ hn]

theorem getToken_quote_any (q : QStyle) (s b : Str) (hl : tokLegal q s = true)
    (hb : ∀ c, b.head? = some c → isSpace c = true) (hn : '\n' ∉ b.dropWhile isSpace) :
    getToken (quoteTok q s ++ b) = .ok (s, b.dropWhile isSpace) := by
  cases q with
  | bare =>
    obtain ⟨hne, hall, hhead⟩ := bareLegal_props s hl
    refine getToken_bareWord s b hne (fun c hc => (hall c hc).1) ?_ hhead hb
    cases s with
    | nil => exact absurd rfl hne
    | cons c t => exact fun e => (hall c (by simp)).2.2 (by simpa using e)
  | quoted =>
    have hq' := bne_of_not_mem (legal_quoted hl).1
    show getToken ('"' :: ((s ++ ['"']) ++ b)) = _
    rw [List.append_assoc, List.singleton_append]
    unfold getToken
    simp only
    rw [dropWhile_app_stop _ s '"' _ hq' (by decide), takeWhile_app_stop _ s '"' _ hq' (by decide)]
    simp only [restOfLine_id _ hn]
  | braced pad =>
    obtain ⟨hpad, hcb, _, _, _, hhd⟩ := legal_braced hl
    show getToken ('{' :: ((pad ++ s ++ ['}']) ++ b)) = _
    rw [show (pad ++ s ++ ['}']) ++ b = pad ++ (s ++ '}' :: b) by simp]
    refine getToken_brace pad s b hpad hcb (fun c hc => ?_) hn
    cases s with
    | nil => simp at hc; subst hc; decide
    | cons a t => exact hhd c hc

theorem getToken_quote_sep (q : QStyle) (s sep rest : Str) (hl : tokLegal q s = true)
    (hsep : sep ≠ []) (hb : ∀ c ∈ sep, isSpace c = true)
    (hr : ∀ c, rest.head? = some c → isSpace c = false) (hn : '\n' ∉ rest) :
    getToken (quoteTok q s ++ (sep ++ rest)) = .ok (s, rest) := by
  have hdrop : (sep ++ rest).dropWhile isSpace = rest := by
    rw [List.dropWhile_append_of_pos hb]; exact lstrip_id rest hr
  have := getToken_quote_any q s (sep ++ rest) hl
    (head_append_mem rest hsep hb) (by rw [hdrop]; exact hn)
  rwa [hdrop] at this

theorem getToken_quote_trail (q : QStyle) (s trail : Str) (hl : tokLegal q s = true)
    (hb : ∀ c ∈ trail, isSpace c = true) :
    getToken (quoteTok q s ++ trail) = .ok (s, []) := by
  have hdrop : trail.dropWhile isSpace = [] := dropWhile_all _ _ hb
  have := getToken_quote_any q s trail hl (fun c hc => hb c (List.mem_of_mem_head? hc))
    (by rw [hdrop]; exact List.not_mem_nil)
  rwa [hdrop] at this

theorem commentOK_props (c : Str) (h : commentOK (some c) = true) :
    '#' ∉ c ∧ c.count '"' % 2 = 0 ∧ '\\' ∉ c ∧ '\n' ∉ c ∧ '\r' ∉ c ∧ noTypedef c = true := by
  simp only [commentOK, Bool.and_eq_true, beq_iff_eq] at h
  exact ⟨YannyRT.not_contains_mem h.1.1.1.1.1, h.1.1.1.1.2, YannyRT.not_contains_mem h.1.1.1.2,
    YannyRT.not_contains_mem h.1.1.2, YannyRT.not_contains_mem h.1.2, h.2⟩

theorem tdComment_ok (c : Option Str) (h : tdCommentOK c = true) : commentOK c = true := by
  cases c with
  | none => rfl
  | some c =>
    simp only [tdCommentOK, Bool.and_eq_true] at h
    exact h.1.1.1.1

theorem trailingComment_cut (l c : Str) (hc : '#' ∉ c) (hq : c.count '"' % 2 = 0) :
    trailingComment (l ++ '#' :: c) = rstrip l := by
  unfold trailingComment
  have hr : (l ++ '#' :: c).reverse = c.reverse ++ '#' :: l.reverse := by simp
  have hne := bne_of_not_mem (l := c.reverse) (by simpa using hc)
  simp only [hr]
  have h1 : (c.reverse ++ '#' :: l.reverse).contains '#' = true := by simp
  rw [takeWhile_app_stop _ c.reverse '#' _ hne (by decide), dropWhile_app_stop _ c.reverse '#' _ hne (by decide)]
  simp only [h1, if_true, List.count_reverse, hq]
  simp [rstrip]

theorem fillerOK_cases (text : Str) (h : fillerOK text = true) :
    ∃ bl rest, text = bl ++ rest ∧ (∀ c ∈ bl, isBlank c = true) ∧
      (rest = [] ∨ ∃ t, rest = '#' :: t ∧ '\\' ∉ t ∧ '\n' ∉ t ∧ '\r' ∉ t ∧ noTypedef t = true) := by
  refine ⟨text.takeWhile isBlank, text.dropWhile isBlank, List.takeWhile_append_dropWhile.symm,
    fun c hc => YannyRT.mem_takeWhile_p _ _ _ hc, ?_⟩
  unfold fillerOK at h
  cases hd : text.dropWhile isBlank with
  | nil => exact Or.inl rfl
  | cons c t =>
    rw [hd] at h
    simp only [Bool.and_eq_true, beq_iff_eq] at h
    exact Or.inr ⟨t, by rw [h.1.1.1.1.1], YannyRT.not_contains_mem h.1.1.1.1.2,
      YannyRT.not_contains_mem h.1.1.1.2, YannyRT.not_contains_mem h.1.1.2, h.1.2⟩

/- `tdNameOf` / `selectDef2` are the reader's `tdName` / `selectDef` (Model/YannyFile.lean) under the names of the layout
model; stated on variables, so that no proof compares the two on a whole text. -/
theorem tdName_eq (t : Str) : tdName t = tdNameOf t := rfl

theorem selectDef_eq (structs : List Str) (table : Str) : selectDef structs table = selectDef2 structs table := rfl

theorem tdNameOf_shape (pre g3 name g4 : Str) (h3 : ∀ c ∈ g3, isSpace c = true)
    (h4 : ∀ c ∈ g4, isSpace c = true) (hne : name ≠ []) (hw : ∀ c ∈ name, isWordCh c = true) :
    tdNameOf (pre ++ '}' :: (g3 ++ name ++ g4 ++ [';'])) = some name := by
  unfold tdNameOf
  have hr : (pre ++ '}' :: (g3 ++ name ++ g4 ++ [';'])).reverse =
      ';' :: (g4.reverse ++ (name.reverse ++ (g3.reverse ++ '}' :: pre.reverse))) := by simp
  rw [hr, dropWhile_head_false _ _ _ (by decide)]
  simp only
  have h4' : ∀ c ∈ g4.reverse, isSpace c = true := fun c hc => h4 c (by simpa using hc)
  have h3' : ∀ c ∈ g3.reverse, isSpace c = true := fun c hc => h3 c (by simpa using hc)
  have hw' : ∀ c ∈ name.reverse, isWordCh c = true := fun c hc => hw c (by simpa using hc)
  have hne' : name.reverse ≠ [] := by simpa using hne
  -- the name stops at white space or at the closing brace
  have hstop : ∀ x, (g3.reverse ++ '}' :: pre.reverse).head? = some x → isWordCh x = false := by
    intro x hx
    cases hg : g3.reverse with
    | nil => rw [hg] at hx; simp at hx; subst hx; decide
    | cons y t =>
      rw [hg] at hx; simp at hx; subst hx
      exact YannyRT.scan_space_not_word _ (h3' _ (by rw [hg]; simp))
  rw [List.dropWhile_append_of_pos h4', lstrip_id _ (head_append_of _ hne'
      (fun c hc => wordCh_not_space c (hw' c (List.mem_of_mem_head? hc)))),
    takeWhile_append_stop _ _ _ hw' hstop, dropWhile_append_stop _ _ _ hw' hstop]
  have hemp : name.reverse.isEmpty = false := by simpa using hne
  simp only [hemp, Bool.false_eq_true, if_false]
  rw [List.dropWhile_append_of_pos h3', dropWhile_head_false _ _ _ (by decide)]
  simp

theorem selectDef2_by_name (defs : List (Str × Str)) (hname : ∀ d ∈ defs, tdNameOf d.2 = some d.1)
    (hd : (defs.map (fun d => upper d.1)).Nodup) (d : Str × Str) (hmem : d ∈ defs) (T : Str)
    (hT : upper T = upper d.1) : selectDef2 (defs.map (·.2)) T = some d.2 := by
  -- nothing is kept from a stretch of definitions none of which has the name
  have hnone : ∀ l' : List (Str × Str), (∀ e ∈ l', e ∈ defs) → upper d.1 ∉ l'.map (fun e => upper e.1) →
      (l'.map (·.2)).filter (fun y => (tdNameOf y).map upper == some (upper T)) = [] := by
    intro l' hn hni
    apply List.filter_eq_nil_iff.mpr
    intro y hy
    obtain ⟨e, he, rfl⟩ := List.mem_map.mp hy
    rw [hname e (hn e he), hT]
    intro hc
    have : upper e.1 = upper d.1 := by simpa using hc
    exact hni (List.mem_map.mpr ⟨e, he, this⟩)
  -- so the filter keeps exactly the definition of the name asked for
  have hf : (defs.map (·.2)).filter (fun x => (tdNameOf x).map upper == some (upper T)) = [d.2] := by
    obtain ⟨l1, l2, rfl⟩ := List.append_of_mem hmem
    simp only [List.map_append, List.map_cons, List.nodup_append, List.nodup_cons] at hd
    simp only [List.map_append, List.map_cons, List.filter_append, List.filter_cons, hname d hmem, hT,
      Option.map_some, beq_self_eq_true, if_true]
    rw [← hT, hnone l1 (fun e he => by simp [he]) (fun h => hd.2.2 _ h _ (by simp) rfl),
      hnone l2 (fun e he => by simp [he]) hd.2.1.1]
    rfl
  unfold selectDef2
  simp only [hf]
  rfl

theorem typeOfS_old (st : List Str) (t v : Str) : typeOfS selectDef st t v = typeOf st t v := rfl

theorem colSpecsS_selectDef (st : List Str) (t : Str) (vs : List Str) :
    colSpecsS selectDef st t vs = colSpecs st t vs := by
  induction vs with
  | nil => rfl
  | cons v vs ih => simp only [colSpecsS, colSpecs, colSpecS, colSpec, typeOfS_old, ih]; rfl

theorem rcolsOfS_selectDef (st : List Str) (cache : List (Str × List Str)) (t : Str)
    (rows : List (List (Cell F))) (j : Nat) (vs : List Str) :
    rcolsOfS selectDef st cache t rows j vs = rcolsOf st cache t rows j vs := by
  induction vs generalizing j with
  | nil => rfl
  | cons v vs ih => simp only [rcolsOfS, rcolsOf, rcolOfS, rcolOf, typeOfS_old, ih]; rfl

theorem finishTablesS_selectDef (st : List Str) (cache : List (Str × List Str))
    (rows : List (Str × List (List (Cell F)))) (ts : List (Str × List Str)) :
    finishTablesS selectDef st cache rows ts = finishTables st cache rows ts := by
  induction ts with
  | nil => rfl
  | cons x ts ih =>
    obtain ⟨name, cols⟩ := x
    simp only [finishTablesS, finishTables, finishTableS, finishTable, rcolsOfS_selectDef, ih, rawRowsOf]; rfl

/-! ### raw mode and the record arrays -/

def all2 {α β : Type} (R : α → β → Prop) : List α → List β → Prop
  | [], [] => True
  | a :: as, b :: bs => R a b ∧ all2 R as bs
  | _, _ => False

theorem all2_imp {α β : Type} {R S : α → β → Prop} (h : ∀ a b, R a b → S a b) :
    ∀ (as : List α) (bs : List β), all2 R as bs → all2 S as bs
  | [], [], _ => trivial
  | [], _ :: _, hr => hr.elim
  | _ :: _, [], hr => hr.elim
  | a :: as, b :: bs, ⟨h1, h2⟩ => ⟨h a b h1, all2_imp h as bs h2⟩

theorem all2_maps {α β γ : Type} (R : β → γ → Prop) (f : α → β) (g : α → γ) (l : List α)
    (h : ∀ a ∈ l, R (f a) (g a)) : all2 R (l.map f) (l.map g) := by
  induction l with
  | nil => trivial
  | cons a t ih => exact ⟨h a (by simp), ih (fun x hx => h x (by simp [hx]))⟩

/-- what the numpy assignment does to one value: nothing, or truncation of a string to the width -/
def scSame (t : RT) (v w : Sc F) : Prop := w = v ∨ ∃ n s, t = .S n ∧ v = .str s ∧ w = .str (s.take n)

def cellSame (c : RCol) : Cell F → Cell F → Prop
  | .one v, .one w => scSame c.ty v w
  | .many vs, .many ws => all2 (scSame c.ty) vs ws
  | _, _ => False

def rowSame : List RCol → List (Cell F) → List (Cell F) → Prop
  | [], [], [] => True
  | c :: cs, x :: xs, y :: ys => cellSame c x y ∧ rowSame cs xs ys
  | _, _, _ => False

theorem castSc_same (t : RT) (v w : Sc F) (h : castSc t v = .ok w) : scSame t v w := by
  cases v with
  | int n =>
    simp only [castSc] at h
    split at h
    · injection h with h; exact Or.inl h.symm
    · cases h
  | flt fw x => simp only [castSc] at h; injection h with h; exact Or.inl h.symm
  | str s =>
    cases t <;> simp only [castSc] at h <;> injection h with h
    case S n => exact Or.inr ⟨n, s, rfl, rfl, h.symm⟩
    all_goals exact Or.inl h.symm

theorem castScs_same (t : RT) (vs ws : List (Sc F)) (h : castScs t vs = .ok ws) :
    all2 (scSame t) vs ws := by
  induction vs generalizing ws with
  | nil => simp only [castScs] at h; injection h with h; subst h; exact trivial
  | cons v vs ih =>
    simp only [castScs] at h
    split at h
    · cases h
    · split at h
      · cases h
      · rename_i _ w h1 _ ws' h2
        injection h with h; subst h
        exact ⟨castSc_same t v w h1, ih ws' h2⟩

theorem castCell_same (c : RCol) (x y : Cell F) (h : castCell c x = .ok y) : cellSame c x y := by
  cases x with
  | one v =>
    simp only [castCell] at h
    split at h
    · cases h
    · split at h
      · cases h
      · rename_i w h1
        injection h with h; subst h; exact castSc_same _ _ _ h1
  | many vs =>
    simp only [castCell] at h
    split at h
    · cases h
    · split at h
      · cases h
      · split at h
        · cases h
        · rename_i ws h1
          injection h with h; subst h; exact castScs_same _ _ _ h1

theorem castRow_same (cols : List RCol) (r r' : List (Cell F)) (h : castRow cols r = .ok r') :
    rowSame cols r r' := by
  induction cols generalizing r r' with
  | nil =>
    cases r with
    | nil => simp only [castRow] at h; injection h with h; subst h; trivial
    | cons x xs => simp [castRow] at h
  | cons c cs ih =>
    cases r with
    | nil => simp [castRow] at h
    | cons x xs =>
      simp only [castRow] at h
      split at h
      · cases h
      · split at h
        · cases h
        · rename_i _ y h1 _ ys h2
          injection h with h; subst h
          exact ⟨castCell_same c x y h1, ih xs ys h2⟩

theorem castRows_same (cols : List RCol) (rs rs' : List (List (Cell F))) (h : castRows cols rs = .ok rs') :
    all2 (rowSame cols) rs rs' := by
  induction rs generalizing rs' with
  | nil => simp only [castRows] at h; injection h with h; subst h; exact trivial
  | cons r rs ih =>
    simp only [castRows] at h
    split at h
    · cases h
    · split at h
      · cases h
      · rename_i _ r' h1 _ rs'' h2
        injection h with h; subst h
        exact ⟨castRow_same cols r r' h1, ih rs'' h2⟩

/-- the record array of a table holds the raw rows that have at least one cell, value by value -/
def tableSame (rows : List (Str × List (List (Cell F)))) (sy : Str × List Str) (tb : RTable F) : Prop :=
  tb.name = sy.1 ∧ tb.cols.map (·.name) = sy.2 ∧
  all2 (rowSame tb.cols) ((rawRowsOf rows sy.1).filter (fun r => !r.isEmpty)) tb.rows

theorem rcolOfS_name (sel : Sel) (st : List Str) (cache : List (Str × List Str)) (t v : Str)
    (data : List (Cell F)) (c : RCol) (h : rcolOfS sel st cache t v data = .ok c) : c.name = v := by
  unfold rcolOfS at h
  split at h
  · cases h
  · simp only at h
    split at h
    · cases h
    · split at h
      · split at h
        · cases h
        · injection h with h; subst h; rfl
      · injection h with h; subst h; rfl

theorem rcolsOfS_names (sel : Sel) (st : List Str) (cache : List (Str × List Str)) (t : Str)
    (rows : List (List (Cell F))) (j : Nat) (vs : List Str) (rc : List RCol)
    (h : rcolsOfS sel st cache t rows j vs = .ok rc) : rc.map (·.name) = vs := by
  induction vs generalizing j rc with
  | nil => simp only [rcolsOfS] at h; injection h with h; subst h; rfl
  | cons v vs ih =>
    simp only [rcolsOfS] at h
    split at h
    · cases h
    · split at h
      · cases h
      · rename_i _ c h1 _ cs h2
        injection h with h; subst h
        simp [rcolOfS_name sel st cache t v _ c h1, ih (j + 1) cs h2]

theorem finishTableS_same (sel : Sel) (st : List Str) (cache : List (Str × List Str))
    (rows : List (Str × List (List (Cell F)))) (sy : Str × List Str) (tb : RTable F)
    (h : finishTableS sel st cache sy.1 sy.2 (rawRowsOf rows sy.1) = .ok tb) : tableSame rows sy tb := by
  unfold finishTableS at h
  simp only at h
  split at h
  · cases h
  · split at h
    · cases h
    · rename_i _ rc h1 _ rs h2
      injection h with h; subst h
      exact ⟨rfl, rcolsOfS_names sel st cache _ _ 0 _ rc h1, castRows_same rc _ rs h2⟩

theorem finishTablesS_same (sel : Sel) (st : List Str) (cache : List (Str × List Str))
    (rows : List (Str × List (List (Cell F)))) (ts : List (Str × List Str)) (out : List (RTable F))
    (h : finishTablesS sel st cache rows ts = .ok out) : all2 (tableSame rows) ts out := by
  induction ts generalizing out with
  | nil => simp only [finishTablesS] at h; injection h with h; subst h; exact trivial
  | cons sy ts ih =>
    obtain ⟨name, cols⟩ := sy
    simp only [finishTablesS] at h
    split at h
    · cases h
    · split at h
      · cases h
      · rename_i _ t h1 _ ts' h2
        injection h with h; subst h
        exact ⟨finishTableS_same sel st cache rows (name, cols) t h1, ih ts' h2⟩

theorem renderElems_induction {sepT : Sep → Str} {io : FloatIO F}
    {P : List (Sc F) → List (Sep × QStyle) → Str → Prop} (nil : P [] [] [])
    (cons : ∀ v vs s q ls t, s.ok = true → elemLegal q (scText io v) = true → elemsLayOK io vs ls = true →
      renderElems sepT io vs ls = some t → P vs ls t →
      P (v :: vs) ((s, q) :: ls) (sepT s ++ quoteTok q (scText io v) ++ t)) :
    ∀ vs ls t, elemsLayOK io vs ls = true → renderElems sepT io vs ls = some t → P vs ls t := by
  intro vs ls
  fun_induction renderElems sepT io vs ls with
  | case1 => intro t _ ht; cases ht; exact nil
  | case2 v vs s q ls t' hr ih =>
    intro t hok ht
    simp only [elemsLayOK, Bool.and_eq_true] at hok
    cases ht
    exact cons v vs s q ls t' hok.1.1 hok.1.2 hok.2 hr (ih t' hok.2 hr)
  | case3 => intro t _ ht; cases ht
  | case4 => intro t _ ht; cases ht

theorem renderCell_cases {sepT : Sep → Str} {io : FloatIO F} {P : Cell F → CellLay → Str → Prop}
    (one : ∀ v q, tokLegal q (scText io v) = true → P (.one v) (.one q) (quoteTok q (scText io v)))
    (many : ∀ v vs op q rest cl t, op.all isBlank = true → cl.all isBlank = true →
      elemLegal q (scText io v) = true → elemsLayOK io vs rest = true → renderElems sepT io vs rest = some t →
      P (.many (v :: vs)) (.many op q rest cl) ('{' :: (op ++ quoteTok q (scText io v) ++ t ++ cl ++ ['}']))) :
    ∀ x l a, cellLayOK io x l = true → renderCell sepT io x l = some a → P x l a := by
  intro x l
  fun_cases renderCell sepT io x l with
  | case1 v q => intro a hok ha; cases ha; exact one v q hok
  | case2 v vs op q rest cl t hr =>
    intro a hok ha
    simp only [cellLayOK, Bool.and_eq_true] at hok
    cases ha
    exact many v vs op q rest cl t hok.1.1.1 hok.1.1.2 hok.1.2 hok.2 hr
  | case3 => intro a _ ha; cases ha
  | case4 => intro a _ ha; cases ha

theorem renderCells_induction {sepT : Sep → Str} {io : FloatIO F}
    {P : List (Cell F) → List (Sep × CellLay) → Str → Prop} (nil : P [] [] [])
    (cons : ∀ x xs s l ls a b, s.ok = true → cellLayOK io x l = true → cellsLayOK io xs ls = true →
      renderCell sepT io x l = some a → renderCells sepT io xs ls = some b → P xs ls b →
      P (x :: xs) ((s, l) :: ls) (sepT s ++ a ++ b)) :
    ∀ r lays body, cellsLayOK io r lays = true → renderCells sepT io r lays = some body → P r lays body := by
  intro r lays
  fun_induction renderCells sepT io r lays with
  | case1 => intro body _ hb; cases hb; exact nil
  | case2 x xs s l ls a b hr ha ih =>
    intro body hok hb
    simp only [cellsLayOK, Bool.and_eq_true] at hok
    cases hb
    exact cons x xs s l ls a b hok.1.1 hok.1.2 hok.2 ha hr (ih b hok.2 hr)
  | case3 => intro body _ hb; cases hb
  | case4 => intro body _ hb; cases hb

theorem renderLabels_induction {P : List Str → List Str → Str → Prop} (one : ∀ a, P [a] [] a)
    (cons : ∀ a b t w ws r, renderLabels (b :: t) ws = some r → P (b :: t) ws r →
      P (a :: b :: t) (w :: ws) (a ++ ',' :: w ++ r)) :
    ∀ labs ws s, renderLabels labs ws = some s → P labs ws s := by
  intro labs ws
  fun_induction renderLabels labs ws with
  | case1 => intro s hs; cases hs
  | case2 a => intro s hs; cases hs; exact one a
  | case3 a b t w ws r hr ih => intro s hs; cases hs; exact cons a b t w ws r hr (ih r hr)
  | case4 => intro s hs; cases hs
  | case5 => intro s hs; cases hs

def scKind (c : Conv) : Sc F → Bool
  | .int _ => c == .int
  | .flt w _ => c == .flt w
  | .str _ => c == .str

def cellKind (col : ColSpec) : Cell F → Bool
  | .one v => !col.isArr && scKind col.conv v
  | .many vs => col.isArr && vs.all (scKind col.conv)

/-- the row has the shape `parseRow` can return for the schema: per column a scalar or an array as the spec says, every
scalar of the spec's conversion type -/
def rowKinds : List ColSpec → List (Cell F) → Bool
  | [], [] => true
  | c :: cs, x :: xs => cellKind c x && rowKinds cs xs
  | _, _ => false

theorem convert_kind (io : FloatIO F) (h1 : H1 io) (c : Conv) (v : Sc F) (hv : scKind c v = true) :
    convert io c (scText io v) = .ok v := by
  cases v with
  | int n =>
    have : c = .int := by simpa [scKind] using hv
    subst this
    simp [convert, scText, parseInt_fmtInt]
  | flt w x =>
    have : c = .flt w := by simpa [scKind] using hv
    subst this
    simp [convert, scText, h1 w x]
  | str s =>
    have : c = .str := by simpa [scKind] using hv
    subst this
    rfl

theorem convertAll_kind (io : FloatIO F) (h1 : H1 io) (c : Conv) (vs : List (Sc F))
    (hv : ∀ v ∈ vs, scKind c v = true) : convertAll io c (vs.map (scText io)) = .ok vs := by
  induction vs with
  | nil => rfl
  | cons v t ih =>
    simp only [List.map, convertAll, convert_kind io h1 c v (hv v (by simp)),
      ih (fun x hx => hv x (by simp [hx]))]

/-- every piece of the separator is a run of blanks: `Sep.ok` without the non-emptiness (after a key without
value the run may be empty) -/
def Sep.Blank (s : Sep) : Prop :=
  (∀ x ∈ s.a, isBlank x = true) ∧
  ∀ b f c, s.cont = some (b, f, c) → (∀ x ∈ b, isBlank x = true) ∧ ∀ x ∈ c, isBlank x = true

theorem Sep.blank_of_ok {s : Sep} (h : s.ok = true) : s.Blank := by
  obtain ⟨a, cont⟩ := s
  cases cont with
  | none =>
    simp only [Sep.ok, Bool.and_eq_true, List.all_eq_true] at h
    exact ⟨h.1, fun _ _ _ e => nomatch e⟩
  | some x =>
    obtain ⟨b, f, c⟩ := x
    simp only [Sep.ok, Bool.and_eq_true, List.all_eq_true] at h
    refine ⟨h.1, ?_⟩
    rintro _ _ _ ⟨⟩
    exact h.2

theorem Sep.blank_of_bare {s : Sep} (ha : ∀ x ∈ s.a, isBlank x = true) (hc : s.cont = none) : s.Blank :=
  ⟨ha, fun _ _ _ e => by rw [hc] at e; cases e⟩

theorem sep_logical_blank (s : Sep) (h : s.Blank) : ∀ c ∈ s.logical, isBlank c = true := by
  obtain ⟨a, cont⟩ := s
  cases cont with
  | none => exact h.1
  | some x =>
    obtain ⟨b, f, c⟩ := x
    intro y hy
    simp only [Sep.logical, List.mem_append, List.mem_cons] at hy
    rcases hy with hy | hy | hy
    · exact h.1 y hy
    · subst hy; decide
    · exact (h.2 b f c rfl).2 y hy

theorem sep_logical_props (s : Sep) (h : s.ok = true) :
    s.logical ≠ [] ∧ (∀ c ∈ s.logical, isSpace c = true) ∧ '\n' ∉ s.logical ∧ '}' ∉ s.logical := by
  have hb := sep_logical_blank s (Sep.blank_of_ok h)
  have hne : s.logical ≠ [] := by
    obtain ⟨a, cont⟩ := s
    cases cont with
    | none =>
      simp only [Sep.ok, Bool.and_eq_true, Bool.not_eq_true'] at h
      exact fun e => by simp [show a = [] from e] at h
    | some x => simp [Sep.logical]
  exact ⟨hne, blank_isSpace hb, not_mem_of_all hb (by decide), not_mem_of_all hb (by decide)⟩

/-- `rowLayOK`, conjunct by conjunct; `b` is the text of the cells after continuation joining -/
structure RLP (io : FloatIO F) (t : TableD F) (r : List (Cell F)) (lay : RowLay) (b : Str) : Prop where
  lead : ∀ c ∈ lay.lead, isBlank c = true
  trail : ∀ c ∈ lay.trail, isBlank c = true
  up : upper lay.name = upper t.name
  name : wordOK lay.name = true
  com : commentOK lay.comment = true
  cells : cellsLayOK io r lay.cells = true
  body : renderCells Sep.logical io r lay.cells = some b
  db : dbFree (lay.name ++ b) = true
  nt : noTypedef (lay.name ++ b) = true
  last : lay.comment.isSome = true ∨ endsBackslash b = false

theorem rowLayOK_props (io : FloatIO F) (t : TableD F) (r : List (Cell F)) (lay : RowLay)
    (h : rowLayOK io t r lay = true) : ∃ b, RLP io t r lay b := by
  unfold rowLayOK at h
  cases hb : renderCells Sep.logical io r lay.cells with
  | none => rw [hb] at h; simp at h
  | some b =>
    rw [hb] at h
    simp only [Bool.and_eq_true, List.all_eq_true, beq_iff_eq, Bool.or_eq_true, Bool.not_eq_true', and_assoc] at h
    obtain ⟨a1, a2, a3, a4, a5, a6, a7, a8, a9⟩ := h
    exact ⟨b, a1, a2, a3, a4, a5, a6, hb, a7, a8, a9⟩

/-- `pairLayOK`, conjunct by conjunct; of the separator: it is made of blanks, it is a plain run when there is no
value (it then counts as trailing white space: a continuation there would join the next line to the key), and it is
not empty in front of a value -/
structure PLP (kv : Str × Str) (lay : PairLay) : Prop where
  lead : ∀ c ∈ lay.lead, isBlank c = true
  trail : ∀ c ∈ lay.trail, isBlank c = true
  com : commentOK lay.comment = true
  blank : lay.sep.Blank
  bare : kv.2 = [] → lay.sep.cont = none
  sepne : kv.2 ≠ [] → lay.sep.logical ≠ []
  strip : strip kv.2 = kv.2
  last : lay.comment.isSome = true ∨ endsBackslash (kv.1 ++ kv.2) = false

theorem pairLayOK_props (kv : Str × Str) (lay : PairLay) (h : pairLayOK kv lay = true) : PLP kv lay := by
  simp only [pairLayOK, Bool.and_eq_true, List.all_eq_true, beq_iff_eq, Bool.or_eq_true, Bool.not_eq_true',
    and_assoc] at h
  obtain ⟨a1, a2, a3, a4, a5, a6⟩ := h
  cases hv : kv.2 with
  | nil =>
    simp only [hv, List.isEmpty_nil, if_true, Bool.and_eq_true, List.all_eq_true, Option.isNone_iff_eq_none] at a4
    exact ⟨a1, a2, a3, Sep.blank_of_bare a4.1 a4.2, fun _ => a4.2, fun e => absurd hv e, a5, a6⟩
  | cons c t =>
    simp only [hv, List.isEmpty_cons, Bool.false_eq_true, if_false] at a4
    exact ⟨a1, a2, a3, Sep.blank_of_ok a4, fun e => (by rw [hv] at e; cases e), fun _ => (sep_logical_props _ a4).1, a5, a6⟩

theorem pairOK2_props (tnames : List Str) (kv : Str × Str) (h : pairOK2 tnames kv = true) :
    YannyRT.PairProps tnames kv ∧ strip kv.2 = kv.2 := by
  simp only [pairOK2, Bool.and_eq_true, beq_iff_eq] at h
  exact ⟨YannyRT.pairOK_props tnames kv h.1, h.2⟩

theorem renderElems_follows (io : FloatIO F) (vs : List (Sc F)) (ls : List (Sep × QStyle)) (t : Str)
    (hok : elemsLayOK io vs ls = true) (ht : renderElems Sep.logical io vs ls = some t) : Follows t ∧ '}' ∉ t := by
  revert vs ls t
  refine renderElems_induction ⟨follows_nil, List.not_mem_nil⟩ ?_
  intro v vs s q ls t hs hq _ _ ih
  exact ⟨follows_cons (sep_logical_props s hs).1 (sep_logical_blank s (Sep.blank_of_ok hs))
      (quoteTok_piece q _ (elemLegal_tokLegal _ _ hq)) ih.1,
    by simp [(sep_logical_props s hs).2.2.2, elem_no_close q _ hq, ih.2]⟩

theorem arrayTokensAux_layout (io : FloatIO F) (cl : Str) (hcl : cl.all isBlank = true) (vs : List (Sc F))
    (ls : List (Sep × QStyle)) (t : Str) (hok : elemsLayOK io vs ls = true)
    (ht : renderElems Sep.logical io vs ls = some t) :
    ∀ (q : QStyle) (v : Sc F), elemLegal q (scText io v) = true →
      ∀ fuel, (quoteTok q (scText io v) ++ (t ++ cl)).length ≤ fuel →
        arrayTokensAux fuel (quoteTok q (scText io v) ++ (t ++ cl)) = .ok (scText io v :: vs.map (scText io)) := by
  have hcn : '\n' ∉ cl := not_mem_of_all (List.all_eq_true.mp hcl) (by decide)
  -- one step of the loop: the first token is read and the loop goes on behind the white space after it
  have step : ∀ (q : QStyle) (v : Sc F) (b : Str) (toks : List Str), elemLegal q (scText io v) = true →
      (∀ c, b.head? = some c → isSpace c = true) → '\n' ∉ b.dropWhile isSpace →
      (∀ f, (b.dropWhile isSpace).length ≤ f → arrayTokensAux f (b.dropWhile isSpace) = .ok toks) →
      ∀ fuel, (quoteTok q (scText io v) ++ b).length ≤ fuel →
        arrayTokensAux fuel (quoteTok q (scText io v) ++ b) = .ok (scText io v :: toks) := by
    intro q v b toks hq hb hn hrec fuel hf
    have hg := getToken_quote_any q _ b (elemLegal_tokLegal _ _ hq) hb hn
    have hlen : (b.dropWhile isSpace).length ≤ b.length := (List.dropWhile_sublist _).length_le
    cases hq' : quoteTok q (scText io v) with
    | nil => exact absurd hq' (quoteTok_piece q _ (elemLegal_tokLegal _ _ hq)).1
    | cons a u =>
      rw [hq'] at hf hg
      cases fuel with
      | zero => simp at hf
      | succ f =>
        simp only [List.cons_append, List.length_cons, List.length_append] at hf
        simp only [List.cons_append] at hg ⊢
        simp only [arrayTokensAux, hg, hrec f (by omega)]
  revert vs ls t
  refine renderElems_induction ?_ ?_
  · intro q v hq
    have hd : cl.dropWhile isSpace = [] := dropWhile_all _ _ (blank_space hcl)
    apply step q v _ [] hq (fun c hc => blank_space hcl c (List.mem_of_mem_head? hc))
    · rw [hd]; exact List.not_mem_nil
    · rw [hd]; intro f _; cases f <;> rfl
  · intro v2 vs s q2 ls t hs hq2 hok2 hr ih q v hq
    obtain ⟨s1, s2, _, _⟩ := sep_logical_props s hs
    obtain ⟨q2ne, q2h, _, q2n, _⟩ := quoteTok_piece q2 (scText io v2) (elemLegal_tokLegal _ _ hq2)
    have hd : (s.logical ++ quoteTok q2 (scText io v2) ++ t ++ cl).dropWhile isSpace =
        quoteTok q2 (scText io v2) ++ (t ++ cl) := by
      rw [List.append_assoc, List.append_assoc, List.dropWhile_append_of_pos s2]
      exact lstrip_id _ (head_append_of _ q2ne q2h)
    apply step q v _ _ hq
    · rw [List.append_assoc, List.append_assoc]
      exact head_append_mem _ s1 s2
    · rw [hd]
      simp [q2n, (renderElems_follows io vs ls t hok2 hr).1.nonl, hcn]
    · rw [hd]
      exact ih q2 v2 hq2

theorem renderCell_piece (io : FloatIO F) (x : Cell F) (l : CellLay) (a : Str)
    (hok : cellLayOK io x l = true) (ha : renderCell Sep.logical io x l = some a) : Piece a := by
  revert x l a
  refine renderCell_cases ?_ ?_
  · intro v q hq
    exact quoteTok_piece q _ hq
  · intro v vs op q rest cl t hop hcl hq hel hr
    -- `{`, blanks, the first element; then the other elements; blanks, `}`
    have h1 := (piece_char '{' (by decide) (by decide)).sep op (List.all_eq_true.mp hop)
      (quoteTok_piece q (scText io v) (elemLegal_tokLegal _ _ hq))
    have h2 := ((renderElems_follows io vs rest t hel hr).1.1 _ h1).sep cl (List.all_eq_true.mp hcl)
      (piece_char '}' (by decide) (by decide))
    simpa only [List.singleton_append, List.cons_append, List.nil_append, List.append_assoc] using h2

theorem getToken_cellLay (io : FloatIO F) (h1 : H1 io) (col : ColSpec) (x : Cell F) (l : CellLay) (a : Str)
    (hok : cellLayOK io x l = true) (ha : renderCell Sep.logical io x l = some a)
    (hk : cellKind col x = true) (b : Str)
    (hb : ∀ c, b.head? = some c → isSpace c = true) (hn : '\n' ∉ b) :
    ∃ data, getToken (a ++ b) = .ok (data, b.dropWhile isSpace) ∧ parseCell io col data = .ok x := by
  have hbn : '\n' ∉ b.dropWhile isSpace := fun hm => hn ((List.dropWhile_sublist _).subset hm)
  revert x l a
  refine renderCell_cases ?_ ?_
  · intro v q hq hk
    simp only [cellKind, Bool.and_eq_true, Bool.not_eq_true'] at hk
    refine ⟨scText io v, getToken_quote_any q _ b hq hb hbn, ?_⟩
    simp only [parseCell, hk.1, Bool.false_eq_true, if_false, convert_kind io h1 col.conv v hk.2]
  · intro v vs op q rest cl t hop hcl hq hel hr hk
    simp only [cellKind, Bool.and_eq_true] at hk
    obtain ⟨qne, qh, _⟩ := quoteTok_piece q (scText io v) (elemLegal_tokLegal _ _ hq)
    have i2 := (renderElems_follows io vs rest t hel hr).2
    let inner := quoteTok q (scText io v) ++ (t ++ cl)
    have hinner : '}' ∉ inner := by
      simp [inner, elem_no_close q _ hq, i2, not_mem_of_all (List.all_eq_true.mp hcl) (d := '}') (by decide)]
    have htext : '{' :: (op ++ quoteTok q (scText io v) ++ t ++ cl ++ ['}']) ++ b =
        '{' :: (op ++ (inner ++ '}' :: b)) := by simp [inner]
    refine ⟨inner, ?_, ?_⟩
    · rw [htext]
      exact getToken_brace op inner b hop hinner (head_append_of _ (by simp [inner, qne]) (head_append_of _ qne qh)) hbn
    · have hat : arrayTokens inner = .ok (scText io v :: vs.map (scText io)) :=
        arrayTokensAux_layout io cl hcl vs rest t hel hr q v hq _ (Nat.le_refl _)
      have hcv := convertAll_kind io h1 col.conv (v :: vs) (List.all_eq_true.mp hk.2)
      simp only [List.map] at hcv
      simp only [parseCell, hk.1, if_true, hat, hcv]

theorem renderCells_follows (io : FloatIO F) (r : List (Cell F)) (lays : List (Sep × CellLay)) (body : Str)
    (hok : cellsLayOK io r lays = true) (hb : renderCells Sep.logical io r lays = some body) : Follows body := by
  revert r lays body
  refine renderCells_induction follows_nil ?_
  intro x xs s l ls a b hs hl _ ha _ ih
  exact follows_cons (sep_logical_props s hs).1 (sep_logical_blank s (Sep.blank_of_ok hs))
    (renderCell_piece io x l a hl ha) ih

theorem parseRow_layout' (io : FloatIO F) (h1 : H1 io) (sch : List ColSpec) (r : List (Cell F))
    (lays : List (Sep × CellLay)) (body trail : Str) (hk : rowKinds sch r = true)
    (hok : cellsLayOK io r lays = true) (hb : renderCells Sep.logical io r lays = some body)
    (ht : ∀ c ∈ trail, isBlank c = true) :
    parseRow io sch ((body ++ trail).dropWhile isSpace) = .ok r := by
  have hts := blank_isSpace ht
  have htn : '\n' ∉ trail := not_mem_of_all ht (by decide)
  revert sch
  revert r lays body
  refine renderCells_induction ?_ ?_
  · intro sch hk
    cases sch with
    | nil => rfl
    | cons c cs => simp [rowKinds] at hk
  · intro x xs s l ls a b hs hl hok2 ha hr ih sch hk
    cases sch with
    | nil => simp [rowKinds] at hk
    | cons col cols =>
      simp only [rowKinds, Bool.and_eq_true] at hk
      have hc := renderCells_follows io xs ls b hok2 hr
      obtain ⟨_, s2, _, _⟩ := sep_logical_props s hs
      obtain ⟨ane, ah, _⟩ := renderCell_piece io x l a hl ha
      have hbt_head : ∀ c, (b ++ trail).head? = some c → isSpace c = true := by
        cases b with
        | nil => exact fun c hc => hts c (List.mem_of_mem_head? hc)
        | cons y u => exact hc.2
      obtain ⟨data, hg, hp⟩ := getToken_cellLay io h1 col x l a hl ha hk.1 (b ++ trail) hbt_head
        (by simp [hc.nonl, htn])
      have e : (s.logical ++ a ++ b ++ trail).dropWhile isSpace = a ++ (b ++ trail) := by
        rw [List.append_assoc, List.append_assoc, List.dropWhile_append_of_pos s2]
        exact lstrip_id _ (head_append_of _ ane ah)
      have hmore : moreData (a ++ (b ++ trail)) = true := by
        cases a with
        | nil => exact absurd rfl ane
        | cons y u => simp [moreData, ah y rfl]
      rw [e]
      simp only [parseRow, hmore, if_true, hg, hp, ih cols hk.2]

end PydlVerif.Yanny
