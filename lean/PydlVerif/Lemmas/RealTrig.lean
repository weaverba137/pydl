/-
The `Trig` operation class at ℝ with Mathlib's functions (`atan2 y x` is `Complex.arg (x + y i)`); angles in degrees: the models
convert with the factor `π / 180`.
-/
import PydlVerif.Lemmas.ScalarField
import Mathlib.Analysis.SpecialFunctions.Trigonometric.Inverse
import Mathlib.Analysis.SpecialFunctions.Complex.Arg
import Mathlib.Analysis.SpecialFunctions.Sqrt

namespace PydlVerif

@[reducible] noncomputable def realTrig : Trig ℝ where
  toScalar := fieldScalar ℝ
  sqrt := Real.sqrt
  sin := Real.sin
  cos := Real.cos
  arcsin := Real.arcsin
  arccos := Real.arccos
  atan2 y x := Complex.arg ⟨x, y⟩
  pi := Real.pi

section degrees
open Real
theorem deg_pos : 0 < π / 180 := div_pos Real.pi_pos (by norm_num)

theorem deg_mul_cancel (x : ℝ) : x * (π / 180) * (180 / π) = x := by
  rw [mul_assoc, div_mul_div_comm, mul_comm π, div_self (mul_pos (by norm_num) Real.pi_pos).ne', mul_one]

theorem rad_mul_cancel (x : ℝ) : x * (180 / π) * (π / 180) = x := by
  rw [mul_assoc, div_mul_div_comm, mul_comm π, div_self (mul_pos (by norm_num) Real.pi_pos).ne', mul_one]

theorem deg_le_pi_div_two {x : ℝ} (h : x ≤ 90) : x * (π / 180) ≤ π / 2 := by
  rw [show π / 2 = 90 * (π / 180) by ring]
  exact mul_le_mul_of_nonneg_right h deg_pos.le

theorem deg_le_pi {x : ℝ} (h : x ≤ 180) : x * (π / 180) ≤ π :=
  (mul_le_mul_of_nonneg_right h deg_pos.le).trans_eq (by ring)

theorem abs_deg_rad_lt {x : ℝ} (h : |x| < 90) : |x * (π / 180)| < π / 2 := by
  rw [abs_mul, abs_of_pos deg_pos]
  linarith [mul_lt_mul_of_pos_right h deg_pos]

theorem cos_deg_pos {x : ℝ} (h : |x| < 90) : 0 < cos (x * (π / 180)) :=
  Real.cos_pos_of_mem_Ioo (abs_lt.1 (abs_deg_rad_lt h))

theorem half_deg_mem {x : ℝ} (h0 : 0 ≤ x) (h1 : x ≤ 180) :
    0 ≤ x / 2 * (π / 180) ∧ x / 2 * (π / 180) ≤ π / 2 :=
  ⟨mul_nonneg (div_nonneg h0 (by norm_num)) deg_pos.le, deg_le_pi_div_two (by linarith only [h1])⟩

end degrees

end PydlVerif
