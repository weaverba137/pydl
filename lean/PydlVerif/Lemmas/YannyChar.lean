/-
The character classes of the yanny reader (`\w`, `\s`, `str.upper`), each characterised once by code point; what the
scanners need of a character follows by arithmetic on code points.
-/
import PydlVerif.Model.YannyDom
import PydlVerif.Lemmas.CharUpper
namespace PydlVerif.Yanny

/-- `\w` (ASCII): `[0-9A-Z_a-z]` -/
theorem isWordCh_codes (c : Char) (h : isWordCh c = true) :
    (48 ≤ c.toNat ∧ c.toNat ≤ 57) ∨ (65 ≤ c.toNat ∧ c.toNat ≤ 90) ∨ c.toNat = 95 ∨
      (97 ≤ c.toNat ∧ c.toNat ≤ 122) := by
  simp only [isWordCh, Char.isAlphanum, Char.isAlpha, Char.isUpper, Char.isLower, Char.isDigit,
    Bool.or_eq_true, Bool.and_eq_true, decide_eq_true_eq, beq_iff_eq, ge_iff_le, UInt32.le_iff_toNat_le] at h
  rcases h with ((h | h) | h) | h
  · exact Or.inr (Or.inl h)
  · exact Or.inr (Or.inr (Or.inr h))
  · exact Or.inl h
  · exact Or.inr (Or.inr (Or.inl (h ▸ rfl)))

theorem isWordCh_of_upper (c : Char) (h : 65 ≤ c.toNat ∧ c.toNat ≤ 90) : isWordCh c = true := by
  simp only [isWordCh, Char.isAlphanum, Char.isAlpha, Char.isUpper, Bool.or_eq_true, decide_eq_true_eq,
    ge_iff_le, UInt32.le_iff_toNat_le]
  exact Or.inl (Or.inl (Or.inl h))

/-- `\s`: control characters and the blank, NEL, NBSP -/
theorem isSpace_codes (c : Char) (h : isSpace c = true) : c.toNat ≤ 32 ∨ c.toNat = 133 ∨ c.toNat = 160 := by
  simp only [isSpace, Bool.or_eq_true, beq_iff_eq] at h
  rcases h with ((((((((((h | h) | h) | h) | h) | h) | h) | h) | h) | h) | h) | h <;> subst h <;> decide

theorem wordCh_ne {c d : Char} (h : isWordCh c = true) (hd : isWordCh d = false) : c ≠ d := by
  intro e; rw [e, hd] at h; cases h

theorem wordCh_not_space (c : Char) (h : isWordCh c = true) : isSpace c = false := by
  have hw := isWordCh_codes c h
  apply Bool.eq_false_iff.mpr
  intro hs
  have := isSpace_codes c hs
  omega

theorem wordCh_toUpper (c : Char) (h : isWordCh c = true) : isWordCh c.toUpper = true := by
  by_cases hl : 97 ≤ c.toNat ∧ c.toNat ≤ 122
  · apply isWordCh_of_upper
    rw [toUpper_lower c hl]
    omega
  · rw [toUpper_other c hl]
    exact h

end PydlVerif.Yanny

/- `YannyRT`: the namespace of the lemmas about the file level (typedef blocks, struct text, typing) -/
namespace PydlVerif.YannyRT
open PydlVerif.Yanny

def lowerCh (c : Char) : Bool := 'a' ≤ c && c ≤ 'z'

theorem toUpper_noLower (c : Char) : lowerCh c.toUpper = false := by
  apply Bool.eq_false_iff.mpr
  intro hl
  simp only [lowerCh, Bool.and_eq_true, decide_eq_true_eq, Char.le_def, UInt32.le_iff_toNat_le] at hl
  exact toUpper_not_lower c hl

theorem scan_space_not_word (c : Char) (h : isSpace c = true) : isWordCh c = false := by
  apply Bool.eq_false_iff.mpr
  intro hw
  rw [wordCh_not_space c hw] at h
  cases h

theorem scan_word_nonSp (c : Char) (h : isWordCh c = true) : nonSp c = true := by
  simp only [nonSp, wordCh_not_space c h, Bool.not_false]

theorem scan_word_not_open (c : Char) (h : isWordCh c = true) : isOpenB c = false := by
  have h1 := wordCh_ne (d := '[') h (by decide)
  have h2 := wordCh_ne (d := '<') h (by decide)
  simp [isOpenB, h1, h2]

theorem scan_word_not_close (c : Char) (h : isWordCh c = true) : isCloseB c = false := by
  have h1 := wordCh_ne (d := ']') h (by decide)
  have h2 := wordCh_ne (d := '>') h (by decide)
  simp [isCloseB, h1, h2]

theorem scan_digit_word (c : Char) (h : c.isDigit = true) : isWordCh c = true := by
  simp [isWordCh, Char.isAlphanum, h]

end PydlVerif.YannyRT
