/-
Bridging lemmas between the executable model Model/Solvers.lean (arrays, `sumN`, `countN`) and Mathlib's `Finset` sums
and counts, at the field interpretation of `Scalar`; and what the model's two plain loops `iterN`, `pcaInner` do.
-/
import PydlVerif.Model.Solvers
import PydlVerif.Lemmas.ScalarField
import PydlVerif.Lemmas.FinsetSums
import Mathlib.Algebra.BigOperators.Fin
open Finset
namespace PydlVerif.Solvers
section
variable {K : Type} [Field K] [LinearOrder K] [IsStrictOrderedRing K] [FloorRing K]
attribute [local instance] fieldScalar

theorem sumN_range (n : ℕ) (f : ℕ → K) : sumN n f = ∑ i ∈ range n, f i := by
  unfold sumN
  rw [foldl_add_range, scalar_lit, Nat.cast_zero, zero_add]

theorem sumN_fin (n : ℕ) (f : ℕ → K) : sumN n f = ∑ i : Fin n, f i.val := by
  rw [sumN_range, Finset.sum_range]

theorem vget_vtab {α : Type} [Scalar α] (n : ℕ) (f : ℕ → α) (i : ℕ) (h : i < n) : vget (vtab n f) i = f i := by
  simp [vget, vtab, h]

theorem vget_vtab_fin {α : Type} [Scalar α] (n : ℕ) (f : ℕ → α) (i : Fin n) : vget (vtab n f) i.val = f i.val :=
  vget_vtab n f i.val i.isLt

theorem mget_mtab {α : Type} [Scalar α] (r c : ℕ) (f : ℕ → ℕ → α) (i j : ℕ) (hi : i < r) (hj : j < c) :
    mget (mtab r c f) i j = f i j := by
  simp [mget, mtab, vtab, hi, hj]

theorem mget_mtab_fin {α : Type} [Scalar α] (r c : ℕ) (f : ℕ → ℕ → α) (i : Fin r) (j : Fin c) :
    mget (mtab r c f) i.val j.val = f i.val j.val := mget_mtab r c f _ _ i.isLt j.isLt

theorem bget_btab (r c : ℕ) (f : ℕ → ℕ → Bool) (i j : ℕ) (hi : i < r) (hj : j < c) :
    bget (btab r c f) i j = f i j := by
  simp [bget, btab, hi, hj]

end

theorem countN_eq (n : ℕ) (p : ℕ → Bool) : countN n p = ((range n).filter (fun i => p i = true)).card := by
  unfold countN
  induction n with
  | zero => simp
  | succ n ih =>
    rw [List.range_succ, List.filter_append, List.length_append, ih, Finset.range_add_one, Finset.filter_insert]
    by_cases h : p n = true
    · simp [h]
    · simp [h]

theorem iterN_succ' {β : Type} (n : ℕ) (f : β → β) (x : β) : iterN (n + 1) f x = f (iterN n f x) := by
  induction n generalizing x with
  | zero => rfl
  | succ n ih => rw [iterN, ih (f x)]; rfl

theorem iterN_antitone {β γ : Type} [Preorder γ] (f : β → β) (φ : β → γ) (P : β → Prop)
    (step : ∀ x, P x → φ (f x) ≤ φ x) (start : β) (n : ℕ) (ok : ∀ t < n, P (iterN t f start)) :
    (∀ t < n, φ (iterN (t + 1) f start) ≤ φ (iterN t f start)) ∧ φ (iterN n f start) ≤ φ start := by
  -- the bound against the start follows from the decrease from step to step
  refine (and_iff_left_of_imp fun hs => ?_).mpr fun t ht => by rw [iterN_succ']; exact step _ (ok t ht)
  clear ok
  induction n with
  | zero => exact le_refl _
  | succ n ih => exact le_trans (hs n (Nat.lt_succ_self n)) (ih fun t ht => hs t (Nat.lt_succ_of_lt ht))

/-- after at least one pass the state of the inner loop is what a pass returned (a pass builds the whole state anew) -/
theorem pcaInner_last {α : Type} (pass : Mat α → PcaState α) (n : ℕ) (st : PcaState α) :
    ∃ f, pcaInner pass (n + 1) st = pass f := by
  induction n generalizing st with
  | zero => exact ⟨st.filt, rfl⟩
  | succ n ih => exact ih (pass st.filt)

end PydlVerif.Solvers
