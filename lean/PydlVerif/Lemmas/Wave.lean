/-
The model of Model/Wave.lean in ordinary field terms; bounds and rate of decrease of the Ciddor factor, behind the round-trip
and monotonicity estimates of the two conversions; interpolation as a convex combination.
-/
import PydlVerif.Model.Wave
import PydlVerif.Lemmas.ScalarField
import PydlVerif.Lemmas.NpInterp
import PydlVerif.Lemmas.ListBasics
import Mathlib.Tactic.Linarith
import Mathlib.Tactic.Positivity
import Mathlib.Tactic.FieldSimp
import Mathlib.Tactic.Ring
import Mathlib.Tactic.NormNum.OfScientific
import Mathlib.Algebra.Order.Field.Basic
import Mathlib.Algebra.BigOperators.Group.List.Basic
import Mathlib.Analysis.Convex.Basic

set_option linter.unusedSectionVars false

namespace PydlVerif.C19
open PydlVerif PydlVerif.Wave

section
variable {K : Type} [Field K] [LinearOrder K] [IsStrictOrderedRing K] [FloorRing K]
attribute [local instance] fieldScalar
attribute [local instance 5] Scalar.instOfNat Scalar.instOfScientific

theorem val_guard : (dGuard.val : K) = 2000 := by
  show (OfScientific.ofScientific 2 false 3 : K) = 2000
  norm_num

theorem val_scale : (dScale.val : K) = 10000 := by
  show (OfScientific.ofScientific 1 false 4 : K) = _
  norm_num

theorem val_one : (dOne.val : K) = 1 := by
  show (OfScientific.ofScientific 1 false 0 : K) = _
  norm_num

theorem val_A1 : (dA1.val : K) = 5792105 / 100000000 := by
  show (OfScientific.ofScientific 5792105 true 8 : K) = _
  norm_num

theorem val_B1 : (dB1.val : K) = 2380185 / 10000 := by
  show (OfScientific.ofScientific 2380185 true 4 : K) = _
  norm_num

theorem val_A2 : (dA2.val : K) = 167917 / 100000000 := by
  show (OfScientific.ofScientific 167917 true 8 : K) = _
  norm_num

theorem val_B2 : (dB2.val : K) = 57362 / 1000 := by
  show (OfScientific.ofScientific 57362 true 3 : K) = _
  norm_num

theorem val_magscale : (dMagScale.val : K) = 5 / 2 := by
  show (OfScientific.ofScientific 25 true 1 : K) = _
  norm_num

theorem abCorr_eq : (abCorr : List K) = [-(42 / 1000), 36 / 1000, 15 / 1000, 13 / 1000, -(2 / 1000)] := by
  show [-(OfScientific.ofScientific 42 true 3 : K), OfScientific.ofScientific 36 true 3,
        OfScientific.ofScientific 15 true 3, OfScientific.ofScientific 13 true 3,
        -(OfScientific.ofScientific 2 true 3 : K)] = _
  norm_num

theorem ciddor_eq (s : K) :
    ciddor s = 1 + (5792105 / 100000000) / (2380185 / 10000 - s) + (167917 / 100000000) / (57362 / 1000 - s) := by
  simp only [ciddor, val_one, val_A1, val_B1, val_A2, val_B2]

theorem sigma2_eq (v : K) : sigma2 v = (10000 / v) * (10000 / v) := by
  simp only [sigma2, val_scale]

theorem airtovac1_eq (a : K) :
    airtovac1 a = if a < 2000 then a else a * fact (a * fact a) := by
  simp only [airtovac1, val_guard, nIter, iter]

theorem vactoair1_eq (v : K) : vactoair1 v = if v < 2000 then v else v / fact v := by
  simp only [vactoair1, val_guard]

theorem guard_pos {v : K} (hv : 2000 ≤ v) : 0 < v := lt_of_lt_of_le (by norm_num) hv

theorem div_decr {A m u v : K} (hA : 0 ≤ A) (hm : 0 < m) (hu : m ≤ u) (huv : u ≤ v) :
    0 ≤ A / u - A / v ∧ A / u - A / v ≤ A / (m * m) * (v - u) := by
  have hu0 := hm.trans_le hu
  have hv0 := hu0.trans_le huv
  have hn := mul_nonneg hA (sub_nonneg.2 huv)
  have e : A / u - A / v = A * (v - u) / (u * v) := by
    rw [div_sub_div _ _ hu0.ne' hv0.ne']; congr 1; ring
  rw [e, div_mul_eq_mul_div]
  exact ⟨div_nonneg hn (mul_pos hu0 hv0).le,
    div_le_div_of_nonneg_left hn (mul_pos hm hm) (mul_le_mul hu (hu.trans huv) hm.le hu0.le)⟩

theorem sigma2_bounds {v : K} (hv : 2000 ≤ v) : 0 < sigma2 v ∧ sigma2 v ≤ 25 := by
  have hv0 := guard_pos hv
  have hq0 : (0 : K) < 10000 / v := div_pos (by norm_num) hv0
  have hq5 : (10000 : K) / v ≤ 5 := (div_le_iff₀ hv0).2 (by linarith)
  rw [sigma2_eq]
  exact ⟨mul_pos hq0 hq0, (mul_le_mul hq5 hq5 hq0.le (by norm_num)).trans_eq (by norm_num)⟩

/-- from `q² - r² = (q - r)(q + r)` with `q = 10⁴/x`, `r = 10⁴/y`: `q - r ≤ (10⁴/a²)(y - x)` (`div_decr`) and `a·q ≤ 10⁴` -/
theorem sigma2_decr {a x y : K} (ha : 0 < a) (hx : a ≤ x) (hxy : x ≤ y) :
    0 ≤ sigma2 x - sigma2 y ∧ a * (sigma2 x - sigma2 y) ≤ 200000000 / (a * a) * (y - x) := by
  have hq : ∀ {z : K}, a ≤ z → 0 < 10000 / z ∧ a * (10000 / z) ≤ 10000 := fun {z} hz => by
    have hz0 : 0 < z := ha.trans_le hz
    refine ⟨div_pos (by norm_num) hz0, ?_⟩
    rw [← mul_div_assoc, div_le_iff₀ hz0, mul_comm]
    exact mul_le_mul_of_nonneg_left hz (by norm_num)
  obtain ⟨px, bx⟩ := hq hx
  obtain ⟨py, by'⟩ := hq (hx.trans hxy)
  obtain ⟨p, l⟩ := div_decr (A := (10000 : K)) (by norm_num) ha hx hxy
  have e : sigma2 x - sigma2 y = (10000 / x - 10000 / y) * (10000 / x + 10000 / y) := by
    rw [sigma2_eq, sigma2_eq]; ring
  rw [e, mul_left_comm]
  refine ⟨mul_nonneg p (add_pos px py).le, ?_⟩
  calc (10000 / x - 10000 / y) * (a * (10000 / x + 10000 / y))
      ≤ 10000 / (a * a) * (y - x) * 20000 :=
        mul_le_mul l ((mul_add a _ _).trans_le ((add_le_add bx by').trans_eq (by norm_num)))
          (mul_nonneg ha.le (add_pos px py).le) (mul_nonneg (by positivity) (sub_nonneg.2 hxy))
    _ = 200000000 / (a * a) * (y - x) := by ring

/-- `div_decr` for each of the two terms `A/(B - σ²)`, whose denominators are `≥ B - 25`; `289e-8` bounds the sum of the two
`A/(B - 25)²` -/
theorem ciddor_incr {s t : K} (hts : t ≤ s) (hs : s ≤ 25) :
    0 ≤ ciddor s - ciddor t ∧ ciddor s - ciddor t ≤ 289 / 100000000 * (s - t) := by
  have s1 : (2130185 / 10000 : K) ≤ 2380185 / 10000 - s := le_sub_comm.1 (hs.trans (by norm_num))
  have s2 : (32362 / 1000 : K) ≤ 57362 / 1000 - s := le_sub_comm.1 (hs.trans (by norm_num))
  have k : ∀ B : K, B - t - (B - s) = s - t := fun B => sub_sub_sub_cancel_left _ _ _
  obtain ⟨p1, l1⟩ := div_decr (A := (5792105 / 100000000 : K)) (by norm_num) (by norm_num) s1 (sub_le_sub_left hts _)
  obtain ⟨p2, l2⟩ := div_decr (A := (167917 / 100000000 : K)) (by norm_num) (by norm_num) s2 (sub_le_sub_left hts _)
  rw [k] at l1 l2
  have c : (5792105 / 100000000 : K) / (2130185 / 10000 * (2130185 / 10000))
      + 167917 / 100000000 / (32362 / 1000 * (32362 / 1000)) ≤ 289 / 100000000 := by norm_num
  rw [ciddor_eq, ciddor_eq, add_sub_add_comm, add_sub_add_left_eq_sub]
  refine ⟨add_nonneg p1 p2, (add_le_add l1 l2).trans ?_⟩
  rw [← add_mul]
  exact mul_le_mul_of_nonneg_right c (sub_nonneg.2 hts)

/-- `325e-6` is `ciddor 25 - 1 = 3.2379…e-4` rounded up -/
theorem ciddor_bounds {s : K} (h0 : 0 ≤ s) (h25 : s ≤ 25) : 1 < ciddor s ∧ ciddor s ≤ 1 + 325 / 1000000 := by
  have c0 : (1 : K) < ciddor 0 := by rw [ciddor_eq]; norm_num
  have c25 : ciddor (25 : K) ≤ 1 + 325 / 1000000 := by rw [ciddor_eq]; norm_num
  exact ⟨c0.trans_le (sub_nonneg.1 (ciddor_incr h0 h25).1), (sub_nonneg.1 (ciddor_incr h25 le_rfl).1).trans c25⟩

theorem fact_bounds {v : K} (hv : 2000 ≤ v) : 1 < fact v ∧ fact v ≤ 1 + 325 / 1000000 :=
  ciddor_bounds (sigma2_bounds hv).1.le (sigma2_bounds hv).2

theorem le_mul_fact {a v : K} (ha : 0 ≤ a) (hv : 2000 ≤ v) : a ≤ a * fact v :=
  le_mul_of_one_le_right ha (fact_bounds hv).1.le

theorem mul_fact_sub_le {a v : K} (ha : 0 ≤ a) (hv : 2000 ≤ v) : a * fact v - a ≤ a * (325 / 1000000) := by
  rw [← mul_sub_one]
  exact mul_le_mul_of_nonneg_left (sub_le_iff_le_add'.2 (fact_bounds hv).2) ha

/-- the refraction factor falls with the wavelength by at most `578/a³` per Å: `578 = 289·10⁻⁸ · 2·10⁸`, from
`ciddor_incr` and `sigma2_decr` -/
theorem fact_decr {a x y : K} (ha : 2000 ≤ a) (hx : a ≤ x) (hxy : x ≤ y) :
    fact y ≤ fact x ∧ a * (fact x - fact y) ≤ 578 / (a * a) * (y - x) := by
  have ha0 := guard_pos ha
  obtain ⟨p, l⟩ := sigma2_decr ha0 hx hxy
  obtain ⟨p', l'⟩ := ciddor_incr (sub_nonneg.1 p) (sigma2_bounds (ha.trans hx)).2
  refine ⟨sub_nonneg.1 p', ?_⟩
  calc a * (fact x - fact y)
      ≤ a * (289 / 100000000 * (sigma2 x - sigma2 y)) := mul_le_mul_of_nonneg_left l' ha0.le
    _ = 289 / 100000000 * (a * (sigma2 x - sigma2 y)) := mul_left_comm _ _ _
    _ ≤ 289 / 100000000 * (200000000 / (a * a) * (y - x)) := mul_le_mul_of_nonneg_left l (by norm_num)
    _ = 578 / (a * a) * (y - x) := by ring

/-- two steps of the iteration `v ↦ a·fact v`: every step reverses the order and shrinks the distance by `578/a²`
(`fact_decr`); `D = 325e-6` is the bound of `fact_bounds` -/
theorem two_steps {a p q : K} (ha : 2000 ≤ a) (hp : a ≤ p) (hpq : p ≤ q) (hd : q - p ≤ a * (325 / 1000000)) :
    fact (a * fact p) ≤ fact (a * fact q) ∧
      a * (fact (a * fact q) - fact (a * fact p)) ≤ 109 / (a * a * a) := by
  have ha0 := guard_pos ha
  have hL : 0 ≤ 578 / (a * a) := by positivity
  -- `L·L·a·D ≤ 109/a³` with `L = 578/a²`, `D = 325e-6`
  have c : 578 / (a * a) * (578 / (a * a) * (a * (325 / 1000000))) ≤ 109 / (a * a * a) := by
    have e : 578 / (a * a) * (578 / (a * a) * (a * (325 / 1000000))) = (578 * 578 * 325 / 1000000) / (a * a * a) := by
      field_simp
    rw [e]
    exact div_le_div_of_nonneg_right (by norm_num) (by positivity)
  obtain ⟨m, l⟩ := fact_decr ha hp hpq
  obtain ⟨m', l'⟩ := fact_decr ha (le_mul_fact ha0.le (ha.trans (hp.trans hpq))) (mul_le_mul_of_nonneg_left m ha0.le)
  refine ⟨m', l'.trans ?_⟩
  rw [← mul_sub]
  exact (mul_le_mul_of_nonneg_left (l.trans (mul_le_mul_of_nonneg_left hd hL)) hL).trans c

theorem vactoair_mono_aux {x y : K} (hx : 2000 ≤ x) (hxy : x < y) : x / fact x < y / fact y := by
  have fy := one_pos.trans (fact_bounds (hx.trans hxy.le)).1
  exact (div_lt_div_of_pos_right hxy (one_pos.trans (fact_bounds hx).1)).trans_le
    (div_le_div_of_nonneg_left (guard_pos (hx.trans hxy.le)).le fy (fact_decr hx le_rfl hxy.le).1)

/-- one step `x ↦ x·fact P` of the iteration, `P` increasing in `x` with slope `≤ 2` and `P ≥ x`:
`y·fact Q - x·fact P = (y - x)·fact Q - x·(fact P - fact Q)`, the first term `> y - x`, the second in `[0, ¼·2·(y - x)]` -/
theorem step_mono {x y P Q : K} (hx : 2000 ≤ x) (hxy : x < y) (hP : x ≤ P) (hPQ : P ≤ Q) (h2 : Q - P ≤ 2 * (y - x)) :
    x * fact P < y * fact Q ∧ y * fact Q - x * fact P ≤ (y - x) * fact Q := by
  have hx0 := guard_pos hx
  have q : 578 / (x * x) ≤ 1 / 4 := by
    rw [div_le_iff₀ (mul_pos hx0 hx0)]
    exact le_trans (by norm_num) (mul_le_mul_of_nonneg_left (mul_le_mul hx hx (by norm_num) hx0.le) (by norm_num))
  have l := (fact_decr hx hP hPQ).2.trans (mul_le_mul_of_nonneg_right q (sub_nonneg.2 hPQ))
  have b := mul_lt_mul_of_pos_left (fact_bounds (hx.trans (hP.trans hPQ))).1 (sub_pos.2 hxy)
  have c := mul_nonneg hx0.le (sub_nonneg.2 (fact_decr hx hP hPQ).1)
  constructor <;> linarith

/-- `step_mono` for `a ↦ a·fact a` (its slope is `≤ 1 + D ≤ 2`), then for the second iteration -/
theorem airtovac_mono_aux {x y : K} (hx : 2000 ≤ x) (hxy : x < y) :
    x * fact (x * fact x) < y * fact (y * fact y) := by
  obtain ⟨m, l⟩ := step_mono hx hxy le_rfl hxy.le (by linarith)
  have d := mul_le_mul_of_nonneg_left (fact_bounds (hx.trans hxy.le)).2 (sub_pos.2 hxy).le
  exact (step_mono hx hxy (le_mul_fact (guard_pos hx).le hx) m.le (by linarith)).1

theorem sumFrom_eq (acc : K) (l : List K) : sumFrom acc l = acc + l.sum := by
  induction l generalizing acc with
  | nil => simp [sumFrom]
  | cons x xs ih => simp only [sumFrom, ih, List.sum_cons]; ring

theorem filterMean_eq (r f : List K) :
    filterMean r f = (List.zipWith (· * ·) f r).sum / (r.sum + (if r.sum ≤ 0 then 1 else 0)) := by
  simp only [filterMean, sumFrom_eq, scalar_ofNat, Nat.cast_zero, Nat.cast_one, zero_add]

theorem filterMean_pos (r f : List K) (h : 0 < r.sum) :
    filterMean r f = (List.zipWith (· * ·) f r).sum / r.sum := by
  rw [filterMean_eq, if_neg (not_le.mpr h), add_zero]

theorem dot_lin (a b : K) (f g r : List K) (h : f.length = g.length) :
    (List.zipWith (· * ·) (List.zipWith (fun x y => a * x + b * y) f g) r).sum
      = a * (List.zipWith (· * ·) f r).sum + b * (List.zipWith (· * ·) g r).sum := by
  induction f, g, h using length_induction generalizing r with
  | nil => simp
  | cons x xs y ys _ ih =>
    cases r with
    | nil => simp
    | cons w ws =>
      simp only [List.zipWith_cons_cons, List.sum_cons, ih]
      ring

theorem dot_const (c : K) (r : List K) :
    (List.zipWith (· * ·) (List.replicate r.length c) r).sum = c * r.sum := by
  induction r with
  | nil => simp
  | cons w ws ih =>
    simp only [List.length_cons, List.replicate_succ, List.zipWith_cons_cons, List.sum_cons, ih]
    ring

theorem dot_bounds (lo hi : K) (f r : List K) (hlen : f.length = r.length)
    (hr : ∀ w ∈ r, 0 ≤ w) (hf : ∀ x ∈ f, lo ≤ x ∧ x ≤ hi) :
    lo * r.sum ≤ (List.zipWith (· * ·) f r).sum ∧ (List.zipWith (· * ·) f r).sum ≤ hi * r.sum := by
  induction f, r, hlen using length_induction with
  | nil => simp
  | cons x xs w ws _ ih =>
    have hw : 0 ≤ w := hr w List.mem_cons_self
    obtain ⟨hx1, hx2⟩ := hf x List.mem_cons_self
    obtain ⟨i1, i2⟩ := ih (fun w' hw' => hr w' (List.mem_cons_of_mem _ hw'))
      (fun x' hx' => hf x' (List.mem_cons_of_mem _ hx'))
    simp only [List.zipWith_cons_cons, List.sum_cons, mul_add]
    exact ⟨add_le_add (mul_le_mul_of_nonneg_right hx1 hw) i1, add_le_add (mul_le_mul_of_nonneg_right hx2 hw) i2⟩

theorem dot_zero (f r : List K) (hr : ∀ w ∈ r, w = 0) : (List.zipWith (· * ·) f r).sum = 0 :=
  List.sum_eq_zero (zipWith_mem_imp _ _ f r fun a b hb => by rw [hr b hb, mul_zero])

/-- the one place where the interpolation formula of `np.interp` is read as a convex combination; bounds, signs and
constancy of interpolated values are then the convexity of `Icc`, `Ici`, `{c}` -/
theorem lerp_mem {s : Set K} (hs : Convex K s) {v0 v1 d t : K} (h0 : v0 ∈ s) (h1 : v1 ∈ s) (hd : 0 < d)
    (ht0 : 0 ≤ t) (ht1 : t ≤ d) : (v1 - v0) / d * t + v0 ∈ s := by
  have e : (v1 - v0) / d * t + v0 = (1 - t / d) • v0 + (t / d) • v1 := by simp only [smul_eq_mul]; ring
  rw [e]
  exact hs h0 h1 (sub_nonneg.2 ((div_le_one hd).2 ht1)) (div_nonneg ht0 hd.le) (sub_add_cancel 1 _)

theorem absS_eq (x : K) : absS x = |x| := by
  unfold absS
  simp only [scalar_ofNat, Nat.cast_zero]
  exact ite_neg_eq_abs _

theorem interpGo_mem {s : Set K} (hs : Convex K s) (x x0 f0 : K) (rest : List (K × K)) (hx : x0 ≤ x)
    (h0 : f0 ∈ s) (hr : ∀ q ∈ rest, q.2 ∈ s) : interpGo x x0 f0 rest ∈ s := by
  fun_induction interpGo x x0 f0 rest with
  | case1 => exact h0
  | case2 => exact h0
  | case3 x0 f0 x1 f1 rest hlt =>
    exact lerp_mem hs h0 (hr (x1, f1) List.mem_cons_self) (sub_pos.2 (hx.trans_lt hlt)) (sub_nonneg.2 hx)
      (sub_le_sub_right hlt.le _)
  | case4 x0 f0 x1 f1 rest hge ih =>
    exact ih (not_lt.1 hge) (hr (x1, f1) List.mem_cons_self) (fun q hq => hr q (List.mem_cons_of_mem _ hq))

theorem npInterp_mem {s : Set K} (hs : Convex K s) (x0 f0 : K) (rest : List (K × K))
    (h : ∀ q ∈ (x0, f0) :: rest, q.2 ∈ s) (x : K) : npInterp x0 f0 rest x ∈ s := by
  have h0 := h (x0, f0) List.mem_cons_self
  unfold npInterp
  split
  · exact h0
  · rename_i hx
    exact interpGo_mem hs x x0 f0 rest (not_lt.1 hx) h0 (fun q hq => h q (List.mem_cons_of_mem _ hq))

/-- `np.interp` stays within the range of the sample values (whatever the abscissae are) -/
theorem npInterp_bounds (lo hi x0 f0 : K) (rest : List (K × K))
    (h : ∀ q ∈ (x0, f0) :: rest, lo ≤ q.2 ∧ q.2 ≤ hi) (x : K) :
    lo ≤ npInterp x0 f0 rest x ∧ npInterp x0 f0 rest x ≤ hi :=
  npInterp_mem (convex_Icc lo hi) x0 f0 rest h x

theorem npInterp_left (x0 f0 : K) (rest : List (K × K)) (x : K) (h : x < x0) : npInterp x0 f0 rest x = f0 := by
  unfold npInterp; rw [if_pos h]

theorem npInterp_right (x0 f0 : K) (rest : List (K × K)) (x : K) (h : ∀ q ∈ (x0, f0) :: rest, q.1 ≤ x) :
    npInterp x0 f0 rest x = (((x0, f0) :: rest).getLast (List.cons_ne_nil _ _)).2 := by
  unfold npInterp
  rw [if_neg (not_lt.mpr (h (x0, f0) List.mem_cons_self))]
  rw [wave_interpGo_eq]
  exact interpGo_last x rest x0 f0 (fun q hq => h q (List.mem_cons_of_mem _ hq))

theorem weightsOf_length {ld : List K} {x0 f0 : K} {rest : List (K × K)} {w : List K} (h : ld.length = w.length) :
    (weightsOf ld x0 f0 rest w).length = w.length := by
  simp [weightsOf, h]

theorem weightsOf_reverse (ld : List K) (x0 f0 : K) (rest : List (K × K)) (w : List K) (h : ld.length = w.length) :
    weightsOf ld.reverse x0 f0 rest w.reverse = (weightsOf ld x0 f0 rest w).reverse := by
  unfold weightsOf
  rw [List.reverse_zipWith h]

theorem reshapeLike_map (g : K → K) : ∀ img : List (List K),
    reshapeLike img (img.flatten.map g) = img.map (List.map g)
  | [] => rfl
  | row :: rows => by
    simp only [reshapeLike, List.flatten_cons, List.map_append, List.map_cons]
    rw [List.take_left' (by simp), List.drop_left' (by simp), reshapeLike_map g rows]

end
end PydlVerif.C19
