/-
C04: what `chunks.__init__` guarantees about the grid it builds (`GridFacts`, `GridRoom`, `GridWidth`), over an arbitrary
linearly ordered field with floor and ARBITRARY transcendental functions (`TrigFns`): the shape of the grid depends only on the
`c ≤ 0 → raise` checks, not on what cos/sin/sqrt return.  Then the predicates in which the room of a second-list point is stated:
`SeamOK` over any such field, `visitedBand` and `BandRoom` over ℝ, where alone they are used.
-/
import PydlVerif.Model.Sphere
import PydlVerif.Lemmas.RealTrig
namespace PydlVerif.Sphere

/-- any functions in place of libm -/
class TrigFns (K : Type) where
  sqrt : K → K
  sin : K → K
  cos : K → K
  arcsin : K → K
  arccos : K → K
  atan2 : K → K → K
  pi : K

@[reducible] noncomputable def fieldTrig (K : Type) [Field K] [LinearOrder K] [IsStrictOrderedRing K]
    [FloorRing K] [F : TrigFns K] : Trig K where
  toScalar := fieldScalar K
  sqrt := F.sqrt
  sin := F.sin
  cos := F.cos
  arcsin := F.arcsin
  arccos := F.arccos
  atan2 := F.atan2
  pi := F.pi

@[reducible] noncomputable def realFns : TrigFns ℝ where
  sqrt := Real.sqrt
  sin := Real.sin
  cos := Real.cos
  arcsin := Real.arcsin
  arccos := Real.arccos
  atan2 y x := Complex.arg ⟨x, y⟩
  pi := Real.pi

/-- lemmas stated at `realTrig` (SphereHav) meet terms elaborated with the local instance `fieldTrig ℝ` at `realFns` only up to this `rfl`: they are
applied there with `erw` -/
theorem realTrig_eq : realTrig = @fieldTrig ℝ _ _ _ _ realFns := rfl

section
variable {K : Type} [Field K] [LinearOrder K] [IsStrictOrderedRing K] [FloorRing K] [TrigFns K]
attribute [local instance] fieldScalar fieldTrig
-- numerals in the statements below are the field's own, not `Scalar.ofNat`
attribute [-instance] Scalar.instOfNat Scalar.instOfScientific

/-- an array of `n+1` equally spaced edges from `b[0]` to `b[n]`, `b[0] < b[n]` -/
structure EdgesOK (b : Array K) (n : Nat) : Prop where
  pos : 0 < n
  size : b.size = n + 1
  lt : b.getD 0 0 < b.getD n 0
  lin : ∀ k, k ≤ n → b.getD k 0 = b.getD 0 0 + (b.getD n 0 - b.getD 0 0) * (k : K) / (n : K)

/-- band `d` of the grid: a positive cosine (else `__init__` raises), and edges that either embrace the whole circle [0, 360] or
stay more than one minimal cell `minSize / cosDecMin` away from 0 and from 360 -/
structure BandFacts (ms : K) (g : Grid K) (d : Nat) : Prop where
  cpos : 0 < cosDecMinOf g.decBounds d
  edges : EdgesOK (g.raBounds.getD d #[]) (g.nRa.getD d 0)
  extent : ((g.raBounds.getD d #[]).getD 0 0 = 0 ∧ (g.raBounds.getD d #[]).getD (g.nRa.getD d 0) 0 = 360) ∨
    (ms / cosDecMinOf g.decBounds d < (g.raBounds.getD d #[]).getD 0 0 ∧
     (g.raBounds.getD d #[]).getD (g.nRa.getD d 0) 0 < 360 - ms / cosDecMinOf g.decBounds d)

/-- the grid built by `chunks.__init__(ra, dec, ms)` -/
structure GridFacts (ra dec : Array K) (ms : K) (g : Grid K) : Prop where
  ms_pos : 0 < ms
  minSize_eq : g.minSize = ms
  nDec_ge : 3 ≤ g.nDec
  dec_edges : EdgesOK g.decBounds g.nDec
  /-- the polar rule: the first edge is -90 or at least one `ms` below every point; likewise the last edge -/
  dec_lo : g.decBounds.getD 0 0 = -90 ∨ (-90 < g.decBounds.getD 0 0 ∧ ∀ i, i < dec.size → g.decBounds.getD 0 0 + ms ≤ dec.getD i 0)
  dec_hi : g.decBounds.getD g.nDec 0 = 90 ∨ (g.decBounds.getD g.nDec 0 < 90 ∧ ∀ i, i < dec.size → dec.getD i 0 + ms ≤ g.decBounds.getD g.nDec 0)
  off : ∃ j : Nat, j < 6 ∧ g.raOffset = 360 * (j : K) / 6
  nRa_size : g.nRa.size = g.nDec
  raB_size : g.raBounds.size = g.nDec
  band : ∀ d, d < g.nDec → BandFacts ms g d

omit [FloorRing K] [TrigFns K] in
theorem sixth_range (j : Nat) (hj : j < 6) : 0 ≤ 360 * (j : K) / 6 ∧ 360 * (j : K) / 6 < 360 := by
  have hj6 : (j : K) < 6 := by exact_mod_cast hj
  exact ⟨div_nonneg (mul_nonneg (Nat.ofNat_nonneg 360) (Nat.cast_nonneg j)) (Nat.ofNat_nonneg 6),
    (div_lt_iff₀ Nat.ofNat_pos).2 (mul_lt_mul_of_pos_left hj6 Nat.ofNat_pos)⟩

namespace GridFacts
variable {ra dec : Array K} {ms : K} {g : Grid K}

theorem off_range (h : GridFacts ra dec ms g) : 0 ≤ g.raOffset ∧ g.raOffset < 360 := by
  obtain ⟨j, hj, hoff⟩ := h.off
  rw [hoff]
  exact sixth_range j hj

theorem dec_range (h : GridFacts ra dec ms g) :
    -90 ≤ g.decBounds.getD 0 0 ∧ g.decBounds.getD g.nDec 0 ≤ 90 :=
  ⟨h.dec_lo.elim (fun e => e.ge) (fun e => e.1.le), h.dec_hi.elim (fun e => e.le) (fun e => e.1.le)⟩

theorem dec_extent (h : GridFacts ra dec ms g) (i : Nat) (hi : i < dec.size) (δ : K)
    (h0 : -90 ≤ δ) (h1 : δ ≤ 90) (hd : |δ - dec.getD i 0| ≤ ms) :
    g.decBounds.getD 0 0 ≤ δ ∧ δ ≤ g.decBounds.getD g.nDec 0 := by
  obtain ⟨d1, d2⟩ := abs_le.1 hd
  constructor
  · rcases h.dec_lo with e | e
    · rw [e]; exact h0
    · linarith only [e.2 i hi, d1]
  · rcases h.dec_hi with e | e
    · rw [e]; exact h1
    · linarith only [e.2 i hi, d2]

end GridFacts

/-- more about band `d`, for the room at the seam; `room`: a band that does not embrace the circle leaves at least one minimal
cell `minSize / cosDecMin` between its first / last edge and every (offset) right ascension of the first list -/
structure BandRoomFacts (ra : Array K) (ms : K) (g : Grid K) (d : Nat) : Prop where
  ncells : (g.nRa.getD d 0 : K) ≤ 3 + cosDecMinOf g.decBounds d * 360 / ms
  room : ((g.raBounds.getD d #[]).getD 0 0 = 0 ∧ (g.raBounds.getD d #[]).getD (g.nRa.getD d 0) 0 = 360) ∨
    ∀ i, i < ra.size →
      (g.raBounds.getD d #[]).getD 0 0 + ms / cosDecMinOf g.decBounds d ≤ fmod360 (ra.getD i 0 + g.raOffset) ∧
      fmod360 (ra.getD i 0 + g.raOffset) + ms / cosDecMinOf g.decBounds d ≤
        (g.raBounds.getD d #[]).getD (g.nRa.getD d 0) 0

/-- more about the grid built by `chunks.__init__(ra, dec, ms)`, for the room at the seam -/
structure GridRoom (ra dec : Array K) (ms : K) (g : Grid K) : Prop where
  dec_lo3 : g.decBounds.getD 0 0 = -90 ∨ -90 + 3 * ms ≤ g.decBounds.getD 0 0
  dec_hi3 : g.decBounds.getD g.nDec 0 = 90 ∨ g.decBounds.getD g.nDec 0 ≤ 90 - 3 * ms
  band : ∀ d, d < g.nDec → BandRoomFacts ra ms g d

/-- sizes of the cells of the grid built by `chunks.__init__(ra, dec, ms)`: an unclipped declination extent is exactly ms·nDec, a band that does not
embrace the circle has cells at least ms/cosDecMin wide; nothing in C04 uses it, it serves C05's occupancy bound -/
structure GridWidth (ms : K) (g : Grid K) : Prop where
  dec_width : g.decBounds.getD 0 0 = -90 ∨ g.decBounds.getD g.nDec 0 = 90 ∨
    g.decBounds.getD g.nDec 0 - g.decBounds.getD 0 0 = ms * (g.nDec : K)
  ra_width : ∀ d, d < g.nDec →
    ((g.raBounds.getD d #[]).getD 0 0 = 0 ∧ (g.raBounds.getD d #[]).getD (g.nRa.getD d 0) 0 = 360) ∨
    ms / cosDecMinOf g.decBounds d * (g.nRa.getD d 0 : K) ≤
      (g.raBounds.getD d #[]).getD (g.nRa.getD d 0) 0 - (g.raBounds.getD d #[]).getD 0 0

/-- room at the seam for a point at declination `δq` in band `d`: the RA margin that `getbounds` uses there is at most one cell
of a band that embraces the circle, at most the gap between the last edge and the first edge + 360 of any other band -/
def SeamOK (g : Grid K) (d : Nat) (δq m : K) : Prop :=
  ((g.raBounds.getD d #[]).getD 0 0 = 0 ∧ (g.raBounds.getD d #[]).getD (g.nRa.getD d 0) 0 = 360 ∧
    raMarginOf (cosDecMinOf g.decBounds d) δq m ≤ (g.raBounds.getD d #[]).getD 1 0 - (g.raBounds.getD d #[]).getD 0 0) ∨
  raMarginOf (cosDecMinOf g.decBounds d) δq m ≤
    (g.raBounds.getD d #[]).getD 0 0 + 360 - (g.raBounds.getD d #[]).getD (g.nRa.getD d 0) 0

end

section real
attribute [local instance] realFns fieldScalar fieldTrig
attribute [-instance] Scalar.instOfNat Scalar.instOfScientific

/-- band `d` is one of the bands that `getbounds` visits for a point at declination `δq` -/
def visitedBand (g : Grid ℝ) (δq m : ℝ) (d : Nat) : Prop :=
  decDown g.decBounds δq m (decIndex g δq).toNat ≤ d ∧
  d ≤ decUp g.decBounds δq m (decIndex g δq).toNat (g.nDec - 1 - (decIndex g δq).toNat)

theorem visitedBand_index {g : Grid ℝ} {δq : ℝ} {d0 : Nat} (hd0 : decIndex g δq = (d0 : Int)) (m : ℝ) (d : Nat) :
    visitedBand g δq m d ↔
      decDown g.decBounds δq m d0 ≤ d ∧ d ≤ decUp g.decBounds δq m d0 (g.nDec - 1 - d0) := by
  unfold visitedBand
  rw [hd0, Int.toNat_natCast]

/-- room for the point (αq, δq) in band `d`: it lies inside the RA extent of the band (else
`getbounds` raises and `assign` drops the point) and there is room at the seam -/
def BandRoom (g : Grid ℝ) (d : Nat) (αq δq m : ℝ) : Prop :=
  ((g.raBounds.getD d #[]).getD 0 0 ≤ αq ∧ αq < (g.raBounds.getD d #[]).getD (g.nRa.getD d 0) 0) ∧
  SeamOK g d δq m

end real
end PydlVerif.Sphere
