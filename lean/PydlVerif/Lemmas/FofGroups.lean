/-
C05: the two inner loops of one pass of the main loop of `groups.__init__` (lines 432-460): the neighbour scan and one
relabelling.
-/
import PydlVerif.Lemmas.Fof
namespace PydlVerif.Fof

/-- state of the neighbour scan (lines 435-440) after the points `< k`: `minG` is `nG` or the label of a neighbour, and
the buffer `mult[0..nTmp)` holds exactly the neighbours.  That `minG` is the LEAST such label is not recorded: no step of
the proof that `groups` computes the friends-of-friends partition needs it (the label of any neighbour would serve). -/
structure ScanInv (close : Nat → Nat → Bool) (inG : Arr Nat) (i nG k : Nat) (a : Scan) : Prop where
  le : a.minG ≤ nG
  src : a.minG = nG ∨ ∃ j, j < k ∧ close i j = true ∧ inG.get j = a.minG
  nbr : ∀ jj, jj < a.nTmp → a.mult.get jj < k ∧ close i (a.mult.get jj) = true
  all : ∀ j, j < k → close i j = true → ∃ jj, jj < a.nTmp ∧ a.mult.get jj = j

theorem scanInv_step (close : Nat → Nat → Bool) (inG : Arr Nat) (i nG k : Nat) (a : Scan)
    (h : ScanInv close inG i nG k a) : ScanInv close inG i nG (k+1) (scanStep close inG i a k) := by
  unfold scanStep
  by_cases hc : close i k = true
  · simp only [hc, if_true]
    refine ⟨?_, ?_, ?_, ?_⟩
    all_goals dsimp only
    · have := h.le; omega
    · by_cases hm : a.minG ≤ inG.get k
      · rw [Nat.min_eq_left hm]
        rcases h.src with e | ⟨j, a1, a2, a3⟩
        · exact Or.inl e
        · exact Or.inr ⟨j, by omega, a2, a3⟩
      · rw [Nat.min_eq_right (by omega)]
        exact Or.inr ⟨k, by omega, hc, rfl⟩
    · intro jj hjj
      simp only [upd_get]
      by_cases he : jj = a.nTmp
      · simp only [he, if_true]; exact ⟨by omega, hc⟩
      · simp only [he, if_false]
        have := h.nbr jj (by omega)
        exact ⟨by omega, this.2⟩
    · intro j hj hcj
      by_cases hjk : j = k
      · exact ⟨a.nTmp, by omega, by simp [hjk]⟩
      · obtain ⟨jj, a1, a2⟩ := h.all j (by omega) hcj
        refine ⟨jj, by omega, ?_⟩
        have : jj ≠ a.nTmp := by omega
        simp [this, a2]
  · have hcf : close i k = false := by simpa using hc
    simp only [hcf, Bool.false_eq_true, if_false]
    have hlt : ∀ j, j < k + 1 → close i j = true → j < k := by
      intro j hj hcj
      have : j ≠ k := fun e => by subst e; rw [hcf] at hcj; cases hcj
      omega
    refine ⟨h.le, h.src.imp_right (fun ⟨j, a1, a2, a3⟩ => ⟨j, by omega, a2, a3⟩),
      fun jj hjj => ⟨by have := (h.nbr jj hjj).1; omega, (h.nbr jj hjj).2⟩,
      fun j hj hcj => h.all j (hlt j hj hcj) hcj⟩

/-- one relabelling (lines 444-450) -/
theorem relabelOne_get (g0 : Arr Nat) (n i minG : Nat) (hi : i ≤ n) (L : Lists) (hL : IsLists g0 0 i L)
    (mult : Arr Nat) (a : Arr Nat × Bool) (jj : Nat) :
    (∀ x, (relabelOne n minG L mult a jj).1.get x =
      if x = mult.get jj ∨ (a.1.get (mult.get jj) < n ∧ x < i ∧ g0.get x = a.1.get (mult.get jj)) then minG
      else a.1.get x) ∧
    (relabelOne n minG L mult a jj).2 = a.2 := by
  unfold relabelOne
  by_cases hlt : a.1.get (mult.get jj) < n
  · simp only [hlt, if_true, true_and]
    refine ⟨fun x => ?_, ?_⟩
    · simp only [upd_get, foldl_upd_const, mem_walk_first g0 i n L hL hi]
      by_cases hx : x = mult.get jj <;> simp [hx]
    · show (a.2 && walkEnds L.next n (L.first.get (a.1.get (mult.get jj)))) = a.2
      rw [(walk_first g0 i n L hL hi _).1, Bool.and_true]
  · simp only [hlt, if_false, false_and, or_false]
    exact ⟨fun x => rfl, trivial⟩

end PydlVerif.Fof
