/-
C04: the combinatorics of `spherematch`: pair loop, sorting permutation, maxmatch bookkeeping.
-/
import PydlVerif.Model.Sphere
import PydlVerif.Lemmas.ListBasics
namespace PydlVerif.Sphere

/-- the specification list: all pairs closer than the match length, in index order -/
def closePairs {α : Type} [LT α] [DecidableLT α] (n1 n2 : Nat) (sep : Nat → Nat → α) (ml : α) :
    List (Pair α) :=
  (List.range n1).flatMap fun i =>
    ((List.range n2).filter fun k => decide (sep i k < ml)).map fun k => (i, k, sep i k)

theorem perm_flatMap_of_forall {β γ : Type} (l : List β) (f g : β → List γ)
    (h : ∀ a ∈ l, (f a).Perm (g a)) : (l.flatMap f).Perm (l.flatMap g) := by
  induction l with
  | nil => simp
  | cons a l ih =>
    simp only [List.flatMap_cons]
    exact List.Perm.append (h a (by simp)) (ih fun b hb => h b (by simp [hb]))

theorem matchRaw_perm {α Cell : Type} [LT α] [DecidableLT α] (n1 n2 : Nat) (cellOf : Nat → Cell)
    (chunkList : Cell → List Nat) (sep : Nat → Nat → α) (ml : α)
    (hnd : ∀ i < n1, (chunkList (cellOf i)).Nodup)
    (hrange : ∀ i < n1, ∀ k ∈ chunkList (cellOf i), k < n2)
    (hcover : ∀ i < n1, ∀ k < n2, sep i k < ml → k ∈ chunkList (cellOf i)) :
    (matchRaw n1 cellOf chunkList sep ml).Perm (closePairs n1 n2 sep ml) := by
  unfold matchRaw closePairs
  apply perm_flatMap_of_forall
  intro i hi
  have hi' : i < n1 := by simpa using hi
  apply List.Perm.map
  apply (List.perm_ext_iff_of_nodup ((hnd i hi').filter _) (List.nodup_range.filter _)).2
  intro k
  simp only [List.mem_filter, List.mem_range, decide_eq_true_eq]
  constructor
  · rintro ⟨h1, h2⟩; exact ⟨hrange i hi' k h1, h2⟩
  · rintro ⟨h1, h2⟩; exact ⟨hcover i hi' k h1 h2, h2⟩

theorem closePairs_mem {α : Type} [LT α] [DecidableLT α] (n1 n2 : Nat) (sep : Nat → Nat → α) (ml : α)
    (p : Pair α) : p ∈ closePairs n1 n2 sep ml ↔
      p.1 < n1 ∧ p.2.1 < n2 ∧ sep p.1 p.2.1 < ml ∧ p.2.2 = sep p.1 p.2.1 := by
  obtain ⟨i, k, d⟩ := p
  simp only [closePairs, List.mem_flatMap, List.mem_range, List.mem_map, List.mem_filter,
    decide_eq_true_eq, Prod.mk.injEq]
  constructor
  · rintro ⟨a, ha, b, ⟨hb, hs⟩, rfl, rfl, rfl⟩; exact ⟨ha, hb, hs, rfl⟩
  · rintro ⟨h1, h2, h3, h4⟩; exact ⟨i, h1, k, ⟨h2, h3⟩, rfl, rfl, h4.symm⟩

theorem closePairs_nodup {α : Type} [LT α] [DecidableLT α] (n1 n2 : Nat) (sep : Nat → Nat → α) (ml : α) :
    ((closePairs n1 n2 sep ml).map fun p => (p.1, p.2.1)).Nodup := by
  unfold closePairs
  simp only [List.map_flatMap, List.map_map]
  refine List.pairwise_flatMap.2 ⟨fun i _ => ?_, ?_⟩
  · have hf : ((List.range n2).filter fun k => decide (sep i k < ml)).Nodup := List.nodup_range.filter _
    refine List.Pairwise.map _ ?_ hf
    intro a b hab h
    simp only [Function.comp, Prod.mk.injEq, true_and] at h
    exact hab h
  · apply List.Pairwise.imp _ (List.nodup_range (n := n1))
    intro a b hab x hx y hy hxy
    simp only [List.mem_map, Function.comp] at hx hy
    obtain ⟨k, _, hk⟩ := hx
    obtain ⟨k', _, hk'⟩ := hy
    rw [← hk, ← hk'] at hxy
    exact hab (Prod.mk.inj hxy).1

theorem applyPerm_range {β : Type} [Inhabited β] (l : List β) : applyPerm l (List.range l.length) = l :=
  map_range_getD l default

theorem applyPerm_perm {β : Type} [Inhabited β] (l : List β) (s : List Nat)
    (hs : s.Perm (List.range l.length)) : (applyPerm l s).Perm l :=
  map_getD_perm l default s hs

/-- counters after the selected pairs `xs` were booked -/
def addCounts (g : Nat → Nat) (xs : List Nat) : Nat → Nat := fun j => g j + xs.count j

theorem addCounts_nil (g : Nat → Nat) : addCounts g [] = g := by
  funext j; simp [addCounts]

theorem addCounts_bump (g : Nat → Nat) (i : Nat) (xs : List Nat) :
    addCounts (bump g i) xs = addCounts g (i :: xs) := by
  funext j
  simp only [addCounts, bump, List.count_cons]
  by_cases h : j = i
  · subst h; simp; omega
  · have : ¬ i = j := fun e => h e.symm
    simp [h, this]

theorem greedyFill_append {α : Type} (k : Nat) (pre rest : List (Pair α)) (g1 g2 : Nat → Nat) :
    greedyFill k (pre ++ rest) g1 g2 =
      greedyFill k pre g1 g2 ++
        greedyFill k rest (addCounts g1 ((greedyFill k pre g1 g2).map (·.1)))
          (addCounts g2 ((greedyFill k pre g1 g2).map (·.2.1))) := by
  induction pre generalizing g1 g2 with
  | nil => simp [greedyFill, addCounts_nil]
  | cons p pre ih =>
    obtain ⟨i, j, d⟩ := p
    simp only [List.cons_append, greedyFill]
    by_cases h : g1 i < k ∧ g2 j < k
    · simp only [h, and_self, if_true, List.map_cons, List.cons_append, List.cons.injEq, true_and]
      rw [ih, addCounts_bump, addCounts_bump]
    · simp only [h, if_false]
      rw [ih]

theorem greedyCount_eq_length {α : Type} (k : Nat) (l : List (Pair α)) (g1 g2 : Nat → Nat) :
    greedyCount k l g1 g2 = (greedyFill k l g1 g2).length := by
  induction l generalizing g1 g2 with
  | nil => simp [greedyCount, greedyFill]
  | cons p l ih =>
    obtain ⟨i, j, d⟩ := p
    simp only [greedyCount, greedyFill]
    by_cases h : g1 i < k ∧ g2 j < k
    · simp [h, ih]
    · simp [h, ih]

theorem greedyFill_sublist {α : Type} (k : Nat) (l : List (Pair α)) (g1 g2 : Nat → Nat) :
    (greedyFill k l g1 g2).Sublist l := by
  induction l generalizing g1 g2 with
  | nil => simp [greedyFill]
  | cons p l ih =>
    obtain ⟨i, j, d⟩ := p
    simp only [greedyFill]
    by_cases h : g1 i < k ∧ g2 j < k
    · simp only [h, and_self, if_true]; exact (ih _ _).cons_cons _
    · simp only [h, if_false]; exact (ih _ _).cons _

theorem max_bump_le (g : Nat → Nat) (i x k : Nat) (h : g i < k) : max (bump g i x) k ≤ max (g x) k := by
  unfold bump
  split
  · subst_vars; omega
  · exact Nat.le_refl _

theorem greedyFill_count {α : Type} (k : Nat) (l : List (Pair α)) (g1 g2 : Nat → Nat) (x : Nat) :
    g1 x + ((greedyFill k l g1 g2).map (·.1)).count x ≤ max (g1 x) k ∧
    g2 x + ((greedyFill k l g1 g2).map (·.2.1)).count x ≤ max (g2 x) k := by
  induction l generalizing g1 g2 with
  | nil => exact ⟨Nat.le_max_left _ _, Nat.le_max_left _ _⟩
  | cons p l ih =>
    obtain ⟨i, j, d⟩ := p
    simp only [greedyFill]
    by_cases h : g1 i < k ∧ g2 j < k
    · simp only [h, and_self, if_true, List.map_cons]
      obtain ⟨ih1, ih2⟩ := ih (bump g1 i) (bump g2 j)
      exact ⟨Nat.le_trans (Nat.le_of_eq (congrFun (addCounts_bump g1 i _) x).symm)
          (Nat.le_trans ih1 (max_bump_le g1 i x k h.1)),
        Nat.le_trans (Nat.le_of_eq (congrFun (addCounts_bump g2 j _) x).symm)
          (Nat.le_trans ih2 (max_bump_le g2 j x k h.2))⟩
    · simp only [h, if_false]; exact ih _ _

end PydlVerif.Sphere
