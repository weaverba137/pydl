/-
The written file as the reader sees it: the front half of `_parse` on definition blocks between inert texts (`Inert`,
`front_layout`), and what the reader computes from the written definitions - typing, symbol table, enum cache,
typedef selection.
-/
import PydlVerif.Lemmas.YannyCanonDefs
namespace PydlVerif.YannyRT
open PydlVerif.Yanny

variable {F : Type}

theorem tokOK_of_strOK (s : Str) (h : strOK s = true) : tokOK s = true := by
  simp only [strOK, Bool.and_eq_true, List.all_eq_true] at h
  simp only [tokOK, Bool.and_eq_true]
  refine ⟨⟨h.1.2, h.2⟩, ?_⟩
  simpa [cellChar] using h.1.1 '\n'

theorem scFits_of_scOK (c : Col) (labs : Option (List Str)) (arr : Bool) (v : Sc F)
    (h : scOK c.ty labs arr v = true) : scFits (convOfCol c) arr v = true := by
  cases v with
  | int n => exact YannyLay.scKind_of_scOK c labs arr _ h
  | flt w x => exact YannyLay.scKind_of_scOK c labs arr _ h
  | str s =>
    simp only [scOK, Bool.and_eq_true] at h
    obtain ⟨⟨hlen, hs⟩, _⟩ := h
    obtain ⟨m, hm, _⟩ := strLen_size c.ty s hlen
    have hconv : convOfCol c = .str := (strCol [] c m hm).1
    cases arr with
    | false =>
      simp only [Bool.false_eq_true, if_false] at hs
      simp [scFits, hconv, tokOK_of_strOK s hs]
    | true =>
      simp only [if_true, arrElemOK, Bool.and_eq_true] at hs
      have := not_contains_mem hs.2
      simp [scFits, hconv, tokOK_of_strOK s hs.1, this]

theorem rowFits_of_cellsOK (enums : List EnumDecl) (cols : List Col) (r : List (Cell F))
    (h : cellsOK enums cols r = true) : rowFits (cols.map specOfCol) r = true := by
  fun_induction cellsOK enums cols r with
  | case1 => rfl
  | case3 => cases h
  | case2 c cs x xs ih =>
    rw [Bool.and_eq_true] at h
    simp only [List.map, rowFits, Bool.and_eq_true]
    refine ⟨?_, ih h.2⟩
    cases x with
    | one v =>
      have h1 := h.1
      simp only [cellOK, Bool.and_eq_true, beq_iff_eq] at h1
      have h0 : ¬ c.alen > 0 := by omega
      simp [cellFits, specOfCol, h0, scFits_of_scOK c _ false v h1.2]
    | many vs =>
      have h1 := h.1
      simp only [cellOK, Bool.and_eq_true, decide_eq_true_eq, beq_iff_eq, List.all_eq_true] at h1
      obtain ⟨⟨h0, hl⟩, hv⟩ := h1
      simp only [cellFits, specOfCol, h0, decide_true, Bool.true_and, Bool.and_eq_true,
        Bool.not_eq_true', List.all_eq_true]
      refine ⟨?_, fun v hvm => scFits_of_scOK c _ true v (hv v hvm)⟩
      -- `vs` has `c.alen > 0` elements
      cases vs with
      | nil => exact absurd hl (by simp; omega)
      | cons a t => rfl

theorem tableOK_props (io : FloatIO F) (enums : List EnumDecl) (t : TableD F) (h : tableOK io enums t = true) :
    wordOK t.name = true ∧ t.cols ≠ [] ∧ (∀ c ∈ t.cols, colOK c = true) ∧
    nodup (t.cols.map (·.name)) = true ∧ ∀ r ∈ t.rows, rowOK io enums t.name t.cols r = true := by
  simp only [tableOK, Bool.and_eq_true, List.all_eq_true, Bool.not_eq_true'] at h
  obtain ⟨⟨⟨⟨hw, hne⟩, hc⟩, hn⟩, hr⟩ := h
  exact ⟨hw, List.isEmpty_eq_false_iff.mp hne, hc, hn, hr⟩

/-- the `#%yanny` line, the comment block and the header pairs -/
def headText (d : Doc F) : Str :=
  "#%yanny\n".toList ++ d.comments ++ (d.hdr.map (fun kv => kv.1 ++ ' ' :: kv.2 ++ ['\n'])).flatten

/-- the empty line after the definitions and the data lines -/
def dataText (io : FloatIO F) (d : Doc F) : Str := '\n' :: (d.tables.map (rowLines io)).flatten

theorem hdr_lines (hdr : List (Str × Str)) :
    (hdr.map (fun kv => kv.1 ++ ' ' :: kv.2 ++ ['\n'])).flatten =
      ((hdr.map (fun kv => kv.1 ++ ' ' :: kv.2)).map (fun l => l ++ ['\n'])).flatten := by
  simp [List.map_map, Function.comp_def]

/-- what the front half needs of a line -/
def LineOK (l : Str) : Prop := noTypedef l = true ∧ '\n' ∉ l ∧ noCont l = true

theorem pair_lineOK (tnames : List Str) (kv : Str × Str) (h : pairOK tnames kv = true) :
    LineOK (kv.1 ++ ' ' :: kv.2) := by
  have hp := pairOK_props tnames kv h
  have hbs := hp.bs
  refine ⟨hp.nt, ?_, noCont_of_rstrip _ ?_⟩
  · simp only [List.mem_append, List.mem_cons, not_or]
    exact ⟨fun hm => (hp.key _ hm).2.1 rfl, by decide, hp.val_nonl⟩
  · intro e
    simp [endsBackslash, e] at hbs

/-- a stretch of text the front half of `_parse` passes over, whatever follows it -/
def Inert (X : Str) : Prop := (∀ kw B, noMatchIn kw X B) ∧ YannyLayCont.ChunkRel X X

theorem Inert.nil : Inert [] := ⟨fun kw B => noMatchIn_nil kw B, fun _ => rfl⟩

theorem Inert.cuts {X : Str} (h : Inert X) (kw : Str) : Cuts kw X [] X := Cuts.of_noMatch (h.1 kw)

theorem Inert.append {X Y : Str} (hX : Inert X) (hY : Inert Y) : Inert (X ++ Y) :=
  ⟨fun kw B => noMatchIn_append kw X Y B (hX.1 kw _) (hY.1 kw B), hX.2.append hY.2⟩

theorem inert_line (l : Str) (h : LineOK l) : Inert (l ++ ['\n']) :=
  ⟨fun kw B => noMatchIn_line kw l B h.1, noCont_chunk l h.2.1 h.2.2⟩

/-- whatever the line structure of `x` -/
theorem inert_plain (x : Str) (h1 : noTypedef x = true) (h2 : '\\' ∉ x) : Inert (x ++ ['\n']) :=
  ⟨fun kw B => noMatchIn_line kw x B h1, YannyLayCont.nobs_chunk _ (by simp [h2])⟩

theorem inert_lines (ls : List Str) (h : ∀ l ∈ ls, LineOK l) : Inert (linesText ls) := by
  induction ls with
  | nil => exact Inert.nil
  | cons l t ih =>
    rw [List.forall_mem_cons] at h
    rw [linesText_cons, ← List.singleton_append, ← List.append_assoc]
    exact (inert_line l h.1).append (ih h.2)

theorem head_inert (d : Doc F) (hc : commentsOK d.comments = true)
    (hp : ∀ kv ∈ d.hdr, LineOK (kv.1 ++ ' ' :: kv.2)) : Inert (headText d) := by
  unfold headText
  rw [hdr_lines, List.append_assoc]
  refine (?_ : Inert _).append (Inert.append ?_ (inert_lines _ (List.forall_mem_map.mpr hp)))
  · simp only [String.reduceToList]
    exact inert_plain ['#', '%', 'y', 'a', 'n', 'n', 'y'] (by decide) (by decide)
  · simp only [commentsOK, Bool.and_eq_true, Bool.or_eq_true, Bool.not_eq_true'] at hc
    obtain ⟨⟨⟨⟨hend, _⟩, hbs⟩, _⟩, hnt⟩ := hc
    rcases hend with he | he
    · rw [List.isEmpty_iff.mp he]
      exact Inert.nil
    · obtain ⟨c', hc'⟩ : ∃ c', d.comments = c' ++ ['\n'] := List.getLast?_eq_some_iff.mp (by simpa using he)
      rw [hc'] at hnt hbs ⊢
      exact inert_plain c' (noTypedef_prefix c' ['\n'] (by simpa [noTypedef] using hnt))
        fun hm => by simp [hm] at hbs

theorem mem_defsBlock (texts : List Str) (c : Char) (h : c ∈ defsBlock texts) :
    c = '\n' ∨ ∃ t ∈ texts, c ∈ t := by
  unfold defsBlock at h
  split at h
  · cases h
  · simp only [List.mem_cons, List.mem_append, List.mem_nil_iff, or_false] at h
    rcases h with h | h | h
    · exact Or.inl h
    · rcases mem_joinWith _ _ _ h with h | h
      · simp only [List.mem_cons, List.mem_nil_iff, or_false, or_self] at h
        exact Or.inl h
      · exact Or.inr h
    · exact Or.inl h

theorem defsBlock_nobs (texts : List Str) (h : ∀ t ∈ texts, '\\' ∉ t) : '\\' ∉ defsBlock texts := by
  intro hm
  rcases mem_defsBlock _ _ hm with h' | ⟨t, ht, hc⟩
  · exact absurd h' (by decide)
  · exact h t ht hc

/-- the `TDef`s the reader extracts for a list of blocks -/
def tdefsOf (K : Str) (bs : List (Str × Str)) : List TDef :=
  bs.map (fun b => ⟨blockText K b.1 b.2, b.1, b.2⟩)

/-- the front half of `_parse` on a text laid out like a written file: enum blocks and struct blocks between
any inert texts `A` and `Z` -/
theorem front_layout (A Z : Str) (ebs sbs : List (Str × Str))
    (he : ∀ b ∈ ebs, blockOK b.1 b.2 ∧ '\\' ∉ b.1) (hs : ∀ b ∈ sbs, blockOK b.1 b.2 ∧ '\\' ∉ b.1)
    (hnd : nodup (sbs.map (fun b => upper b.2)) = true) (hA : Inert A) (hZ : Inert Z) :
    front (A ++ (defsBlock (blocksOf "enum".toList ebs) ++ (defsBlock (blocksOf "struct".toList sbs) ++ Z))) =
      ⟨tdefsOf "struct".toList sbs, tdefsOf "enum".toList ebs, sbs.map (fun b => (upper b.2, columnsOf b.1)),
       A ++ ((defsBlock (ebs.map (fun _ => ([] : Str))) ++ defsBlock (sbs.map (fun _ => ([] : Str)))) ++ Z)⟩ := by
  have ks : isKw "struct".toList := Or.inl rfl
  have ke : isKw "enum".toList := Or.inr rfl
  -- a block has no backslash when its body has none: its name is a word
  have hdefs : ∀ K (bs : List (Str × Str)), isKw K → (∀ b ∈ bs, blockOK b.1 b.2 ∧ '\\' ∉ b.1) →
      YannyLayCont.ChunkRel (defsBlock (blocksOf K bs)) (defsBlock (blocksOf K bs)) :=
    fun K bs hK h => YannyLayCont.nobs_chunk _ (defsBlock_nobs _ (List.forall_mem_map.mpr fun b hb =>
      blockText_blockL K b.1 b.2 ▸ YannyLayCont.block_nobs K _ _ b.1 _ b.2 _ hK (by decide) (by decide) (by decide)
        (by simp) (h b hb).2 (h b hb).1.2.2.2))
  have hcf := YannyLayCont.chunk_joinCont (hA.2.append ((hdefs _ ebs ke he).append ((hdefs _ sbs ks hs).append hZ.2)))
  have hbe := fun b hb => (he b hb).1
  have hbs := fun b hb => (hs b hb).1
  -- the struct expression passes over the enum blocks and cuts out the struct blocks; the enum expression cuts
  -- out the enum blocks and passes over the struct blocks, and over the empty lines left of them
  have c1 := ((hA.cuts _).append ((Cuts.of_noMatch fun B => noMatchIn_defs _ _ ebs B ke ks (by decide) hbe).append
    ((cuts_defs_same _ sbs ks hbs).append (hZ.cuts _)))).whole
  have c2 := ((hA.cuts _).append ((cuts_defs_same _ ebs ke hbe).append
    ((Cuts.of_noMatch fun B => noMatchIn_defs _ _ sbs B ks ke (by decide) hbs).append (hZ.cuts _)))).whole
  have c3 := ((hA.cuts "enum".toList).append ((cuts_defs_same _ ebs ke hbe).append
    ((Cuts.of_noMatch fun B => noMatchIn_nls _ _ B (defsBlock_blank_nls sbs)).append (hZ.cuts _)))).whole
  simp only [List.nil_append, List.append_nil] at c1 c2 c3
  unfold front tdefsOf
  simp only [hcf, c1.1, c1.2, c2.1, c3.2, List.foldl_map]
  rw [foldl_symInsert sbs (fun b => upper b.2) (fun b => columnsOf b.1) [] hnd (by intro e he'; cases he'),
    List.nil_append, List.append_assoc]

/-- the enum blocks `renderFile` writes: none when there is no table -/
def enumBlocks (d : Doc F) : List (Str × Str) :=
  if d.tables.isEmpty then [] else d.enums.map (fun e => (enumBody e.labels, upper e.tyName))

def structBlocks (d : Doc F) : List (Str × Str) :=
  d.tables.map (fun t => (structBody (t.cols.map (member d.enums)), upper t.name))

/-- the struct texts of a document (`_symbols['struct']` after reading) -/
def structsOf (d : Doc F) : List Str := d.tables.map (fun t => structText d.enums t.name t.cols)

theorem enumTexts_shape (d : Doc F) (he : ∀ e ∈ d.enums, enumOK e = true) :
    (if d.tables.isEmpty then [] else d.enums.map enumText) = blocksOf "enum".toList (enumBlocks d) := by
  unfold enumBlocks blocksOf
  split
  · rfl
  · rw [List.map_map]
    exact List.map_congr_left fun e hm => enumText_shape e (he e hm)

theorem blocksOf_struct (d : Doc F) : blocksOf "struct".toList (structBlocks d) = structsOf d := by
  unfold blocksOf structBlocks structsOf
  rw [List.map_map]
  apply List.map_congr_left
  intro t _
  simp only [structText, Function.comp]

theorem texts_written (d : Doc F) : (tdefsOf "struct".toList (structBlocks d)).map (·.text) = structsOf d := by
  unfold tdefsOf
  rw [List.map_map]
  exact blocksOf_struct d

theorem render_shape (io : FloatIO F) (d : Doc F) (he : ∀ e ∈ d.enums, enumOK e = true)
    (hsup : ∀ t ∈ d.tables, ∀ c ∈ t.cols, supported c.ty = true) :
    renderFile io d = .ok (headText d ++ (defsBlock (blocksOf "enum".toList (enumBlocks d)) ++
      (defsBlock (blocksOf "struct".toList (structBlocks d)) ++ dataText io d))) := by
  have hst := structTexts_shape d.enums d.tables hsup
  have hen := enumTexts_shape d he
  unfold renderFile headText dataText
  rw [blocksOf_struct]
  simp only [hst]
  rw [hen]
  generalize "#%yanny\n".toList = h0
  generalize blocksOf "enum".toList (enumBlocks d) = E
  simp only [structsOf, List.append_assoc, List.cons_append, List.nil_append]

theorem typeSearch_written (enums : List EnumDecl) (he : ∀ e ∈ enums, enumOK e = true) (name : Str)
    (cols : List Col) (hc : ∀ c ∈ cols, colOK c = true) (hn : nodup (cols.map (·.name)) = true)
    (c : Col) (hm : c ∈ cols) :
    typeSearch c.name (structText enums name cols) = some (tyWord enums c, arrSuffix enums c) := by
  refine typeSearch_struct (cols.map (member enums)) (upper name) ?_ ?_
    (member enums c) (List.mem_map.mpr ⟨c, hm, rfl⟩)
  · exact List.forall_mem_map.mpr fun x hx => member_ok enums x (hc x hx) he
  · rw [List.map_map]
    exact nodup_Nodup _ hn

theorem all_zip_map {α β : Type} (l : List α) (f : α → β) (P : α × β → Bool) :
    (l.zip (l.map f)).all P = true ↔ ∀ a ∈ l, P (a, f a) = true := by
  induction l with
  | nil => simp
  | cons x t ih => simp [ih]

theorem select_written (d : Doc F) (hsup : ∀ t ∈ d.tables, ∀ c ∈ t.cols, supported c.ty = true)
    (hsel : selectOK d = true) :
    ∀ t ∈ d.tables, selectDef (structsOf d) (upper t.name) = some (structText d.enums t.name t.cols) := by
  have hst := structTexts_shape d.enums d.tables hsup
  simp only [selectOK, hst] at hsel
  intro t hm
  simpa [structsOf] using (all_zip_map d.tables (fun t => structText d.enums t.name t.cols) _).mp hsel t hm

theorem typing_written (io : FloatIO F) (d : Doc F) (he : ∀ e ∈ d.enums, enumOK e = true)
    (cache : List (Str × List Str))
    (hcache : ∀ e ∈ d.enums, lookupLast (upper e.tyName) cache = some e.labels)
    (hnum : ∀ w ∈ numWords, lookupLast w cache = none)
    (t : TableD F) (ht : tableOK io d.enums t = true)
    (hsel : selectDef (structsOf d) (upper t.name) = some (structText d.enums t.name t.cols)) :
    colSpecs (structsOf d) (upper t.name) (t.cols.map (·.name)) = .ok (t.cols.map specOfCol) ∧
    ∀ c ∈ t.cols, ∀ data : List (Cell F),
      rcolOf (structsOf d) cache (upper t.name) c.name data = .ok (rcolCanon d.enums c) := by
  obtain ⟨_, _, hcol, hnd, _⟩ := tableOK_props io d.enums t ht
  have hty := fun c hc =>
    typeOf_of_search _ _ _ d.enums c hsel (typeSearch_written d.enums he t.name t.cols hcol hnd c hc)
  refine ⟨?_, ?_⟩
  · apply colSpecs_of_each
    intro c hc
    exact YannyLay.colSpec_of_typ _ _ d.enums c (hty c hc) (hcol c hc) he
  · intro c hc data
    exact YannyLay.rcolOf_of_typ _ cache _ d.enums c data (hty c hc) (hcol c hc) he
      (fun e hf => hcache e (List.mem_of_find?_eq_some hf)) hnum

theorem symtab_written (io : FloatIO F) (d : Doc F) (he : ∀ e ∈ d.enums, enumOK e = true)
    (ht : ∀ t ∈ d.tables, tableOK io d.enums t = true) :
    (structBlocks d).map (fun b => (upper b.2, columnsOf b.1)) =
      d.tables.map (fun t => (upper t.name, t.cols.map (·.name))) := by
  unfold structBlocks
  rw [List.map_map]
  apply List.map_congr_left
  intro t hm
  obtain ⟨hw, _, hcol, _, _⟩ := tableOK_props io d.enums t (ht t hm)
  have hms : ∀ m ∈ t.cols.map (member d.enums), memOK m :=
    List.forall_mem_map.mpr fun x hx => member_ok d.enums x (hcol x hx) he
  simp only [Function.comp, (upper_wordOK t.name hw).2, columnsOf_structBody _ hms, List.map_map]
  rfl

theorem cache_written (d : Doc F) (he : ∀ e ∈ d.enums, enumOK e = true)
    (het : nodup (d.enums.map (fun e => upper e.tyName)) = true) (hne : d.tables ≠ []) :
    (∀ e ∈ d.enums, lookupLast (upper e.tyName) (enumCache (tdefsOf "enum".toList (enumBlocks d))) = some e.labels) ∧
    ∀ w ∈ numWords, lookupLast w (enumCache (tdefsOf "enum".toList (enumBlocks d))) = none := by
  have hemp : d.tables.isEmpty = false := List.isEmpty_eq_false_iff.mpr hne
  have hc : enumCache (tdefsOf "enum".toList (enumBlocks d)) = d.enums.map (fun e => (upper e.tyName, e.labels)) := by
    unfold enumCache tdefsOf enumBlocks
    simp only [hemp, Bool.false_eq_true, if_false]
    rw [List.map_map, List.map_map]
    apply List.map_congr_left
    intro e hm
    obtain ⟨_, hne', hl⟩ := enumOK_props e (he e hm)
    simp only [Function.comp, splitComma_enumBody e.labels hne' hl]
  rw [hc]
  exact cache_lookup d.enums het

theorem tdName_structText (enums : List EnumDecl) (name : Str) (cols : List Col) (hn : wordOK name = true) :
    tdName (structText enums name cols) = some (upper name) := by
  rw [tdName_eq, structText, blockText_blockL]
  exact YannyLayBlock.tdNameOf_blockL _ _ _ _ _ _ _ (by decide) (by simp) (wordy_upper _ (wordOK_wordy _ hn))

theorem selectDef_by_name {α : Type} (l : List α) (key : α → Str) (txt : α → Str)
    (hname : ∀ a ∈ l, tdName (txt a) = some (key a)) (hup : ∀ a ∈ l, upper (key a) = key a)
    (hnd : nodup (l.map key) = true) (a : α) (ha : a ∈ l) :
    selectDef (l.map txt) (key a) = some (txt a) := by
  have hd : ((l.map fun b => (key b, txt b)).map fun d => upper d.1).Nodup := by
    rw [List.map_map, show l.map ((fun d => upper d.1) ∘ fun b => (key b, txt b)) = l.map key from
      List.map_congr_left fun b hb => hup b hb]
    exact nodup_Nodup _ hnd
  have := selectDef2_by_name (l.map fun b => (key b, txt b))
    (List.forall_mem_map.mpr fun b hb => hname b hb) hd (key a, txt a) (List.mem_map_of_mem ha) (key a) rfl
  rwa [List.map_map, ← selectDef_eq] at this

/-- the `selectOK` conjunct of `docOK` follows from the others: with table names distinct ignoring
case, `type()` finds each table's own definition by its trailing `} NAME;` -/
theorem selectOK_of_names (d : Doc F) (hsup : ∀ t ∈ d.tables, ∀ c ∈ t.cols, supported c.ty = true)
    (hw : ∀ t ∈ d.tables, wordOK t.name = true)
    (hnd : nodup (d.tables.map (fun t => upper t.name)) = true) : selectOK d = true := by
  have hst := structTexts_shape d.enums d.tables hsup
  simp only [selectOK, hst]
  apply (all_zip_map _ _ _).mpr
  intro t hm
  have := selectDef_by_name d.tables (fun t => upper t.name) (fun t => structText d.enums t.name t.cols)
    (fun a ha => tdName_structText d.enums a.name a.cols (hw a ha))
    (fun a ha => (upper_wordOK a.name (hw a ha)).2) hnd t hm
  simp [this]

end PydlVerif.YannyRT
