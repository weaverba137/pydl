/-
C02: `type()` (`re.search(r'(\S+)\s+VAR([\[<].*[\]>]|);', text)`) and the column list (`re.findall(r'\S+\s+\S+;', body)`)
on a struct definition in any admissible layout.  The search walks over words; between declarations it crosses `Junk`;
`.*` is greedy up to the end of the line, so a declaration written with brackets has to be the last such declaration of
its line (`LineOK`, `ssOK`).  `…L` in a name: on a laid-out text; `…W`: on the wider domain `layoutOKW`.
`Finds var s res`, `Defs s res` (YannyScan.lean): the search for `var`, `bodyDefs`, gives `res` on `s` for every sufficient fuel.
-/
import PydlVerif.Lemmas.YannyLayout
namespace PydlVerif.YannyLayScan
open PydlVerif.Yanny PydlVerif.YannyRT

theorem split_run {α} (p : α → Bool) (l : List α) :
    ∃ a b, l = a ++ b ∧ (∀ x ∈ a, p x = true) ∧ (∀ y, b.head? = some y → p y = false) := by
  refine ⟨l.takeWhile p, l.dropWhile p, List.takeWhile_append_dropWhile.symm,
    fun x hx => mem_takeWhile_p p l x hx, fun y hy => ?_⟩
  have := List.head?_dropWhile_not p l
  rw [hy] at this
  exact this

theorem takeWhile_app_of_stop {α} (p : α → Bool) (l X : List α) (h : ∃ x ∈ l, p x = false) :
    (l ++ X).takeWhile p = l.takeWhile p := by
  apply takeWhile_append_of_not_all
  obtain ⟨x, hx, hp⟩ := h
  exact List.all_eq_false.mpr ⟨x, hx, by simp [hp]⟩

theorem mem_of_takeWhile {α} (p : α → Bool) (l : List α) (x : α) (h : x ∈ l.takeWhile p) : x ∈ l :=
  (List.takeWhile_sublist p).mem h

def EndSp (J : Str) : Prop := ∃ J0 c, J = J0 ++ [c] ∧ isSpace c = true

theorem EndSp.has_space {J : Str} (h : EndSp J) : ∃ x ∈ J, nonSp x = false := by
  obtain ⟨J0, c, rfl, hc⟩ := h
  exact ⟨c, by simp, by simp [nonSp, hc]⟩

theorem EndSp.suffix {u v : Str} (h : EndSp (u ++ v)) (hv : v ≠ []) : EndSp v := by
  obtain ⟨J0, c, e, hc⟩ := h
  rcases List.append_eq_append_iff.mp e with ⟨as, _, h2⟩ | ⟨bs, _, h2⟩
  · exact ⟨as, c, h2, hc⟩
  · cases bs with
    | nil => exact ⟨[], c, by simpa using h2.symm, hc⟩
    | cons b bs' =>
      simp at h2
      exact absurd h2.2.2 hv

theorem EndSp.prepend (u : Str) {v : Str} (h : EndSp v) : EndSp (u ++ v) := by
  obtain ⟨J0, c, rfl, hc⟩ := h
  exact ⟨u ++ J0, c, by simp, hc⟩

theorem EndSp.head_word {J : Str} (hE : EndSp J) :
    ∃ a sp v, J = a ++ sp ++ v ∧ (∀ c ∈ a, nonSp c = true) ∧ sp ≠ [] ∧ (∀ c ∈ sp, isSpace c = true) ∧
      (v = [] ∨ EndSp v) ∧ ∀ c, v.head? = some c → isSpace c = false := by
  obtain ⟨a, J', rfl, ha, hJ'⟩ := split_run nonSp J
  obtain ⟨sp, v, rfl, hsp, hv⟩ := split_run isSpace J'
  refine ⟨a, sp, v, (List.append_assoc _ _ _).symm, ha, ?_, hsp, ?_, hv⟩
  · rintro rfl
    cases v with
    | nil =>
      obtain ⟨x, hx, hn⟩ := hE.has_space
      rw [ha x (by simpa using hx)] at hn; cases hn
    | cons y t =>
      have h1 := hJ' y rfl
      simp [nonSp, hv y rfl] at h1
  · cases v with
    | nil => exact Or.inl rfl
    | cons y t =>
      rw [← List.append_assoc] at hE
      exact Or.inr (hE.suffix (by simp))

/-- a text that starts with a non-space character and ends in white space is a sequence of words, each
followed by a non-empty run of white space -/
theorem words_induction {P : Str → Prop} (nil : P [])
    (step : ∀ w sp v, w ≠ [] → (∀ c ∈ w, nonSp c = true) → sp ≠ [] → (∀ c ∈ sp, isSpace c = true) →
      (v = [] ∨ EndSp v) → (∀ c, v.head? = some c → isSpace c = false) → P v → P (w ++ sp ++ v)) :
    ∀ J, (J = [] ∨ EndSp J) → (∀ c, J.head? = some c → isSpace c = false) → P J := by
  have key : ∀ n J, J.length ≤ n → (J = [] ∨ EndSp J) → (∀ c, J.head? = some c → isSpace c = false) → P J := by
    intro n
    induction n with
    | zero =>
      intro J hlen _ _
      cases J with
      | nil => exact nil
      | cons _ _ => simp at hlen
    | succ n ih =>
      intro J hlen hE hh
      rcases hE with rfl | hE
      · exact nil
      obtain ⟨w, sp, v, rfl, hw, hspne, hsp, hvE, hvh⟩ := hE.head_word
      have hwne : w ≠ [] := by
        rintro rfl
        cases sp with
        | nil => exact hspne rfl
        | cons y t =>
          have := hh y rfl
          rw [hsp y (by simp)] at this; cases this
      refine step w sp v hwne hw hspne hsp hvE hvh (ih v ?_ hvE hvh)
      have := List.length_pos_iff.mpr hspne
      simp only [List.length_append] at hlen
      omega
  exact fun J => key J.length J (Nat.le_refl _)

theorem tdWs_no_semi (b : Bool) (s : Str) (h : tdWsOK b s = true) : ';' ∉ s :=
  fun hm => (tdWs_chars b s h _ hm).1 rfl

theorem tdWs_open_nl (s : Str) (h : tdWsOK true s = true) : '\n' ∈ s := by
  induction s with
  | nil => simp [tdWsOK] at h
  | cons a t ih =>
    simp only [tdWsOK] at h
    split at h
    · rename_i ha; simp at ha; subst ha; simp
    · simp only [Bool.and_eq_true] at h
      exact List.mem_cons_of_mem _ (ih h.2)

/-- behind every open bracket some later character is a newline -/
def brNl : Str → Prop
  | [] => True
  | c :: t => (isOpenB c = true → '\n' ∈ t) ∧ brNl t

theorem brNl_at : ∀ (u : Str) (c : Char) (v : Str), brNl (u ++ c :: v) → isOpenB c = true → '\n' ∈ v
  | [], _, _, h, hc => h.1 hc
  | _ :: u, c, v, h, hc => brNl_at u c v h.2 hc

theorem brNl_append : ∀ a b : Str, brNl a → brNl b → brNl (a ++ b)
  | [], _, _, hb => hb
  | _ :: t, b, ha, hb => ⟨fun hc => List.mem_append_left _ (ha.1 hc), brNl_append t b ha.2 hb⟩

theorem tdWs_brNl (b : Bool) (s : Str) (h : tdWsOK b s = true) : brNl s := by
  induction s generalizing b with
  | nil => trivial
  | cons a t ih =>
    obtain ⟨b', hb', _, ho, _⟩ := tdWs_cons b a t h
    -- an open bracket stands only inside a comment, which a line end closes
    exact ⟨fun hc => tdWs_open_nl t (ho hc ▸ hb'), ih b' hb'⟩

theorem tdWs_endSp (b : Bool) (s : Str) (h : tdWsOK b s = true) (hne : s ≠ []) : EndSp s := by
  induction s generalizing b with
  | nil => exact absurd rfl hne
  | cons a t ih =>
    obtain ⟨b', hb', _, _, hs⟩ := tdWs_cons b a t h
    cases t with
    | nil => exact ⟨[], a, rfl, hs (by simpa [tdWsOK] using hb')⟩
    | cons x t' => exact EndSp.prepend [a] (ih b' hb' (by simp))

theorem tdWs_no_nl (s : Str) (h : tdWsOK false s = true) (hn : '\n' ∉ s) : ∀ c ∈ s, wsChar c = true := by
  induction s with
  | nil => intro c hc; cases hc
  | cons a t ih =>
    simp only [tdWsOK] at h
    split at h
    · exact absurd (List.mem_cons_of_mem _ (tdWs_open_nl t h)) hn
    · simp only [Bool.and_eq_true] at h
      intro c hc
      rcases List.mem_cons.mp hc with e | hc
      · subst e; exact h.1
      · exact ih h.2 (fun hm => hn (List.mem_cons_of_mem _ hm)) c hc

/-! ### no `;` directly after a closing bracket: what lets several declarations share a line -/

/-- `ssOK p s`: no `;` of `s` stands directly after a closing bracket (`p`: the character before `s` is one) -/
def ssOK : Bool → Str → Bool
  | _, [] => true
  | p, c :: t => (c != ';' || !p) && ssOK (isCloseB c) t

/-- is the last character of `p`-then-`s` a closing bracket -/
def lastCl : Bool → Str → Bool
  | p, [] => p
  | _, c :: t => lastCl (isCloseB c) t

theorem ssOK_noSemi (p : Bool) (s : Str) (h : ';' ∉ s) : ssOK p s = true := by
  induction s generalizing p with
  | nil => rfl
  | cons c t ih =>
    have hc : c ≠ ';' := fun e => h (by simp [e])
    simp only [ssOK, ih _ (fun hm => h (List.mem_cons_of_mem _ hm)), Bool.and_true, Bool.or_eq_true, bne_iff_ne, ne_eq]
    exact Or.inl hc

theorem lastCloseAux_keepW (L : Str) (i : Nat) (best : Option Nat) (p : Bool) (h : ssOK p L = true) :
    lastCloseAux L i best = best := by
  induction L generalizing i p with
  | nil => rfl
  | cons c t ih =>
    simp only [ssOK, Bool.and_eq_true] at h
    have hcond : (isCloseB c && decide (i ≥ 1) && (t.head? == some ';')) = false := by
      cases t with
      | nil => simp
      | cons d t' =>
        by_cases hd : d = ';'
        · subst hd
          have := h.2
          simp only [ssOK, Bool.and_eq_true, Bool.or_eq_true, bne_iff_ne, ne_eq, not_true_eq_false, false_or,
            Bool.not_eq_true'] at this
          simp [this.1]
        · simp [hd]
    simp only [lastCloseAux, hcond, Bool.false_eq_true, if_false]
    exact ih _ _ h.2

theorem lastCloseAux_noSemi (l : Str) (i : Nat) (best : Option Nat) (h : ';' ∉ l) :
    lastCloseAux l i best = best :=
  lastCloseAux_keepW l i best false (ssOK_noSemi false l h)

theorem lastCloseAux_keep (L : Str) (i : Nat) (best : Option Nat)
    (h : ';' ∉ L ∨ ∀ c ∈ L, isCloseB c = false) : lastCloseAux L i best = best := by
  rcases h with h | h
  · exact lastCloseAux_noSemi L i best h
  · induction L generalizing i with
    | nil => rfl
    | cons c t ih =>
      simp only [lastCloseAux, h c (by simp), Bool.false_and, Bool.false_eq_true, if_false]
      exact ih _ (fun x hx => h x (List.mem_cons_of_mem _ hx))

theorem ssOK_append (p : Bool) (a b : Str) : ssOK p (a ++ b) = (ssOK p a && ssOK (lastCl p a) b) := by
  induction a generalizing p with
  | nil => simp [ssOK, lastCl]
  | cons c t ih => simp only [List.cons_append, ssOK, lastCl, ih, Bool.and_assoc]

theorem lastCl_append (p : Bool) (a b : Str) : lastCl p (a ++ b) = lastCl (lastCl p a) b := by
  induction a generalizing p with
  | nil => rfl
  | cons c t ih => simp only [List.cons_append, lastCl, ih]

theorem lastCl_plain (p : Bool) (s : Str) (hne : s ≠ []) (h : ∀ c ∈ s, isCloseB c = false) : lastCl p s = false := by
  induction s generalizing p with
  | nil => exact absurd rfl hne
  | cons c t ih =>
    cases t with
    | nil => simp only [lastCl]; exact h c (by simp)
    | cons d t' =>
      show lastCl (isCloseB c) (d :: t') = false
      exact ih (isCloseB c) (by simp) (fun x hx => h x (List.mem_cons_of_mem _ hx))

theorem lastCl_plain' (s : Str) (h : ∀ c ∈ s, isCloseB c = false) : lastCl false s = false := by
  cases s with
  | nil => rfl
  | cons c t => exact lastCl_plain _ _ (by simp) h

theorem ssOK_then_semi (p : Bool) (X : Str) (hs : ';' ∉ X) (hl : lastCl p X = false) : ssOK p (X ++ [';']) = true := by
  rw [ssOK_append, ssOK_noSemi p X hs, hl]; rfl

/-! ### junk: text in which the member test can never succeed -/

def Junk (J : Str) : Prop := ';' ∉ J ∧ brNl J

theorem junk_of_plain (s : Str) (h : ∀ c ∈ s, c ≠ ';' ∧ isOpenB c = false) : Junk s := by
  refine ⟨fun hm => (h _ hm).1 rfl, ?_⟩
  induction s with
  | nil => trivial
  | cons a t ih =>
    refine ⟨fun hc => ?_, ih (fun c hc => h c (by simp [hc]))⟩
    rw [(h a (by simp)).2] at hc
    cases hc

theorem junk_append (a b : Str) (ha : Junk a) (hb : Junk b) : Junk (a ++ b) :=
  ⟨by simp [ha.1, hb.1], brNl_append a b ha.2 hb.2⟩

theorem arrTail_open_none (c : Char) (t : Str) (hc : isOpenB c = true)
    (h : ';' ∉ (c :: t).takeWhile (· != '\n')) : arrTail (c :: t) = none := by
  unfold arrTail
  simp only [hc, if_true]
  rw [lastCloseAux_noSemi _ _ _ h]

theorem junk_fail (var J X : Str) (hv : ∀ x ∈ var, isWordCh x = true) (hJ : Junk J) (hE : EndSp J) :
    ∀ u v, J = u ++ v → v ≠ [] → ∀ tail, stripPrefix var (v ++ X) = some tail → arrTail tail = none := by
  intro u v e hvne tail hs
  have hEv : EndSp v := by rw [e] at hE; exact hE.suffix hvne
  obtain ⟨v0, sp, hv0, hsp⟩ := hEv
  have hspw : isWordCh sp = false := scan_space_not_word sp hsp
  have e2 := stripPrefix_some_eq var _ tail hs
  rcases List.append_eq_append_iff.mp e2 with ⟨as, h1, h2⟩ | ⟨bs, h1, h2⟩
  · -- the last character of v lies in var: a word character
    have : sp ∈ var := by rw [h1, hv0]; simp
    rw [hv sp this] at hspw; cases hspw
  · cases bs with
    | nil =>
      have : sp ∈ var := by
        have : var = v0 ++ [sp] := by rw [← hv0, h1]; simp
        rw [this]; simp
      rw [hv sp this] at hspw; cases hspw
    | cons c v'' =>
      rw [h2]
      have hJe : J = (u ++ var) ++ c :: v'' := by rw [e, h1]; simp
      have hcne : c ≠ ';' := by
        intro ec; apply hJ.1; rw [hJe, ec]; simp
      cases hco : isOpenB c with
      | false => exact arrTail_head_none c _ hco hcne
      | true =>
        have hnl : '\n' ∈ v'' := brNl_at _ c v'' (hJe ▸ hJ.2) hco
        apply arrTail_open_none c (v'' ++ X) hco
        rw [← List.cons_append, takeWhile_app_of_stop _ _ _ ⟨'\n', List.mem_cons_of_mem _ hnl, by decide⟩]
        intro hm
        apply hJ.1
        rw [hJe]
        exact List.mem_append_right _ (mem_of_takeWhile _ _ _ hm)

theorem finds_skip (var w0 J X : Str) (res : Option (Str × Str)) (hv : ∀ x ∈ var, isWordCh x = true)
    (hw0ne : w0 ≠ []) (hw0 : ∀ c ∈ w0, nonSp c = true) (hJ : Junk J) (hE : EndSp J)
    (hX : ∀ c, X.head? = some c → isSpace c = false)
    (hfail : ∀ tail, stripPrefix var X = some tail → arrTail tail = none) (h : Finds var X res) :
    Finds var (w0 ++ J ++ X) res := by
  have hJf := junk_fail var J X hv hJ hE
  -- a suffix `v` of `J` at a word start, then `X`: starts with a non-space character, the member test fails there
  have rest : ∀ u v, J = u ++ v → (∀ c, v.head? = some c → isSpace c = false) →
      (∀ c, (v ++ X).head? = some c → isSpace c = false) ∧
      ∀ tail, stripPrefix var (v ++ X) = some tail → arrTail tail = none := by
    intro u v e hvh
    cases v with
    | nil => exact ⟨hX, hfail⟩
    | cons c t => exact ⟨hvh, hJf u (c :: t) e (by simp)⟩
  have words : ∀ v, (v = [] ∨ EndSp v) → (∀ c, v.head? = some c → isSpace c = false) →
      ∀ u, J = u ++ v → Finds var (v ++ X) res := by
    refine words_induction (fun _ _ => h) ?_
    intro w sp v hwne hw hspne hsp _ hvh ih u e
    have e' : J = (u ++ (w ++ sp)) ++ v := by rw [e]; simp only [List.append_assoc]
    rw [List.append_assoc]
    exact finds_word_fail var w sp _ res hwne hw hspne hsp (rest _ v e' hvh).1 (rest _ v e' hvh).2 (ih _ e')
  -- the first word: `w0` and the non-space run at the head of `J`
  obtain ⟨a, sp, v, rfl, ha, hspne, hsp, hvE, hvh⟩ := hE.head_word
  rw [show w0 ++ (a ++ sp ++ v) ++ X = (w0 ++ a) ++ sp ++ (v ++ X) by simp only [List.append_assoc]]
  exact finds_word_fail var (w0 ++ a) sp _ res (by simp [hw0ne])
    (List.forall_mem_append.mpr ⟨hw0, ha⟩) hspne hsp (rest _ v rfl hvh).1 (rest _ v rfl hvh).2
    (words v hvE hvh _ rfl)

/-- one member declaration as laid out: white space / comments `pre`, type word `T`, blanks `gap`, column name `N`, array suffix `arr`, then `;` -/
structure Mem where
  pre : Str
  T : Str
  gap : Str
  N : Str
  arr : Str

def Mem.text (m : Mem) : Str := m.pre ++ m.T ++ m.gap ++ m.N ++ m.arr ++ [';']
/-- text between the braces -/
def bodyL (ms : List Mem) (closePre : Str) : Str := (ms.map Mem.text).flatten ++ closePre
/-- a struct definition in any layout; the same text as `blockL "struct"` of YannyLayBlock.lean -/
def structL (g1 g2 body g3 name g4 : Str) : Str :=
  "typedef".toList ++ g1 ++ "struct".toList ++ g2 ++ '{' :: body ++ '}' :: g3 ++ name ++ g4 ++ [';']
/-- array suffix: empty, or starts with `[`/`<`, ends with `]`/`>`, made of brackets and digits (e.g. `[3]`, `<3>[10]`, `[]`, `[2]<>`) -/
def arrL (a : Str) : Prop :=
  (a = [] ∨ ((∃ o, a.head? = some o ∧ isOpenB o = true) ∧ (∃ c, a.getLast? = some c ∧ isCloseB c = true))) ∧
  ∀ c ∈ a, isOpenB c = true ∨ isCloseB c = true ∨ c.isDigit = true
def MemOK (m : Mem) : Prop :=
  m.pre ≠ [] ∧ tdWsOK false m.pre = true ∧ m.gap ≠ [] ∧ (∀ c ∈ m.gap, isBlank c = true) ∧
  wordy m.T ∧ wordy m.N ∧ arrL m.arr

theorem text_app (m : Mem) (rest : Str) :
    m.text ++ rest = m.pre ++ (m.T ++ m.gap ++ (m.N ++ (m.arr ++ ';' :: rest))) := by
  unfold Mem.text
  simp only [List.append_assoc, List.cons_append, List.nil_append]

theorem open_cases (c : Char) (h : isOpenB c = true) : c = '[' ∨ c = '<' := by
  simpa [isOpenB] using h

theorem arrCh_facts (c : Char) (h : isOpenB c = true ∨ isCloseB c = true ∨ c.isDigit = true) :
    nonSp c = true ∧ c ≠ ';' ∧ c ≠ '\n' := by
  rcases h with h | h | h
  · rcases open_cases c h with e | e <;> subst e <;> decide
  · have : c = ']' ∨ c = '>' := by simpa [isCloseB] using h
    rcases this with e | e <;> subst e <;> decide
  · have hw := scan_digit_word c h
    exact ⟨scan_word_nonSp c hw, wordCh_ne (d := ';') hw (by decide), wordCh_ne (d := '\n') hw (by decide)⟩

theorem arrL_head (A X : Str) (hA : arrL A) :
    ∃ c rest, A ++ ';' :: X = c :: rest ∧ isWordCh c = false := by
  cases hA' : A with
  | nil => exact ⟨';', X, rfl, by decide⟩
  | cons a A' =>
    refine ⟨a, A' ++ ';' :: X, rfl, ?_⟩
    rcases hA.1 with h | ⟨⟨o, ho, hoo⟩, _⟩
    · rw [hA'] at h; cases h
    · rw [hA'] at ho; simp at ho; subst ho
      rcases open_cases a hoo with e | e <;> subst e <;> decide

theorem lastCloseAux_endL (B : Str) (c : Char) (L : Str) (i : Nat) (best : Option Nat)
    (h : 1 ≤ i + B.length) (hc : isCloseB c = true) (hL : ssOK false L = true) :
    lastCloseAux (B ++ c :: ';' :: L) i best = some (i + B.length) := by
  induction B generalizing i best with
  | nil =>
    have hi : 1 ≤ i := by simpa using h
    have hi' : decide (i ≥ 1) = true := by simpa using hi
    simp only [List.nil_append, lastCloseAux, hc, hi', List.head?_cons, beq_self_eq_true, Bool.and_self,
      if_true]
    have hsc : isCloseB ';' = false := by decide
    simp only [hsc, Bool.false_and, Bool.false_eq_true, if_false]
    rw [lastCloseAux_keepW L _ _ false hL]; simp
  | cons b B' ih =>
    rw [List.cons_append, lastCloseAux, ih _ _ (by omega), List.length_cons, Nat.add_assoc, Nat.add_comm 1]

/-- `([\[<].*[\]>]|);` at an array suffix, when the rest of the line offers no later `];` (no condition
for a declaration without brackets) -/
theorem arrTail_arrL (A REST : Str) (hA : arrL A)
    (hL : A = [] ∨ ssOK false (REST.takeWhile (· != '\n')) = true) :
    arrTail (A ++ ';' :: REST) = some A := by
  rcases hA with ⟨h1, h2⟩
  rcases h1 with h1 | ⟨⟨o, ho, hoo⟩, ⟨cl, hcl, hclc⟩⟩
  · subst h1; simp [arrTail, isOpenB]
  · have hL := hL.resolve_left (fun e => by rw [e] at ho; cases ho)
    obtain ⟨B, hB⟩ := List.getLast?_eq_some_iff.mp hcl
    have hBne : B ≠ [] := by
      intro e
      rw [e] at hB; rw [hB] at ho; simp at ho; subst ho
      rcases open_cases _ hoo with e | e <;> subst e <;> cases hclc
    have hBl := List.length_pos_iff.mpr hBne
    have hline : (A ++ ';' :: REST).takeWhile (· != '\n') = A ++ ';' :: REST.takeWhile (· != '\n') := by
      have : A ++ ';' :: REST = (A ++ [';']) ++ REST := by simp
      rw [this, List.takeWhile_append_of_pos]
      · simp
      · intro x hx
        simp only [List.mem_append, List.mem_singleton] at hx
        rcases hx with hx | hx
        · have := (arrCh_facts x (h2 x hx)).2.2; simp [this]
        · subst hx; decide
    have hlc : lastCloseAux (A ++ ';' :: REST.takeWhile (· != '\n')) 0 none = some B.length := by
      rw [hB, List.append_assoc, List.singleton_append, lastCloseAux_endL B cl _ 0 none (by omega) hclc hL]
      simp
    have htake : (A ++ ';' :: REST.takeWhile (· != '\n')).take (B.length + 1) = A := by
      have hlen : B.length + 1 = A.length := by rw [hB]; simp
      rw [hlen]; simp
    cases hA' : A with
    | nil => rw [hA'] at ho; cases ho
    | cons a A' =>
      have ha : a = o := by rw [hA'] at ho; simpa using ho
      subst ha
      rw [hA'] at hline hlc htake
      show arrTail (a :: (A' ++ ';' :: REST)) = _
      unfold arrTail
      simp only [hoo, if_true]
      rw [← List.cons_append, hline, hlc]
      simp only [htake]

theorem blank_facts (c : Char) (h : isBlank c = true) :
    isWordCh c = false ∧ isOpenB c = false ∧ c ≠ ';' := by
  simp only [isBlank, Bool.or_eq_true, beq_iff_eq] at h
  rcases h with h | h <;> subst h <;> decide

theorem finds_enterL (var w0 J0 : Str) (p : Mem) (R : Str) (res : Option (Str × Str))
    (hv : ∀ x ∈ var, isWordCh x = true) (hw0ne : w0 ≠ []) (hw0 : ∀ c ∈ w0, nonSp c = true)
    (hJ0 : Junk J0) (hp : MemOK p) (h : Finds var (p.T ++ p.gap ++ (p.N ++ (p.arr ++ ';' :: R))) res) :
    Finds var (w0 ++ J0 ++ (p.text ++ R)) res := by
  obtain ⟨hpne, hptd, hgne, hgb, hT, _, _⟩ := hp
  rw [text_app, show w0 ++ J0 ++ (p.pre ++ (p.T ++ p.gap ++ (p.N ++ (p.arr ++ ';' :: R)))) =
    w0 ++ (J0 ++ p.pre) ++ (p.T ++ p.gap ++ (p.N ++ (p.arr ++ ';' :: R))) by simp only [List.append_assoc]]
  apply finds_skip var w0 (J0 ++ p.pre) _ res hv hw0ne hw0
    (junk_append _ _ hJ0 ⟨tdWs_no_semi false _ hptd, tdWs_brNl false _ hptd⟩)
    (EndSp.prepend J0 (tdWs_endSp false _ hptd hpne)) _ _ h
  · rw [List.append_assoc]; exact wordy_head _ _ hT
  · intro tail hs
    cases hg : p.gap with
    | nil => exact absurd hg hgne
    | cons c g' =>
      rw [hg, List.append_assoc, List.cons_append] at hs
      obtain ⟨b1, b2, b3⟩ := blank_facts c (hgb c (by rw [hg]; simp))
      exact strip_arrTail_none var p.T c _ hv hT.2 b1 (Or.inr ⟨b2, b3⟩) tail hs

theorem nameArr_chars (p : Mem) (hp : MemOK p) : ∀ c ∈ p.N ++ p.arr, nonSp c = true ∧ c ≠ ';' := by
  obtain ⟨_, _, _, _, _, hN, hA⟩ := hp
  intro c hc
  rcases List.mem_append.mp hc with hc | hc
  · have hw := hN.2 c hc
    exact ⟨scan_word_nonSp c hw, wordCh_ne (d := ';') hw (by decide)⟩
  · exact ⟨(arrCh_facts c (hA.2 c hc)).1, (arrCh_facts c (hA.2 c hc)).2.1⟩

theorem scan_membersL (var : Str) (hv : ∀ x ∈ var, isWordCh x = true) (pre : List Mem) (m : Mem)
    (REST : Str) (hpre : ∀ p ∈ pre, MemOK p ∧ p.N ≠ var) (hm : MemOK m) (hmv : m.N = var)
    (hL : m.arr = [] ∨ ssOK false (REST.takeWhile (· != '\n')) = true) :
    ∀ (w0 J0 : Str), w0 ≠ [] → (∀ c ∈ w0, nonSp c = true) → Junk J0 →
      Finds var (w0 ++ J0 ++ ((pre.map Mem.text).flatten ++ (m.text ++ REST))) (some (m.T, m.arr)) := by
  induction pre with
  | nil =>
    intro w0 J0 hw0ne hw0 hJ0
    simp only [List.map_nil, List.flatten_nil, List.nil_append]
    apply finds_enterL var w0 J0 m _ _ hv hw0ne hw0 hJ0 hm
    have ⟨_, _, hgne, _, hT, hN, hA⟩ := hm
    apply finds_word_ok var m.T m.gap _ (m.arr ++ ';' :: REST) m.arr hT.1
      (wordy_nonSp _ hT) hgne (blank_isSpace hm.2.2.2.1) (wordy_head _ _ hN)
    · rw [← hmv]; exact stripPrefix_append _ _
    · exact arrTail_arrL _ _ hA hL
  | cons p pre' ih =>
    intro w0 J0 hw0ne hw0 hJ0
    obtain ⟨hp, hpv⟩ := hpre p (by simp)
    simp only [List.map_cons, List.flatten_cons, List.append_assoc p.text]
    apply finds_enterL var w0 J0 p _ _ hv hw0ne hw0 hJ0 hp
    have ⟨_, _, hgne, _, hT, hN, hA⟩ := hp
    apply finds_word_fail var p.T p.gap _ _ hT.1 (wordy_nonSp _ hT) hgne
      (blank_isSpace hp.2.2.2.1) (wordy_head _ _ hN)
    · intro tail hs
      obtain ⟨c, rest, hc, hcw⟩ := arrL_head p.arr
        ((pre'.map Mem.text).flatten ++ (m.text ++ REST)) hA
      rw [hc] at hs
      exact strip_arrTail_none var p.N c rest hv hN.2 hcw (Or.inl (fun e => hpv e.symm)) tail hs
    · -- the declaration just refused, `N arr ;`, is the word the next round starts behind, with no junk
      have := ih (fun q hq => hpre q (by simp [hq])) (p.N ++ p.arr ++ [';']) [] (by simp)
        (fun c hc => (List.mem_append.mp hc).elim (fun h => (nameArr_chars p hp c h).1)
          (fun h => by rw [List.mem_singleton.mp h]; decide)) ⟨by simp, trivial⟩
      simpa only [List.append_assoc, List.cons_append, List.nil_append, List.append_nil] using this

/-- no bracketed declaration before the next newline -/
def restNoBr : List Mem → Prop
  | [] => True
  | q :: r => '\n' ∈ q.pre ∨ (q.arr = [] ∧ restNoBr r)

/-- of all declarations of a struct: one written with brackets is the last such declaration of its line (the model's
`declLineOK` on `ColLay`s, read on `Mem`s; `LineOK_memsOf` of YannyLayDefs.lean) -/
def LineOK : List Mem → Prop
  | [] => True
  | m :: r => (m.arr = [] ∨ restNoBr r) ∧ LineOK r

theorem LineOK_split (pre : List Mem) (m : Mem) (post : List Mem) (h : LineOK (pre ++ m :: post)) :
    m.arr = [] ∨ restNoBr post := by
  induction pre with
  | nil => exact h.1
  | cons p pre' ih => exact ih h.2

theorem restNoBr_of_nl (r : List Mem) (h : ∀ q ∈ r, '\n' ∈ q.pre) : restNoBr r := by
  cases r with
  | nil => trivial
  | cons q r' => exact Or.inl (h q (by simp))

theorem LineOK_of_all (r : List Mem) (h : ∀ q ∈ r, '\n' ∈ q.pre) : LineOK r := by
  induction r with
  | nil => trivial
  | cons q r' ih =>
    exact ⟨Or.inr (restNoBr_of_nl r' (fun x hx => h x (by simp [hx]))), ih (fun x hx => h x (by simp [hx]))⟩

theorem LineOK_of_nl (ms : List Mem) (h : ∀ m ∈ ms.tail, '\n' ∈ m.pre) : LineOK ms := by
  cases ms with
  | nil => trivial
  | cons m r => exact ⟨Or.inr (restNoBr_of_nl r h), LineOK_of_all r h⟩

theorem rest_line (post : List Mem) (tl : Str) (hpost : ∀ q ∈ post, MemOK q) (hrest : restNoBr post)
    (htl : ssOK false (tl.takeWhile (· != '\n')) = true) :
    ssOK false (((post.map Mem.text).flatten ++ tl).takeWhile (· != '\n')) = true := by
  induction post with
  | nil => exact htl
  | cons q post' ih =>
    obtain ⟨hpne, hptd, hgne, hgb, hT, hN, hA⟩ := hpost q (by simp)
    have ih := ih (fun x hx => hpost x (by simp [hx]))
    simp only [List.map_cons, List.flatten_cons, List.append_assoc]
    generalize (post'.map Mem.text).flatten ++ tl = R at ih ⊢
    rw [text_app]
    by_cases hn : '\n' ∈ q.pre
    · rw [takeWhile_app_of_stop _ _ _ ⟨'\n', hn, by decide⟩]
      exact ssOK_noSemi _ _ (fun hm => tdWs_no_semi false _ hptd (mem_of_takeWhile _ _ _ hm))
    · obtain ⟨hr1, hr2⟩ := hrest.resolve_left hn
      -- the declaration `pre T gap N` has no brackets: no newline and no `;` in it, and `N` ends in a word character
      have hX : ∀ c ∈ q.pre ++ (q.T ++ (q.gap ++ q.N)), c ≠ ';' ∧ c ≠ '\n' := by
        intro c hc
        simp only [List.mem_append] at hc
        rcases hc with hc | hc | hc | hc
        · exact ⟨fun e => tdWs_no_semi false _ hptd (e ▸ hc), fun e => hn (e ▸ hc)⟩
        · exact ⟨wordCh_ne (d := ';') (hT.2 c hc) (by decide), wordCh_ne (d := '\n') (hT.2 c hc) (by decide)⟩
        · exact ⟨(blank_facts c (hgb c hc)).2.2, fun e => by subst e; exact absurd (hgb _ hc) (by decide)⟩
        · exact ⟨wordCh_ne (d := ';') (hN.2 c hc) (by decide), wordCh_ne (d := '\n') (hN.2 c hc) (by decide)⟩
      rw [hr1, show q.pre ++ (q.T ++ q.gap ++ (q.N ++ ([] ++ ';' :: R))) =
        ((q.pre ++ (q.T ++ (q.gap ++ q.N))) ++ [';']) ++ R by simp only [List.append_assoc, List.nil_append,
          List.cons_append], List.takeWhile_append_of_pos, ssOK_append, Bool.and_eq_true]
      · refine ⟨ssOK_then_semi _ _ (fun hm => (hX _ hm).1 rfl) ?_, ?_⟩
        · rw [show q.pre ++ (q.T ++ (q.gap ++ q.N)) = (q.pre ++ (q.T ++ q.gap)) ++ q.N by simp, lastCl_append]
          exact lastCl_plain _ _ hN.1 (fun c hc => scan_word_not_close c (hN.2 c hc))
        · rw [lastCl_append]
          exact ih hr2
      · intro c hc
        rcases List.mem_append.mp hc with hc | hc
        · simp [(hX c hc).2]
        · rw [List.mem_singleton.mp hc]; decide

theorem tail_line (closePre g3 name g4 : Str) (hcp : tdWsOK false closePre = true)
    (hg3 : ∀ c ∈ g3, wsChar c = true) (hg4 : ∀ c ∈ g4, wsChar c = true) (hname : wordy name) :
    ssOK false ((closePre ++ '}' :: (g3 ++ (name ++ (g4 ++ [';'])))).takeWhile (· != '\n')) = true := by
  -- the whole tail has none: no `;` before the last character, and what stands in front of that is no closing bracket
  have h : ssOK false (closePre ++ '}' :: (g3 ++ (name ++ (g4 ++ [';'])))) = true := by
    have e : closePre ++ '}' :: (g3 ++ (name ++ (g4 ++ [';']))) = (closePre ++ ('}' :: (g3 ++ (name ++ g4)))) ++ [';'] := by
      simp only [List.append_assoc, List.cons_append]
    rw [e]
    apply ssOK_then_semi
    · simp [tdWs_no_semi false _ hcp, show ';' ∉ g3 from fun hm => (wsChar_facts _ (hg3 _ hm)).2.2.2.1 rfl,
        show ';' ∉ g4 from fun hm => (wsChar_facts _ (hg4 _ hm)).2.2.2.1 rfl,
        wordy_not_mem name hname ';' (by decide)]
    · rw [lastCl_append]
      apply lastCl_plain _ _ (by simp)
      intro c hc
      simp only [List.mem_cons, List.mem_append] at hc
      rcases hc with hc | hc | hc | hc
      · subst hc; decide
      · exact (wsChar_facts c (hg3 c hc)).2.2.1
      · exact scan_word_not_close c (hname.2 c hc)
      · exact (wsChar_facts c (hg4 c hc)).2.2.1
  rw [← List.takeWhile_append_dropWhile (p := (· != '\n')) (l := closePre ++ _), ssOK_append, Bool.and_eq_true] at h
  exact h.1

/-- the search in the general form the induction needs: entered after any word `w0` and junk `J0`, before any text
`tl` whose first line offers no `];` -/
theorem typeSearch_members (ms : List Mem) (hms : ∀ m ∈ ms, MemOK m) (hnd : (ms.map (·.N)).Nodup)
    (hline : LineOK ms) (w0 J0 tl : Str) (hw0ne : w0 ≠ []) (hw0 : ∀ c ∈ w0, nonSp c = true) (hJ0 : Junk J0)
    (htl : ssOK false (tl.takeWhile (· != '\n')) = true) (m : Mem) (hm : m ∈ ms) :
    Finds m.N (w0 ++ J0 ++ ((ms.map Mem.text).flatten ++ tl)) (some (m.T, m.arr)) := by
  obtain ⟨pre, post, rfl⟩ := List.append_of_mem hm
  have hmk : MemOK m := hms m hm
  have hpre : ∀ p ∈ pre, MemOK p ∧ p.N ≠ m.N := by
    intro p hp
    refine ⟨hms p (by simp [hp]), ?_⟩
    rw [List.map_append, List.nodup_append] at hnd
    exact hnd.2.2 p.N (List.mem_map.mpr ⟨p, hp, rfl⟩) m.N (by simp)
  have hL := (LineOK_split pre m post hline).imp id (fun h =>
    rest_line post tl (fun q hq => hms q (by simp [hq])) h htl)
  have hF := scan_membersL m.N hmk.2.2.2.2.2.1.2 pre m _ hpre hmk rfl hL w0 J0 hw0ne hw0 hJ0
  simpa only [List.map_append, List.map_cons, List.flatten_append, List.flatten_cons, List.append_assoc] using hF

theorem structL_members (g1 g2 : Str) (ms : List Mem) (closePre g3 name g4 : Str) :
    structL g1 g2 (bodyL ms closePre) g3 name g4 =
      "typedef".toList ++ (g1 ++ "struct".toList ++ g2 ++ ['{']) ++ ((ms.map Mem.text).flatten ++
        (closePre ++ '}' :: (g3 ++ (name ++ (g4 ++ [';']))))) := by
  unfold structL bodyL
  generalize "typedef".toList = td
  generalize "struct".toList = st
  simp only [List.append_assoc, List.cons_append, List.nil_append]

theorem typeSearch_layW (ms : List Mem) (closePre g1 g2 g3 name g4 : Str)
    (hms : ∀ m ∈ ms, MemOK m) (hnd : (ms.map (·.N)).Nodup)
    (hline : LineOK ms)
    (hcp : tdWsOK false closePre = true)
    (hg1 : ∀ c ∈ g1, wsChar c = true) (hg2 : ∀ c ∈ g2, wsChar c = true)
    (hg3 : ∀ c ∈ g3, wsChar c = true) (hg4 : ∀ c ∈ g4, wsChar c = true)
    (hname : wordy name) (m : Mem) (hm : m ∈ ms) :
    typeSearch m.N (structL g1 g2 (bodyL ms closePre) g3 name g4) = some (m.T, m.arr) := by
  have ws : ∀ g : Str, (∀ c ∈ g, wsChar c = true) → Junk g := fun g h =>
    junk_of_plain g (fun c hc => ⟨(wsChar_facts c (h c hc)).2.2.2.1, (wsChar_facts c (h c hc)).2.1⟩)
  have hJ0 : Junk (g1 ++ "struct".toList ++ g2 ++ ['{']) :=
    junk_append _ _ (junk_append _ _ (junk_append _ _ (ws g1 hg1)
      (junk_of_plain _ (by rw [struct_chars]; decide))) (ws g2 hg2)) (junk_of_plain _ (by decide))
  have hF := typeSearch_members ms hms hnd hline "typedef".toList (g1 ++ "struct".toList ++ g2 ++ ['{'])
    (closePre ++ '}' :: (g3 ++ (name ++ (g4 ++ [';'])))) (by rw [typedef_chars]; simp) (by rw [typedef_chars]; decide)
    hJ0 (tail_line closePre g3 name g4 hcp hg3 hg4 hname) m hm
  unfold typeSearch
  rw [structL_members]
  exact hF _ (Nat.lt_succ_self _)

/-! ### `bodyDefs` on a laid-out body -/

theorem lastSemiAux_noSemi (w : Str) (i : Nat) (best : Option Nat) (h : ';' ∉ w) :
    lastSemiAux w i best = best := by
  induction w generalizing i with
  | nil => rfl
  | cons c t ih =>
    have hc : (c == ';') = false := by
      have : c ≠ ';' := fun e => h (by simp [e])
      simp [this]
    simp only [lastSemiAux, hc, Bool.false_and, Bool.false_eq_true, if_false]
    exact ih _ (fun hm => h (List.mem_cons_of_mem _ hm))

theorem lastSemiAux_endL (u j : Str) (i : Nat) (best : Option Nat) (h : 1 ≤ i + u.length) (hj : ';' ∉ j) :
    lastSemiAux (u ++ ';' :: j) i best = some (i + u.length) := by
  induction u generalizing i best with
  | nil =>
    have hi : 1 ≤ i := by simpa using h
    have hi' : decide (i ≥ 1) = true := by simpa using hi
    simp only [List.nil_append, lastSemiAux, beq_self_eq_true, hi', Bool.and_self, if_true]
    rw [lastSemiAux_noSemi j _ _ hj]; simp
  | cons b u' ih =>
    rw [List.cons_append, lastSemiAux, ih _ _ (by omega), List.length_cons, Nat.add_assoc, Nat.add_comm 1]

theorem bodyDefsAux_word (w bl r' : Str) (hne : w ≠ []) (hw : ∀ c ∈ w, nonSp c = true)
    (hbl : bl ≠ []) (hbs : ∀ c ∈ bl, isSpace c = true) (hr : ∀ c, r'.head? = some c → isSpace c = false)
    (f : Nat) :
    bodyDefsAux (f + 1) (w ++ bl ++ r') = (lastSemi (r'.takeWhile nonSp)).elim (bodyDefsAux f r')
      (fun k => (noSemi w, noSemi ((r'.takeWhile nonSp).take k)) :: bodyDefsAux f (r'.drop (k + 1))) := by
  obtain ⟨h1, h2, h3⟩ := scan_split w bl r' hw hbl hbs hr
  cases hw' : w with
  | nil => exact absurd hw' hne
  | cons c w' =>
    have hc : isSpace c = false := by
      have := hw c (by rw [hw']; simp)
      simpa [nonSp] using this
    have hblne : (bl ++ r').isEmpty = false := by
      cases bl with
      | nil => exact absurd rfl hbl
      | cons _ _ => rfl
    rw [hw'] at h1 h2
    simp only [List.cons_append, List.append_assoc] at h1 h2 ⊢
    simp only [bodyDefsAux, hc, Bool.false_eq_true, if_false, h1, h2, hblne, h3]
    cases lastSemi (r'.takeWhile nonSp) <;> rfl

theorem defs_word_fail (w bl r' : Str) (res : List (Str × Str))
    (hne : w ≠ []) (hw : ∀ c ∈ w, nonSp c = true)
    (hbl : bl ≠ []) (hbs : ∀ c ∈ bl, isSpace c = true) (hr : ∀ c, r'.head? = some c → isSpace c = false)
    (hfail : ';' ∉ r'.takeWhile nonSp) (h : Defs r' res) : Defs (w ++ bl ++ r') res := by
  intro fuel hf
  cases fuel with
  | zero => cases hf
  | succ f =>
    rw [bodyDefsAux_word w bl r' hne hw hbl hbs hr, show lastSemi _ = none from lastSemiAux_noSemi _ 0 none hfail]
    apply h f
    have := List.length_pos_iff.mpr hne
    simp only [List.length_append] at hf
    omega

theorem defs_skip (J X : Str) (res : List (Str × Str)) (hns : ';' ∉ J) (hE : J = [] ∨ EndSp J)
    (hX : ∀ c, X.head? = some c → isSpace c = false) (hX2 : ';' ∉ X.takeWhile nonSp) (h : Defs X res) :
    Defs (J ++ X) res := by
  have words : ∀ v, (v = [] ∨ EndSp v) → (∀ c, v.head? = some c → isSpace c = false) → ';' ∉ v →
      Defs (v ++ X) res := by
    refine words_induction (fun _ => h) ?_
    intro w sp v hwne hw hspne hsp hvE hvh ih hns
    simp only [List.mem_append, not_or] at hns
    rw [List.append_assoc]
    refine defs_word_fail w sp _ res hwne hw hspne hsp ?_ ?_ (ih hns.2)
    · cases v with
      | nil => exact hX
      | cons c t => exact hvh
    · rcases hvE with rfl | hvE
      · exact hX2
      · rw [takeWhile_app_of_stop _ _ _ hvE.has_space]
        exact fun hm => hns.2 (mem_of_takeWhile _ _ _ hm)
  obtain ⟨sp0, J1, rfl, hsp0, hJ1h⟩ := split_run isSpace J
  rw [List.append_assoc]
  apply defs_blanks _ _ _ hsp0
  refine words J1 ?_ hJ1h (fun hm => hns (List.mem_append_right _ hm))
  cases J1 with
  | nil => exact Or.inl rfl
  | cons c t => exact Or.inr ((hE.resolve_left (by simp)).suffix (by simp))

/-- one match of `\S+\s+\S+;`: a word, blanks, a word `u;` possibly glued to more non-space text without `;` -/
theorem defs_pairL (w bl u REST : Str) (res : List (Str × Str))
    (hne : w ≠ []) (hw : ∀ c ∈ w, nonSp c = true)
    (hbl : bl ≠ []) (hbs : ∀ c ∈ bl, isSpace c = true)
    (hune : u ≠ []) (hu : ∀ c ∈ u, nonSp c = true)
    (hj : ';' ∉ REST.takeWhile nonSp) (h : Defs REST res) :
    Defs (w ++ bl ++ (u ++ ';' :: REST)) ((noSemi w, noSemi u) :: res) := by
  intro fuel hf
  have hr : ∀ c, (u ++ ';' :: REST).head? = some c → isSpace c = false :=
    head_append_of _ hune (fun c hc => by simpa [nonSp] using hu c (List.mem_of_mem_head? hc))
  have hsplit : u ++ ';' :: REST = (u ++ [';']) ++ REST := by simp
  have hw2 : (u ++ ';' :: REST).takeWhile nonSp = u ++ ';' :: REST.takeWhile nonSp := by
    rw [hsplit, List.takeWhile_append_of_pos]
    · simp
    · intro x hx
      rcases List.mem_append.mp hx with hx | hx
      · exact hu x hx
      · rw [List.mem_singleton.mp hx]; decide
  have hul := List.length_pos_iff.mpr hune
  have hls : lastSemi (u ++ ';' :: REST.takeWhile nonSp) = some u.length := by
    unfold lastSemi
    rw [lastSemiAux_endL _ _ _ _ (by omega) hj]; simp
  cases fuel with
  | zero => cases hf
  | succ f =>
    have hdrop : (u ++ ';' :: REST).drop (u.length + 1) = REST := by
      rw [hsplit, List.drop_left' (by simp)]
    rw [bodyDefsAux_word w bl _ hne hw hbl hbs hr, hw2, hls]
    simp only [Option.elim, List.take_left', hdrop]
    rw [h f (by simp at hf ⊢; omega)]

theorem bodyL_lead (ms : List Mem) (closePre : Str) (hms : ∀ m ∈ ms, MemOK m)
    (hcp : tdWsOK false closePre = true) : ';' ∉ (bodyL ms closePre).takeWhile nonSp := by
  unfold bodyL
  cases ms with
  | nil =>
    intro hm
    exact tdWs_no_semi false _ hcp (mem_of_takeWhile _ _ _ (by simpa using hm))
  | cons q ms' =>
    have hq := hms q (by simp)
    simp only [List.map_cons, List.flatten_cons, List.append_assoc]
    rw [text_app, takeWhile_app_of_stop _ _ _ (tdWs_endSp false _ hq.2.1 hq.1).has_space]
    intro hm
    exact tdWs_no_semi false _ hq.2.1 (mem_of_takeWhile _ _ _ hm)

theorem bodyDefs_lay (ms : List Mem) (closePre : Str) (hms : ∀ m ∈ ms, MemOK m)
    (hcp : tdWsOK false closePre = true) :
    Defs (bodyL ms closePre) (ms.map (fun m => (m.T, m.N ++ m.arr))) := by
  induction ms with
  | nil =>
    have : bodyL [] closePre = closePre ++ [] := by simp [bodyL]
    rw [this]
    apply defs_skip closePre [] [] (tdWs_no_semi false _ hcp) _ (by simp) (by simp) defs_nil
    by_cases e : closePre = []
    · left; exact e
    · right; exact tdWs_endSp false _ hcp e
  | cons m ms' ih =>
    obtain ⟨hpne, hptd, hgne, hgb, hT, hN, hA⟩ := hms m (by simp)
    have e : bodyL (m :: ms') closePre
        = m.pre ++ (m.T ++ m.gap ++ ((m.N ++ m.arr) ++ ';' :: bodyL ms' closePre)) := by
      unfold bodyL
      simp only [List.map_cons, List.flatten_cons, List.append_assoc]
      rw [text_app]; simp only [List.append_assoc]
    rw [e]
    have hgs := blank_isSpace hgb
    have hTs : ∀ c ∈ m.T, c ≠ ';' := fun c hc => wordCh_ne (d := ';') (hT.2 c hc) (by decide)
    have hNA := nameArr_chars m (hms m (by simp))
    apply defs_skip m.pre _ _ (tdWs_no_semi false _ hptd) (Or.inr (tdWs_endSp false _ hptd hpne))
    · rw [List.append_assoc]; exact wordy_head _ _ hT
    · cases hg : m.gap with
      | nil => exact absurd hg hgne
      | cons g gs =>
        have hgn : nonSp g = false := by simp [nonSp, hgs g (by rw [hg]; simp)]
        rw [List.append_assoc, List.cons_append, takeWhile_app_stop _ _ _ _ (wordy_nonSp _ hT) hgn]
        intro hm; exact hTs _ hm rfl
    · have := defs_pairL m.T m.gap (m.N ++ m.arr) (bodyL ms' closePre)
        (ms'.map (fun m => (m.T, m.N ++ m.arr))) hT.1 (wordy_nonSp _ hT) hgne hgs
        (by intro e; exact hN.1 (List.append_eq_nil_iff.mp e).1) (fun c hc => (hNA c hc).1)
        (bodyL_lead ms' closePre (fun q hq => hms q (by simp [hq])) hcp)
        (ih (fun q hq => hms q (by simp [hq])))
      rw [noSemi_id _ hTs, noSemi_id _ (fun c hc => (hNA c hc).2)] at this
      simpa using this

theorem stripArr_nameL (N A : Str) (hN : wordy N) (hA : arrL A) : stripArr (N ++ A) = N := by
  rcases hA.1 with h | ⟨⟨o, ho, hoo⟩, ⟨cl, hcl, hclc⟩⟩
  · subst h
    -- no suffix: the last character is no closing bracket
    unfold stripArr
    rw [List.append_nil]
    cases hr : N.reverse with
    | nil => rfl
    | cons l t =>
      have hl : isWordCh l = true := hN.2 l (List.mem_reverse.mp (hr ▸ List.mem_cons_self))
      simp [scan_word_not_close l hl]
  · cases hA' : A with
    | nil => rw [hA'] at ho; cases ho
    | cons a A' =>
      have ha : a = o := by rw [hA'] at ho; simpa using ho
      subst ha
      obtain ⟨B, hB⟩ := List.getLast?_eq_some_iff.mp hcl
      have hrev : (N ++ a :: A').reverse = cl :: (N ++ B).reverse := by
        rw [← hA', hB]; simp
      have hany : (N ++ a :: A').any isOpenB = true := by
        simp [hoo]
      have htw : (N ++ a :: A').takeWhile (fun c => !isOpenB c) = N := by
        apply takeWhile_app_stop
        · intro x hx; simp [scan_word_not_open x (hN.2 x hx)]
        · simp [hoo]
      unfold stripArr
      rw [hrev]
      simp only [hany, htw, hclc, Bool.and_self, if_true]

theorem columnsOf_lay (ms : List Mem) (closePre : Str) (hms : ∀ m ∈ ms, MemOK m)
    (hcp : tdWsOK false closePre = true) :
    columnsOf (bodyL ms closePre) = ms.map (·.N) := by
  unfold columnsOf bodyDefs
  rw [bodyDefs_lay ms closePre hms hcp _ (Nat.lt_succ_self _), List.map_map]
  apply List.map_congr_left
  intro m hm
  obtain ⟨_, _, _, _, _, hN, hA⟩ := hms m hm
  exact stripArr_nameL _ _ hN hA
end PydlVerif.YannyLayScan
