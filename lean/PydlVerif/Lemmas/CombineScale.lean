/-
The steps of `combine1fiber`, as Lemmas/Combine1Fiber.lean cuts it, are equivariant under `(flux, ivar) ↦ (c·flux, ivar/c²)`, `c > 0`:
`c1fLoop` for ANY fit that is itself equivariant (`FitScales`), and the parts of `finish`.  The bad-region growth compares with the
absolute `EPS`: it commutes with the scaling only when the comparison gives the same answer before and after (`GrowStable`).
-/
import PydlVerif.Lemmas.CombineScaleFit
import PydlVerif.Lemmas.Combine
import PydlVerif.Lemmas.Combine1Fiber
import PydlVerif.Lemmas.Interp
namespace PydlVerif.CombineScale
open PydlVerif PydlVerif.Interp PydlVerif.Combine

set_option linter.unusedSectionVars false

section field
variable {K : Type} [Field K] [LinearOrder K] [IsStrictOrderedRing K] [FloorRing K]
attribute [local instance] fieldScalar
attribute [-instance] Scalar.instOfNat Scalar.instOfScientific

theorem coeffZero_scale (c : K) (hc : 0 < c) (l : List K) : coeffZero (l.map (c * ·)) = coeffZero l := by
  rw [Bool.eq_iff_iff, coeffZero_iff, coeffZero_iff, List.forall_mem_map]
  exact forall₂_congr fun v _ => mul_eq_zero.trans (or_iff_right (ne_of_gt hc))

/-- the loop state for the scaled input: `newflux·c`, the working inverse variance `/c²`, `newmask` and `fullcombmask` kept -/
def scaleSt (c : K) (st : St K) : St K :=
  { flux := st.flux.map (c * ·), mask := st.mask, fcm := st.fcm, ivar := st.ivar.map (fun iv => iv.map (· / c ^ 2)) }

/-- the `Fit` record for the scaled data: coefficients and evaluated values `·c`, validity mask and `bmask` kept -/
def scaleFit (c : K) (F : Fit K) : Fit K :=
  { coeffs := F.coeffs.map (c * ·)
    value := fun xs => (F.value xs).map (fun vm => (vm.1.map (c * ·), vm.2))
    bmask := F.bmask }

/-- the `fit` parameter is scale equivariant (calls with an inverse variance) -/
def FitScales (fit : ℕ → K → List K → List K → Option (List K) → Combine.R (Fit K)) (c : K) : Prop :=
  ∀ k bk gx gy giv, fit k bk gx (gy.map (c * ·)) (some (giv.map (· / c ^ 2))) = (fit k bk gx gy (some giv)).map (scaleFit c)

theorem fitOf_scale (fit : ℕ → K → List K → List K → Option (List K) → Combine.R (Fit K)) (c : K) (hc : 0 < c)
    (hfit : FitScales fit c) (k : ℕ) (bk : K) (gx gy giv : List K) (n : ℕ) :
    fitOf fit k bk gx (gy.map (c * ·)) (some (giv.map (· / c ^ 2))) n =
      (fitOf fit k bk gx gy (some giv) n).map (fun fb => (fb.1.map (scaleFit c), fb.2)) := by
  unfold fitOf
  rw [hfit]
  refine ite_map (bind_map_comm fun f => ?_) rfl
  dsimp only [scaleFit]
  rw [coeffZero_scale c hc]
  exact ite_map rfl rfl

theorem afterFit_scale (c : K) (newx : List K) (st : St K) (ss : List ℕ) (gx : List K) (fo : Option (Fit K)) (bm : List Bool) :
    afterFit newx (scaleSt c st) ss gx (fo.map (scaleFit c), bm) = (afterFit newx st ss gx (fo, bm)).map (scaleSt c) := by
  unfold afterFit
  cases gx with
  | nil => rfl
  | cons g0 gr =>
    cases fo with
    | none => rfl
    | some f =>
      dsimp only [Option.map_some, scaleFit]
      refine ite_map rfl ?_
      generalize f.value _ = V
      cases V with
      | error e => rfl
      | ok vv =>
        simp only [Except.map, scaleSt, scatter_map]
        congr 2
        cases st.ivar with
        | none => simp only [Option.map_none, ite_self]
        | some iv =>
          simp only [apply_ite (Option.map _), Option.map_some, scalar_zero, ← scatterConst_map, zero_div]

theorem groupStep_scale (fit : ℕ → K → List K → List K → Option (List K) → Combine.R (Fit K)) (c : K) (hc : 0 < c)
    (hfit : FitScales fit c) (bk : K) (x y newx : List K) (st : St K) (hs : st.ivar.isSome) (k : ℕ) (ss : List ℕ) :
    groupStep fit bk x (y.map (c * ·)) newx (scaleSt c st) k ss =
      (groupStep fit bk x y newx st k ss).map (scaleSt c) := by
  obtain ⟨iv, hst⟩ := Option.isSome_iff_exists.1 hs
  have e1 : (scaleSt c st).ivar = some (iv.map (· / c ^ 2)) := congrArg (Option.map _) hst
  rw [groupStep_eq, groupStep_eq, e1, hst]
  simp only [Option.map_some, map_getD_map (c * ·) (mul0 c), map_getD_map (· / c ^ 2) (div0 c)]
  rw [fitOf_scale fit c hc hfit]
  exact bind_map_comm (fun fb => afterFit_scale c newx st ss _ fb.1 fb.2)

theorem groupLoop_scale (fit : ℕ → K → List K → List K → Option (List K) → Combine.R (Fit K)) (c : K) (hc : 0 < c)
    (hfit : FitScales fit c) (bk : K) (x y newx : List K) (groups : List (List ℕ)) (st : St K) (hs : st.ivar.isSome) :
    groupLoop fit bk x (y.map (c * ·)) newx (scaleSt c st) groups =
      (groupLoop fit bk x y newx st groups).map (scaleSt c) :=
  foldlM_map (·.ivar.isSome) (fun s k hs => groupStep_scale fit c hc hfit bk x y newx s hs k _)
    (fun s k s' h hs => groupStep_ivar_some fit bk x y newx s s' k _ h hs) _ st hs

theorem medianFilt_scale (c : K) (med : List K → K) (hmed : ∀ l, med (l.map (· / c ^ 2)) = med l / c ^ 2) (a : List K) (w : ℕ) :
    medianFilt med (a.map (· / c ^ 2)) w = (medianFilt med a w).map (fun l => l.map (· / c ^ 2)) := by
  unfold medianFilt
  simp only [List.length_map]
  split
  · rfl
  · simp only [Except.map, List.map_map, Function.comp_def]
    congr 1
    apply List.map_congr_left
    intro i _
    rw [apply_ite (· / c ^ 2), getD_map0' (· / c ^ 2) (div0 c), ← List.map_drop, ← List.map_take, hmed]

theorem smoothIvar_scale (c : K) (hc : 0 < c) (med : List K → K) (hmed : ∀ l, med (l.map (· / c ^ 2)) = med l / c ^ 2)
    (nspec ncol : ℕ) (iv : List K) :
    smoothIvar med nspec ncol (iv.map (· / c ^ 2)) = (smoothIvar med nspec ncol iv).map (fun l => l.map (· / c ^ 2)) := by
  unfold smoothIvar
  refine foldlM_map (fun _ => True) (fun cur spec _ => ?_) (fun _ _ _ _ _ => trivial) _ iv trivial
  -- the good columns of the spectrum are the same, their values are divided by `c²`
  simp only [scalar_zero, getD_map0 (· / c ^ 2) (div0 c), decide_pos_div_sq c hc]
  refine ite_map rfl ?_
  have hget : ∀ idx : List ℕ, idx.map (fun col => cur.getD (spec * ncol + col) 0 / c ^ 2) =
      (idx.map (fun col => cur.getD (spec * ncol + col) 0)).map (· / c ^ 2) := fun idx => by rw [List.map_map]; rfl
  rw [hget, medianFilt_scale c med hmed]
  exact bind_map_comm fun m => congrArg Except.ok (scatter_map _ _ _ _)

theorem smooth3_scale (c : K) (a : List K) : smooth3 (a.map (· / c ^ 2)) = (smooth3 a).map (· / c ^ 2) := by
  unfold smooth3
  simp only [List.length_map, List.map_map, Function.comp_def, getD_map0' (· / c ^ 2) (div0 c)]
  apply List.map_congr_left
  intro i _
  refine ite_map (f := (· / c ^ 2)) rfl ?_
  -- the divisor is the model's literal `3.0`; its value plays no part
  generalize (@OfScientific.ofScientific K Scalar.instOfScientific 30 true 1) = t
  ring

/-- the bad-region test `|smooth(newivar, 3)| < EPS` gives the same answer for `newivar/c²`: no smoothed value lies between the
two thresholds -/
def GrowStable (c : K) (a : List K) : Prop := ∀ v ∈ smooth3 a, (absS (v / c ^ 2) < eps ↔ absS v < eps)

/-- sufficient: every smoothed value is 0 or at least `EPS·max(1, c²)` -/
theorem growStable_of_gap (c : K) (hc : 0 < c) (a : List K)
    (h : ∀ v ∈ smooth3 a, v = 0 ∨ (eps ≤ |v| ∧ eps * c ^ 2 ≤ |v|)) : GrowStable c a := by
  intro v hv
  have hc2 : (0 : K) < c ^ 2 := by positivity
  rw [absS_eq_abs, absS_eq_abs, abs_div, abs_of_pos hc2]
  rcases h v hv with rfl | ⟨h1, h2⟩
  · rw [abs_zero, zero_div]
  · constructor
    · intro h3
      exact absurd ((div_lt_iff₀ hc2).1 h3) (not_lt.2 h2)
    · intro h3
      exact absurd h3 (not_lt.2 h1)

theorem growBad_scale (c : K) (a : List K) (hg : GrowStable c a) : growBad (a.map (· / c ^ 2)) = (growBad a).map (· / c ^ 2) := by
  have hbad : badRegion (a.map (· / c ^ 2)) = badRegion a := by
    unfold badRegion
    rw [smooth3_scale, List.map_map]
    apply List.map_congr_left
    intro v hv
    rw [Function.comp, decide_eq_decide]
    exact hg v hv
  unfold growBad
  simp only [hbad, List.length_map, List.map_map, Function.comp_def, getD_map0' (· / c ^ 2) (div0 c)]
  apply List.map_congr_left
  intro p _
  rw [apply_ite (· / c ^ 2), scalar_zero, zero_div]

theorem scrub_scale (c : K) (classify : K → Val K) (hcl : ∀ v, isFin classify v = true) (f v : List K) :
    scrub classify (f.map (c * ·)) (v.map (· / c ^ 2)) = (scrub classify f v).map (fun q => (c * q.1, q.2 / c ^ 2)) := by
  unfold scrub
  simp only [hcl, Bool.and_self, if_true]
  rw [List.zipWith_map_left, List.zipWith_map_right, List.map_zipWith]

theorem interpGo_mul (c lam : K) : ∀ (rest : List (K × K)) (x0 f0 : K),
    interpGo lam x0 (c * f0) (rest.map fun q => (q.1, c * q.2)) = c * interpGo lam x0 f0 rest := by
  intro rest
  induction rest with
  | nil => intro x0 f0; rfl
  | cons q rest ih =>
    intro x0 f0
    obtain ⟨x1, f1⟩ := q
    simp only [List.map_cons, interpGo]
    split
    · split
      · rfl
      · ring
    · exact ih x1 f1

theorem npInterp_mul (c x0 f0 : K) (rest : List (K × K)) (lam : K) :
    npInterp x0 (c * f0) (rest.map fun q => (q.1, c * q.2)) lam = c * npInterp x0 f0 rest lam := by
  unfold npInterp
  split
  · rfl
  · exact interpGo_mul c lam rest x0 f0

theorem maskinterp1_scale (c : K) (y : List K) (bad : List Bool) (const : Bool) :
    maskinterp1 (y.map (c * ·)) bad const = (maskinterp1 y bad const).map (c * ·) := by
  unfold maskinterp1
  -- the samples of `c·y` are those of `y` with their values multiplied by `c`
  have : ptsIdx (y.map (c * ·)) bad = (ptsIdx y bad).map fun p => ⟨p.x, c * p.y, p.bad⟩ := by
    unfold ptsIdx
    simp only [List.length_map, List.map_map, Function.comp_def]
    apply List.map_congr_left
    intro i _
    rw [getD_map0' (c * ·) (mul0 c)]
  rw [this]
  exact interpCore_map (fun p => ⟨p.x, c * p.y, p.bad⟩) (c * ·) (fun _ => rfl) (fun _ => rfl) (fun _ _ => rfl) (mul_zero c)
    (fun x0 f0 rest x => npInterp_mul c x0 f0 rest x) _ const (Or.inr fun _ => rfl)

theorem isZeroI_scale (c : K) (hc : c ≠ 0) (v : K) : isZeroI (v / c ^ 2) = isZeroI v := by
  unfold isZeroI
  simp only [Scalar.beq, scalar_zero]
  rw [decide_eq_decide]
  exact div_eq_zero_iff.trans (or_iff_left (pow_ne_zero 2 hc))

theorem map_isZeroI_scale (c : K) (hc : c ≠ 0) (ivar : List K) : (ivar.map (· / c ^ 2)).map isZeroI = ivar.map isZeroI := by
  rw [List.map_map]
  exact List.map_congr_left fun v _ => isZeroI_scale c hc v

theorem damp_scale (c : K) (hc : c ≠ 0) (erf : K → K) (flux ivar : List K) :
    damp erf (flux.map (c * ·)) (ivar.map (· / c ^ 2)) = (damp erf flux ivar).map (fun l => l.map (c * ·)) := by
  unfold damp
  simp only [List.length_map, getD_map0' (· / c ^ 2) (div0 c), isZeroI_scale c hc, map_isZeroI_scale c hc, maskinterp1_scale]
  generalize (List.range ivar.length).filter _ = good
  cases good with
  | nil => rfl
  | cons g0 gs =>
    simp only [Except.map]
    congr 1
    -- each taper multiplies pixel `i` by a weight that depends on `i` alone
    have hw : ∀ (l : List K) (w : ℕ → K),
        (l.map (c * ·)).mapIdx (fun i v => v * w i) = (l.mapIdx (fun i v => v * w i)).map (c * ·) :=
      fun l w => mapIdx_map_comm _ _ _ _ fun p v => by ring
    split <;> split <;> simp only [hw]

theorem aesthetics_scale (c : K) (hc : 0 < c) (flux ivar : List K) (m : Method) (gm : K) :
    aesthetics (flux.map (c * ·)) (ivar.map (· / c ^ 2)) m (c * gm) =
      (aesthetics flux ivar m gm).map (fun l => l.map (c * ·)) := by
  unfold aesthetics
  simp only [map_isZeroI_scale c (ne_of_gt hc), maskinterp1_scale]
  split
  · cases m with
    | mean =>
      -- `flux` where `invvar > 0`, the mean of the good values elsewhere
      simp only [Except.map]
      congr 1
      rw [List.zip_map, List.map_map, List.map_map]
      apply List.map_congr_left
      intro fv _
      simp only [Function.comp, Prod.map, scalar_zero, decide_pos_div_sq c hc, mul_ite]
    | _ => rfl
  · rfl

theorem aesth_scale (c : K) (hc : 0 < c) (mean : List K → K) (hmean : ∀ l, mean (l.map (c * ·)) = c * mean l)
    (erf : K → K) (flux ivar : List K) (m : Method) :
    aesth mean erf (flux.map (c * ·)) (ivar.map (· / c ^ 2)) m = (aesth mean erf flux ivar m).map (fun l => l.map (c * ·)) := by
  have hc0 : c ≠ 0 := ne_of_gt hc
  -- `flux[invvar > 0]`
  have hgood : (((flux.map (c * ·)).zip (ivar.map (· / c ^ 2))).filter (fun (fv : K × K) => decide (fv.2 > 0))).map (·.1) =
      ((((flux.zip ivar).filter (fun (fv : K × K) => decide (fv.2 > 0))).map (·.1))).map (c * ·) := by
    rw [List.zip_map, List.filter_map, List.map_map, List.map_map]
    simp only [Function.comp_def, Prod.map, decide_pos_div_sq c hc]
  unfold aesth
  cases m with
  | damp =>
    simp only [map_isZeroI_scale c hc0, damp_scale c hc0]
    split <;> rfl
  | _ => simp only [scalar_zero, hgood, hmean, aesthetics_scale c hc]

theorem aesthIf_scale (c : K) (hc : 0 < c) (mean : List K → K) (hmean : ∀ l, mean (l.map (c * ·)) = c * mean l)
    (erf : K → K) (flux ivar : List K) (m : Method) :
    aesthIf mean erf (flux.map (c * ·)) (ivar.map (· / c ^ 2)) m = (aesthIf mean erf flux ivar m).map (fun l => l.map (c * ·)) := by
  unfold aesthIf
  simp only [List.any_map, Function.comp_def, scalar_zero, decide_pos_div_sq c hc]
  split
  · exact aesth_scale c hc mean hmean erf flux ivar m
  · rfl

theorem workIvar_scale (c : K) (hc : 0 < c) (oneD : Bool) (n : ℕ) (iv : List K) :
    workIvar oneD n (some (iv.map (· / c ^ 2))) = (workIvar oneD n (some iv)).map (· / c ^ 2) := by
  unfold workIvar
  dsimp only
  split
  · rfl
  · rw [List.map_map, List.map_map]
    apply List.map_congr_left
    intro a _
    simp only [Function.comp, scalar_zero, decide_pos_div_sq c hc]
    ring

/-- the scaled input: `objflux·c`, `objivar/c²`, everything else unchanged -/
def scaleInput (c : K) (inp : Input K) : Input K :=
  { inp with flux := inp.flux.map (c * ·), ivar := inp.ivar.map (fun iv => iv.map (· / c ^ 2)) }

def scaleLoopOut (c : K) (o : Option (Bool × ℕ × ℕ × St K)) : Option (Bool × ℕ × ℕ × St K) :=
  o.map (fun t => (t.1, t.2.1, t.2.2.1, scaleSt c t.2.2.2))

theorem scaleSt_start (c : K) (n : ℕ) (m f : List Bool) (ivs : List K) :
    scaleSt c ⟨List.replicate n 0, m, f, some ivs⟩ = ⟨List.replicate n 0, m, f, some (ivs.map (· / c ^ 2))⟩ := by
  unfold scaleSt
  simp only [List.map_replicate, mul_zero, Option.map_some]

theorem nonzeroOf_scale (c : K) (hc : 0 < c) (inp : Input K) : nonzeroOf (scaleInput c inp) = nonzeroOf inp := by
  unfold nonzeroOf scaleInput
  cases inp.ivar with
  | none => rfl
  | some iv =>
    refine List.filter_congr fun i _ => ?_
    rw [getD_map0' _ (div0 c), decide_eq_decide, scalar_zero]
    exact pos_div_sq c hc _

/-- `combine1fiber` up to the end of the group loop is scale equivariant for ANY equivariant fit: same refusals, same grouping,
`newflux` multiplied by `c`, the working inverse variance divided by `c²`, the SAME `newmask` and `fullcombmask` -/
theorem c1fLoop_scale (fit : ℕ → K → List K → List K → Option (List K) → Combine.R (Fit K)) (c : K) (hc : 0 < c)
    (hfit : FitScales fit c) (argsort : List K → List ℕ) (med : List K → K)
    (hmed : ∀ l, med (l.map (· / c ^ 2)) = med l / c ^ 2) (inp : Input K) (iv : List K) (hiv : inp.ivar = some iv) :
    c1fLoop fit argsort med (scaleInput c inp) = (c1fLoop fit argsort med inp).map (scaleLoopOut c) := by
  rw [c1fLoop_eq, c1fLoop_eq]
  -- shapes, `binsz` and the wavelengths are those of `inp`
  refine bind_map fun _ => ?_
  refine bind_map fun _ => ?_
  refine bind_map fun binsz => ?_
  refine bind_map fun t => ?_
  obtain ⟨oneD, nspec, ncol⟩ := t
  have hso : isortOf argsort (scaleInput c inp) = isortOf argsort inp := by
    unfold isortOf; rw [nonzeroOf_scale c hc]; rfl
  dsimp only
  rw [nonzeroOf_scale c hc, hso]
  split
  · rfl
  refine bind_map fun groups => ?_
  have hiv' : (scaleInput c inp).ivar = some (iv.map (· / c ^ 2)) := congrArg (Option.map _) hiv
  rw [hiv', hiv]
  dsimp only
  -- the inverse variance the loop starts from (smoothed for stacked exposures), then the loop
  have h0 : (if oneD then pure (iv.map (· / c ^ 2)) else smoothIvar med nspec ncol (iv.map (· / c ^ 2))) =
      (if oneD then pure iv else smoothIvar med nspec ncol iv).map (List.map (· / c ^ 2)) :=
    ite_map rfl (smoothIvar_scale c hc med hmed nspec ncol iv)
  rw [h0]
  refine bind_map_comm fun ivs => ?_
  dsimp only [scaleInput]
  rw [scalar_zero, ← scaleSt_start, groupLoop_scale fit c hc hfit _ _ _ _ _ _ rfl]
  exact bind_map_comm fun st => rfl

end field
end PydlVerif.CombineScale
