/-
The constructor (`mkKnots` of Model/BSpline.lean) at the field interpretation, up to what `padBkpt` (min/max patching +
padding) computes on a sorted breakpoint vector with at least two entries.
-/
import PydlVerif.Lemmas.BSplineField
import PydlVerif.Lemmas.Loops
namespace PydlVerif.C08
open PydlVerif PydlVerif.BSpline

variable {K : Type} [Field K] [LinearOrder K] [IsStrictOrderedRing K] [FloorRing K]

theorem minOf_spec (x0 : K) (xs : List K) : minOfK x0 xs ∈ x0 :: xs ∧ ∀ y ∈ x0 :: xs, minOfK x0 xs ≤ y :=
  foldl_pick (p := fun m y : K => y < m) (· ≤ ·) le_refl (fun _ _ _ => le_trans) (fun _ _ => le_of_lt) (fun _ _ => not_lt.1) xs x0

theorem maxOf_spec (x0 : K) (xs : List K) : maxOfK x0 xs ∈ x0 :: xs ∧ ∀ y ∈ x0 :: xs, y ≤ maxOfK x0 xs :=
  foldl_pick (p := fun m y : K => m < y) (· ≥ ·) le_refl (fun _ _ _ h1 h2 => le_trans h2 h1) (fun _ _ => le_of_lt) (fun _ _ => not_lt.1) xs x0

theorem minOf_le_maxOf (x0 : K) (xs : List K) : minOfK x0 xs ≤ maxOfK x0 xs :=
  (minOf_spec x0 xs).2 _ (maxOf_spec x0 xs).1

theorem argBest_min_sorted (ys : List K) (i best : ℕ) (bv : K) (h : ∀ y ∈ ys, bv ≤ y) :
    argBest (fun y m => @decide (@LT.lt K (fieldScalar K).toLT y m) ((fieldScalar K).decLt y m)) ys i best bv = best := by
  induction ys generalizing i with
  | nil => rfl
  | cons y ys ih =>
    rw [List.forall_mem_cons] at h
    have hy : ¬ y < bv := not_lt.2 h.1
    simp only [argBest, sc_lt, hy, decide_false, Bool.false_eq_true, if_false]
    exact ih (i+1) h.2

theorem argBest_max_sorted (ys : List K) (i best : ℕ) (bv : K) (h : (bv :: ys).Pairwise (· ≤ ·)) :
    argBest (fun y m => @decide (@LE.le K (fieldScalar K).toLE m y) ((fieldScalar K).decLe m y)) ys i best bv
      = if ys = [] then best else i + ys.length - 1 := by
  induction ys generalizing i best bv with
  | nil => rfl
  | cons y ys ih =>
    rw [List.pairwise_cons] at h
    have hy : bv ≤ y := h.1 y List.mem_cons_self
    simp only [argBest, sc_le, hy, decide_true, if_true]
    rw [ih (i+1) i y h.2]
    by_cases hys : ys = []
    · subst hys; simp
    · rw [if_neg hys, if_neg (by simp)]; simp only [List.length_cons]; omega

theorem evenBkpt_eq (nb : ℕ) (temp s0 : K) : evenK nb temp s0 = (List.range nb).map (fun (i : ℕ) => (i : K) * temp + s0) := by
  simp only [evenBkpt, sc_mul, sc_add, scalar_ofNat]

/-- `arange(nb)*temp + s0`: `nb` non-decreasing values in `[s0, s0+r]` -/
theorem evenBkpt_facts (nb : ℕ) (temp s0 r : K) (ht : 0 ≤ temp) (hr : ((nb - 1 : ℕ) : K) * temp = r) :
    (evenK nb temp s0).length = nb ∧ (evenK nb temp s0).Pairwise (· ≤ ·) ∧
    ∀ v ∈ evenK nb temp s0, s0 ≤ v ∧ v ≤ s0 + r := by
  rw [evenBkpt_eq]
  refine ⟨by rw [List.length_map, List.length_range], ?_, fun v hv => ?_⟩
  · exact List.pairwise_lt_range.map _ fun a b hab =>
      (add_le_add_iff_right s0).2 (mul_le_mul_of_nonneg_right (Nat.cast_le.2 hab.le) ht)
  · obtain ⟨i, hi, rfl⟩ := List.mem_map.1 hv
    rw [List.mem_range] at hi
    refine ⟨le_add_of_nonneg_left (mul_nonneg (Nat.cast_nonneg _) ht), ?_⟩
    rw [add_comm, ← hr]
    exact (add_le_add_iff_left s0).2 (mul_le_mul_of_nonneg_right (Nat.cast_le.2 (by omega)) ht)

theorem padK_eq (nord : ℕ) (bs first last : K) (b2 : List K) :
    padK id id nord bs first last b2 =
      (List.range (nord - 1)).reverse.map (fun i => first - bs * ((i + 1 : ℕ) : K)) ++ b2 ++
        (List.range (nord - 1)).map (fun i => last + bs * ((i + 1 : ℕ) : K)) := rfl

theorem exists_ends {β : Type} (b : List β) (h : 2 ≤ b.length) : ∃ b0 mid bl, b = b0 :: (mid ++ [bl]) := by
  match b, h with
  | b0 :: tl, h =>
    have htl : tl ≠ [] := by intro h'; subst h'; simp at h
    exact ⟨b0, tl.dropLast, tl.getLast htl, by rw [List.dropLast_append_getLast htl]⟩

theorem ends_getElem? {β : Type} (a z : β) (l : List β) :
    (a :: (l ++ [z])).length = l.length + 2 ∧ (a :: (l ++ [z]))[l.length + 1]? = some z :=
  ⟨by rw [List.length_cons, List.length_append, List.length_singleton],
   by rw [List.getElem?_cons_succ, List.getElem?_concat_length]⟩

theorem le_last_of_sorted {β : Type} [Preorder β] (a z : β) (l : List β) (h : (a :: (l ++ [z])).Pairwise (· ≤ ·)) :
    ∀ y ∈ a :: (l ++ [z]), y ≤ z := by
  intro y hy
  rw [← List.cons_append] at h hy
  rcases List.mem_append.1 hy with h' | h'
  · exact (List.pairwise_append.1 h).2.2 y h' z List.mem_cons_self
  · rw [List.mem_singleton.1 h']

theorem sorted_patch_ends {β : Type} [Preorder β] (b0 bl lo hi : β) (mid : List β) (hs : (b0 :: (mid ++ [bl])).Pairwise (· ≤ ·))
    (hlo : lo ≤ b0) (hhi : bl ≤ hi) : (lo :: (mid ++ [hi])).Pairwise (· ≤ ·) := by
  rw [List.pairwise_cons, List.pairwise_append] at hs ⊢
  simp only [List.forall_mem_append, List.mem_singleton, forall_eq] at hs ⊢
  exact ⟨⟨fun y hy => hlo.trans (hs.1.1 y hy), hlo.trans (hs.1.2.trans hhi)⟩, hs.2.1, List.pairwise_singleton _ _,
    fun a ha => (hs.2.2.2 a ha).trans hhi⟩

/-- on a sorted breakpoint vector `b0 :: mid ++ [bl]` (exact arithmetic) the constructor patches
the first entry to `min b0 xmin`, the last one to `max bl xmax` and pads with the spacing of the first two -/
theorem padBkpt_eq (nord : ℕ) (spread xmin xmax b0 bl : K) (mid : List K) (f32 : Bool)
    (hs : (b0 :: (mid ++ [bl])).Pairwise (· ≤ ·)) :
    padBkptK id nord spread xmin xmax (b0 :: (mid ++ [bl])) f32 =
      .ok (padK id id nord (((min b0 xmin :: (mid ++ [max bl xmax])).getD 1 b0 - min b0 xmin) * spread)
        (min b0 xmin) (max bl xmax) (min b0 xmin :: (mid ++ [max bl xmax]))) := by
  obtain ⟨_, hend⟩ := ends_getElem? (min b0 xmin) bl mid
  obtain ⟨hlen2, hend2⟩ := ends_getElem? (min b0 xmin) (max bl xmax) mid
  have hmin : @argminOf _ (fieldScalar _) b0 (mid ++ [bl]) = 0 :=
    argBest_min_sorted _ 1 0 b0 (List.pairwise_cons.1 hs).1
  have hmax : @argmaxOf _ (fieldScalar _) b0 (mid ++ [bl]) = mid.length + 1 := by
    unfold argmaxOf
    rw [argBest_max_sorted _ 1 0 b0 hs, if_neg (List.append_ne_nil_of_right_ne_nil _ (List.cons_ne_nil _ _)),
      List.length_append, List.length_singleton]
    omega
  have hb1 : (if xmin < b0 then (b0 :: (mid ++ [bl])).set 0 xmin else b0 :: (mid ++ [bl]))
      = min b0 xmin :: (mid ++ [bl]) := by
    by_cases h : xmin < b0
    · rw [if_pos h, min_eq_right h.le]; rfl
    · rw [if_neg h, min_eq_left (not_lt.1 h)]
  have hget : (min b0 xmin :: (mid ++ [bl])).getD (mid.length + 1) b0 = bl := by
    rw [List.getD_eq_getElem?_getD, hend]; rfl
  have hb2 : (if bl < xmax then (min b0 xmin :: (mid ++ [bl])).set (mid.length + 1) xmax
      else min b0 xmin :: (mid ++ [bl])) = min b0 xmin :: (mid ++ [max bl xmax]) := by
    by_cases h : bl < xmax
    · rw [if_pos h, max_eq_right h.le, List.set_cons_succ, List.set_append_right _ _ (Nat.le_refl _), Nat.sub_self]; rfl
    · rw [if_neg h, max_eq_left (not_lt.1 h)]
  simp only [padBkpt, hmin, hmax, ite_self, id, List.getD_cons_zero, sc_lt, hb1, hget, hb2, sc_sub, sc_mul]
  rw [if_neg (by rw [hlen2, beq_iff_eq]; omega), List.getD_eq_getElem?_getD (i := _ - 1), hlen2,
    show mid.length + 2 - 1 = mid.length + 1 from rfl, hend2]
  rfl

end PydlVerif.C08
