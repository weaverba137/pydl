/-
`rstrip` / `lstrip` over appends; `trailing_comment` on a line without `#` (the header-pair line); at the end
`stripPrefix` (the matcher of the file-level scanners) over an append.
-/
import PydlVerif.Lemmas.YannyRow
namespace PydlVerif.Yanny

theorem dropWhile_append_cases {α} (p : α → Bool) (a b : List α) :
    (a ++ b).dropWhile p = if a.dropWhile p = [] then b.dropWhile p else a.dropWhile p ++ b := by
  rw [List.dropWhile_append]
  cases a.dropWhile p <;> rfl

theorem rstrip_append (a b : Str) : rstrip (a ++ b) = if rstrip b = [] then rstrip a else a ++ rstrip b := by
  unfold rstrip
  rw [List.reverse_append, dropWhile_append_cases]
  by_cases h : b.reverse.dropWhile isSpace = []
  · simp [h]
  · simp [h]

theorem rstrip_cons (a : Char) (t : Str) :
    rstrip (a :: t) = if rstrip t = [] ∧ isSpace a = true then [] else a :: rstrip t := by
  rw [← List.singleton_append, rstrip_append]
  by_cases ha : isSpace a = true
  · simp [ha, rstrip]
  · simp [ha, rstrip]

theorem rstrip_split_spaces (l : Str) : ∃ ws, l = rstrip l ++ ws ∧ ∀ c ∈ ws, isSpace c = true := by
  refine ⟨(l.reverse.takeWhile isSpace).reverse, ?_, ?_⟩
  · have := congrArg List.reverse (List.takeWhile_append_dropWhile (p := isSpace) (l := l.reverse))
    simp only [List.reverse_append, List.reverse_reverse] at this
    exact this.symm
  · intro c hc
    exact List.all_eq_true.mp List.all_takeWhile c (by simpa using hc)

theorem lstrip_rstrip_comm (v : Str) : lstrip (rstrip v) = rstrip (lstrip v) := by
  induction v with
  | nil => rfl
  | cons a t ih =>
    by_cases ha : isSpace a = true
    · rw [show lstrip (a :: t) = lstrip t from List.dropWhile_cons_of_pos ha, ← ih, rstrip_cons]
      split
      · rename_i h; rw [h.1]
      · exact List.dropWhile_cons_of_pos ha
    · rw [show lstrip (a :: t) = a :: t from List.dropWhile_cons_of_neg ha, rstrip_cons,
        if_neg fun h => ha h.2]
      exact List.dropWhile_cons_of_neg ha

theorem trailingComment_nohash (l : Str) (h : '#' ∉ l) : trailingComment l = l := by
  unfold trailingComment
  simp only
  split
  · rename_i hc
    exact absurd (by simpa using hc) h
  · rfl

end PydlVerif.Yanny

namespace PydlVerif.YannyRT
open PydlVerif.Yanny

theorem stripPrefix_head_ne (a : Char) (p : Str) (x : Char) (t : Str) (h : x ≠ a) :
    stripPrefix (a :: p) (x :: t) = none := by
  have : (a == x) = false := by simpa using (Ne.symm h)
  simp [stripPrefix, this]

theorem stripPrefix_append (p r : Str) : stripPrefix p (p ++ r) = some r := by
  induction p with
  | nil => cases r <;> rfl
  | cons a ps ih => simp [stripPrefix, ih]

end PydlVerif.YannyRT
