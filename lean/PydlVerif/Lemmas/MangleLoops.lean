/-
The loops of `is_in_polygon` and `is_in_window` (pydl/pydlutils/mangle.py) read point by point: the AND over the used caps
(`inPolyPt`), the index of the first polygon that contains the point (`firstFrom`).
-/
import PydlVerif.Model.Mangle
import PydlVerif.Lemmas.MangleBits
set_option linter.unusedSectionVars false
namespace PydlVerif.C12
open PydlVerif PydlVerif.Mangle

section loops
variable {α : Type} [Trig α]

/-- pointwise reading of the `is_in_polygon` loop over the first `k` caps.  A used cap without a stored row counts as containing the
point: the loop raises `IndexError` there, and `polyLoop_eq` is stated for `k ≤ P.rows.length` (`wfPoly`), where that arm is not reached -/
def inPolyPt (P : Polygon α) (k : Nat) (p : Point α) : Bool :=
  (List.range k).all fun i =>
    !isCapUsed P.useCaps i || (match P.rows[i]? with | some c => isInCap c p | none => true)

theorem inPolyPt_succ (P : Polygon α) (k : Nat) (p : Point α) :
    inPolyPt P (k + 1) p = (inPolyPt P k p &&
      (!isCapUsed P.useCaps k || (match P.rows[k]? with | some c => isInCap c p | none => true))) := by
  simp [inPolyPt, List.range_succ, List.all_append]

theorem inPolyPt_iff (P : Polygon α) (k : Nat) (p : Point α) :
    inPolyPt P k p = true ↔
      ∀ i, i < k → P.useCaps.testBit i = true → ∀ c, P.rows[i]? = some c → isInCap c p = true := by
  simp only [inPolyPt, List.all_eq_true, List.mem_range, is_cap_used_testBit]
  refine forall_congr' fun i => forall_congr' fun _ => ?_
  cases P.useCaps.testBit i <;> cases P.rows[i]? <;> simp

theorem inPolyPt_congr (P Q : Polygon α) (k : Nat) (p : Point α) (hu : P.useCaps = Q.useCaps)
    (hr : ∀ i, i < k → P.rows[i]? = Q.rows[i]?) : inPolyPt P k p = inPolyPt Q k p := by
  rw [Bool.eq_iff_iff, inPolyPt_iff, inPolyPt_iff, hu]
  exact forall_congr' fun i => forall_congr' fun hi => by rw [hr i hi]

theorem polyLoop_eq (P : Polygon α) (pts : List (Point α)) :
    ∀ k, k ≤ P.rows.length → polyLoop P pts k = .ok (pts.map (inPolyPt P k))
  | 0, _ => by
    simp only [polyLoop, pure, Except.pure]
    congr 1
  | k + 1, h => by
    have hk : k < P.rows.length := h
    rw [funext (inPolyPt_succ P k)]
    simp only [polyLoop, polyLoop_eq P pts k hk.le, bind, Except.bind, List.getElem?_eq_getElem hk, pure, Except.pure,
      List.zipWith_map, List.zipWith_self]
    cases isCapUsed P.useCaps k <;> simp

theorem useNcaps_pos {n : Int} (hn : 0 < n) (a : Nat) : useNcaps a n = min n.toNat a := if_pos hn

theorem useNcaps_nonpos {n : Int} (hn : ¬ 0 < n) (a : Nat) : useNcaps a n = a := if_neg hn

theorem useNcaps_le (a : Nat) (n : Int) : useNcaps a n ≤ a := by
  unfold useNcaps; split <;> omega

theorem useNcaps_lt_iff (a k : Nat) (n : Int) (i : Nat) (hi : i < a) :
    i < useNcaps (a + k) n ↔ i < useNcaps a n := by
  by_cases h : 0 < n
  · rw [useNcaps_pos h, useNcaps_pos h]; omega
  · rw [useNcaps_nonpos h, useNcaps_nonpos h]; omega

/-- membership of one point in one polygon as `is_in_polygon(…, ncaps)` decides it -/
def inP (ncaps : Int) (P : Polygon α) (p : Point α) : Bool := inPolyPt P (useNcaps P.ncaps ncaps) p

def wfPoly (P : Polygon α) : Prop := P.ncaps ≤ P.rows.length

theorem isInPolygon_eq (P : Polygon α) (pts : List (Point α)) (ncaps : Int) (hwf : wfPoly P) :
    isInPolygon P pts ncaps = .ok (pts.map (inP ncaps P)) :=
  polyLoop_eq P pts _ (Nat.le_trans (useNcaps_le _ _) hwf)

/-- index of the first polygon (counting from `k`) that contains the point, else -1 -/
def firstFrom (ncaps : Int) : Nat → List (Polygon α) → Point α → Int
  | _, [], _ => -1
  | k, P :: rest, p => if inP ncaps P p then (k : Int) else firstFrom ncaps (k + 1) rest p

/-- one pass of the window loop, pointwise -/
def stepPt (f : Point α → Bool) (k : Nat) (s : Point α × Int) : Point α × Int :=
  if s.2 == -1 then (s.1, if f s.1 then (k : Int) else -1) else s

theorem scatter_eq (f : Point α → Bool) (k : Nat) (st : List (Point α × Int)) :
    scatter st ((notIn st).map f) k = st.map (stepPt f k) := by
  induction st with
  | nil => rfl
  | cons s st ih =>
    simp only [notIn, List.filter_cons, List.map_map] at ih ⊢
    by_cases hs : (s.2 == -1) = true <;> simp [hs, scatter, stepPt, ih]

theorem step_id (f : Point α → Bool) (k : Nat) (st : List (Point α × Int))
    (h : ∀ p ∈ notIn st, f p = false) : st.map (stepPt f k) = st := by
  refine (List.map_congr_left fun s hs => ?_).trans (List.map_id st)
  unfold stepPt
  split
  · next hb =>
    rw [h s.1 (List.mem_map.2 ⟨s, List.mem_filter.2 ⟨hs, hb⟩, rfl⟩)]
    exact Prod.ext rfl (beq_iff_eq.1 hb).symm
  · rfl

theorem windowStep_eq (P : Polygon α) (ncaps : Int) (k : Nat) (st : List (Point α × Int)) (hwf : wfPoly P) :
    windowStep P ncaps k st = .ok (st.map (stepPt (inP ncaps P) k)) := by
  unfold windowStep
  simp only [isInPolygon_eq P _ ncaps hwf, bind, Except.bind, pure, Except.pure]
  split_ifs with h0 ha
  · rw [scatter_eq]
  · rw [step_id (inP ncaps P) k st fun p hp => Bool.eq_false_iff.2 fun hf => ha (List.any_eq_true.2 ⟨_, List.mem_map_of_mem hp, hf⟩)]
  · rw [step_id (inP ncaps P) k st fun p hp => absurd (List.length_pos_of_mem hp) h0]

theorem windowLoop_eq (ncaps : Int) : ∀ (polys : List (Polygon α)) (k : Nat) (st : List (Point α × Int)),
    (∀ P ∈ polys, wfPoly P) →
    windowLoop ncaps polys k st =
      .ok (st.map fun s => if s.2 == -1 then (s.1, firstFrom ncaps k polys s.1) else s)
  -- no polygon left: a -1 is rewritten to `firstFrom ncaps k [] _ = -1`, which is the pass for a test that never holds
  | [], k, st, _ => congrArg Except.ok (step_id (fun _ => false) k st fun _ _ => rfl).symm
  | P :: rest, k, st, hwf => by
    obtain ⟨hP, hrest⟩ := List.forall_mem_cons.1 hwf
    simp only [windowLoop, windowStep_eq P ncaps k st hP, bind, Except.bind,
      windowLoop_eq ncaps rest (k + 1) _ hrest, List.map_map]
    -- an entry set to `k` by this pass is no longer -1, so the later passes leave it
    have hk : (k : Int) ≠ -1 := by omega
    refine congrArg Except.ok (List.map_congr_left fun s _ => ?_)
    by_cases hs : s.2 = -1 <;> cases hf : inP ncaps P s.1 <;> simp [stepPt, firstFrom, hs, hf, hk]

end loops

end PydlVerif.C12
