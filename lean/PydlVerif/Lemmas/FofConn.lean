/-
C05: the invariant `GInv` of the main loop of `groups.__init__` (lines 432-460): soundness (same label ⇒ joined by a chain) for
any reflexive `close`, completeness (close ⇒ same label) for a symmetric one.
-/
import PydlVerif.Lemmas.FofGroups
namespace PydlVerif.Fof

/-- the specification: `a` and `b` are joined by a chain of points of `[0,n)` in which consecutive
points are close (in either direction) - the equivalence generated by `close` -/
inductive Conn (close : Nat → Nat → Bool) (n : Nat) : Nat → Nat → Prop
  | refl (a : Nat) : Conn close n a a
  | tail {a b c : Nat} : Conn close n a b → b < n → c < n → (close b c = true ∨ close c b = true) →
      Conn close n a c

theorem Conn.trans {close : Nat → Nat → Bool} {n a b c : Nat} (h1 : Conn close n a b) (h2 : Conn close n b c) :
    Conn close n a c := by
  induction h2 with
  | refl => exact h1
  | tail _ hb hc e ih => exact Conn.tail ih hb hc e

theorem Conn.single {close : Nat → Nat → Bool} {n a b : Nat} (ha : a < n) (hb : b < n)
    (e : close a b = true ∨ close b a = true) : Conn close n a b :=
  Conn.tail (Conn.refl a) ha hb e

theorem Conn.symm {close : Nat → Nat → Bool} {n a b : Nat} (h : Conn close n a b) : Conn close n b a := by
  induction h with
  | refl => exact Conn.refl _
  | tail _ hb hc e ih => exact Conn.trans (Conn.single hc hb e.symm) ih

/-- state of the relabelling loop (lines 444-450) after `jj` neighbours; `cls`: visited points of one old group stay together -/
structure RelInv (close : Nat → Nat → Bool) (n i : Nat) (g0 : Arr Nat) (minG : Nat) (mult : Arr Nat) (jj : Nat)
    (a : Arr Nat × Bool) : Prop where
  val : ∀ x, a.1.get x = g0.get x ∨ a.1.get x = minG
  set : ∀ j', j' < jj → a.1.get (mult.get j') = minG
  ok : a.2 = true
  conn : ∀ x, x < n → a.1.get x = minG → Conn close n x i
  cls : ∀ x y, x < i → y < i → g0.get x = g0.get y → a.1.get x = a.1.get y

theorem relInv_step (close : Nat → Nat → Bool) (n i minG : Nat) (hi : i < n) (g0 : Arr Nat) (L : Lists)
    (hL : IsLists g0 0 i L)
    (hS : ∀ a b, a < n → b < n → g0.get a = g0.get b → Conn close n a b)
    (hQ0 : ∀ x, x < n → g0.get x = minG → Conn close n x i)
    (hb : ∀ x, x < n → g0.get x < n) (hm : minG < n)
    (mult : Arr Nat) (jj : Nat) (ht : mult.get jj < n) (hct : close i (mult.get jj) = true)
    (a : Arr Nat × Bool) (h : RelInv close n i g0 minG mult jj a) :
    RelInv close n i g0 minG mult (jj+1) (relabelOne n minG L mult a jj) := by
  have hlt : a.1.get (mult.get jj) < n := by
    rcases h.val (mult.get jj) with e | e
    · rw [e]; exact hb _ ht
    · rw [e]; exact hm
  have hti : Conn close n (mult.get jj) i := Conn.single ht hi (Or.inr hct)
  obtain ⟨hg, hok⟩ := relabelOne_get g0 n i minG (by omega) L hL mult a jj
  refine ⟨fun x => ?_, fun j' hj' => ?_, hok ▸ h.ok, fun x hx hv => ?_, fun x y hx hy hxy => ?_⟩
  · rw [hg x]
    split
    · exact Or.inr rfl
    · exact h.val x
  · rw [hg]
    split
    · rfl
    · rename_i hc
      have : j' ≠ jj := fun e => hc (Or.inl (by rw [e]))
      exact h.set j' (by omega)
  · -- a point that gets `minG` now: the neighbour itself, or a visited point of its group
    rw [hg x] at hv
    split at hv
    · rename_i hc
      rcases hc with e | ⟨_, _, e⟩
      · rw [e]; exact hti
      · rcases h.val (mult.get jj) with e' | e'
        · exact Conn.trans (hS x _ hx ht (e.trans e')) hti
        · exact hQ0 x hx (e.trans e')
    · exact h.conn x hx hv
  · -- if one of two visited points of one old group gets `minG`, the other gets it or has it already
    have key : ∀ u v, v < i → g0.get u = g0.get v → a.1.get u = a.1.get v →
        (u = mult.get jj ∨ (a.1.get (mult.get jj) < n ∧ u < i ∧ g0.get u = a.1.get (mult.get jj))) →
        (if v = mult.get jj ∨ (a.1.get (mult.get jj) < n ∧ v < i ∧ g0.get v = a.1.get (mult.get jj)) then minG
          else a.1.get v) = minG := by
      intro u v hv hg0 ha hu
      split
      · rfl
      · rename_i hnv
        rcases hu with e | ⟨_, _, e⟩
        · rcases h.val (mult.get jj) with e' | e'
          · exact absurd (Or.inr ⟨hlt, hv, by rw [← hg0, e, e']⟩) hnv
          · rw [← ha, e, e']
        · exact absurd (Or.inr ⟨hlt, hv, hg0 ▸ e⟩) hnv
    have hxy' := h.cls x y hx hy hxy
    rw [hg x, hg y]
    by_cases hCx : x = mult.get jj ∨ (a.1.get (mult.get jj) < n ∧ x < i ∧ g0.get x = a.1.get (mult.get jj))
    · rw [if_pos hCx, key x y hy hxy hxy' hCx]
    · by_cases hCy : y = mult.get jj ∨ (a.1.get (mult.get jj) < n ∧ y < i ∧ g0.get y = a.1.get (mult.get jj))
      · rw [if_pos hCy, key y x hx hxy.symm hxy'.symm hCy]
      · rw [if_neg hCx, if_neg hCy, hxy']

/-- state before pass `i` of `for i in range(nTargets)` (the points `< i` are "visited") -/
structure GInv (close : Nat → Nat → Bool) (n i : Nat) (s : GS) : Prop where
  nG_le : s.nG ≤ i
  lab_lt : ∀ j, j < i → s.inG.get j < s.nG
  lists : IsLists s.inG 0 i s.L
  ok : s.ok = true
  sound : ∀ a b, a < n → b < n → s.inG.get a = s.inG.get b → Conn close n a b
  /-- an unvisited point carries its own index or a group label -/
  unv : ∀ j, i ≤ j → j < n → s.inG.get j = j ∨ s.inG.get j < s.nG
  compl : (∀ a b, a < n → b < n → close a b = close b a) →
    ∀ a b, a < i → b < i → close a b = true → s.inG.get a = s.inG.get b

theorem gInv_step (n : Nat) (close : Nat → Nat → Bool) (i : Nat) (hi : i < n) (hrefl : close i i = true)
    (s : GS) (h : GInv close n i s) : GInv close n (i+1) (groupsStep n close s i) := by
  have hsc : ScanInv close s.inG i s.nG n ((List.range n).foldl (scanStep close s.inG i) ⟨0, s.nG, s.mult⟩) :=
    foldl_range_inv _ (ScanInv close s.inG i s.nG) _ n
      ⟨Nat.le_refl _, Or.inl rfl, fun jj h => by simp at h, fun j h => by omega⟩
      (fun k a _ h => scanInv_step close s.inG i s.nG k a h) n (Nat.le_refl _)
  simp only [groupsStep, freeze_eq]
  generalize (List.range n).foldl (scanStep close s.inG i) ⟨0, s.nG, s.mult⟩ = sc at hsc ⊢
  have hle := hsc.le
  have hnG := h.nG_le
  have hbound : ∀ x, x < n → s.inG.get x < n := by
    intro x hx
    by_cases hxi : x < i
    · have := h.lab_lt x hxi; omega
    · rcases h.unv x (by omega) hx with e | e <;> omega
  -- a point that carries `minG` before the relabelling: `minG` is the label of a neighbour of `i`, or no neighbour
  -- has a group label and `minG = nG` is carried by `i` alone
  have hQ0 : ∀ x, x < n → s.inG.get x = sc.minG → Conn close n x i := by
    intro x hx he
    rcases hsc.src with e | ⟨j, a1, a2, a3⟩
    · rw [e] at he
      by_cases hxi : x < i
      · have := h.lab_lt x hxi; omega
      · rcases h.unv x (by omega) hx with e' | e'
        · have : x = i := by omega
          rw [this]; exact Conn.refl _
        · omega
    · exact Conn.trans (h.sound x j hx a1 (he.trans a3.symm)) (Conn.single a1 hi (Or.inr a2))
  have hrel := foldl_range_inv (relabelOne n sc.minG s.L sc.mult) (RelInv close n i s.inG sc.minG sc.mult)
    (s.inG, true) sc.nTmp
    ⟨fun x => Or.inl rfl, fun j h => by omega, rfl, hQ0, fun x y _ _ e => e⟩
    (fun k a hk ha => relInv_step close n i sc.minG hi s.inG s.L h.lists h.sound hQ0 hbound (by omega) sc.mult k
      (hsc.nbr k hk).1 (hsc.nbr k hk).2 a ha) sc.nTmp (Nat.le_refl _)
  rw [← h.ok] at hrel
  generalize (List.range sc.nTmp).foldl (relabelOne n sc.minG s.L sc.mult) (s.inG, s.ok) = r at hrel ⊢
  have hnb : ∀ b, b < n → close i b = true → r.1.get b = sc.minG := by
    intro b hb hc
    obtain ⟨jb, hjb, hjbe⟩ := hsc.all b hb hc
    rw [← hjbe]; exact hrel.set jb hjb
  have hri := hnb i hi hrefl
  -- the group count after the pass: a new group iff no neighbour carried a group label
  have hnG' : s.nG ≤ (if sc.minG = s.nG then s.nG + 1 else s.nG) ∧
      (if sc.minG = s.nG then s.nG + 1 else s.nG) ≤ i + 1 ∧
      sc.minG < (if sc.minG = s.nG then s.nG + 1 else s.nG) := by split <;> omega
  generalize (if sc.minG = s.nG then s.nG + 1 else s.nG) = nG' at hnG' ⊢
  refine ⟨?_, ?_, ?_, hrel.ok, ?_, ?_, ?_⟩
  all_goals dsimp only
  · omega
  · intro j hj
    by_cases hji' : j = i
    · rw [hji', hri]; omega
    · rcases hrel.val j with e | e
      · have := h.lab_lt j (by omega); rw [e]; omega
      · rw [e]; omega
  · -- `first` is cleared on `[0, i]` only: beyond, it held `-1` already, every label in use being below `nG ≤ i`
    apply isLists_link r.1 (i+1) (i+1) (Nat.le_refl _)
    apply isLists_empty
    intro c
    rw [foldl_upd_const]
    by_cases hc : c ∈ List.range (i+1)
    · simp [hc]
    · simp only [hc, if_false]
      cases hf : s.L.first.get c with
      | none => rfl
      | some y =>
        obtain ⟨_, b, c', _⟩ := h.lists.first_some c y hf
        have := h.lab_lt y b
        simp only [List.mem_range] at hc
        omega
  · intro a b ha hb e
    by_cases hma : r.1.get a = sc.minG
    · have hmb : r.1.get b = sc.minG := by rw [← e]; exact hma
      exact Conn.trans (hrel.conn a ha hma) (Conn.symm (hrel.conn b hb hmb))
    · have hmb : r.1.get b ≠ sc.minG := by rw [← e]; exact hma
      have ea : r.1.get a = s.inG.get a := (hrel.val a).resolve_right hma
      have eb : r.1.get b = s.inG.get b := (hrel.val b).resolve_right hmb
      exact h.sound a b ha hb (by rw [← ea, ← eb]; exact e)
  · intro j hj1 hj2
    rcases hrel.val j with e | e
    · rcases h.unv j (by omega) hj2 with e' | e'
      · left; rw [e]; exact e'
      · right; rw [e]; omega
    · right; rw [e]; omega
  · intro hsym a b ha hb hc
    by_cases hai : a = i <;> by_cases hbi : b = i
    · rw [hai, hbi]
    · rw [hai] at hc ⊢
      rw [hri, hnb b (by omega) hc]
    · rw [hbi] at hc ⊢
      rw [hsym a i (by omega) hi] at hc
      rw [hri, hnb a (by omega) hc]
    · exact hrel.cls a b (by omega) (by omega) (h.compl hsym a b (by omega) (by omega) hc)

theorem gInv_all (n : Nat) (close : Nat → Nat → Bool) (hrefl : ∀ i, i < n → close i i = true) :
    ∀ k, k ≤ n → GInv close n k ((List.range k).foldl (groupsStep n close) groupsInit) :=
  foldl_range_inv _ (GInv close n) _ n
    ⟨Nat.le_refl _, fun j h => by omega, isLists_empty _ 0 _ _ (fun c => rfl), rfl,
      fun a b _ _ e => (show a = b from e) ▸ Conn.refl a, fun j _ _ => Or.inl rfl, fun _ a b h => by omega⟩
    (fun k s hk h => gInv_step n close k hk (hrefl k hk) s h)

end PydlVerif.Fof
