/-
One pass of the `while` loop of `iterfit` (pydl/pydlutils/bspline.py 670-702).  The model holds the pass on the 1-D object three times
(`IterFit.iterBody`, `IterFit.iterBodyFull`, `Combine.iterBodyRq`); here it is described once, `passG`, with the `requiren` walk a
parameter.  (The 2-D pass `IterFit.iterBody2` works on other state and object types and is read in Props/C10.lean.)
-/
import PydlVerif.Model.IterFit
import PydlVerif.Model.CombineFit
import PydlVerif.Lemmas.Except
namespace PydlVerif.IterPass
open PydlVerif PydlVerif.BSpline PydlVerif.BSplineFit PydlVerif.IterFit

variable {α : Type} [Scalar α]

/-- `sset` as the `requiren` block of a pass leaves it; `rqf` is the walk (`requirenWalk`, `Combine.requirenMask`) -/
def afterRequiren (rqf : BS α → List α → List α → List Bool → Nat → R (Array Bool)) (rq : Option Nat) (b : BS α) (xw iw : List α)
    (mw : List Bool) : R (BS α) :=
  match rq with
  | none => pure b
  | some r => do
    let m ← rqf b xw iw mw r
    pure { b with mask := m }

/-- the rest of a pass: `fit` of the object `b`, then the dispatch on its status; the Bool says that the pass took the branch
`sset.coeff = 0` (never here, in `passG` when at most one good point is left) -/
def passTail (K : Kernels α) (p : Params α) (xw yw iw : List α) (s : St α) (b : BS α) : R (Outcome α × Bool) := do
  let out ← fit K b xw yw (maskedWeights iw s.maskwork) (List.range xw.length)
  let st : St α := { s with sset := out.obj, yfit := out.yfit, error := out.status, iiter := s.iiter + 1 }
  if out.status = -2 then pure (.failed out.obj, false)
  else if out.status = 0 then
    let (m, q) ← Reject.djsReject K.sqrt (rejectOpts p) yw (some out.yfit) (some s.maskwork) (some s.maskwork) iw
    pure (.done { st with maskwork := m, qdone := q }, false)
  else pure (.done st, false)

/-- a pass with `requiren` and the branch "at most one good point left" (`sset.coeff = 0; iiter = maxiter + 1`, then one
rejection against the curve of the previous pass when `error == 0`) -/
def passG (rqf : BS α → List α → List α → List Bool → Nat → R (Array Bool)) (K : Kernels α) (p : Params α) (rq : Option Nat)
    (xw yw iw : List α) (s : St α) : R (Outcome α × Bool) :=
  if countTrue s.maskwork ≤ 1 ∨ !(s.sset.mask.any id) then
    if s.error = 0 then do
      let (m, q) ← Reject.djsReject K.sqrt (rejectOpts p) yw (some s.yfit) (some s.maskwork) (some s.maskwork) iw
      pure (.done { s with iiter := p.maxiter + 2, maskwork := m, qdone := q }, true)
    else pure (.done { s with iiter := p.maxiter + 2 }, true)
  else afterRequiren rqf rq s.sset xw iw s.maskwork >>= passTail K p xw yw iw s

omit [Scalar α] in
/-- in the model the rest of the pass is handed to both branches of the `requiren` block: taken out -/
theorem afterRequiren_bind {β : Type} {rqf : BS α → List α → List α → List Bool → Nat → R (Array Bool)} {rq : Option Nat} {b : BS α}
    {xw iw : List α} {mw : List Bool} {k : BS α → R β} :
    (match rq with
      | none => pure b >>= k
      | some r => rqf b xw iw mw r >>= fun m => pure { b with mask := m } >>= k) =
    afterRequiren rqf rq b xw iw mw >>= k := by
  cases rq with
  | none => rfl
  | some r => exact (bind_assoc _ _ _).symm

theorem iterBodyFull_eq (K : Kernels α) (p : Params α) (rq : Option Nat) (gbp : Bool) (xw yw iw : List α) (s : St α) :
    iterBodyFull K p rq gbp xw yw iw s = passG requirenWalk K p rq xw yw iw s := by
  unfold iterBodyFull passG
  -- `rejectCall` unfolds to `djsReject`: with `maxrej=None` `djsRejectFull` does not read its group arguments (C10 `rejectCall_eq`), so `gbp` is gone
  exact ite_congr rfl (fun _ => rfl) fun _ => afterRequiren_bind

theorem iterBodyRq_eq (K : Kernels α) (p : Params α) (rq : Option Nat) (xw yw iw : List α) (s : St α) :
    Combine.iterBodyRq K p rq xw yw iw s = passG Combine.requirenMask K p rq xw yw iw s := by
  unfold Combine.iterBodyRq passG
  exact ite_congr rfl (fun _ => rfl) fun _ => afterRequiren_bind

/-- the first model refuses the branch "at most one good point left" and has no `requiren` -/
theorem iterBody_eq (K : Kernels α) (p : Params α) (xw yw iw : List α) (s : St α) :
    iterBody K p xw yw iw s =
      if countTrue s.maskwork ≤ 1 ∨ !(s.sset.mask.any id) then .error "Degenerate"
      else (passTail K p xw yw iw s s.sset).map Prod.fst := by
  unfold iterBody passTail
  exact ite_congr rfl (fun _ => rfl) fun _ => bind_map fun out => ite_map rfl (ite_map (bind_map fun mq => rfl) rfl)

omit [Scalar α] in
theorem afterRequiren_ok (rqf : BS α → List α → List α → List Bool → Nat → R (Array Bool)) (rq : Option Nat) (b b' : BS α)
    (xw iw : List α) (mw : List Bool) (h : afterRequiren rqf rq b xw iw mw = .ok b') :
    b' = b ∨ ∃ r m, rqf b xw iw mw r = .ok m ∧ b' = { b with mask := m } := by
  cases rq with
  | none => cases h; exact Or.inl rfl
  | some r =>
    obtain ⟨m, hm, h⟩ := bind_ok h
    cases h
    exact Or.inr ⟨r, m, hm, rfl⟩

/-- the mask and `qdone` after a pass: as before, or what one `djs_reject(inmask = outmask = mask)` against `yf` answered -/
def Rejected (K : Kernels α) (p : Params α) (yw iw : List α) (s : St α) (yf : List α) (run : Prop) (m : List Bool) (q : Bool) : Prop :=
  (¬ run ∧ m = s.maskwork ∧ q = s.qdone) ∨
  (run ∧ Reject.djsReject K.sqrt (rejectOpts p) yw (some yf) (some s.maskwork) (some s.maskwork) iw = .ok (m, q))

theorem passTail_ok (K : Kernels α) (p : Params α) (xw yw iw : List α) (s : St α) (b : BS α) (o : Outcome α) (z : Bool)
    (h : passTail K p xw yw iw s b = .ok (o, z)) :
    z = false ∧ ∃ out, fit K b xw yw (maskedWeights iw s.maskwork) (List.range xw.length) = .ok out ∧
      ((out.status = -2 ∧ o = .failed out.obj) ∨
       (out.status ≠ -2 ∧ ∃ m q, Rejected K p yw iw s out.yfit (out.status = 0) m q ∧
        o = .done { s with sset := out.obj, yfit := out.yfit, error := out.status, iiter := s.iiter + 1, maskwork := m, qdone := q })) := by
  unfold passTail at h
  obtain ⟨out, hf, h⟩ := bind_ok h
  simp only [] at h
  split at h
  · rename_i h2
    cases h
    exact ⟨rfl, out, hf, Or.inl ⟨h2, rfl⟩⟩
  rename_i h2
  split at h
  · rename_i h0
    obtain ⟨⟨m, q⟩, hr, h⟩ := bind_ok h
    cases h
    exact ⟨rfl, out, hf, Or.inr ⟨h2, m, q, Or.inr ⟨h0, hr⟩, rfl⟩⟩
  · rename_i h0
    cases h
    exact ⟨rfl, out, hf, Or.inr ⟨h2, _, _, Or.inl ⟨h0, rfl, rfl⟩, rfl⟩⟩

/-- a pass that returned: the branch "at most one good point left" (object kept, `coeff = 0` flagged, one rejection against the
old curve when `error = 0`), or `requiren`, then fit and dispatch on the status -/
theorem passG_ok (rqf : BS α → List α → List α → List Bool → Nat → R (Array Bool)) (K : Kernels α) (p : Params α)
    (rq : Option Nat) (xw yw iw : List α) (s : St α) (o : Outcome α) (z : Bool)
    (h : passG rqf K p rq xw yw iw s = .ok (o, z)) :
    (z = true ∧ ∃ m q, Rejected K p yw iw s s.yfit (s.error = 0) m q ∧
      o = .done { s with iiter := p.maxiter + 2, maskwork := m, qdone := q }) ∨
    (z = false ∧ ∃ b out, (b = s.sset ∨ ∃ r m, rqf s.sset xw iw s.maskwork r = .ok m ∧ b = { s.sset with mask := m }) ∧
      fit K b xw yw (maskedWeights iw s.maskwork) (List.range xw.length) = .ok out ∧
      ((out.status = -2 ∧ o = .failed out.obj) ∨
       (out.status ≠ -2 ∧ ∃ m q, Rejected K p yw iw s out.yfit (out.status = 0) m q ∧
        o = .done { s with sset := out.obj, yfit := out.yfit, error := out.status, iiter := s.iiter + 1, maskwork := m, qdone := q }))) := by
  unfold passG at h
  split at h
  · left
    split at h
    · rename_i he
      obtain ⟨⟨m, q⟩, hr, h⟩ := bind_ok h
      cases h
      exact ⟨rfl, m, q, Or.inr ⟨he, hr⟩, rfl⟩
    · rename_i he
      cases h
      exact ⟨rfl, _, _, Or.inl ⟨he, rfl, rfl⟩, rfl⟩
  · right
    obtain ⟨b, hb, h⟩ := bind_ok h
    obtain ⟨hz, out, hf, ho⟩ := passTail_ok K p xw yw iw s b o z h
    exact ⟨hz, b, out, afterRequiren_ok rqf rq s.sset b xw iw s.maskwork hb, hf, ho⟩

end PydlVerif.IterPass
