/-
djs_median and pydl/median.py (C17): the reflected index; for the 2-D median the windows and the reflected array.
-/
import PydlVerif.Model.Interp
import PydlVerif.Lemmas.ScalarField
import PydlVerif.Lemmas.ListBasics

namespace PydlVerif.Interp

/-- source index of position `j` (counted from the first array element, may be negative or
`≥ n`) of the symmetric reflection `d c b a | a b c d | d c b a` of an axis of length `n` -/
def reflIdx (n : Nat) (j : Int) : Nat :=
  if j < 0 then (-1 - j).toNat else if j ≥ n then (2 * (n : Int) - 1 - j).toNat else j.toNat

theorem reflIdx_lt (n : Nat) (j : Int) (h1 : -(n : Int) ≤ j) (h2 : j < 2 * (n : Int)) (hn : 0 < n) :
    reflIdx n j < n := by
  unfold reflIdx
  split
  · omega
  · split <;> omega

theorem reflIdx_left (n p m : Nat) (h : m < p) : reflIdx n ((m : Int) - p) = p - 1 - m := by
  unfold reflIdx
  rw [if_pos (by omega)]
  omega

theorem reflIdx_mid (n p d : Nat) (h : d < n) : reflIdx n (((p + d : Nat) : Int) - p) = d := by
  unfold reflIdx
  rw [if_neg (by omega), if_neg (by omega)]
  omega

theorem reflIdx_right (n p d : Nat) : reflIdx n (((p + n + d : Nat) : Int) - p) = n - 1 - d := by
  unfold reflIdx
  rw [if_neg (by omega), if_pos (by omega)]
  omega

theorem reflect_getElem? {β : Type} (l : List β) (p m : Nat) (hp : p ≤ l.length) (hm : m < l.length + 2 * p) :
    ((l.take p).reverse ++ l ++ (l.drop (l.length - p)).reverse)[m]? =
      l[reflIdx l.length ((m : Int) - p)]? := by
  have l1 : (l.take p).reverse.length = p := by
    rw [List.length_reverse, List.length_take, Nat.min_eq_left hp]
  by_cases c1 : m < p
  · rw [reflIdx_left _ _ _ c1, List.append_assoc, List.getElem?_append_left (by omega),
      List.getElem?_reverse (by rw [← List.length_reverse]; omega), ← List.length_reverse, l1,
      List.getElem?_take_of_lt (by omega)]
  · by_cases c2 : m < p + l.length
    · obtain ⟨d, rfl⟩ := Nat.exists_eq_add_of_le (Nat.le_of_not_lt c1)
      rw [reflIdx_mid _ _ _ (by omega), List.getElem?_append_left (by rw [List.length_append, l1]; exact c2),
        List.getElem?_append_right (by rw [l1]; exact Nat.le_add_right _ _), l1, Nat.add_sub_cancel_left]
    · -- written as `m = p + l.length + d` the offsets cancel and `omega` sees one truncated difference less
      obtain ⟨d, rfl⟩ := Nat.exists_eq_add_of_le (Nat.le_of_not_lt c2)
      have l2 : (l.drop (l.length - p)).length = p := by rw [List.length_drop, Nat.sub_sub_self hp]
      rw [reflIdx_right, List.getElem?_append_right (by rw [List.length_append, l1]; exact Nat.le_add_right _ _),
        List.length_append, l1, Nat.add_sub_cancel_left, List.getElem?_reverse (by omega), l2, List.getElem?_drop]
      congr 1
      omega

theorem padIdx_length (n pad : Nat) (h : pad ≤ n) : (padIdx n pad).length = n + 2 * pad := by
  unfold padIdx
  rw [if_neg (by omega)]
  simp
  omega

theorem padIdx_get (n pad m : Nat) (h : pad ≤ n) (hm : m < n + 2 * pad) :
    (padIdx n pad)[m]? = some (reflIdx n ((m : Int) - (pad : Int))) := by
  have hr := reflect_getElem? (List.range n) pad m (by rw [List.length_range]; exact h)
    (by rw [List.length_range]; exact hm)
  rw [List.length_range] at hr
  unfold padIdx
  rw [if_neg (by omega), hr, List.getElem?_range (reflIdx_lt n _ (by omega) (by omega) (by omega))]

section field
variable {K : Type} [Field K] [LinearOrder K] [IsStrictOrderedRing K] [FloorRing K]
attribute [local instance] fieldScalar
attribute [-instance] Scalar.instOfNat Scalar.instOfScientific

/-- 1-D branch of `pydl.median(array, width)` (`medfilt` + restored ends), width `2h+1`, odd kernel `min(width, size)` -/
theorem medianFilt_odd (med : List K → K) (a : List K) (h : Nat) (hodd : (min (2 * h + 1) a.length) % 2 = 1) :
    medianFilt med a (2 * h + 1) = .ok ((List.range a.length).map fun i =>
      if h ≤ i ∧ i + h < a.length then med ((List.range (2 * h + 1)).map fun k => a.getD (i + k - h) 0)
      else a.getD i 0) := by
  have hev : ((min (2 * h + 1) a.length) % 2 == 0) = false := by rw [hodd]; rfl
  unfold medianFilt
  -- the halves of the width first: `omega` is slow on the divisions under the casts
  simp only [hev, Bool.false_eq_true, if_false, scalar_lit, Nat.cast_zero, Nat.add_sub_cancel,
    Nat.mul_div_cancel_left h Nat.two_pos, half_odd_succ h]
  -- out of the way of `omega`, which would split on the `min` and `%` at every call
  clear hev hodd
  congr 1
  apply List.map_congr_left
  intro i _
  by_cases hin : h ≤ i ∧ i + h < a.length
  · rw [if_pos hin, if_neg (by omega), Nat.min_eq_left (by omega), half_odd h,
      drop_take_eq_map_getD a 0 (i - h) (2 * h + 1) (by omega)]
    congr 1
    apply List.map_congr_left
    intro k _
    rw [show i - h + k = i + k - h by omega]
  · rw [if_neg hin, if_pos (by omega)]

theorem medianFilt_even (med : List K → K) (a : List K) (w : Nat) (h : (min w a.length) % 2 = 0) :
    medianFilt med a w = .error "ValueError" := by
  simp only [medianFilt, h, beq_self_eq_true, if_true]

theorem medianFilt2_even (med : List K → K) (b0 b1 : Nat) (a : List K) (w : Nat) (h : (min w (b0 * b1)) % 2 = 0) :
    medianFilt2 med b0 b1 a w = .error "ValueError" := by
  simp only [medianFilt2, h, beq_self_eq_true, if_true]

/-- the `(2h+1) × (2h+1)` window around `(i, j)` of a 2-D signal given as a function of (integer) row and
column, listed row by row -/
def win2 (f : Int → Int → K) (h i j : Nat) : List K :=
  (List.range (2 * h + 1)).flatMap fun (di : Nat) => (List.range (2 * h + 1)).map fun (dj : Nat) =>
    f ((i : Int) + (di : Int) - (h : Int)) ((j : Int) + (dj : Int) - (h : Int))

omit [Field K] [LinearOrder K] [IsStrictOrderedRing K] [FloorRing K] in
theorem win2_ext (f g : Int → Int → K) (h i j i' j' : Nat)
    (hfg : ∀ di dj : Nat, di < 2 * h + 1 → dj < 2 * h + 1 →
      f ((i : Int) + (di : Int) - (h : Int)) ((j : Int) + (dj : Int) - (h : Int)) =
      g ((i' : Int) + (di : Int) - (h : Int)) ((j' : Int) + (dj : Int) - (h : Int))) :
    win2 f h i j = win2 g h i' j' := by
  unfold win2
  apply List.flatMap_congr
  intro di hdi
  apply List.map_congr_left
  intro dj hdj
  exact hfg di dj (List.mem_range.1 hdi) (List.mem_range.1 hdj)

omit [Field K] [LinearOrder K] [IsStrictOrderedRing K] [FloorRing K] in
theorem win2_congr (f g : Int → Int → K) (h i j : Nat)
    (hfg : ∀ di dj : Nat, di < 2 * h + 1 → dj < 2 * h + 1 →
      f ((i : Int) + (di : Int) - (h : Int)) ((j : Int) + (dj : Int) - (h : Int)) =
      g ((i : Int) + (di : Int) - (h : Int)) ((j : Int) + (dj : Int) - (h : Int))) :
    win2 f h i j = win2 g h i j :=
  win2_ext f g h i j i j hfg

/-- the 2-D array reflected about its four edges: value at integer row `r`, column `c` -/
def ext2 (a : List K) (n0 n1 : Nat) (r c : Int) : K := a.getD (reflIdx n0 r * n1 + reflIdx n1 c) 0

/-- `bigarr` of the 2-D branch of `djs_median` -/
def bigarr2 (a : List K) (n0 n1 pad : Nat) : List K :=
  (padIdx n0 pad).flatMap fun r => (padIdx n1 pad).map fun c => a.toArray.getD (r * n1 + c) 0

/-- the definition with `bigarr2` named and the `let`s inlined -/
theorem djsMedianReflect2_eq (med : List K → K) (n0 n1 : Nat) (a : List K) (w : Nat) :
    djsMedianReflect2 med n0 n1 a w =
      if w == 1 then .ok a else
      if (n0 < (w + 1) / 2 ∧ n0 ≠ 1) ∨ (n1 < (w + 1) / 2 ∧ n1 ≠ 1) then .error "ValueError" else
      match medianFilt2 med (n0 + 2 * ((w + 1) / 2)) (n1 + 2 * ((w + 1) / 2)) (bigarr2 a n0 n1 ((w + 1) / 2))
          (min w (n0 * n1)) with
      | .error e => .error e
      | .ok f => .ok ((List.range (n0 * n1)).map fun p =>
          f.toArray.getD ((p / n1 + (w + 1) / 2) * (n1 + 2 * ((w + 1) / 2)) + (p % n1 + (w + 1) / 2)) 0) := by
  unfold djsMedianReflect2 bigarr2
  simp only [scalar_lit, Nat.cast_zero]
  -- the two guards one by one (`split` on the whole definition is slow); what is left differs in the `let`s only
  by_cases h1 : (w == 1) = true
  · rw [if_pos h1, if_pos h1]
  rw [if_neg h1, if_neg h1]
  by_cases h2 : (n0 < (w + 1) / 2 ∧ n0 ≠ 1) ∨ (n1 < (w + 1) / 2 ∧ n1 ≠ 1)
  · rw [if_pos h2, if_pos h2]
  rw [if_neg h2, if_neg h2]
  rfl

omit [LinearOrder K] [IsStrictOrderedRing K] [FloorRing K] in
theorem bigarr2_length (a : List K) (n0 n1 pad : Nat) (h0 : pad ≤ n0) (h1 : pad ≤ n1) :
    (bigarr2 a n0 n1 pad).length = (n0 + 2 * pad) * (n1 + 2 * pad) := by
  unfold bigarr2
  rw [flatMap_map_length, padIdx_length n0 pad h0, padIdx_length n1 pad h1]

omit [LinearOrder K] [IsStrictOrderedRing K] [FloorRing K] in
theorem bigarr2_get (a : List K) (n0 n1 pad : Nat) (h0 : pad ≤ n0) (h1 : pad ≤ n1) (R C : Nat)
    (hR : R < n0 + 2 * pad) (hC : C < n1 + 2 * pad) :
    (bigarr2 a n0 n1 pad).getD (R * (n1 + 2 * pad) + C) 0 =
      ext2 a n0 n1 ((R : Int) - (pad : Int)) ((C : Int) - (pad : Int)) := by
  have lR := padIdx_length n0 pad h0
  have lC := padIdx_length n1 pad h1
  obtain ⟨hR', eR⟩ := List.getElem?_eq_some_iff.1 (padIdx_get n0 pad R h0 hR)
  obtain ⟨hC', eC⟩ := List.getElem?_eq_some_iff.1 (padIdx_get n1 pad C h1 hC)
  unfold bigarr2 ext2
  rw [List.getD_eq_getElem?_getD, ← lC,
    flatMap_map_get (padIdx n1 pad) (fun r c => a.toArray.getD (r * n1 + c) 0) (padIdx n0 pad) R C hR' hC']
  simp only [Option.getD_some, eR, eC]
  simp

end field
end PydlVerif.Interp
