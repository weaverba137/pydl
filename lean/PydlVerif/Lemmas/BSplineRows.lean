/-
The `uniq`-based bookkeeping of `bspline.action` (`uniqIdx`, `scatter`, `lowerUpper` of Model/BSpline.lean) on a
non-decreasing vector of interval indices.  Core Lean only.
-/
import PydlVerif.Model.BSpline
import PydlVerif.Lemmas.ListBasics
namespace PydlVerif.C08
open PydlVerif PydlVerif.BSpline

/-- runs of equal values are contiguous (holds for monotone vectors of either direction) -/
def Contig (q : Array Nat) : Prop :=
  ∀ a c b, a ≤ c → c ≤ b → b < q.size → q[a]! = q[b]! → q[c]! = q[a]!

def RunEnd (q : Array Nat) (b : Nat) : Prop := b < q.size ∧ (b = q.size - 1 ∨ q[b]! ≠ q[b+1]!)

theorem mem_uniqIdx (q : Array Nat) (hn : 0 < q.size) (hc : Contig q) (a : Nat) : a ∈ uniqIdx q ↔ RunEnd q a := by
  have key : ∀ a, a < q.size → a ≠ q.size - 1 → ((q[a]! != q[(a+1) % q.size]!) = true ↔ q[a]! ≠ q[a+1]!) := by
    intro a h1 h2
    rw [Nat.mod_eq_of_lt (by omega), bne_iff_ne]
  unfold uniqIdx RunEnd
  simp only
  split
  · rename_i hemp
    rw [List.isEmpty_iff, List.filter_eq_nil_iff] at hemp
    rw [List.mem_singleton]
    refine ⟨fun h => ⟨by omega, Or.inl h⟩, fun ⟨h1, h2⟩ => h2.elim id fun h2 => ?_⟩
    exact Decidable.byContradiction fun ha => hemp a (List.mem_range.2 h1) ((key a h1 ha).2 h2)
  · rename_i hne
    rw [List.mem_filter, List.mem_range]
    by_cases ha : a = q.size - 1
    · -- the last position is kept: were it equal to the first, the vector would be constant
      refine ⟨fun h => ⟨h.1, Or.inl ha⟩, fun h => ⟨h.1, ?_⟩⟩
      rw [ha, show q.size - 1 + 1 = q.size by omega, Nat.mod_self, bne_iff_ne]
      intro heq
      have hall : ∀ i, i < q.size → q[i]! = q[0]! := fun i hi =>
        hc 0 i (q.size - 1) (Nat.zero_le _) (by omega) (by omega) heq.symm
      refine hne ?_
      rw [List.isEmpty_iff, List.filter_eq_nil_iff]
      intro i hi
      rw [hall i (List.mem_range.1 hi), hall _ (Nat.mod_lt _ hn)]
      simp
    · exact and_congr_right fun h1 => (key a h1 ha).trans ⟨Or.inr, fun h => h.resolve_left ha⟩


theorem scatter_map (arr : Array Int) (l : List Nat) (f : Nat → Nat) (g : Nat → Int) :
    scatter arr (l.map f) (l.map g) = l.foldl (fun a x => a.setIfInBounds (f x) (g x)) arr := by
  unfold scatter
  rw [List.zip_map', List.foldl_map]

theorem foldl_set_size {ι β : Type} (l : List ι) (f : ι → Nat) (g : ι → β) (arr : Array β) :
    (l.foldl (fun a x => a.setIfInBounds (f x) (g x)) arr).size = arr.size := by
  induction l generalizing arr with
  | nil => rfl
  | cons x l ih => rw [List.foldl_cons, ih, Array.size_setIfInBounds]

theorem scatter_size (arr : Array Int) (l : List Nat) (f : Nat → Nat) (g : Nat → Int) :
    (scatter arr (l.map f) (l.map g)).size = arr.size := by
  rw [scatter_map, foldl_set_size]

theorem foldl_set_get {ι β : Type} [Inhabited β] (l : List ι) (f : ι → Nat) (g : ι → β) (arr : Array β) (j : Nat) (w : β)
    (hj : j < arr.size) (hall : ∀ a ∈ l, f a = j → g a = w) (h : arr[j]! = w ∨ ∃ a ∈ l, f a = j) :
    (l.foldl (fun a x => a.setIfInBounds (f x) (g x)) arr)[j]! = w := by
  induction l generalizing arr with
  | nil => exact h.resolve_right fun ⟨_, ha, _⟩ => List.not_mem_nil ha
  | cons x l ih =>
    rw [List.forall_mem_cons] at hall
    refine ih (arr.setIfInBounds (f x) (g x)) (by rw [Array.size_setIfInBounds]; exact hj) hall.2 ?_
    by_cases hx : f x = j
    · left
      rw [hx, getElem!_def, Array.getElem?_setIfInBounds_self_of_lt hj, hall.1 hx]
    · refine h.imp (fun h0 => ?_) (fun ⟨a, ha, hfa⟩ => ?_)
      · rw [← h0, getElem!_setIfInBounds_ne _ _ _ _ hx]
      · rcases List.mem_cons.1 ha with e | ha'
        · exact absurd (e ▸ hfa) hx
        · exact ⟨a, ha', hfa⟩

theorem runEnd_not_lt (q : Array Nat) (hc : Contig q) (a b : Nat) (ha : RunEnd q a) (hb : b < q.size)
    (h : q[a]! = q[b]!) : ¬ a < b := fun hab =>
  ha.2.elim (fun h1 => by omega) (fun h1 => h1 (hc a (a+1) b (Nat.le_succ a) hab hb h).symm)

theorem runEnd_unique (q : Array Nat) (hc : Contig q) (a b : Nat) (ha : RunEnd q a) (hb : RunEnd q b)
    (h : q[a]! = q[b]!) : a = b :=
  Nat.le_antisymm (Nat.le_of_not_lt (runEnd_not_lt q hc b a hb ha.1 h.symm))
    (Nat.le_of_not_lt (runEnd_not_lt q hc a b ha hb.1 h))

section slots
variable (k n : Nat) (q : Array Nat) (hn : 0 < q.size) (hc : Contig q)
  (hr : ∀ a, a < q.size → k - 1 ≤ q[a]! ∧ q[a]! + 1 ≤ n) (g : Nat → Int) (c : Int)
include hn hc hr

/-- `arr[q[aa] + 1 - k] = g aa` for `aa = uniq q` -/
theorem scatter_slot_hit (b : Nat) (hb : RunEnd q b) :
    (scatter (Array.replicate (n - k + 1) c) ((uniqIdx q).map (fun a => q[a]! + 1 - k))
      ((uniqIdx q).map g))[q[b]! + 1 - k]! = g b := by
  have hrb := hr b hb.1
  rw [scatter_map]
  refine foldl_set_get _ _ _ _ _ _ (by rw [Array.size_replicate]; omega) (fun a ha hFa => ?_)
    (Or.inr ⟨b, (mem_uniqIdx q hn hc b).2 hb, rfl⟩)
  have ha' := (mem_uniqIdx q hn hc a).1 ha
  have hra := hr a ha'.1
  rw [runEnd_unique q hc a b ha' hb (by omega)]

omit hr in
theorem scatter_slot_miss (i : Nat) (hi : i < n - k + 1) (hj : ∀ p, p < q.size → q[p]! + 1 - k ≠ i) :
    (scatter (Array.replicate (n - k + 1) c) ((uniqIdx q).map (fun a => q[a]! + 1 - k))
      ((uniqIdx q).map g))[i]! = c := by
  have hsz : i < (Array.replicate (n - k + 1) c).size := by rw [Array.size_replicate]; exact hi
  rw [scatter_map]
  exact foldl_set_get _ _ _ _ i c hsz (fun a ha h => absurd h (hj a ((mem_uniqIdx q hn hc a).1 ha).1))
    (Or.inl (by rw [getElem!_pos _ i hsz, Array.getElem_replicate]))
end slots

theorem reverse_get (q : Array Nat) (a : Nat) (h : a < q.size) : q.reverse[a]! = q[q.size - 1 - a]! := by
  rw [getElem!_pos q.reverse a (by simpa using h), Array.getElem_reverse, getElem!_pos]

theorem reverse_get' (q : Array Nat) (a : Nat) (h : a < q.size) : q.reverse[q.size - 1 - a]! = q[a]! := by
  rw [reverse_get q _ (by omega)]; congr 1; omega

theorem runEnd_reverse (q : Array Nat) (a : Nat) (ha : a < q.size) (hstart : a = 0 ∨ q[a-1]! ≠ q[a]!) :
    RunEnd q.reverse (q.size - 1 - a) := by
  refine ⟨by rw [Array.size_reverse]; omega, ?_⟩
  rw [Array.size_reverse]
  rcases hstart with h | h
  · left; omega
  · right
    have ha0 : 0 < a := Nat.pos_of_ne_zero (fun h0 => h (by rw [h0]))
    rw [reverse_get' q a ha, reverse_get q _ (by omega), show q.size - 1 - (q.size - 1 - a + 1) = a - 1 by omega]
    exact fun h' => h h'.symm

theorem contig_of_sorted (q : Array Nat) (hs : ∀ a b, a ≤ b → b < q.size → q[a]! ≤ q[b]!) : Contig q := by
  intro a c b h1 h2 h3 h
  have := hs a c h1 (by omega)
  have := hs c b h2 h3
  omega

theorem contig_reverse (q : Array Nat) (hc : Contig q) : Contig q.reverse := by
  intro a c b h1 h2 h3 h
  rw [Array.size_reverse] at h3
  rw [reverse_get q a (by omega), reverse_get q b h3] at h
  rw [reverse_get q c (by omega), reverse_get q a (by omega)]
  have := hc (q.size - 1 - b) (q.size - 1 - c) (q.size - 1 - a) (by omega) (by omega) (by omega) h.symm
  rw [this, h]

/-- what the model's `lowerUpper` (the `uniq` bookkeeping of `action`) returns on a non-decreasing vector
of interval indices: `upper[v+1-k]` / `lower[v+1-k]` are the positions that end / start the run of value `v`;
an interval that holds no point keeps `lower[i] = 0`, `upper[i] = -1` (an empty range). -/
theorem lowerUpper_spec (k n : Nat) (indx : Array Nat) (hk : 1 ≤ k) (hkn : k ≤ n) (hnx : 0 < indx.size)
    (hs : ∀ a b, a ≤ b → b < indx.size → indx[a]! ≤ indx[b]!)
    (hr : ∀ a, a < indx.size → k - 1 ≤ indx[a]! ∧ indx[a]! + 1 ≤ n) :
    (lowerUpper k n indx).1.size = n - k + 1 ∧ (lowerUpper k n indx).2.size = n - k + 1 ∧
    (∀ b, b < indx.size → (b = indx.size - 1 ∨ indx[b]! ≠ indx[b+1]!) →
      (lowerUpper k n indx).2[indx[b]! + 1 - k]! = (b : Int)) ∧
    (∀ a, a < indx.size → (a = 0 ∨ indx[a-1]! ≠ indx[a]!) →
      (lowerUpper k n indx).1[indx[a]! + 1 - k]! = (a : Int)) ∧
    (∀ i, i < n - k + 1 → (∀ p, p < indx.size → indx[p]! + 1 - k ≠ i) →
      (lowerUpper k n indx).1[i]! = 0 ∧ (lowerUpper k n indx).2[i]! = -1) := by
  have hc := contig_of_sorted indx hs
  have hrs : 0 < indx.reverse.size := by rw [Array.size_reverse]; exact hnx
  have hrr : ∀ a, a < indx.reverse.size → k - 1 ≤ indx.reverse[a]! ∧ indx.reverse[a]! + 1 ≤ n := fun a ha => by
    rw [Array.size_reverse] at ha
    rw [reverse_get indx a ha]
    exact hr _ (by omega)
  simp only [lowerUpper]
  refine ⟨by rw [scatter_size, Array.size_replicate], by rw [scatter_size, Array.size_replicate],
    fun b hb hend => scatter_slot_hit k n indx hnx hc hr _ _ b ⟨hb, hend⟩, fun a ha hstart => ?_,
    fun i hi hnone => ⟨?_, scatter_slot_miss k n indx hnx hc _ _ i hi hnone⟩⟩
  · -- `lower` is the `upper` of the reversed vector: a run that starts at `a` ends at `size-1-a` there
    have := scatter_slot_hit k n indx.reverse hrs (contig_reverse indx hc) hrr
      (fun a => (indx.size : Int) - (a : Int) - 1) 0 _ (runEnd_reverse indx a ha hstart)
    rw [reverse_get' indx a ha] at this
    rw [this]; omega
  · exact scatter_slot_miss k n indx.reverse hrs (contig_reverse indx hc) _ _ i hi (fun p hp => by
      rw [Array.size_reverse] at hp
      rw [reverse_get indx p hp]
      exact hnone _ (by omega))


theorem exists_runEnd (f : Nat → Nat) (n p : Nat) (hp : p < n) :
    ∃ b, p ≤ b ∧ b < n ∧ (b = n - 1 ∨ f b ≠ f (b+1)) ∧ f b = f p := by
  generalize hd : n - 1 - p = d
  induction d generalizing p with
  | zero => exact ⟨p, Nat.le_refl _, hp, Or.inl (by omega), rfl⟩
  | succ d ih =>
    by_cases h : f p = f (p+1)
    · obtain ⟨b, h1, h2, h3, h4⟩ := ih (p+1) (by omega) (by omega)
      exact ⟨b, by omega, h2, h3, by rw [h4, h]⟩
    · exact ⟨p, Nat.le_refl _, hp, Or.inr h, rfl⟩

theorem exists_runStart (f : Nat → Nat) (p : Nat) : ∃ a, a ≤ p ∧ (a = 0 ∨ f (a-1) ≠ f a) ∧ f a = f p := by
  induction p with
  | zero => exact ⟨0, Nat.le_refl _, Or.inl rfl, rfl⟩
  | succ p ih =>
    by_cases h : f p = f (p+1)
    · obtain ⟨a, h1, h2, h3⟩ := ih
      exact ⟨a, by omega, h2, by rw [h3, h]⟩
    · exact ⟨p+1, Nat.le_refl _, Or.inr h, rfl⟩

/-- what `action` is meant to deliver in `lower`/`upper`: rows `lower[i]..upper[i]` (of the sorted
points) are exactly the rows whose point lies in knot interval `i+k-1` -/
def RowsOf (lower upper : Array Int) (indx : List Nat) (k m : Nat) : Prop :=
  ∀ p, p < indx.length → ∀ i, i < m →
    ((lower[i]! ≤ (p:Int) ∧ (p:Int) ≤ upper[i]!) ↔ i = indx.getD p 0 + 1 - k)

theorem slot_eq_iff {k i v : Nat} (hk : 1 ≤ k) (hv : k - 1 ≤ v) : v + 1 - k = i ↔ v = i + k - 1 := by omega

theorem run_bounds (f : Nat → Nat) (n : Nat) (hs : ∀ a b, a ≤ b → b < n → f a ≤ f b) (a b p : Nat) (ha : a < n)
    (hp : p < n) (hstart : a = 0 ∨ f (a-1) ≠ f a) (hend : b = n - 1 ∨ f b ≠ f (b+1)) (hva : f p = f a)
    (hvb : f p = f b) : a ≤ p ∧ p ≤ b := by
  refine ⟨Nat.le_of_not_lt fun hc => ?_, Nat.le_of_not_lt fun hc => ?_⟩
  · have h1 := hs p (a-1) (by omega) (by omega)
    have h2 := hs (a-1) a (by omega) ha
    omega
  · have h1 := hs (b+1) p (by omega) hp
    have h2 := hs b (b+1) (by omega) (by omega)
    omega

theorem sorted_getD {α : Type} [LE α] (hrefl : ∀ a : α, a ≤ a) (l : List α) (hs : l.Pairwise (· ≤ ·)) (d : α) :
    ∀ a b, a ≤ b → b < l.length → l.getD a d ≤ l.getD b d := by
  intro a b hab hb
  rcases Nat.eq_or_lt_of_le hab with h | h
  · rw [h]; exact hrefl _
  · rw [getD_lt _ _ a (Nat.lt_trans h hb), getD_lt _ _ b hb]
    exact List.pairwise_iff_getElem.1 hs a b _ hb h

section rows
variable (k n : Nat) (indx : List Nat) (hk : 1 ≤ k) (hkn : k ≤ n) (hne : indx ≠ [])
  (hs : indx.Pairwise (· ≤ ·)) (hr : ∀ v ∈ indx, k - 1 ≤ v ∧ v + 1 ≤ n)
include hk hkn hne hs hr

/-- when some point lies in interval `i+k-1`, `lower[i]` is the first and
`upper[i]` the last position with that interval index; otherwise the range is empty (`0 .. -1`) -/
theorem lowerUpper_first_last (i : Nat) (hi : i < n - k + 1) :
    let lu := lowerUpper k n indx.toArray
    ((∃ p, p < indx.length ∧ indx.getD p 0 = i + k - 1) →
      ∃ a b : Nat, lu.1[i]! = (a : Int) ∧ lu.2[i]! = (b : Int) ∧ a ≤ b ∧ b < indx.length ∧
        indx.getD a 0 = i + k - 1 ∧ indx.getD b 0 = i + k - 1 ∧
        ∀ p, p < indx.length → indx.getD p 0 = i + k - 1 → a ≤ p ∧ p ≤ b) ∧
    ((∀ p, p < indx.length → indx.getD p 0 ≠ i + k - 1) → lu.1[i]! = 0 ∧ lu.2[i]! = -1 ∧ lu.2[i]! < lu.1[i]!) := by
  have hik : i + k - 1 + 1 - k = i := by omega
  have hs' := sorted_getD Nat.le_refl indx hs 0
  have hr' := fun a ha => hr _ (getD_mem indx 0 a ha)
  obtain ⟨_, _, hU, hL, hE⟩ := lowerUpper_spec k n indx.toArray hk hkn
    (List.length_pos_iff.2 hne)
    (fun a b hab hb => by rw [toArray_getElem!, toArray_getElem!]; exact hs' a b hab hb)
    (fun a ha => by rw [toArray_getElem!]; exact hr' a ha)
  simp only [toArray_getElem!, Nat.default_eq_zero, List.size_toArray] at hU hL hE
  constructor
  · rintro ⟨p, hp, hv⟩
    obtain ⟨b, hpb, hb, hbend, hbv⟩ := exists_runEnd (indx.getD · 0) indx.length p hp
    obtain ⟨a, hap, hastart, hav⟩ := exists_runStart (indx.getD · 0) p
    have ha := Nat.lt_of_le_of_lt hap hp
    have hu := hU b hb hbend
    have hl := hL a ha hastart
    rw [hbv, hv, hik] at hu; rw [hav, hv, hik] at hl
    exact ⟨a, b, hl, hu, Nat.le_trans hap hpb, hb, hav.trans hv, hbv.trans hv, fun p' hp' hv' =>
      run_bounds _ _ hs' a b p' ha hp' hastart hbend (hv'.trans (hav.trans hv).symm)
        (hv'.trans (hbv.trans hv).symm)⟩
  · intro hnone
    have := hE i hi (fun p hp hv => hnone p hp ((slot_eq_iff hk (hr' p hp).1).1 hv))
    exact ⟨this.1, this.2, by rw [this.1, this.2]; decide⟩

/-- on the (non-decreasing, in-range) interval indices of sorted points the `uniq`
bookkeeping of `action` delivers exactly the rows of each interval -/
theorem rowsOf_lowerUpper :
    RowsOf (lowerUpper k n indx.toArray).1 (lowerUpper k n indx.toArray).2 indx k (n - k + 1) := by
  have hs' := sorted_getD Nat.le_refl indx hs 0
  have hr' := fun a ha => hr _ (getD_mem indx 0 a ha)
  intro p hp i hi
  obtain ⟨hfull, hempty⟩ := lowerUpper_first_last k n indx hk hkn hne hs hr i hi
  rw [eq_comm, slot_eq_iff hk (hr' p hp).1]
  by_cases hex : ∃ p', p' < indx.length ∧ indx.getD p' 0 = i + k - 1
  · obtain ⟨a, b, hl, hu, _, hb, hva, hvb, hall⟩ := hfull hex
    rw [hl, hu, Int.ofNat_le, Int.ofNat_le]
    exact ⟨fun h => Nat.le_antisymm (hvb ▸ hs' p b h.2 hb) (hva ▸ hs' a p h.1 hp), hall p hp⟩
  · obtain ⟨h0, h1, _⟩ := hempty (fun p' hp' hv' => hex ⟨p', hp', hv'⟩)
    rw [h0, h1]
    exact ⟨fun h => absurd h (by omega), fun h => absurd ⟨p, hp, h⟩ hex⟩

end rows

end PydlVerif.C08
