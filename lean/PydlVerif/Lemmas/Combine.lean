/-
Lemmas for C11 (`combine1fiber`) at an ordered field.  The inverse variance of an output pixel is a sum of contributions, one per
spectrum; a non-zero contribution is described by locating the two `np.interp` walks of `contrib` (over `ivar*fullcombmask` and over
`fullcombmask`, same abscissae) at the same pair of neighbouring samples.
-/
import PydlVerif.Model.Combine
import PydlVerif.Lemmas.ScalarField
import PydlVerif.Lemmas.Loops
import PydlVerif.Lemmas.NpInterp
import Mathlib.Tactic.Ring
import Mathlib.Tactic.NormNum
import Mathlib.Algebra.Order.BigOperators.Group.List
import Mathlib.Data.List.GetD

namespace PydlVerif.Combine
open PydlVerif PydlVerif.Interp

/-- `a`, `b` are neighbours in `l` -/
def Consec {β : Type} (a b : β) (l : List β) : Prop := ∃ pre post, l = pre ++ a :: b :: post

theorem Consec.cons {β : Type} {a b : β} {l : List β} (c : β) (h : Consec a b l) : Consec a b (c :: l) := by
  obtain ⟨pre, post, rfl⟩ := h
  exact ⟨c :: pre, post, rfl⟩

theorem Consec.mem {β : Type} {a b : β} {l : List β} (h : Consec a b l) : a ∈ l ∧ b ∈ l := by
  obtain ⟨pre, post, rfl⟩ := h
  simp

theorem ite_ind {α : Sort _} {P : α → Prop} {c : Prop} [Decidable c] {a b : α} (ha : c → P a) (hb : ¬ c → P b) :
    P (if c then a else b) := by
  by_cases h : c
  · rw [if_pos h]; exact ha h
  · rw [if_neg h]; exact hb h

section plain
variable {K : Type} [Field K] [LinearOrder K] [IsStrictOrderedRing K]

/-- the interior formula of np.interp -/
def lerp (xa fa xb fb x : K) : K := (fb - fa) / (xb - xa) * (x - xa) + fa

theorem lerp_eq (xa fa xb fb x : K) (h : xa < xb) :
    lerp xa fa xb fb x = (fa * (xb - x) + fb * (x - xa)) / (xb - xa) := by
  have hd : xb - xa ≠ 0 := ne_of_gt (sub_pos.2 h)
  rw [lerp, eq_div_iff hd, add_mul, mul_right_comm, div_mul_cancel₀ _ hd]
  ring

theorem lerp_nonneg (xa fa xb fb x : K) (h1 : xa ≤ x) (h2 : x < xb) (ha : 0 ≤ fa) (hb : 0 ≤ fb) :
    0 ≤ lerp xa fa xb fb x := by
  rw [lerp_eq _ _ _ _ _ (lt_of_le_of_lt h1 h2)]
  exact div_nonneg (add_nonneg (mul_nonneg ha (sub_nonneg.2 h2.le)) (mul_nonneg hb (sub_nonneg.2 h1)))
    (sub_nonneg.2 (h1.trans h2.le))

theorem lerp_le_max (xa fa xb fb x : K) (h1 : xa ≤ x) (h2 : x < xb) :
    lerp xa fa xb fb x ≤ max fa fb := by
  have hlt : xa < xb := lt_of_le_of_lt h1 h2
  rw [lerp_eq _ _ _ _ _ hlt, div_le_iff₀ (sub_pos.2 hlt)]
  have ha : fa * (xb - x) ≤ max fa fb * (xb - x) := mul_le_mul_of_nonneg_right (le_max_left _ _) (sub_nonneg.2 h2.le)
  have hb : fb * (x - xa) ≤ max fa fb * (x - xa) := mul_le_mul_of_nonneg_right (le_max_right _ _) (sub_nonneg.2 h1)
  calc fa * (xb - x) + fb * (x - xa) ≤ max fa fb * (xb - x) + max fa fb * (x - xa) := add_le_add ha hb
    _ = max fa fb * (xb - xa) := by ring

omit [LinearOrder K] [IsStrictOrderedRing K] in
theorem lerp_const (xa xb f x : K) : lerp xa f xb f x = f := by
  rw [lerp, sub_self, zero_div, zero_mul, zero_add]

omit [LinearOrder K] [IsStrictOrderedRing K] in
theorem lerp_10 (xa xb x : K) : lerp xa 1 xb 0 x = 1 - (x - xa) / (xb - xa) := by
  rw [lerp, zero_sub, neg_div, neg_mul, div_mul_eq_mul_div, one_mul, neg_add_eq_sub]

theorem lerp_01 (xa xb x : K) (h : xa < xb) : lerp xa 0 xb 1 x = 1 - (xb - x) / (xb - xa) := by
  rw [lerp, sub_zero, add_zero, div_mul_eq_mul_div, one_mul, one_sub_div (ne_of_gt (sub_pos.2 h)), sub_sub_sub_cancel_left]

end plain

section field
variable {K : Type} [Field K] [LinearOrder K] [IsStrictOrderedRing K] [FloorRing K]
attribute [local instance] fieldScalar
attribute [-instance] Scalar.instOfNat Scalar.instOfScientific

theorem eps_eq : (eps : K) = 1 / 8388608 := by
  have h : (eps : K) = ((1 : ℕ) : K) / ((8388608 : ℕ) : K) := rfl
  rw [h, Nat.cast_one, Nat.cast_ofNat]

theorem eps_pos : (0 : K) < eps := by rw [eps_eq]; norm_num
theorem eps_lt_one : (eps : K) < 1 := by rw [eps_eq]; norm_num

theorem castB_true : (castB true : K) = 1 := Nat.cast_one
theorem castB_false : (castB false : K) = 0 := Nat.cast_zero
theorem castB_nonneg (b : Bool) : (0 : K) ≤ castB b := by
  cases b
  · rw [castB_false]
  · rw [castB_true]; exact zero_le_one
theorem castB_ne_zero {b : Bool} (h : (castB b : K) ≠ 0) : b = true := by
  cases b
  · exact absurd castB_false h
  · rfl

theorem absS_eq_abs (v : K) : absS v = |v| := by
  unfold absS
  rw [scalar_lit, Nat.cast_zero]
  exact ite_neg_eq_abs _

/-- `np.sum(np.absolute(coeff)) == 0` says that every coefficient is 0 -/
theorem coeffZero_iff (l : List K) : coeffZero l = true ↔ ∀ v ∈ l, v = 0 := by
  unfold coeffZero
  rw [scalar_beq, scalar_lit, Nat.cast_zero, ← List.foldl_map, ← List.sum_eq_foldl]
  constructor
  · intro h v hv
    have := List.all_zero_of_le_zero_le_of_sum_eq_zero (fun x hx => ?_) h (List.mem_map_of_mem (f := absS) hv)
    · rwa [absS_eq_abs, abs_eq_zero] at this
    · obtain ⟨u, _, rfl⟩ := List.mem_map.1 hx
      rw [absS_eq_abs]
      exact abs_nonneg u
  · intro h
    refine List.sum_eq_zero fun x hx => ?_
    obtain ⟨u, hu, rfl⟩ := List.mem_map.1 hx
    rw [h u hu, absS_eq_abs, abs_zero]

/-- `objivar*fullcombmask` and `fullcombmask` of one sample -/
noncomputable def vI (p : Samp K) : K := p.iv * castB p.keep
noncomputable def vM (p : Samp K) : K := castB p.keep

/-- the two `np.interp` walks of `contrib` (over `ivar*fullcombmask` and over `fullcombmask`), located at the same pair of
neighbouring samples, or at the same sample -/
theorem interp2 (p0 : Samp K) (rest : List (Samp K)) (lam : K) :
    (∃ a b, Consec a b (p0 :: rest) ∧ a.x < lam ∧ lam < b.x ∧
      interpL (ivPts (p0 :: rest)) lam = lerp a.x (vI a) b.x (vI b) lam ∧
      interpL (mkPts (p0 :: rest)) lam = lerp a.x (vM a) b.x (vM b) lam) ∨
    (∃ a, a ∈ p0 :: rest ∧
      (a.x = lam ∨ (a = p0 ∧ lam < p0.x) ∨ (a = (p0 :: rest).getLast (List.cons_ne_nil _ _) ∧ a.x ≤ lam)) ∧
      interpL (ivPts (p0 :: rest)) lam = vI a ∧ interpL (mkPts (p0 :: rest)) lam = vM a) := by
  have hiv : interpL (ivPts (p0 :: rest)) lam = npInterp p0.x (vI p0) (rest.map fun p => (p.x, vI p)) lam := rfl
  have hmk : interpL (mkPts (p0 :: rest)) lam = npInterp p0.x (vM p0) (rest.map fun p => (p.x, vM p)) lam := rfl
  rw [hiv, hmk]
  unfold npInterp
  by_cases h : lam < p0.x
  · right
    exact ⟨p0, List.mem_cons_self, Or.inr (Or.inl ⟨rfl, h⟩), by simp [h], by simp [h]⟩
  · simp only [h, if_false]
    -- where the walk stops depends on the abscissae only: both value columns are read at the same place
    rcases interpGo_loc (fun p : Samp K => p.x) lam rest p0 (not_lt.1 h) with ⟨pre, a, b, post, hs, ha, hb, e⟩ | ⟨a, hm, ha, hloc, e⟩
    · left; exact ⟨a, b, ⟨pre, post, hs⟩, ha, hb, e vI, e vM⟩
    · right
      refine ⟨a, hm, ?_, e vI, e vM⟩
      rcases hloc with h | h
      · exact Or.inl h
      · exact Or.inr (Or.inr ⟨h, ha⟩)

theorem vI_nonneg (p : Samp K) (h : 0 ≤ p.iv) : 0 ≤ vI p := mul_nonneg h (castB_nonneg _)

theorem contrib_some (s : List (Samp K)) (lam : K) (nm : Bool) (c : K) (h : contrib s lam nm = some c) :
    ∃ p0 rest, s = p0 :: rest ∧ lmin p0.x (rest.map (·.x)) ≤ lam ∧ lam ≤ lmax p0.x (rest.map (·.x)) ∧
      c = interpL (ivPts s) lam * castB (decide (1 - eps ≤ interpL (mkPts s) lam)) * castB nm := by
  cases s with
  | nil => cases h
  | cons p0 rest =>
    unfold contrib at h
    simp only at h
    split at h
    · rename_i hg
      have e := (Option.some.inj h).symm
      simp only [scalar_lit, Nat.cast_one] at e
      exact ⟨p0, rest, rfl, hg.1, hg.2, e⟩
    · cases h

/-- the ends of a spectrum: first sample leftmost, last sample rightmost (true for increasing wavelengths) -/
def Ends (p0 : Samp K) (rest : List (Samp K)) : Prop :=
  (∀ a ∈ p0 :: rest, p0.x ≤ a.x) ∧ (∀ a ∈ p0 :: rest, a.x ≤ ((p0 :: rest).getLast (List.cons_ne_nil _ _)).x)

theorem lmin_mem (x0 : K) (xs : List K) : lmin x0 xs ∈ x0 :: xs := foldl_pick_mem x0 xs

theorem lmax_mem (x0 : K) (xs : List K) : lmax x0 xs ∈ x0 :: xs := foldl_pick_mem x0 xs

theorem lmin_le_all (x0 : K) (xs : List K) : ∀ a ∈ x0 :: xs, lmin x0 xs ≤ a :=
  (foldl_pick (· ≤ ·) le_refl (fun _ _ _ => le_trans) (fun _ _ => le_of_lt) (fun _ _ => not_lt.1) xs x0).2

theorem lmax_ge_all (x0 : K) (xs : List K) : ∀ a ∈ x0 :: xs, a ≤ lmax x0 xs :=
  (foldl_pick (· ≥ ·) le_refl (fun _ _ _ h1 h2 => le_trans h2 h1) (fun _ _ => le_of_lt) (fun _ _ => not_lt.1) xs x0).2

theorem lmin_le_mem (x0 : K) (xs : List K) : ∀ a ∈ xs, lmin x0 xs ≤ a := fun a ha =>
  lmin_le_all x0 xs a (List.mem_cons_of_mem _ ha)

theorem lmin_ge_first (p0 : Samp K) (rest : List (Samp K)) (h : Ends p0 rest) :
    p0.x ≤ lmin p0.x (rest.map (·.x)) := by
  obtain ⟨a, ha, e⟩ := List.mem_map.1 (show _ ∈ (p0 :: rest).map (·.x) from lmin_mem p0.x (rest.map (·.x)))
  rw [← e]; exact h.1 a ha

theorem lmax_le_last (p0 : Samp K) (rest : List (Samp K)) (h : Ends p0 rest) :
    lmax p0.x (rest.map (·.x)) ≤ ((p0 :: rest).getLast (List.cons_ne_nil _ _)).x := by
  obtain ⟨a, ha, e⟩ := List.mem_map.1 (show _ ∈ (p0 :: rest).map (·.x) from lmax_mem p0.x (rest.map (·.x)))
  rw [← e]; exact h.2 a ha

theorem contrib_cases (p0 : Samp K) (rest : List (Samp K)) (hE : Ends p0 rest) (lam : K) (nm : Bool) (c : K)
    (h : contrib (p0 :: rest) lam nm = some c) :
    (∃ a b, Consec a b (p0 :: rest) ∧ a.x < lam ∧ lam < b.x ∧
      c = lerp a.x (vI a) b.x (vI b) lam * castB (decide (1 - eps ≤ lerp a.x (vM a) b.x (vM b) lam)) * castB nm) ∨
    (∃ a, a ∈ p0 :: rest ∧ a.x = lam ∧ c = vI a * castB (decide (1 - eps ≤ vM a)) * castB nm) := by
  obtain ⟨_, _, e, h1, h2, rfl⟩ := contrib_some _ lam nm c h
  cases e
  rcases interp2 p0 rest lam with ⟨a, b, hc, ha, hb, e1, e2⟩ | ⟨a, hm, hloc, e1, e2⟩
  · left; exact ⟨a, b, hc, ha, hb, by rw [e1, e2]⟩
  · right
    refine ⟨a, hm, ?_, by rw [e1, e2]⟩
    rcases hloc with h | ⟨_, h⟩ | ⟨rfl, h⟩
    · exact h
    · exact absurd (le_trans (lmin_ge_first p0 rest hE) h1) (not_le.2 h)
    · exact le_antisymm h (le_trans h2 (lmax_le_last p0 rest hE))

/-- a non-zero contribution: `newmask` is set and `lam` lies between two kept neighbours, or within the fraction `EPS` of the gap
from a kept one (the code's slack: interpolation towards 0), or exactly at a kept sample -/
theorem contrib_nonzero (p0 : Samp K) (rest : List (Samp K)) (hE : Ends p0 rest) (lam : K) (nm : Bool) (c : K)
    (h : contrib (p0 :: rest) lam nm = some c) (hc : c ≠ 0) :
    nm = true ∧
    ((∃ a b, Consec a b (p0 :: rest) ∧ a.x < lam ∧ lam < b.x ∧
        ((a.keep = true ∧ b.keep = true ∧ c = lerp a.x a.iv b.x b.iv lam) ∨
         (a.keep = true ∧ b.keep = false ∧ (lam - a.x) / (b.x - a.x) ≤ eps ∧ c = lerp a.x a.iv b.x 0 lam) ∨
         (a.keep = false ∧ b.keep = true ∧ (b.x - lam) / (b.x - a.x) ≤ eps ∧ c = lerp a.x 0 b.x b.iv lam))) ∨
     (∃ a, a ∈ p0 :: rest ∧ a.x = lam ∧ a.keep = true ∧ c = a.iv)) := by
  -- `c` is a product of three factors; none of them is 0, so the two masks are 1 and `c` is the first factor
  rcases contrib_cases p0 rest hE lam nm c h with ⟨a, b, hcs, ha, hb, e⟩ | ⟨a, hm, hx, e⟩
  all_goals
    rw [e] at hc
    obtain ⟨h12, h3⟩ := mul_ne_zero_iff.1 hc
    obtain ⟨_, h2⟩ := mul_ne_zero_iff.1 h12
    have hd := of_decide_eq_true (castB_ne_zero h2)
    rw [castB_ne_zero h2, castB_ne_zero h3, castB_true, mul_one, mul_one] at e
    refine ⟨castB_ne_zero h3, ?_⟩
  · refine Or.inl ⟨a, b, hcs, ha, hb, ?_⟩
    have hab : a.x < b.x := lt_trans ha hb
    cases hka : a.keep <;> cases hkb : b.keep <;>
      simp only [vM, vI, hka, hkb, castB_true, castB_false, mul_one, mul_zero] at hd e
    · rw [lerp_const] at hd
      exact absurd hd (not_le.2 (sub_pos.2 eps_lt_one))
    · rw [lerp_01 _ _ _ hab] at hd
      exact Or.inr (Or.inr ⟨rfl, rfl, (sub_le_sub_iff_left 1).1 hd, e⟩)
    · rw [lerp_10] at hd
      exact Or.inr (Or.inl ⟨rfl, rfl, (sub_le_sub_iff_left 1).1 hd, e⟩)
    · exact Or.inl ⟨rfl, rfl, e⟩
  · refine Or.inr ⟨a, hm, hx, ?_⟩
    cases hka : a.keep <;> simp only [vM, vI, hka, castB_true, castB_false, mul_one] at hd e
    · exact absurd hd (not_le.2 (sub_pos.2 eps_lt_one))
    · exact ⟨rfl, e⟩

theorem growBad_length (a : List K) : (growBad a).length = a.length := by simp [growBad]

theorem scrub_length (classify : K → Val K) (f v : List K) :
    (scrub classify f v).length = min f.length v.length := by simp [scrub]

end field
end PydlVerif.Combine
