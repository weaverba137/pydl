/-
The B-spline models (Model/BSpline.lean, Model/BSplineFit.lean) read at an ordered field: `sc_add … sc_le` say that the
model's operations at `fieldScalar K` are the field operations, and the notations `stepK`, `scanK`, `fitK`, … stand for
the model functions at `fieldScalar _`, so that statements are written with the field's own operations.  Those that only the
files on `bsplvn`, the knots and `value` use are scoped in `PydlVerif.C08`, those the fit uses as well in `PydlVerif.AtField`.
-/
import PydlVerif.Model.BSplineFit
import PydlVerif.Lemmas.BSplineValue
import PydlVerif.Lemmas.ScalarField
namespace PydlVerif.C08
open PydlVerif PydlVerif.BSpline

variable {K : Type} [Field K] [LinearOrder K] [IsStrictOrderedRing K] [FloorRing K]

theorem sc_add (a b : K) : @HAdd.hAdd K K K (@instHAdd K (fieldScalar K).toAdd) a b = a + b := rfl
theorem sc_sub (a b : K) : @HSub.hSub K K K (@instHSub K (fieldScalar K).toSub) a b = a - b := rfl
theorem sc_mul (a b : K) : @HMul.hMul K K K (@instHMul K (fieldScalar K).toMul) a b = a * b := rfl
theorem sc_div (a b : K) : @HDiv.hDiv K K K (@instHDiv K (fieldScalar K).toDiv) a b = a / b := rfl
theorem sc_neg (a : K) : @Neg.neg K (fieldScalar K).toNeg a = -a := rfl
theorem sc_lt (a b : K) : @LT.lt K (fieldScalar K).toLT a b ↔ a < b := Iff.rfl
theorem sc_le (a b : K) : @LE.le K (fieldScalar K).toLE a b ↔ a ≤ b := Iff.rfl
theorem sc_beq (a b : K) : (@BEq.beq K (@instBEqOfScalar K (fieldScalar K)) a b) = decide (a = b) := rfl

scoped notation "minOfK" => @minOf _ (fieldScalar _)
scoped notation "maxOfK" => @maxOf _ (fieldScalar _)
scoped notation "evenK" => @evenBkpt _ (fieldScalar _)
scoped notation "padK" => @padKnots _ (fieldScalar _)
scoped notation "padBkptK" => @padBkpt _ (fieldScalar _)
scoped notation "mkKnotsK" => @mkKnots _ (fieldScalar _)
scoped notation "stepK" => @bsplvnStep _ (fieldScalar _)
scoped notation "loopK" => @bsplvnLoop _ (fieldScalar _)
scoped notation "advK" => @intrvAdvance _ (fieldScalar _)
scoped notation "cdbK" => @coxDeBoor _ (fieldScalar _)
scoped notation "cdbAtK" => @coxDeBoorAt _ (fieldScalar _)
scoped notation "WK" => @cdbW _ (fieldScalar _)
scoped notation "W'K" => @cdbW' _ (fieldScalar _)
scoped notation "maskK" => @maskOf _ (fieldScalar _)
scoped notation "fillRowsK" => @fillRows _ (fieldScalar _)
scoped notation "unsortK" => @unsort _
scoped notation "valueK" => @BS.value _ (fieldScalar _)

end PydlVerif.C08

namespace PydlVerif.AtField
open PydlVerif PydlVerif.BSpline PydlVerif.BSplineFit

scoped notation "workAtK" => @workAt _ (fieldScalar _)
scoped notation "wbAtK" => @wbAt _ (fieldScalar _)
scoped notation "scatterStepK" => @scatterStep _ (fieldScalar _)
scoped notation "betaStepK" => @betaStep _ (fieldScalar _)
scoped notation "assembleK" => @assemble _ (fieldScalar _)
scoped notation "get2K" => @get2 _ (fieldScalar _)
scoped notation "choleskyBandK" => @choleskyBand _ (fieldScalar _)
scoped notation "choleskySolveK" => @choleskySolve _ (fieldScalar _)
scoped notation "bsplvnK" => @bsplvn1 _ (fieldScalar _)
scoped notation "intrvOfK" => @intrvOf _ (fieldScalar _)
scoped notation "dotK" => @dotFrom _ (fieldScalar _)
scoped notation "splineAtK" => @splineAt _ (fieldScalar _)
scoped notation "scanK" => @intrvScan _ (fieldScalar _)
scoped notation "fitK" => @fit _ (fieldScalar _)
scoped notation "gbK" => @BS.gb _ (fieldScalar _)
scoped notation "knotAtK" => @knotAt _ (fieldScalar _)
scoped notation "normalSystemK" => @normalSystem _ (fieldScalar _)
scoped notation "putGoodK" => @putGood _ (fieldScalar _)
scoped notation "coeffAtK" => @C08.coeffAt _ (fieldScalar _)
-- the model's literal `0` at `fieldScalar _`
scoped notation "ZK" => (@OfNat.ofNat _ 0 (@Scalar.instOfNat _ (fieldScalar _) 0))

end PydlVerif.AtField
