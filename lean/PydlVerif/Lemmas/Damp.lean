/-
First / last element of `filter P (range n)`: `goodpts.min()`, `goodpts.max()` of aesthetics('damp').
-/
namespace PydlVerif.Interp

theorem filter_range_head (P : Nat → Bool) (n lo : Nat) (hlo : lo < n) (Plo : P lo = true)
    (hpre : ∀ k, k < lo → P k = false) : ((List.range n).filter P).head? = some lo := by
  rw [List.head?_filter, List.find?_range_eq_some]
  refine ⟨Plo, List.mem_range.2 hlo, ?_⟩
  intro j hj
  simp [hpre j hj]

theorem filter_range_last (P : Nat → Bool) (hi : Nat) (Phi : P hi = true) :
    ∀ n, hi < n → (∀ k, hi < k → k < n → P k = false) → ((List.range n).filter P).getLast? = some hi := by
  intro n
  induction n with
  | zero => intro h; omega
  | succ n ih =>
    intro hn hpost
    rw [List.range_succ, List.filter_append]
    by_cases e : n = hi
    · subst e
      simp [Phi]
    · have : P n = false := hpost n (by omega) (by omega)
      simp only [List.filter_cons, this, Bool.false_eq_true, if_false, List.filter_nil, List.append_nil]
      exact ih (by omega) (fun k h1 h2 => hpost k h1 (by omega))

theorem filter_range_nil (P : Nat → Bool) (n : Nat) (h : ∀ k, k < n → P k = false) :
    (List.range n).filter P = [] := by
  rw [List.filter_eq_nil_iff]
  intro k hk
  simp [h k (List.mem_range.1 hk)]

end PydlVerif.Interp
