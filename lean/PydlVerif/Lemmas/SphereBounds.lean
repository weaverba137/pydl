/-
C04: the cells that `chunks.assign` visits for a point (any scalar type): the RA wrap index, and `chunks.getbounds` as one
band body (`bandBounds`) mapped over the declination range.
-/
import PydlVerif.Model.Sphere
import PydlVerif.Lemmas.Except
namespace PydlVerif.Sphere

theorem mem_irange (lo hi r : Int) : r ∈ irange lo hi ↔ lo ≤ r ∧ r ≤ hi := by
  simp only [irange, List.mem_map, List.mem_range]
  constructor
  · rintro ⟨k, hk, rfl⟩; omega
  · rintro ⟨h1, h2⟩; exact ⟨(r - lo).toNat, by omega, by omega⟩

/-- the `if raChunk < 0 … elif raChunk > nRa-1 … else` of both loops of `chunks.assign`, followed
by the range test: for n > 0 the wrapped index is always `r mod n` -/
theorem wrapIdx_eq (n : Nat) (hn : 0 < n) (r : Int) : wrapIdx n r = some (r % (n : Int)).toNat := by
  have hn' : (0 : Int) < n := by exact_mod_cast hn
  have h0 := Int.emod_nonneg r (Int.ne_of_gt hn')
  have h1 := Int.emod_lt_of_pos r hn'
  unfold wrapIdx
  have hcur : (if r < 0 then (r + n) % n else if r > (n : Int) - 1 then (r - n) % n else r) = r % (n : Int) := by
    split
    · exact Int.add_emod_right _ _
    · split
      · exact Int.sub_emod_right _ _
      · rw [Int.emod_eq_of_lt (by omega) (by omega)]
  simp only [hcur]
  rw [if_pos ⟨h0, by omega⟩]

theorem ra_wrap_index (n : Nat) (hn : 0 < n) (lo hi : Int) (c : Nat) :
    c ∈ (irange lo hi).filterMap (wrapIdx n) ↔ ∃ r : Int, lo ≤ r ∧ r ≤ hi ∧ c = (r % (n : Int)).toNat := by
  simp only [List.mem_filterMap, mem_irange, wrapIdx_eq n hn, Option.some.injEq]
  constructor
  · rintro ⟨r, ⟨h1, h2⟩, h3⟩; exact ⟨r, h1, h2, h3.symm⟩
  · rintro ⟨r, h1, h2, h3⟩; exact ⟨r, ⟨h1, h2⟩, h3.symm⟩

theorem wrapIdx_lt (n : Nat) (r : Int) (c : Nat) (h : wrapIdx n r = some c) : c < n := by
  unfold wrapIdx at h
  generalize (if r < 0 then (r + n) % n else if r > (n : Int) - 1 then (r - n) % n else r) = cur at h
  by_cases hc : 0 ≤ cur ∧ cur ≤ (n : Int) - 1
  · simp only [hc, and_self, if_true, Option.some.injEq] at h
    omega
  · simp [hc] at h

theorem mapM_ok_of {ε α β : Type} (f : α → Except ε β) : ∀ (l : List α), (∀ a ∈ l, ∃ r, f a = .ok r) →
    ∃ rs, l.mapM f = .ok rs := by
  intro l
  induction l with
  | nil => intro _; exact ⟨[], rfl⟩
  | cons a l ih =>
    intro h
    obtain ⟨r0, hr0⟩ := h a (by simp)
    obtain ⟨rs, hrs⟩ := ih (fun x hx => h x (by simp [hx]))
    refine ⟨r0 :: rs, ?_⟩
    simp only [List.mapM_cons, bind, Except.bind, hr0, hrs, pure, Except.pure]

section
variable {α : Type} [Trig α]

/-- the body of the loop over declination bands in `getbounds` -/
def bandBounds (g : Grid α) (ra dec m : α) (i : Nat) : Except String (Int × Int) := do
  let c := cosDecMinOf g.decBounds i
  let raMargin := raMarginOf c dec m
  let n := g.nRa.getD i 0
  let b := g.raBounds.getD i #[]
  let r0 := cellIndex b n ra
  if r0 < 0 ∨ r0 > (n : Int) - 1 then throw "PydlutilsException: raChunkMin out of range"
  let r0 := r0.toNat
  pure (raDown b ra raMargin r0, ((raUp b ra raMargin r0 (n - r0) : Nat) : Int))

theorem getbounds_eq (g : Grid α) (ra dec m : α) :
    getbounds g ra dec m = (do
      let d0 := decIndex g dec
      if d0 < 0 ∨ d0 > (g.nDec : Int) - 1 then throw "PydlutilsException: decChunkMin out of range"
      let d0 := d0.toNat
      let dMin := decDown g.decBounds dec m d0
      let dMax := decUp g.decBounds dec m d0 (g.nDec - 1 - d0)
      let ras ← ((List.range (dMax + 1 - dMin)).map (· + dMin)).mapM (bandBounds g ra dec m)
      pure ⟨dMin, dMax, ras⟩) := rfl

theorem bandBounds_ok_iff (g : Grid α) (ra dec m : α) (i : Nat) (x : Int × Int) :
    bandBounds g ra dec m i = .ok x ↔
    ∃ r0 : Nat, cellIndex (g.raBounds.getD i #[]) (g.nRa.getD i 0) ra = (r0 : Int) ∧ r0 < g.nRa.getD i 0 ∧
      x = (raDown (g.raBounds.getD i #[]) ra (raMarginOf (cosDecMinOf g.decBounds i) dec m) r0,
       ((raUp (g.raBounds.getD i #[]) ra (raMarginOf (cosDecMinOf g.decBounds i) dec m) r0
          (g.nRa.getD i 0 - r0) : Nat) : Int)) := by
  unfold bandBounds
  simp only [bind, Except.bind, pure, Except.pure]
  constructor
  · intro h
    split at h
    · cases h
    · simp only [Except.ok.injEq] at h
      exact ⟨(cellIndex (g.raBounds.getD i #[]) (g.nRa.getD i 0) ra).toNat, by omega, by omega, h.symm⟩
  · rintro ⟨r0, h0, h1, rfl⟩
    rw [h0, if_neg (by omega), Int.toNat_natCast]

theorem getbounds_inv (g : Grid α) (ra dec m : α) (B : Bounds) (h : getbounds g ra dec m = .ok B) :
    ∃ d0 : Nat, decIndex g dec = (d0 : Int) ∧ d0 < g.nDec ∧
      B.decMin = decDown g.decBounds dec m d0 ∧
      B.decMax = decUp g.decBounds dec m d0 (g.nDec - 1 - d0) ∧
      B.ra.length = B.decMax + 1 - B.decMin ∧
      ∀ d, B.decMin ≤ d → d ≤ B.decMax → ∃ r0 : Nat,
        cellIndex (g.raBounds.getD d #[]) (g.nRa.getD d 0) ra = (r0 : Int) ∧ r0 < g.nRa.getD d 0 ∧
        B.ra[d - B.decMin]? = some
          (raDown (g.raBounds.getD d #[]) ra (raMarginOf (cosDecMinOf g.decBounds d) dec m) r0,
           ((raUp (g.raBounds.getD d #[]) ra (raMarginOf (cosDecMinOf g.decBounds d) dec m) r0
              (g.nRa.getD d 0 - r0) : Nat) : Int)) := by
  rw [getbounds_eq] at h
  simp only [bind, Except.bind, pure, Except.pure] at h
  split at h
  · cases h
  · rename_i hd
    split at h
    · cases h
    · rename_i ras hras
      simp only [Except.ok.injEq] at h
      subst h
      obtain ⟨hlen, hall⟩ := mapM_ok _ _ _ hras
      refine ⟨(decIndex g dec).toNat, by omega, by omega, rfl, rfl, ?_, ?_⟩
      · simpa using hlen
      · intro d hd1 hd2
        replace hd1 : decDown g.decBounds dec m (decIndex g dec).toNat ≤ d := hd1
        replace hd2 : d ≤ decUp g.decBounds dec m (decIndex g dec).toNat (g.nDec - 1 - (decIndex g dec).toNat) := hd2
        have hk : d - decDown g.decBounds dec m (decIndex g dec).toNat < ras.length := by
          rw [hlen, List.length_map, List.length_range]; omega
        have hx := hall _ (hlen ▸ hk) hk
        simp only [List.getElem_map, List.getElem_range, Nat.sub_add_cancel hd1] at hx
        obtain ⟨r0, h1, h2, h3⟩ := (bandBounds_ok_iff g ra dec m _ _).1 hx
        exact ⟨r0, h1, h2, by rw [List.getElem?_eq_getElem hk, h3]⟩

theorem getbounds_ok (g : Grid α) (ra dec m : α) (d0 : Nat)
    (h0 : decIndex g dec = (d0 : Int)) (h1 : d0 < g.nDec)
    (hra : ∀ d, decDown g.decBounds dec m d0 ≤ d → d ≤ decUp g.decBounds dec m d0 (g.nDec - 1 - d0) →
      0 ≤ cellIndex (g.raBounds.getD d #[]) (g.nRa.getD d 0) ra ∧
      cellIndex (g.raBounds.getD d #[]) (g.nRa.getD d 0) ra < (g.nRa.getD d 0 : Int)) :
    ∃ B, getbounds g ra dec m = .ok B := by
  rw [getbounds_eq]
  simp only [bind, Except.bind, pure, Except.pure, h0]
  rw [if_neg (by omega)]
  simp only [Int.toNat_natCast]
  obtain ⟨rs, hrs⟩ := mapM_ok_of (bandBounds g ra dec m)
    ((List.range (decUp g.decBounds dec m d0 (g.nDec - 1 - d0) + 1 - decDown g.decBounds dec m d0)).map
      (· + decDown g.decBounds dec m d0)) (by
      intro a ha
      simp only [List.mem_map, List.mem_range] at ha
      obtain ⟨k, hk, rfl⟩ := ha
      obtain ⟨h2, h3⟩ := hra (k + decDown g.decBounds dec m d0) (by omega) (by omega)
      obtain ⟨r0, hr0⟩ := Int.eq_ofNat_of_zero_le h2
      exact ⟨_, (bandBounds_ok_iff g ra dec m _ _).2 ⟨r0, hr0, by omega, rfl⟩⟩)
  rw [hrs]
  exact ⟨_, rfl⟩

end

theorem mem_cellsOfRange (nRa : Array Nat) (B : Bounds) (d c : Nat) (lo hi r : Int)
    (hd1 : B.decMin ≤ d) (hd2 : d ≤ B.decMax) (hra : B.ra[d - B.decMin]? = some (lo, hi))
    (hr1 : lo ≤ r) (hr2 : r ≤ hi) (hw : wrapIdx (nRa.getD d 0) r = some c) :
    (d, c) ∈ cellsOfRange nRa B 0 := by
  have hd : d - B.decMin + B.decMin = d := by omega
  simp only [cellsOfRange, List.mem_flatMap, List.mem_filterMap, mem_irange, Option.map_eq_some_iff]
  refine ⟨(d - B.decMin, (lo, hi)), ?_, r, ⟨by simp only; omega, by simp only; omega⟩, c, ?_, ?_⟩
  · rw [List.mem_iff_getElem?]
    refine ⟨d - B.decMin, ?_⟩
    rw [List.getElem?_zip_eq_some]
    refine ⟨?_, hra⟩
    rw [List.getElem?_range (by omega)]
  · simpa only [hd] using hw
  · simp only [hd]

/-- the reset range (widened by one cell on both sides) contains the visited range -/
theorem cellsOfRange_subset (nRa : Array Nat) (b : Bounds) (c : Nat × Nat)
    (h : c ∈ cellsOfRange nRa b 0) : c ∈ cellsOfRange nRa b 1 := by
  simp only [cellsOfRange, List.mem_flatMap, List.mem_filterMap, mem_irange, Option.map_eq_some_iff] at h ⊢
  obtain ⟨⟨k, lo, hi⟩, hk, r, ⟨h1, h2⟩, x, hx, hc⟩ := h
  exact ⟨⟨k, lo, hi⟩, hk, r, ⟨by omega, by omega⟩, x, hx, hc⟩

theorem cellsOfPoint_subset {α : Type} [Trig α] (g : Grid α) (ra dec : Array α) (m : α) (i : Nat)
    (c : Nat × Nat) (hc : c ∈ cellsOfPoint g ra dec m 0 i) : c ∈ cellsOfPoint g ra dec m 1 i := by
  unfold cellsOfPoint at hc ⊢
  cases hb : getbounds g (fmod360 (ra.getD i 0 + g.raOffset)) (dec.getD i 0) m with
  | error e => rw [hb] at hc; exact absurd hc List.not_mem_nil
  | ok b => rw [hb] at hc; exact cellsOfRange_subset _ _ _ hc

end PydlVerif.Sphere
