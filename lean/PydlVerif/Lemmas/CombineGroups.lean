/-
The grouping trick of `combine1fiber` (`padwave`, `ig1`, `ig2`: a group starts after every gap larger than `maxsep` and ends before the
next one) as a statement about cut positions, pure `Nat`/`Bool`/`List`; the two sentinels of `padwave` make the first and the last gap large.
-/
import PydlVerif.Lemmas.Combine
import PydlVerif.Lemmas.Interp
import Mathlib.Tactic.Linarith

namespace PydlVerif.Combine
open PydlVerif PydlVerif.Interp

/-- the cuts tile the positions `s .. N-1`: each starts where the previous one ended -/
def Tiles : Nat → List (Nat × Nat) → Nat → Prop
  | s, [], N => s = N
  | s, p :: r, N => p.1 = s ∧ p.1 ≤ p.2 ∧ Tiles (p.2 + 1) r N

/-- `l[p.1 : p.2+1]` -/
def piece {β : Type} (l : List β) (p : Nat × Nat) : List β := (l.drop p.1).take (p.2 + 1 - p.1)

theorem tiles_le : ∀ (cuts : List (Nat × Nat)) (s N : Nat), Tiles s cuts N → s ≤ N := by
  intro cuts
  induction cuts with
  | nil => intro s N h; exact le_of_eq h
  | cons p r ih =>
    intro s N h
    obtain ⟨h1, h2, h3⟩ := h
    have := ih _ _ h3
    omega

theorem tiles_fst_le : ∀ (cuts : List (Nat × Nat)) (s N : Nat), Tiles s cuts N → ∀ q ∈ cuts, q.1 ≤ q.2 := by
  intro cuts
  induction cuts with
  | nil => intro s N _ q hq; cases hq
  | cons c r ih =>
    intro s N h q hq
    rcases List.mem_cons.1 hq with rfl | hq
    · exact h.2.1
    · exact ih _ _ h.2.2 q hq

theorem tiles_flatten {β : Type} (l : List β) : ∀ (cuts : List (Nat × Nat)) (s N : Nat), Tiles s cuts N →
    (cuts.map (piece l)).flatten = (l.drop s).take (N - s) := by
  intro cuts
  induction cuts with
  | nil => intro s N h; simp [Tiles] at h; subst h; simp
  | cons p r ih =>
    intro s N h
    obtain ⟨h1, h2, h3⟩ := h
    have hle := tiles_le _ _ _ h3
    simp only [List.map_cons, List.flatten_cons, ih _ _ h3, piece]
    subst h1
    have e : N - p.1 = (p.2 + 1 - p.1) + (N - (p.2 + 1)) := by omega
    rw [e, List.take_add, List.drop_drop]
    congr 3
    omega

/-- the per-cut facts of the grouping: the gap after the cut's last position is flagged, the gap before its
first position is flagged unless it is the running first group, no gap inside is flagged -/
def CutOK (g : Nat → Bool) (s o : Nat) (p : Nat × Nat) : Prop :=
  s ≤ p.1 ∧ o ≤ p.2 ∧ g (p.2 + 1) = true ∧ (p.1 = s ∨ g p.1 = true) ∧
  ∀ i, p.1 ≤ i → o ≤ i → i < p.2 → g (i + 1) = false

/-- the grouping trick, combinatorially: `g i` = "the gap in front of position `i` is flagged".  With a
group running from `s` up to (at least) `o`, starts = `s` and the flagged positions among `o+1 .. o+n`, ends =
the positions among `o .. o+n` whose next gap is flagged (the last one is): equally many, they tile `s .. o+n`,
and every cut is a maximal unflagged run -/
theorem cuts_tiles (g : Nat → Bool) : ∀ (n s o : Nat), s ≤ o → g (o + n + 1) = true →
    (s :: (List.range' (o + 1) n).filter g).length = ((List.range' o (n + 1)).filter (fun i => g (i + 1))).length ∧
    Tiles s ((s :: (List.range' (o + 1) n).filter g).zip ((List.range' o (n + 1)).filter (fun i => g (i + 1)))) (o + n + 1) ∧
    ∀ p ∈ (s :: (List.range' (o + 1) n).filter g).zip ((List.range' o (n + 1)).filter (fun i => g (i + 1))),
      CutOK g s o p := by
  intro n
  induction n with
  | zero =>
    intro s o hso hg
    have hg' : g (o + 1) = true := by simpa using hg
    have ef : (List.range' o (0 + 1)).filter (fun i => g (i + 1)) = [o] := by
      simp [List.range'_one, hg']
    rw [ef]
    simp only [List.range'_zero, List.filter_nil, List.zip_cons_cons, List.zip_nil_right, List.length_cons,
      List.length_nil, true_and]
    refine ⟨⟨rfl, hso, rfl⟩, ?_⟩
    intro p hp
    simp only [List.mem_singleton] at hp
    subst hp
    exact ⟨le_refl _, le_refl _, hg', Or.inl rfl, fun i _ h2 h3 => absurd h3 (by simp only; omega)⟩
  | succ n ih =>
    intro s o hso hg
    have e1 : List.range' o (n + 1 + 1) = o :: List.range' (o + 1) (n + 1) := List.range'_succ ..
    have e2 : List.range' (o + 1) (n + 1) = (o + 1) :: List.range' (o + 1 + 1) n := List.range'_succ ..
    rw [show o + (n + 1) + 1 = o + 1 + n + 1 by omega] at hg ⊢
    cases hgo : g (o + 1) with
    | true =>
      obtain ⟨l1, t1, c1⟩ := ih (o + 1) (o + 1) (le_refl _) hg
      rw [(congrArg (List.filter g) e2).trans (List.filter_cons_of_pos hgo),
        (congrArg (List.filter fun i => g (i + 1)) e1).trans (List.filter_cons_of_pos hgo)]
      simp only [List.zip_cons_cons, List.length_cons] at l1 t1 c1 ⊢
      refine ⟨by omega, ⟨rfl, hso, t1⟩, fun p hp => ?_⟩
      rcases List.mem_cons.1 hp with rfl | hp
      · exact ⟨le_refl _, le_refl _, hgo, Or.inl rfl, fun i _ h2 h3 => absurd h3 (by simp only; omega)⟩
      · obtain ⟨a1, a2, a3, a4, a5⟩ := c1 p hp
        refine ⟨by omega, by omega, a3, ?_, fun i h1 h2 h3 => a5 i h1 (by omega) h3⟩
        rcases a4 with h | h
        · right; rw [h]; exact hgo
        · right; exact h
    | false =>
      obtain ⟨l1, t1, c1⟩ := ih s (o + 1) (by omega) hg
      rw [(congrArg (List.filter g) e2).trans (List.filter_cons_of_neg (Bool.eq_false_iff.1 hgo)),
        (congrArg (List.filter fun i => g (i + 1)) e1).trans (List.filter_cons_of_neg (Bool.eq_false_iff.1 hgo))]
      refine ⟨l1, t1, fun p hp => ?_⟩
      obtain ⟨a1, a2, a3, a4, a5⟩ := c1 p hp
      refine ⟨a1, by omega, a3, a4, fun i h1 h2 h3 => ?_⟩
      by_cases hi : i = o
      · subst hi; exact hgo
      · exact a5 i h1 (by omega) h3

/-- `cuts_tiles` from position 0, in the shape of `ig1`, `ig2` -/
theorem cuts_tiles_range (g : Nat → Bool) (n : Nat) (h0 : g 0 = true) (hn : g (n + 1) = true) :
    ((List.range (n + 1)).filter g).length = ((List.range (n + 1)).filter fun i => g (i + 1)).length ∧
    Tiles 0 (((List.range (n + 1)).filter g).zip ((List.range (n + 1)).filter fun i => g (i + 1))) (n + 1) ∧
    ∀ p ∈ ((List.range (n + 1)).filter g).zip ((List.range (n + 1)).filter fun i => g (i + 1)), CutOK g 0 0 p := by
  have e : (List.range (n + 1)).filter g = 0 :: (List.range' (0 + 1) n).filter g := by
    rw [List.range_eq_range', List.range'_succ, List.filter_cons, h0]; rfl
  have := cuts_tiles g n 0 0 (le_refl _) (by rw [Nat.zero_add]; exact hn)
  rwa [← e, ← List.range_eq_range', Nat.zero_add] at this

section field
variable {K : Type} [Field K] [LinearOrder K] [IsStrictOrderedRing K] [FloorRing K]
attribute [local instance] fieldScalar
attribute [-instance] Scalar.instOfNat Scalar.instOfScientific

theorem pad_eq (w0 : K) (ws : List K) (m : K) :
    padwave w0 ws m = (lmin w0 ws - 2 * m) :: ((w0 :: ws) ++ [lmax w0 ws + 2 * m]) := by
  unfold padwave
  rw [show (@OfNat.ofNat K 2 Scalar.instOfNat : K) = 2 by rw [scalar_lit, Nat.cast_ofNat]]
  rfl

theorem pad_get_mid (w0 : K) (ws : List K) (m d : K) (i : Nat) (hi : i < ws.length + 1) :
    (padwave w0 ws m).getD (i + 1) d = (w0 :: ws).getD i d := by
  rw [pad_eq, List.getD_cons_succ]
  simp only [List.getD_eq_getElem?_getD]
  rw [List.getElem?_append_left (by simpa using hi)]

theorem pad_gap_first (w0 : K) (ws : List K) (m : K) (hm : 0 < m) :
    m < (padwave w0 ws m).getD 1 0 - (padwave w0 ws m).getD 0 0 := by
  rw [pad_eq]
  show m < w0 - (lmin w0 ws - 2 * m)
  linarith [lmin_le_all w0 ws w0 List.mem_cons_self]

theorem pad_get_last (w0 : K) (ws : List K) (m d : K) :
    (padwave w0 ws m).getD (ws.length + 1 + 1) d = lmax w0 ws + 2 * m := by
  rw [pad_eq, List.getD_cons_succ, List.getD_eq_getElem?_getD, List.getElem?_append_right (le_of_eq (List.length_cons ..)),
    List.length_cons, Nat.sub_self]
  rfl

theorem pad_gap_last (w0 : K) (ws : List K) (m : K) (hm : 0 < m) :
    m < (padwave w0 ws m).getD (ws.length + 1 + 1) 0 - (padwave w0 ws m).getD (ws.length + 1) 0 := by
  rw [pad_get_last, pad_get_mid _ _ _ _ _ (Nat.lt_succ_self _), List.getD_eq_getElem _ _ (Nat.lt_succ_self _)]
  linarith [lmax_ge_all w0 ws _ (List.getElem_mem (l := w0 :: ws) (Nat.lt_succ_self ws.length))]

end field

section lengths
variable {α : Type} [Scalar α]

theorem aesthetics_length (flux invvar : List α) (m : Method) (gm : α) (r : List α)
    (hl : invvar.length = flux.length) (h : aesthetics flux invvar m gm = .ok r) : r.length = flux.length := by
  unfold aesthetics at h
  simp only at h
  split at h
  · cases m <;> cases h
    · exact maskinterp1_length _ _ _
    · exact maskinterp1_length _ _ _
    · rw [List.length_map, List.length_zip, hl, Nat.min_self]
    · rfl
  · cases h; rfl

theorem damp_length (erf : α → α) (flux invvar : List α) (r : List α) (h : damp erf flux invvar = .ok r) :
    r.length = flux.length := by
  unfold damp at h
  simp only at h
  split at h
  · cases h
  · injection h with h
    -- both tapers are `mapIdx` under an `if`: whichever branches are taken, the length is that of the interpolated flux
    let P : List α → Prop := fun r => r.length = flux.length
    have h0 : P (maskinterp1 flux (invvar.map isZeroI) true) := maskinterp1_length _ _ _
    have hmap : ∀ (l : List α) (g : ℕ → α → α), P l → P (l.mapIdx g) := fun l g hl => List.length_mapIdx.trans hl
    have h1 := fun (c : Prop) [Decidable c] g => ite_ind (P := P) (c := c) (fun _ => hmap _ g h0) fun _ => h0
    rw [← h]
    exact ite_ind (P := P) (fun _ => hmap _ _ (h1 _ _)) fun _ => h1 _ _

theorem aesth_length (mean : List α → α) (erf : α → α) (flux ivar : List α) (m : Method) (r : List α)
    (hl : ivar.length = flux.length) (h : aesth mean erf flux ivar m = .ok r) : r.length = flux.length := by
  unfold aesth at h
  cases m
  case damp =>
    simp only at h
    split at h
    · exact damp_length erf flux ivar r h
    · cases h; rfl
  all_goals exact aesthetics_length flux ivar _ _ r hl h

theorem aesthIf_length (mean : List α → α) (erf : α → α) (flux ivar : List α) (m : Method) (r : List α)
    (hl : ivar.length = flux.length) (h : aesthIf mean erf flux ivar m = .ok r) : r.length = flux.length := by
  unfold aesthIf at h
  split at h
  · exact aesth_length mean erf flux ivar m r hl h
  · cases h; rfl

end lengths

end PydlVerif.Combine
