/-
The smoothing term of HMF couples neighbouring pixels, the nodes of the path `0 - 1 - … - m`.  For the simultaneous
update of all pixels from their OLD neighbours, the sum over the nodes of "step · (degree · new value - old neighbours)"
together with the change of `Σ_edges (Δ·)²` is a sum of squares over the edges: the signless Laplacian `D + Adj` of the
path is positive semi-definite.
-/
import Mathlib.Algebra.BigOperators.Fin
import Mathlib.Tactic.Ring
import Mathlib.Tactic.LinearCombination
open Finset
namespace PydlVerif.C15
section
variable {K : Type} [Field K]

theorem path_nodes_edges (m : ℕ) (R L : ℕ → K) :
    ∑ j ∈ range (m + 1), ((if j + 1 < m + 1 then R j else 0) + (if 0 < j then L j else 0))
      = ∑ j ∈ range m, (R j + L (j + 1)) := by
  rw [Finset.sum_add_distrib, Finset.sum_range_succ, Finset.sum_range_succ' (fun j => if 0 < j then L j else 0)]
  have r1 : ∑ j ∈ range m, (if j + 1 < m + 1 then R j else 0) = ∑ j ∈ range m, R j :=
    Finset.sum_congr rfl (fun j hj => by rw [mem_range] at hj; rw [if_pos (by omega)])
  have r2 : ∑ j ∈ range m, (if 0 < j + 1 then L (j + 1) else 0) = ∑ j ∈ range m, L (j + 1) :=
    Finset.sum_congr rfl (fun j _ => by rw [if_pos (by omega)])
  rw [r1, r2, if_neg (by omega), if_neg (by omega), Finset.sum_add_distrib]
  ring

/-- the Jacobi-type smoothing step on the path `0 - 1 - … - m`: with `δ = x - g`,
`Σ_nodes 2 δ_j (d_j x_j - e_j(g)) + ε Σ_edges ((Δg)² - (Δx)²) = ε Σ_edges (δ_j + δ_{j+1})²`
(`d` = ε·degree, `e` = ε·sum of the OLD neighbours).  The two `if`s are the model's `epsDiag` (ε at the two ends, 2ε
inside) and `epsRhs` (`g (M - 2)` at the last node, `g 1` at the first, both neighbours inside) for `M = m + 1` pixels. -/
theorem path_edge_identity (m : ℕ) (hm : 1 ≤ m) (ε : K) (g x : ℕ → K) :
    (∑ j ∈ range (m + 1), 2 * ((x j - g j) *
        ((if 0 < j ∧ j + 1 < m + 1 then ε * 2 else ε) * x j
          - (if j + 1 = m + 1 then ε * g (m + 1 - 2) else if j = 0 then ε * g 1 else ε * (g (j - 1) + g (j + 1))))))
      + ε * ∑ j ∈ range m, ((g (j + 1) - g j) ^ 2 - (x (j + 1) - x j) ^ 2)
    = ε * ∑ j ∈ range m, ((x j - g j) + (x (j + 1) - g (j + 1))) ^ 2 := by
  rw [Finset.mul_sum, Finset.mul_sum, ← eq_sub_iff_add_eq, ← Finset.sum_sub_distrib]
  -- every node's term splits into a right-neighbour and a left-neighbour part (one neighbour at the two ends)
  refine (Finset.sum_congr rfl fun j hj => ?node).trans ((path_nodes_edges m
    (fun j => ε * (2 * (x j - g j) * (x j - g (j + 1)))) (fun j => ε * (2 * (x j - g j) * (x j - g (j - 1))))).trans
    (Finset.sum_congr rfl fun j _ => by rw [Nat.add_sub_cancel]; ring))
  rw [mem_range] at hj
  rcases Nat.eq_zero_or_pos j with h0 | hpos
  · subst h0
    rw [if_neg (fun h => lt_irrefl 0 h.1), if_neg (show ¬ (0 + 1 = m + 1) by omega), if_pos rfl,
      if_pos (show 0 + 1 < m + 1 by omega), if_neg (lt_irrefl 0)]
    ring
  · by_cases hlast : j + 1 < m + 1
    · rw [if_pos ⟨hpos, hlast⟩, if_neg (show ¬ (j + 1 = m + 1) by omega), if_neg (show ¬ (j = 0) by omega),
        if_pos hlast, if_pos hpos]
      ring
    · rw [if_neg (fun h => hlast h.2), if_pos (show j + 1 = m + 1 by omega), show m + 1 - 2 = j - 1 by omega,
        if_neg hlast, if_pos hpos]
      ring

/-- `path_edge_identity` for every component `k` at once, the nodes as `Fin (m + 1)` and outermost: the form in which the
smoothing terms stand once badness is a sum over pixels -/
theorem path_edge_rows (m Kc : ℕ) (hm : 1 ≤ m) (ε : K) (g x : ℕ → ℕ → K) :
    (∑ j : Fin (m + 1), 2 * ∑ k : Fin Kc, (x k j - g k j) *
        ((if 0 < (j : ℕ) ∧ (j : ℕ) + 1 < m + 1 then ε * 2 else ε) * x k j
          - (if (j : ℕ) + 1 = m + 1 then ε * g k (m + 1 - 2) else if (j : ℕ) = 0 then ε * g k 1
              else ε * (g k (j - 1) + g k (j + 1)))))
      + ε * ∑ k : Fin Kc, ∑ j ∈ range m, (g k (j + 1) - g k j) ^ 2
    = ε * (∑ k : Fin Kc, ∑ j ∈ range m, (x k (j + 1) - x k j) ^ 2)
      + ε * ∑ k : Fin Kc, ∑ j ∈ range m, ((x k j - g k j) + (x k (j + 1) - g k (j + 1))) ^ 2 := by
  have h := Finset.sum_congr (s₁ := (Finset.univ : Finset (Fin Kc))) rfl
    (fun k _ => path_edge_identity m hm ε (g k) (x k))
  simp only [@Finset.sum_range _ _ (m + 1), Finset.sum_add_distrib, ← Finset.mul_sum, Finset.sum_sub_distrib] at h
  rw [Finset.sum_comm] at h
  rw [← Finset.mul_sum]
  linear_combination h

end
end PydlVerif.C15
