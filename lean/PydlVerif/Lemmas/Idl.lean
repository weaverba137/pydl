/-
What the definitions of Model/Idl.lean compute, in the form Props/C14.lean uses; in particular numpy's pairwise summation
is the sum (`npSum_eq_sum`, audited, stands here) and the model's insertion sort is Mathlib's; also the predicates the
statements of Props/C14.lean use: `IsRunEnds`, `Constant`, `Compatible`.
-/
import PydlVerif.Model.Idl
import PydlVerif.Lemmas.ScalarField
import PydlVerif.Lemmas.ListBasics
import PydlVerif.Lemmas.Except
import Mathlib.Tactic.Ring
import Mathlib.Data.List.Sort
namespace PydlVerif.C14
open PydlVerif PydlVerif.Idl

section field
variable {K : Type} [Field K] [LinearOrder K] [IsStrictOrderedRing K] [FloorRing K]
attribute [local instance] fieldScalar

theorem seqSum_eq (a : K) (l : List K) : seqSum a l = a + l.sum := by
  induction l generalizing a with
  | nil => simp [seqSum]
  | cons b t ih =>
    simp only [seqSum, List.foldl_cons, List.sum_cons] at *
    rw [ih]; ring

theorem addv_sum (r b : List K) (h : r.length = b.length) : (addv r b).sum = r.sum + b.sum := by
  induction r generalizing b with
  | nil => cases b <;> simp_all [addv]
  | cons a t ih =>
    cases b with
    | nil => simp at h
    | cons c u =>
      simp only [addv, List.zipWith_cons_cons, List.sum_cons] at *
      rw [ih u (by simpa using h)]; ring

theorem accum_sum (k : Nat) (r rest : List K) (hr : r.length = 8) (h : 8 * k ≤ rest.length) :
    (accum r k rest).sum = r.sum + (rest.take (8 * k)).sum := by
  induction k generalizing r rest with
  | zero => simp [accum]
  | succ k ih =>
    have h8 : (rest.take 8).length = 8 := List.length_take_of_le (by omega)
    simp only [accum]
    rw [ih _ _ (by rw [addv, List.length_zipWith]; omega) (by rw [List.length_drop]; omega), addv_sum _ _ (by omega)]
    have : 8 * (k + 1) = 8 + 8 * k := by ring
    rw [this, List.take_add, List.sum_append]; ring

theorem tree8_eq (r : List K) : tree8 r = r.sum := by
  unfold tree8; split
  · simp only [List.sum_cons, List.sum_nil, add_zero, add_assoc]
  · rw [seqSum_eq]; simp

theorem pwBlock_eq (l : List K) (h : 8 ≤ l.length) : pwBlock l = l.sum := by
  simp only [pwBlock]
  -- m = 8 (q + 1) is the multiple-of-8 prefix; the accumulators take `l[0..8]` and then all of `l[8..m]`
  obtain ⟨q, hq, hml⟩ : ∃ q, l.length - l.length % 8 = 8 * (q + 1) ∧ 8 * (q + 1) ≤ l.length :=
    ⟨l.length / 8 - 1, by omega, by omega⟩
  rw [hq]
  have hd : 8 * (8 * (q + 1) / 8 - 1) = 8 * q := by
    rw [Nat.mul_div_cancel_left _ (by decide : 0 < 8), Nat.add_sub_cancel]
  have hlen : ((l.take (8 * (q + 1))).drop 8).length = 8 * q := by
    rw [List.length_drop, List.length_take, Nat.min_eq_left hml, Nat.mul_succ, Nat.add_sub_cancel]
  rw [seqSum_eq, tree8_eq, accum_sum _ _ _ (by rw [List.length_take]; omega) (by rw [hlen, hd]), hd,
    List.take_of_length_le hlen.le, show l.take 8 = (l.take (8 * (q + 1))).take 8 by
      rw [List.take_take, Nat.min_eq_left (by omega)],
    List.sum_take_add_sum_drop, List.sum_take_add_sum_drop]

theorem pwSum_eq (fuel : Nat) (l : List K) : pwSum fuel l = l.sum := by
  induction fuel generalizing l with
  | zero => simp [pwSum, seqSum_eq]
  | succ f ih =>
    simp only [pwSum]
    split
    · simp [seqSum_eq]
    · split
      · exact pwBlock_eq l (by omega)
      · rw [ih, ih, ← List.sum_append, List.take_append_drop]

/-- numpy's pairwise summation (8 accumulators, halving above 128 elements) computes the sum
    in exact arithmetic, so every `.sum()` of the model is the mathematical sum -/
theorem npSum_eq_sum (l : List K) : npSum l = l.sum := by
  simp [npSum, pwSum_eq]

theorem axisSum_eq (b : Bool) (l : List K) : axisSum b l = l.sum := by
  cases b <;> simp [axisSum, npSum_eq_sum, seqSum_eq]

theorem drop_eq_map (x : List K) (a : Nat) (h : a ≤ x.length) :
    x.drop a = (List.range (x.length - a)).map fun j => x.getD (a + j) 0 := by
  rw [← drop_take_eq_map_getD x 0 a (x.length - a) (by omega)]
  rw [List.take_of_length_le (by simp)]

theorem take_eq_map (x : List K) (m : Nat) (h : m ≤ x.length) :
    x.take m = (List.range m).map fun j => x.getD j 0 := by
  have := drop_take_eq_map_getD x 0 0 m (by omega)
  simpa using this

theorem oddWidth_odd (ow : Int) : oddWidth ow % 2 = 1 := by
  unfold oddWidth; split <;> rename_i h <;> simp at h <;> omega

theorem oddWidth_toNat (ow : Int) (hw : 3 ≤ oddWidth ow) :
    ∃ h, 1 ≤ h ∧ (oddWidth ow).toNat = 2 * h + 1 := by
  have := oddWidth_odd ow
  exact ⟨(oddWidth ow).toNat / 2, by omega, by omega⟩

/- `i > iend` of smooth and of the running median for the odd width `2 * h + 1`, in ℕ (`istart`: `half_pred`) -/
theorem gt_iend (i n h : Nat) : ((i : Int) > (n : Int) - ((h + 1 : Nat) : Int)) ↔ n ≤ i + h := by omega

/-- `smooth` at one point, with the width written `2 * h + 1` and the three branches decided in ℕ -/
theorem smooth_getD (x : List K) (ow : Int) (t : Bool) (h i : Nat)
    (hW : (oddWidth ow).toNat = 2 * h + 1) (h1 : 1 ≤ h) (hi : i < x.length) :
    (smooth x ow t).getD i 0 =
      if i < h then
        if t then ((x.take (h + i + 1)).sum + ((h - i : Nat) : K) * x.getD 0 0) / ((2 * h + 1 : Nat) : K)
        else x.getD i 0
      else if x.length ≤ i + h then
        if t then ((x.drop (i - h)).sum + ((i + h + 1 - x.length : Nat) : K) * x.getD (x.length - 1) 0)
          / ((2 * h + 1 : Nat) : K)
        else x.getD i 0
      else ((x.drop (i - h)).take (2 * h + 1)).sum / ((2 * h + 1 : Nat) : K) := by
  have e : ((i : Int) - ((x.length : Int) - ((h + 1 : Nat) : Int))).toNat = i + h + 1 - x.length := by omega
  simp only [smooth, if_neg (show ¬ oddWidth ow < 3 by omega), hW, half_pred, half_odd_succ, half_odd]
  rw [getD_map_range_lt _ _ _ _ hi]
  simp only [gt_iend, e, npSum_eq_sum, scalar_ofNat]

theorem isort_eq (l : List K) : isort l = l.insertionSort (· ≤ ·) := by
  have h : ∀ (a : K) (t : List K), insertS a t = t.orderedInsert (· ≤ ·) a := fun a t => by
    induction t with
    | nil => rfl
    | cons b t ih => simp only [insertS, List.orderedInsert_cons, ih]
  induction l with
  | nil => rfl
  | cons a t ih => exact (congrArg (insertS a) ih).trans (h a _)

theorem isEdge_iff (n w i : Nat) (hodd : w % 2 = 1) :
    isEdge n w i = true ↔ (i < w / 2 ∨ n ≤ i + w / 2) := by
  obtain ⟨h, rfl⟩ : ∃ h, w = 2 * h + 1 := ⟨w / 2, by omega⟩
  simp only [isEdge, Bool.or_eq_true, decide_eq_true_eq, half_pred, half_odd_succ, half_odd, gt_iend]

/- the position `p = (d0/d)·i` of `laneExpand` and its floor, in ℕ -/
omit [LinearOrder K] [IsStrictOrderedRing K] [FloorRing K] in
theorem expandPos_eq (d0 d i : Nat) : (d0 : K) / (d : K) * (i : K) = ((i * d0 : Nat) : K) / (d : K) := by
  rw [Nat.cast_mul, div_mul_eq_mul_div, mul_comm]

theorem floor_toNat_natdiv (m n : Nat) : (Scalar.floor ((m : K) / (n : K))).toNat = m / n := by
  rw [scalar_floor, Int.floor_div_natCast, Int.floor_natCast, ← Int.natCast_ediv, Int.toNat_natCast]

end field

section uniq
variable {β : Type} [BEq β] [LawfulBEq β] [PartialOrder β]

def IsRunEnds (x : List β) (r : List Nat) : Prop :=
  r.Pairwise (· < ·) ∧ ∀ i, i ∈ r ↔ (i < x.length ∧ (i + 1 = x.length ∨ x[i]? ≠ x[i + 1]?))

def Constant (x : List β) : Prop := ∀ a ∈ x, ∀ b ∈ x, a = b

omit [PartialOrder β] in
theorem mem_neqNext (x : List β) (i : Nat) :
    i ∈ neqNext x ↔ i < x.length ∧ x[i]? ≠ x[(i + 1) % x.length]? := by
  unfold neqNext
  rw [List.mem_filter, List.mem_range]
  refine and_congr_right fun h => ?_
  rw [List.getElem?_eq_getElem h, List.getElem?_eq_getElem (Nat.mod_lt _ (by omega))]
  simp

omit [BEq β] [LawfulBEq β] in
theorem sorted_ends_ne (x : List β) (hs : x.Pairwise (· ≤ ·)) (hnc : ¬ Constant x)
    (h0 : 0 < x.length) : x[x.length - 1]? ≠ x[0]? := by
  have hlast : x.length - 1 < x.length := Nat.sub_lt h0 Nat.one_pos
  rw [List.getElem?_eq_getElem hlast, List.getElem?_eq_getElem h0]
  intro heq
  have heq := Option.some.inj heq
  have hsg := List.pairwise_iff_getElem.1 hs
  -- every element lies between the first and the last, which are equal
  have key : ∀ a ∈ x, a = x[0] := fun a ha => by
    obtain ⟨k, hk, rfl⟩ := List.getElem_of_mem ha
    have l1 : x[0] ≤ x[k] := by
      rcases Nat.eq_zero_or_pos k with rfl | h
      · exact le_refl _
      · exact hsg 0 k h0 hk h
    have l2 : x[k] ≤ x[x.length - 1] := by
      rcases Nat.lt_or_ge k (x.length - 1) with h | h
      · exact hsg k _ hk (by omega) h
      · exact le_of_eq (getElem_congr_idx (by omega))
    exact le_antisymm (heq ▸ l2) l1
  exact hnc fun a ha b hb => (key a ha).trans (key b hb).symm

theorem neqNext_runEnds (x : List β) (hs : x.Pairwise (· ≤ ·)) (hnc : ¬ Constant x) :
    IsRunEnds x (neqNext x) := by
  refine ⟨List.Pairwise.filter _ List.pairwise_lt_range, fun i => (mem_neqNext x i).trans (and_congr_right fun h => ?_)⟩
  by_cases hl : i + 1 = x.length
  · -- the last element is compared with the first, which differs: sorted and not constant
    have := sorted_ends_ne x hs hnc (by omega)
    rw [show x.length - 1 = i by omega] at this
    simp [hl, this]
  · rw [Nat.mod_eq_of_lt (by omega)]
    simp [hl]

omit [PartialOrder β] in
theorem neqNext_constant (x : List β) (hc : Constant x) : neqNext x = [] := by
  rw [List.eq_nil_iff_forall_not_mem]
  intro i hi
  obtain ⟨h, hp⟩ := (mem_neqNext x i).1 hi
  have h' : (i + 1) % x.length < x.length := Nat.mod_lt _ (by omega)
  rw [List.getElem?_eq_getElem h, List.getElem?_eq_getElem h'] at hp
  exact hp (congrArg some (hc _ (List.getElem_mem _) _ (List.getElem_mem _)))

theorem neqNext_ne_nil (x : List β) (hs : x.Pairwise (· ≤ ·)) (hnc : ¬ Constant x) :
    neqNext x ≠ [] := by
  have hpos : 0 < x.length := by
    rcases x with _ | ⟨a, t⟩
    · exact absurd (fun a ha => by simp at ha) hnc
    · simp
  have : x.length - 1 ∈ neqNext x :=
    ((neqNext_runEnds x hs hnc).2 (x.length - 1)).2 ⟨by omega, Or.inl (by omega)⟩
  intro h; rw [h] at this; simp at this

omit [BEq β] [LawfulBEq β] [PartialOrder β] in
/-- numpy `x[index]` for subscripts in range -/
theorem take?_ok (x : List β) (index : List Int)
    (h : ∀ j ∈ index, 0 ≤ j ∧ j < (x.length : Int)) :
    ∃ q, take? x index = .ok q ∧ List.Forall₂ (fun j v => x[j.toNat]? = some v) index q := by
  induction index with
  | nil => exact ⟨[], rfl, List.Forall₂.nil⟩
  | cons j t ih =>
    obtain ⟨q, hq, hf⟩ := ih (fun k hk => h k (List.mem_cons_of_mem _ hk))
    obtain ⟨h0, h1⟩ := h j List.mem_cons_self
    have hj : j.toNat < x.length := by omega
    refine ⟨x[j.toNat] :: q, ?_, List.Forall₂.cons (List.getElem?_eq_getElem hj) hf⟩
    simp only [take?] at hq ⊢
    rw [List.mapM_cons, hq]
    have c1 : ¬ (j < -(x.length : Int) ∨ j ≥ (x.length : Int)) := by omega
    have c2 : ¬ j < 0 := by omega
    simp only [c1, c2, if_false, List.getElem?_eq_getElem hj]
    rfl

omit [BEq β] [LawfulBEq β] [PartialOrder β] in
theorem take?_length (x : List β) (index : List Int) (q : List β) (hq : take? x index = .ok q) :
    q.length = index.length :=
  (mapM_ok _ _ _ hq).1

end uniq

section nd
variable {α : Type} [Scalar α]

theorem prod_eq_prod (l : List Nat) : prod l = l.prod :=
  List.prod_eq_foldl.symm

theorem mapAxis_size (f : List α → List α) (outer d0 d inner : Nat) (data : Array α) :
    (mapAxis f outer d0 d inner data).size = outer * d * inner :=
  Array.size_ofFn

theorem ofFn_getElem! {β : Type} [Inhabited β] (n : Nat) (g : Fin n → β) (i : Nat) (h : i < n) :
    (Array.ofFn g)[i]! = g ⟨i, h⟩ := by
  rw [getElem!_pos _ i (by simpa using h)]; simp

theorem rebinAxes_size (sample : Bool) (done s ds : List Nat) (data : Array α)
    (hl : s.length = ds.length) (hsz : data.size = prod done * prod s) :
    (rebinAxes sample done s ds data).size = prod done * prod ds := by
  induction s generalizing done ds data with
  | nil =>
    cases ds with
    | nil => simpa [rebinAxes] using hsz
    | cons _ _ => simp at hl
  | cons d0 s ih =>
    cases ds with
    | nil => simp at hl
    | cons d ds =>
      simp only [rebinAxes]
      rw [ih _ _ _ (by simpa using hl) (by rw [mapAxis_size]; simp only [prod_eq_prod, List.prod_append, List.prod_singleton])]
      simp only [prod_eq_prod, List.prod_append, List.prod_cons, List.prod_nil, Nat.mul_one, Nat.mul_assoc]

def Compatible : List Nat → List Nat → Prop
  | d0 :: s, d :: ds => 0 < d0 ∧ 0 < d ∧ (d0 ∣ d ∨ d ∣ d0) ∧ Compatible s ds
  | [], [] => True
  | _, _ => False

theorem Compatible.length_eq {s ds : List Nat} (h : Compatible s ds) : s.length = ds.length := by
  induction s generalizing ds with
  | nil =>
    cases ds with
    | nil => rfl
    | cons _ _ => exact False.elim h
  | cons a s ih =>
    cases ds with
    | nil => exact False.elim h
    | cons b ds => rw [List.length_cons, List.length_cons, ih h.2.2.2]

theorem rebinCheck_cons (d0 d : Nat) (s ds : List Nat) (h0 : 0 < d0) (h1 : 0 < d) :
    rebinCheck (d0 :: s) (d :: ds) = if d0 ∣ d ∨ d ∣ d0 then rebinCheck s ds else valueError := by
  have hmod : ∀ a b : Nat, (b % a != 0) = true ↔ ¬ a ∣ b := fun a b => by
    rw [bne_iff_ne, Ne, Nat.dvd_iff_mod_eq_zero]
  rcases Nat.lt_trichotomy d0 d with h | rfl | h
  · simp [rebinCheck, hmod, h, h0.ne', Nat.not_dvd_of_pos_of_lt h0 h]
  · simp [rebinCheck]
  · simp [rebinCheck, hmod, h.not_gt, h.ne, h1.ne', Nat.not_dvd_of_pos_of_lt h1 h]

theorem rebinCheck_ok (s ds : List Nat) (h : Compatible s ds) : rebinCheck s ds = .ok () := by
  induction s generalizing ds with
  | nil =>
    cases ds with
    | nil => rfl
    | cons _ _ => exact False.elim h
  | cons d0 s ih =>
    cases ds with
    | nil => exact False.elim h
    | cons d ds =>
      obtain ⟨h0, h1, hdv, hc⟩ := h
      rw [rebinCheck_cons _ _ _ _ h0 h1, if_pos hdv]
      exact ih ds hc

theorem rebinCheck_error (s ds : List Nat) (hs : ∀ a ∈ s, 0 < a) (hds : ∀ a ∈ ds, 0 < a)
    (k : Nat) (h0 : k < s.length) (h1 : k < ds.length) (hb : ¬ s[k] ∣ ds[k] ∧ ¬ ds[k] ∣ s[k]) :
    rebinCheck s ds = valueError := by
  induction s generalizing ds k with
  | nil => exact absurd h0 (Nat.not_lt_zero _)
  | cons a s ih =>
    cases ds with
    | nil => exact absurd h1 (Nat.not_lt_zero _)
    | cons b ds =>
      rw [rebinCheck_cons a b s ds (hs a List.mem_cons_self) (hds b List.mem_cons_self)]
      cases k with
      | zero => exact if_neg (not_or.2 hb)
      | succ k =>
        split
        · exact ih ds (fun c hc => hs c (List.mem_cons_of_mem _ hc))
            (fun c hc => hds c (List.mem_cons_of_mem _ hc)) k
            (Nat.lt_of_succ_lt_succ h0) (Nat.lt_of_succ_lt_succ h1) hb
        · rfl

theorem rebin_of_length_eq (x : ND α) (d : List Nat) (sample : Bool) (h : x.shape.length = d.length) :
    rebin x d sample =
      (rebinCheck x.shape d).bind fun _ => .ok ⟨d, rebinAxes sample [] x.shape d x.data⟩ := by
  unfold rebin
  rw [if_neg (by rw [h, bne_self_eq_false]; exact Bool.false_ne_true)]
  rfl

end nd
end PydlVerif.C14
