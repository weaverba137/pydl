/-
Scanning a struct text word by word: one round of `type()`'s search `(\S+)\s+VAR([\[<].*[\]>]|);` (`Finds`); for
`re.findall(r'\S+\s+\S+;', body)` the notion `Defs`, whose round over a word is in Lemmas/YannyLayScan.lean (a struct in
any layout).
-/
import PydlVerif.Lemmas.YannyFront
namespace PydlVerif.YannyRT
open PydlVerif.Yanny

theorem arrTail_head_none (c : Char) (t : Str) (h1 : isOpenB c = false) (h2 : c ≠ ';') :
    arrTail (c :: t) = none := by
  simp [arrTail, h1, h2]

/-- the test `VAR([\[<].*[\]>]|);` fails at a word `N` followed by `c` -/
theorem strip_arrTail_none (var N : Str) (c : Char) (rest : Str)
    (hv : ∀ x ∈ var, isWordCh x = true) (hN : ∀ x ∈ N, isWordCh x = true) (hc : isWordCh c = false)
    (h : var ≠ N ∨ (isOpenB c = false ∧ c ≠ ';')) (tail : Str)
    (hs : stripPrefix var (N ++ c :: rest) = some tail) : arrTail tail = none := by
  -- `var ++ tail = N ++ c :: rest` and `c` is not in `var`: `var` ends inside `N`, so `tail` starts with a
  -- word character, or `var = N` and `tail` starts with `c`
  have e := stripPrefix_some_eq _ _ _ hs
  obtain ⟨z, rfl⟩ := prefix_of_not_mem var tail N rest c e.symm fun hm => by simpa [hc] using hv c hm
  rw [List.append_assoc] at e
  obtain rfl := List.append_cancel_left e
  cases z with
  | nil =>
    obtain ⟨h1, h2⟩ := h.resolve_left (by simp)
    exact arrTail_head_none c rest h1 h2
  | cons x z' =>
    have hx := hN x (by simp)
    exact arrTail_head_none x _ (scan_word_not_open x hx) (wordCh_ne (d := ';') hx (by decide))

/-- with enough fuel the search on `s` gives `res` -/
def Finds (var s : Str) (res : Option (Str × Str)) : Prop :=
  ∀ fuel, s.length < fuel → typeSearchAux var fuel s = res

theorem skip_blanks {β} (F : Nat → Str → β) (hF : ∀ f c t, isSpace c = true → F (f + 1) (c :: t) = F f t)
    (ws t : Str) (res : β) (hws : ∀ c ∈ ws, isSpace c = true)
    (h : ∀ fuel, t.length < fuel → F fuel t = res) :
    ∀ fuel, (ws ++ t).length < fuel → F fuel (ws ++ t) = res := by
  induction ws with
  | nil => exact h
  | cons c ws' ih =>
    intro fuel hf
    cases fuel with
    | zero => cases hf
    | succ f =>
      rw [List.cons_append, hF f c _ (hws c List.mem_cons_self)]
      exact ih (fun x hx => hws x (List.mem_cons_of_mem c hx)) f (Nat.lt_of_succ_lt_succ hf)

theorem finds_blanks (var ws t : Str) (res : Option (Str × Str)) (hws : ∀ c ∈ ws, isSpace c = true)
    (h : Finds var t res) : Finds var (ws ++ t) res :=
  skip_blanks (typeSearchAux var) (fun _ _ _ hc => if_pos hc) ws t res hws h

theorem scan_split (w bl r' : Str) (hw : ∀ c ∈ w, nonSp c = true)
    (hbl : bl ≠ []) (hbs : ∀ c ∈ bl, isSpace c = true) (hr : ∀ c, r'.head? = some c → isSpace c = false) :
    (w ++ bl ++ r').takeWhile nonSp = w ∧ (w ++ bl ++ r').dropWhile nonSp = bl ++ r' ∧
    (bl ++ r').dropWhile isSpace = r' := by
  obtain ⟨b, bl', rfl⟩ := List.exists_cons_of_ne_nil hbl
  have hb : nonSp b = false := by simp [nonSp, hbs b (by simp)]
  rw [List.append_assoc, List.cons_append]
  exact ⟨takeWhile_app_stop _ _ _ _ hw hb, dropWhile_app_stop _ _ _ _ hw hb,
    (List.dropWhile_append_of_pos hbs).trans (lstrip_id _ hr)⟩

theorem typeSearchAux_word (var w bl r' : Str) (f : Nat) (hne : w ≠ []) (hw : ∀ c ∈ w, nonSp c = true)
    (hbl : bl ≠ []) (hbs : ∀ c ∈ bl, isSpace c = true) (hr : ∀ c, r'.head? = some c → isSpace c = false) :
    typeSearchAux var (f + 1) (w ++ bl ++ r') =
      match stripPrefix var r' with
      | some tail =>
        match arrTail tail with
        | some a => some (w, a)
        | none => typeSearchAux var f r'
      | none => typeSearchAux var f r' := by
  obtain ⟨h1, h2, h3⟩ := scan_split w bl r' hw hbl hbs hr
  obtain ⟨c, w', rfl⟩ := List.exists_cons_of_ne_nil hne
  obtain ⟨b, bl', rfl⟩ := List.exists_cons_of_ne_nil hbl
  have hc : isSpace c = false := by simpa [nonSp] using hw c List.mem_cons_self
  -- the text in the form `c :: t` in which `typeSearchAux` takes it
  simp only [List.cons_append] at h1 h2 h3 ⊢
  simp only [typeSearchAux, hc, Bool.false_eq_true, if_false, h1, h2, h3, List.isEmpty_cons]
  rfl

theorem finds_word_fail (var w bl r' : Str) (res : Option (Str × Str))
    (hne : w ≠ []) (hw : ∀ c ∈ w, nonSp c = true)
    (hbl : bl ≠ []) (hbs : ∀ c ∈ bl, isSpace c = true) (hr : ∀ c, r'.head? = some c → isSpace c = false)
    (hfail : ∀ tail, stripPrefix var r' = some tail → arrTail tail = none)
    (h : Finds var r' res) : Finds var (w ++ bl ++ r') res := by
  intro fuel hf
  cases fuel with
  | zero => cases hf
  | succ f =>
    have hlen : r'.length < f := by
      have := List.length_pos_iff.mpr hne
      simp only [List.length_append] at hf
      omega
    rw [typeSearchAux_word var w bl r' f hne hw hbl hbs hr]
    cases hsp : stripPrefix var r' with
    | none => exact h f hlen
    | some tail => simp only [hfail tail hsp]; exact h f hlen

theorem finds_word_ok (var w bl r' tail a : Str)
    (hne : w ≠ []) (hw : ∀ c ∈ w, nonSp c = true)
    (hbl : bl ≠ []) (hbs : ∀ c ∈ bl, isSpace c = true) (hr : ∀ c, r'.head? = some c → isSpace c = false)
    (hsp : stripPrefix var r' = some tail) (ha : arrTail tail = some a) :
    Finds var (w ++ bl ++ r') (some (w, a)) := by
  intro fuel hf
  cases fuel with
  | zero => cases hf
  | succ f => simp only [typeSearchAux_word var w bl r' f hne hw hbl hbs hr, hsp, ha]

theorem wordy_nonSp (T : Str) (hT : wordy T) : ∀ c ∈ T, nonSp c = true :=
  fun c hc => scan_word_nonSp c (hT.2 c hc)

theorem wordy_head (T R : Str) (hT : wordy T) : ∀ c, (T ++ R).head? = some c → isSpace c = false := by
  obtain ⟨a, t, rfl⟩ := List.exists_cons_of_ne_nil hT.1
  intro c hc
  obtain rfl : a = c := Option.some.inj hc
  exact wordCh_not_space a (hT.2 a List.mem_cons_self)

/-- with enough fuel `bodyDefsAux` on `s` gives `res` -/
def Defs (s : Str) (res : List (Str × Str)) : Prop :=
  ∀ fuel, s.length < fuel → bodyDefsAux fuel s = res

theorem defs_nil : Defs [] [] := by
  intro fuel _
  cases fuel <;> rfl

theorem defs_blanks (ws t : Str) (res : List (Str × Str)) (hws : ∀ c ∈ ws, isSpace c = true)
    (h : Defs t res) : Defs (ws ++ t) res :=
  skip_blanks bodyDefsAux (fun _ _ _ hc => if_pos hc) ws t res hws h

theorem noSemi_id (s : Str) (h : ∀ c ∈ s, c ≠ ';') : noSemi s = s := by
  unfold noSemi
  rw [List.filter_eq_self]
  intro c hc
  simp [h c hc]

end PydlVerif.YannyRT
