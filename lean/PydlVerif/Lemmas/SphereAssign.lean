/-
C04: the tables of `chunks.assign`, indexed by (dec band, RA cell), and its two chunkDone passes in closed form: the append
pass appends `i` once to every existing cell it is given whose flag is clear, however often the cell occurs in the list, since
the first visit sets the flag.
-/
import PydlVerif.Model.Sphere
namespace PydlVerif.Sphere

/-- the entry of cell `c`, `none` outside the table (`Tab.get` reads the default there) -/
def Tab.get? {β : Type} (t : Tab β) (c : Nat × Nat) : Option β :=
  (show Array (Array β) from t)[c.1]?.bind fun row => row[c.2]?

theorem Tab.get_eq {β : Type} [Inhabited β] (t : Tab β) (c : Nat × Nat) :
    t.get c = (t.get? c).getD default := by
  simp only [Tab.get, Tab.get?, Array.getD_eq_getD_getElem?]
  cases (show Array (Array β) from t)[c.1]? <;> simp

theorem Tab.get?_modify {β : Type} (t : Tab β) (c c' : Nat × Nat) (f : β → β) :
    (t.modify c f).get? c' = if c = c' then (t.get? c').map f else t.get? c' := by
  obtain ⟨d, r⟩ := c
  obtain ⟨d', r'⟩ := c'
  simp only [Tab.get?, Tab.modify, Array.getElem?_modify, Prod.mk.injEq]
  by_cases hdd : d = d'
  · subst hdd
    cases (show Array (Array β) from t)[d]? with
    | none => simp
    | some row =>
      simp only [if_true, Option.map_some, Option.bind_some, Array.getElem?_modify, true_and]
  · simp [hdd]

/-- "in bounds": `c` is a cell of the table -/
def Tab.inb {β : Type} (t : Tab β) (c : Nat × Nat) : Prop := (t.get? c).isSome

instance {β : Type} (t : Tab β) (c : Nat × Nat) : Decidable (t.inb c) :=
  inferInstanceAs (Decidable ((t.get? c).isSome = true))

theorem Tab.inb_modify {β : Type} (t : Tab β) (c c' : Nat × Nat) (f : β → β) :
    (t.modify c f).inb c' ↔ t.inb c' := by
  simp only [Tab.inb, Tab.get?_modify]
  split <;> simp

theorem Tab.get_modify_ne {β : Type} [Inhabited β] (t : Tab β) (c c' : Nat × Nat) (f : β → β)
    (h : c ≠ c') : (t.modify c f).get c' = t.get c' := by
  simp [Tab.get_eq, Tab.get?_modify, h]

theorem Tab.get_modify_same {β : Type} [Inhabited β] (t : Tab β) (c : Nat × Nat) (f : β → β) :
    (t.inb c ∧ (t.modify c f).get c = f (t.get c)) ∨
    (¬ t.inb c ∧ (t.modify c f).get c = t.get c ∧ t.get c = default) := by
  simp only [Tab.inb, Tab.get_eq, Tab.get?_modify, if_true]
  cases t.get? c <;> simp

theorem resetPass_inb (cells : List (Nat × Nat)) (t : Tab CellSt) (c : Nat × Nat) :
    (resetPass t cells).inb c ↔ t.inb c := by
  induction cells generalizing t with
  | nil => exact Iff.rfl
  | cons c0 rest ih =>
    simp only [resetPass, List.foldl_cons] at ih ⊢
    rw [ih, Tab.inb_modify]

theorem resetPass_get (cells : List (Nat × Nat)) (t : Tab CellSt) (c : Nat × Nat) :
    (resetPass t cells).get c = if c ∈ cells then ((t.get c).1, false) else t.get c := by
  induction cells generalizing t with
  | nil => rfl
  | cons c0 rest ih =>
    simp only [resetPass, List.foldl_cons] at ih ⊢
    rw [ih]
    by_cases h : c0 = c
    · subst h
      -- a cell outside the table reads as the default `([], false)` before and after
      have hm : (t.modify c0 fun x => (x.1, false)).get c0 = ((t.get c0).1, false) := by
        rcases Tab.get_modify_same t c0 (fun x => (x.1, false)) with ⟨-, h⟩ | ⟨-, h, hd⟩
        · exact h
        · rw [h, hd]; rfl
      rw [hm, if_pos List.mem_cons_self]
      split <;> rfl
    · rw [Tab.get_modify_ne _ _ _ _ h]
      have : c ∈ c0 :: rest ↔ c ∈ rest :=
        ⟨fun hc => (List.mem_cons.1 hc).resolve_left fun e => h e.symm, List.mem_cons_of_mem _⟩
      simp only [this]

theorem resetPass_fst (cells : List (Nat × Nat)) (t : Tab CellSt) (c : Nat × Nat) :
    ((resetPass t cells).get c).1 = (t.get c).1 := by
  rw [resetPass_get]; split <;> rfl

def appStep (i : Nat) (t : Tab CellSt) (c0 : Nat × Nat) : Tab CellSt :=
  if (t.get c0).2 then t else t.modify c0 fun x => (x.1 ++ [i], true)

theorem appendPass_cons (i : Nat) (t : Tab CellSt) (c0 : Nat × Nat) (rest : List (Nat × Nat)) :
    appendPass i t (c0 :: rest) = appendPass i (appStep i t c0) rest := rfl

theorem appStep_inb (i : Nat) (t : Tab CellSt) (c0 c : Nat × Nat) :
    (appStep i t c0).inb c ↔ t.inb c := by
  unfold appStep
  split
  · exact Iff.rfl
  · exact Tab.inb_modify _ _ _ _

theorem appStep_get (i : Nat) (t : Tab CellSt) (c0 c : Nat × Nat) :
    (appStep i t c0).get c =
      if c0 = c ∧ t.inb c ∧ (t.get c).2 = false then ((t.get c).1 ++ [i], true) else t.get c := by
  unfold appStep
  by_cases hd : (t.get c0).2 = true
  · rw [if_pos hd, if_neg]
    rintro ⟨rfl, -, h⟩
    rw [hd] at h; cases h
  · rw [if_neg hd]
    by_cases hc : c0 = c
    · subst hc
      rcases Tab.get_modify_same t c0 (fun x => (x.1 ++ [i], true)) with ⟨h1, h2⟩ | ⟨h1, h2, -⟩
      · rw [h2, if_pos ⟨rfl, h1, Bool.eq_false_iff.2 hd⟩]
      · rw [h2, if_neg fun h => h1 h.2.1]
    · rw [Tab.get_modify_ne _ _ _ _ hc, if_neg fun h => hc h.1]

theorem appendPass_inb (i : Nat) (cells : List (Nat × Nat)) (t : Tab CellSt) (c : Nat × Nat) :
    (appendPass i t cells).inb c ↔ t.inb c := by
  induction cells generalizing t with
  | nil => exact Iff.rfl
  | cons c0 rest ih => rw [appendPass_cons, ih, appStep_inb]

theorem appendPass_get (i : Nat) (cells : List (Nat × Nat)) (t : Tab CellSt) (c : Nat × Nat) :
    (appendPass i t cells).get c =
      if c ∈ cells ∧ t.inb c ∧ (t.get c).2 = false then ((t.get c).1 ++ [i], true) else t.get c := by
  induction cells generalizing t with
  | nil => rw [if_neg fun h => List.not_mem_nil h.1]; rfl
  | cons c0 rest ih =>
    rw [appendPass_cons, ih]
    simp only [appStep_inb, appStep_get]
    by_cases h : c0 = c ∧ t.inb c ∧ (t.get c).2 = false
    · -- the first visit appends and sets the flag, the later ones find it set
      rw [if_pos h, if_neg fun h' => Bool.noConfusion h'.2.2,
        if_pos ⟨List.mem_cons.2 (Or.inl h.1.symm), h.2⟩]
    · rw [if_neg h]
      by_cases hr : c ∈ rest ∧ t.inb c ∧ (t.get c).2 = false
      · rw [if_pos hr, if_pos ⟨List.mem_cons_of_mem _ hr.1, hr.2⟩]
      · rw [if_neg hr, if_neg fun h' =>
          (List.mem_cons.1 h'.1).elim (fun e => h ⟨e.symm, h'.2⟩) fun m => hr ⟨m, h'.2⟩]

theorem assignCells_fst (i : Nat) (t : Tab CellSt) (R V : List (Nat × Nat)) (c : Nat × Nat) :
    ((assignCells i t R V).get c).1 =
      if c ∈ V ∧ t.inb c ∧ (c ∈ R ∨ (t.get c).2 = false) then (t.get c).1 ++ [i] else (t.get c).1 := by
  unfold assignCells
  rw [appendPass_get]
  simp only [resetPass_inb, resetPass_get]
  by_cases hR : c ∈ R
  · simp only [hR, if_true, true_or]
    split <;> rfl
  · simp only [hR, if_false, false_or]
    split <;> rfl

theorem assignAll_succ (n : Nat) (R V : Nat → List (Nat × Nat)) (init : Tab CellSt) :
    assignAll (n+1) R V init = assignCells n (assignAll n R V init) (R n) (V n) := by
  simp [assignAll, List.range_succ, List.foldl_append]

theorem assignAll_inb (n : Nat) (R V : Nat → List (Nat × Nat)) (init : Tab CellSt) (c : Nat × Nat) :
    (assignAll n R V init).inb c ↔ init.inb c := by
  induction n with
  | zero => exact Iff.rfl
  | succ n ih => rw [assignAll_succ, assignCells, appendPass_inb, resetPass_inb, ih]

/-- `hsub`: in `chunks.assign` the reset loop runs over a range one cell wider on both sides than the append loop -/
theorem assignAll_mem (n : Nat) (R V : Nat → List (Nat × Nat)) (init : Tab CellSt)
    (hsub : ∀ i < n, ∀ c ∈ V i, c ∈ R i) :
    ∀ i < n, ∀ c ∈ V i, init.inb c → i ∈ ((assignAll n R V init).get c).1 := by
  induction n with
  | zero => intro i hi; omega
  | succ n ih =>
    intro i hi c hc hin
    rw [assignAll_succ, assignCells_fst]
    by_cases hlt : i < n
    · -- lists never lose an entry
      have := ih (fun j hj => hsub j (by omega)) i hlt c hc hin
      split
      · exact List.mem_append_left _ this
      · exact this
    · have hin' : i = n := by omega
      subst hin'
      rw [if_pos ⟨hc, (assignAll_inb _ _ _ _ _).2 hin, Or.inl (hsub i hi c hc)⟩]
      exact List.mem_append_right _ (List.mem_singleton_self i)

theorem assignAll_nodup (n : Nat) (R V : Nat → List (Nat × Nat)) (init : Tab CellSt)
    (h0 : ∀ c, (init.get c).1 = []) :
    ∀ c, ((assignAll n R V init).get c).1.Nodup ∧ ∀ x ∈ ((assignAll n R V init).get c).1, x < n := by
  induction n with
  | zero => intro c; simp [assignAll, h0]
  | succ n ih =>
    intro c
    obtain ⟨h1, h2⟩ := ih c
    rw [assignAll_succ, assignCells_fst]
    split
    · refine ⟨List.nodup_append.2 ⟨h1, (List.nodup_cons.2 ⟨List.not_mem_nil, List.nodup_nil⟩), fun a ha b hb hab => ?_⟩, fun x hx => ?_⟩
      · rw [List.mem_singleton.1 hb] at hab
        exact absurd (hab ▸ h2 a ha) (Nat.lt_irrefl n)
      · rcases List.mem_append.1 hx with hx | hx
        · exact Nat.lt_succ_of_lt (h2 x hx)
        · rw [List.mem_singleton.1 hx]; exact Nat.lt_succ_self n
    · exact ⟨h1, fun x hx => Nat.lt_succ_of_lt (h2 x hx)⟩

theorem init_get? (nRa : Array Nat) (c : Nat × Nat) :
    Tab.get? (nRa.map fun n => Array.replicate n (([], false) : CellSt)) c =
      if c.1 < nRa.size ∧ c.2 < nRa.getD c.1 0 then some ([], false) else none := by
  by_cases h1 : c.1 < nRa.size
  · simp [Tab.get?, Array.getD_eq_getD_getElem?, h1, Array.getElem?_replicate]
  · simp [Tab.get?, h1]

theorem init_empty (nRa : Array Nat) (c : Nat × Nat) :
    (Tab.get (nRa.map fun n => Array.replicate n (([], false) : CellSt)) c).1 = [] := by
  rw [Tab.get_eq, init_get?]
  split <;> rfl

theorem init_inb (nRa : Array Nat) (c : Nat × Nat) (h1 : c.1 < nRa.size) (h2 : c.2 < nRa.getD c.1 0) :
    Tab.inb (nRa.map fun n => Array.replicate n (([], false) : CellSt)) c := by
  rw [Tab.inb, init_get?, if_pos ⟨h1, h2⟩]
  rfl

theorem assign_ok {α : Type} [Trig α] (g : Grid α) (ra dec : Array α) (m : α) (cl : Tab CellSt)
    (h : assign g ra dec m = .ok cl) :
    m < g.minSize ∧ cl = assignAll ra.size (cellsOfPoint g ra dec m 1) (cellsOfPoint g ra dec m 0)
      (g.nRa.map fun n => Array.replicate n ([], false)) := by
  unfold assign at h
  split at h
  · cases h
  · rename_i hlt
    exact ⟨Decidable.not_not.1 hlt, (Except.ok.inj h).symm⟩

end PydlVerif.Sphere
