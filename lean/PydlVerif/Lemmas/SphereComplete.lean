/-
C04: assembling the cover over ℝ: from "the model's own `gcircDeg` is below the margin" to "the cell of p is visited for q"
(the audited `C04.racover_pair`, declared here), and when `getbounds` returns for q (`getbounds_returns`).
-/
import PydlVerif.Lemmas.SphereCover
import PydlVerif.Lemmas.SphereHav
namespace PydlVerif.Sphere
open Real

attribute [local instance] realFns fieldScalar fieldTrig
attribute [-instance] Scalar.instOfNat Scalar.instOfScientific

theorem absS_real (x : ℝ) : absS x = |x| := by
  unfold absS
  simp only [scalar_zero]
  exact ite_neg_eq_abs _

theorem cosd_real (x : ℝ) : cosd x = cos (x * (π / 180)) := by
  unfold cosd deg2rad
  simp only [scalar_lit]
  push_cast
  rfl

theorem fmod360_real (x : ℝ) : fmod360 x = if x < 360 then x else x - 360 := by
  unfold fmod360
  simp only [scalar_lit]

theorem cosDecMinOf_real (b : Array ℝ) (i : Nat) :
    cosDecMinOf b i = if |b.getD (i+1) 0| < |b.getD i 0| then cos (b.getD i 0 * (π / 180))
      else cos (b.getD (i+1) 0 * (π / 180)) := by
  unfold cosDecMinOf
  simp only [absS_real, cosd_real, scalar_zero]

theorem cos_deg_le (δ e : ℝ) (h : |δ| ≤ |e|) (he : |e| ≤ 180) :
    cos (e * (π / 180)) ≤ cos (δ * (π / 180)) := by
  rw [← Real.cos_abs (e * (π / 180)), ← Real.cos_abs (δ * (π / 180)), abs_mul, abs_mul, abs_of_pos deg_pos]
  apply Real.cos_le_cos_of_nonneg_of_le_pi (mul_nonneg (abs_nonneg δ) deg_pos.le)
  · exact deg_le_pi he
  · exact mul_le_mul_of_nonneg_right h deg_pos.le

theorem cosDecMin_edge (b : Array ℝ) (d : Nat) :
    ∃ e, cosDecMinOf b d = cos (e * (π / 180)) ∧ |b.getD d 0| ≤ |e| ∧ |b.getD (d + 1) 0| ≤ |e| ∧
      (e = b.getD d 0 ∨ e = b.getD (d + 1) 0) := by
  rw [cosDecMinOf_real]
  split
  · rename_i h; exact ⟨b.getD d 0, rfl, le_refl _, h.le, Or.inl rfl⟩
  · rename_i h; exact ⟨b.getD (d + 1) 0, rfl, not_lt.1 h, le_refl _, Or.inr rfl⟩

theorem abs_le_near (lo hi e δ t : ℝ) (h1 : |lo| ≤ |e|) (h2 : |hi| ≤ |e|) (h3 : lo - t ≤ δ) (h4 : δ ≤ hi + t) :
    |δ| ≤ |e| + t := by
  exact abs_le.2 ⟨by linarith only [neg_abs_le lo, h1, h3], by linarith only [le_abs_self hi, h2, h4]⟩

theorem cosDecMin_le (b : Array ℝ) (i : Nat) (δ : ℝ) (h1 : b.getD i 0 ≤ δ) (h2 : δ ≤ b.getD (i+1) 0)
    (hlo : -180 ≤ b.getD i 0) (hhi : b.getD (i+1) 0 ≤ 180) :
    cosDecMinOf b i ≤ cos (δ * (π / 180)) := by
  obtain ⟨e, hce, he1, he2, he3⟩ := cosDecMin_edge b i
  rw [hce]
  refine cos_deg_le δ e ?_ ?_
  · have := abs_le_near _ _ e δ 0 he1 he2 (by rwa [sub_zero]) (by rwa [add_zero])
    rwa [add_zero] at this
  · rcases he3 with rfl | rfl
    · exact abs_le.2 ⟨hlo, by linarith only [h1, h2, hhi]⟩
    · exact abs_le.2 ⟨by linarith only [hlo, h1, h2], hhi⟩

theorem fmod360_off_range (a off : ℝ) (ha0 : 0 ≤ a) (ha : a < 360) (ho0 : 0 ≤ off) (ho : off < 360) :
    0 ≤ fmod360 (a + off) ∧ fmod360 (a + off) < 360 ∧
    (fmod360 (a + off) = a + off ∨ fmod360 (a + off) = a + off - 360) := by
  rw [fmod360_real]
  split
  · exact ⟨by linarith, by linarith, Or.inl rfl⟩
  · rename_i h; rw [not_lt] at h
    exact ⟨by linarith, by linarith, Or.inr rfl⟩

theorem sin_sq_sub_pi (x : ℝ) : sin (x - π) ^ 2 = sin x ^ 2 := by rw [Real.sin_sub_pi]; ring
theorem sin_sq_add_pi (x : ℝ) : sin (x + π) ^ 2 = sin x ^ 2 := by rw [Real.sin_add_pi]; ring
theorem sin_sq_pi_sub (x : ℝ) : sin (π - x) ^ 2 = sin x ^ 2 := by rw [Real.sin_pi_sub]

theorem circ_diff (a1 a2 off : ℝ) (h10 : 0 ≤ a1) (h1 : a1 < 360) (h20 : 0 ≤ a2) (h2 : a2 < 360)
    (ho0 : 0 ≤ off) (ho : off < 360) :
    (0 ≤ fmod360 (a1 + off) ∧ fmod360 (a1 + off) < 360) ∧ (0 ≤ fmod360 (a2 + off) ∧ fmod360 (a2 + off) < 360) ∧
    ∃ Δ : ℝ, 0 ≤ Δ ∧ Δ ≤ 180 ∧
      (Δ = |fmod360 (a2 + off) - fmod360 (a1 + off)| ∨ Δ = 360 - |fmod360 (a2 + off) - fmod360 (a1 + off)|) ∧
      sin (Δ / 2 * (π / 180)) ^ 2 = sin ((a2 * (π / 180) - a1 * (π / 180)) / 2) ^ 2 := by
  obtain ⟨p0, p1, pe⟩ := fmod360_off_range a1 off h10 h1 ho0 ho
  obtain ⟨q0, q1, qe⟩ := fmod360_off_range a2 off h20 h2 ho0 ho
  refine ⟨⟨p0, p1⟩, ⟨q0, q1⟩, ?_⟩
  -- the haversine of D = q' - p' equals that of a2 - a1: the half angles differ by 0 or ±π
  have hD : sin ((fmod360 (a2 + off) - fmod360 (a1 + off)) / 2 * (π / 180)) ^ 2 =
      sin ((a2 * (π / 180) - a1 * (π / 180)) / 2) ^ 2 := by
    rcases pe with pe | pe <;> rcases qe with qe | qe <;> rw [pe, qe]
    · congr 2; ring
    · rw [← sin_sq_sub_pi ((a2 * (π / 180) - a1 * (π / 180)) / 2)]; congr 2; ring
    · rw [← sin_sq_add_pi ((a2 * (π / 180) - a1 * (π / 180)) / 2)]; congr 2; ring
    · congr 2; ring
  have hDabs : |fmod360 (a2 + off) - fmod360 (a1 + off)| < 360 :=
    abs_lt.2 ⟨by linarith only [q0, p1], by linarith only [q1, p0]⟩
  generalize fmod360 (a2 + off) - fmod360 (a1 + off) = D at hD hDabs
  have habs : sin (|D| / 2 * (π / 180)) ^ 2 = sin (D / 2 * (π / 180)) ^ 2 := by
    rw [Real.sin_sq, Real.sin_sq, ← Real.cos_abs (D / 2 * (π / 180)), abs_mul, abs_div, abs_two,
      abs_of_pos deg_pos]
  by_cases h : |D| ≤ 180
  · exact ⟨|D|, abs_nonneg D, h, Or.inl rfl, by rw [habs, hD]⟩
  · refine ⟨360 - |D|, by linarith only [hDabs], by linarith only [h], Or.inr rfl, ?_⟩
    rw [← hD, ← habs, ← sin_sq_pi_sub (|D| / 2 * (π / 180))]
    congr 2; ring

theorem GridFacts.cos_home {g : Grid ℝ} {ra dec : Array ℝ} {ms a δ : ℝ} {d r : Nat} (hF : GridFacts ra dec ms g)
    (hget : get g a δ = .ok (d, r)) : cosDecMinOf g.decBounds d ≤ cos (δ * (π / 180)) := by
  obtain ⟨hd, _, hpd, _⟩ := get_bracket g a δ d r hF.dec_edges (fun d hd => (hF.band d hd).edges) hget
  exact cosDecMin_le _ _ _ hpd.1 hpd.2.1
    (by linarith only [hF.dec_edges.mono 0 d (by omega) (by omega), hF.dec_range.1])
    (by linarith only [hF.dec_edges.mono (d + 1) g.nDec (by omega) (by omega), hF.dec_range.2])

/-- `RACover` for one pair, from the grid facts: if the model's separation of p = (a1, δp) and q = (a2, δq) is below
m ≤ 180, p is looked up by `get` in cell (bp, jp), `getbounds` returned B for q and there is room at the seam in band bp
(`SeamOK`), then (bp, jp) is among the cells `assign` visits for q. -/
theorem _root_.PydlVerif.C04.racover_pair (g : Grid ℝ) (ra dec : Array ℝ) (ms : ℝ) (hF : GridFacts ra dec ms g)
    (a1 δp a2 δq m : ℝ) (h10 : 0 ≤ a1) (h1 : a1 < 360) (h20 : 0 ≤ a2) (h2 : a2 < 360)
    (hp : |δp| < 90) (hq : |δq| < 90) (hm : m ≤ 180)
    (bp jp : Nat) (B : Bounds)
    (hget : get g (fmod360 (a1 + g.raOffset)) δp = .ok (bp, jp))
    (hB : getbounds g (fmod360 (a2 + g.raOffset)) δq m = .ok B)
    (hclose : gcircDeg a1 δp a2 δq < m)
    (hseam : SeamOK g bp δq m) :
    (bp, jp) ∈ cellsOfRange g.nRa B 0 := by
  have hedges : ∀ d, d < g.nDec → EdgesOK (g.raBounds.getD d #[]) (g.nRa.getD d 0) := fun d hd => (hF.band d hd).edges
  obtain ⟨hbp, _, hpd, _⟩ := get_bracket g _ δp bp jp hF.dec_edges hedges hget
  obtain ⟨⟨p0, p1⟩, ⟨q0, q1⟩, Δ, hΔ0, hΔ1, hΔe, hΔs⟩ := circ_diff a1 a2 g.raOffset h10 h1 h20 h2 hF.off_range.1 hF.off_range.2
  have hM := C04.ra_cover_fixed (cosDecMinOf g.decBounds bp) a1 δp a2 δq m Δ (hF.band bp hbp).cpos (hF.cos_home hget)
    (cos_deg_pos hq) hΔ0 hΔ1 hm hΔs hclose
  apply cell_visited g hF.dec_edges hedges _ δp _ δq m bp jp B hget hB p0 p1 q0 q1
    (lt_of_le_of_lt (ddec_le_gcirc a1 δp a2 δq hp hq) hclose) _ hseam
  rcases hΔe with e | e
  · left; rw [← e]; exact hM
  · right; rw [← e]; exact hM

theorem visitedBand_iff {g : Grid ℝ} {a δ m : ℝ} {B : Bounds} (hB : getbounds g a δ m = .ok B) (d : Nat) :
    visitedBand g δ m d ↔ B.decMin ≤ d ∧ d ≤ B.decMax := by
  obtain ⟨d0, hd0, _, hmin, hmax, _⟩ := getbounds_inv g a δ m B hB
  rw [visitedBand_index hd0, ← hmin, ← hmax]

/-- `getbounds` returns for a point whose declination lies inside the (closed) declination extent
of the grid and whose right ascension lies inside the RA extent of every band it visits -/
theorem getbounds_returns (g : Grid ℝ) (hdec : EdgesOK g.decBounds g.nDec)
    (hra : ∀ d, d < g.nDec → EdgesOK (g.raBounds.getD d #[]) (g.nRa.getD d 0))
    (αq δq m : ℝ) (hd : g.decBounds.getD 0 0 ≤ δq ∧ δq ≤ g.decBounds.getD g.nDec 0)
    (hext : ∀ d, d < g.nDec → visitedBand g δq m d →
      (g.raBounds.getD d #[]).getD 0 0 ≤ αq ∧ αq < (g.raBounds.getD d #[]).getD (g.nRa.getD d 0) 0) :
    ∃ B, getbounds g αq δq m = .ok B := by
  obtain ⟨d0, hd0, hd0n⟩ := decIndex_range g hdec δq hd.1 hd.2
  apply getbounds_ok g αq δq m d0 hd0 hd0n
  intro d h2 h3
  have hdn : d < g.nDec := by have := decUp_le g.decBounds δq m d0 (g.nDec - 1 - d0); omega
  obtain ⟨e1, e2⟩ := hext d hdn ((visitedBand_index hd0 m d).2 ⟨h2, h3⟩)
  exact ⟨cellIndex_nonneg (hra d hdn) αq e1, cellIndex_lt (hra d hdn) αq e2⟩

theorem close_visited (g : Grid ℝ) (ra1 dec1 : Array ℝ) (ms ml : ℝ) (hF : GridFacts ra1 dec1 ms g)
    (hsz : ra1.size = dec1.size) (hlt : ml < ms) (hml : ml ≤ 180)
    (i : Nat) (hi : i < ra1.size) (h10 : 0 ≤ ra1.getD i 0) (h1 : ra1.getD i 0 < 360) (hp : |dec1.getD i 0| < 90)
    (a2 δq : ℝ) (h20 : 0 ≤ a2) (h2 : a2 < 360) (hq : |δq| < 90)
    (hclose : gcircDeg (ra1.getD i 0) (dec1.getD i 0) a2 δq < ml)
    (hroom : ∀ d, d < g.nDec → visitedBand g δq ml d → BandRoom g d (fmod360 (a2 + g.raOffset)) δq ml)
    (bp jp : Nat) (hget : get g (fmod360 (ra1.getD i 0 + g.raOffset)) (dec1.getD i 0) = .ok (bp, jp)) :
    ∃ B, getbounds g (fmod360 (a2 + g.raOffset)) δq ml = .ok B ∧ (bp, jp) ∈ cellsOfRange g.nRa B 0 := by
  have hedges : ∀ d, d < g.nDec → EdgesOK (g.raBounds.getD d #[]) (g.nRa.getD d 0) := fun d hd => (hF.band d hd).edges
  obtain ⟨hbp, _, hpd, _⟩ := get_bracket g _ _ bp jp hF.dec_edges hedges hget
  -- the declinations are closer than ml < ms, so q lies inside the declination extent of the grid
  have hdd : |δq - dec1.getD i 0| < ml := lt_of_le_of_lt (ddec_le_gcirc _ _ _ _ hp hq) hclose
  obtain ⟨hq1, hq2⟩ := abs_lt.1 hq
  have hin := hF.dec_extent i (hsz ▸ hi) δq hq1.le hq2.le (hdd.le.trans hlt.le)
  obtain ⟨B, hB⟩ := getbounds_returns g hF.dec_edges hedges (fmod360 (a2 + g.raOffset)) δq ml hin
    (fun d hd hv => (hroom d hd hv).1)
  -- p's band is visited for q (dec cover), hence has room at the seam
  obtain ⟨d0, hd0, hd0n, _⟩ := getbounds_inv g _ _ ml B hB
  have hvis := (visitedBand_index hd0 ml bp).2
    (dec_cover_edges hF.dec_edges δq (dec1.getD i 0) ml d0 bp hd0n hbp ⟨hpd.1, hpd.2.1⟩ hdd)
  exact ⟨B, hB, C04.racover_pair g ra1 dec1 ms hF _ _ a2 δq ml h10 h1 h20 h2 hp hq hml bp jp B hget hB hclose (hroom bp hbp hvis).2⟩

end PydlVerif.Sphere
