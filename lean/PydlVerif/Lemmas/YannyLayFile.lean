/-
C02, file level: a file is `joinChunks fe chunks`, one chunk per slot of the layout.  `ChunkInfo` says what the reader makes
of one chunk, `InfoOK` that the two typedef scans and the line step do so whatever follows the chunk; the file then behaves
chunk by chunk (`joinChunks_acts`, `chunks_loop`).
-/
import PydlVerif.Lemmas.YannyLayBlock
import PydlVerif.Lemmas.YannyLayLine
namespace PydlVerif.YannyLay
open PydlVerif.Yanny PydlVerif.YannyRT PydlVerif.YannyLayBlock PydlVerif.YannyLayLine

variable {F : Type}

abbrev kS : Str := "struct".toList
abbrev kE : Str := "enum".toList

/-- what may follow a chunk: the end of the text or a line end -/
def Bnd (B : Str) : Prop := B = [] ∨ ∃ c B', B = c :: B' ∧ (c = '\n' ∨ c = '\r')

theorem bnd_piece (B : Str) (h : Bnd B) : B = [] ∨ ∃ c B', B = c :: B' ∧ c ∉ "typedef".toList := by
  rcases h with h | ⟨c, B', h, hc⟩
  · exact Or.inl h
  · refine Or.inr ⟨c, B', h, ?_⟩
    rcases hc with rfl | rfl <;> decide

theorem bnd_eol (crlf : Bool) (R : Str) : Bnd (eol crlf ++ R) := by
  cases crlf
  · exact Or.inr ⟨'\n', R, rfl, Or.inl rfl⟩
  · exact Or.inr ⟨'\r', '\n' :: R, rfl, Or.inr rfl⟩

theorem eol_cuts (kw : Str) (crlf : Bool) : Cuts kw (eol crlf) [] (eol crlf) :=
  Cuts.of_noMatch fun B => noMatchIn_nt kw _ B (by cases crlf <;> decide)

/-- what follows the first chunk in `joinChunks` -/
def tailOf (fe : Bool) (crlf : Bool) (r : List (Str × Bool)) : Str :=
  match r with
  | [] => if fe then eol crlf else []
  | _ :: _ => eol crlf ++ joinChunks fe r

theorem joinChunks_cons (fe : Bool) (l : Str) (crlf : Bool) (r : List (Str × Bool)) :
    joinChunks fe ((l, crlf) :: r) = l ++ tailOf fe crlf r := by
  cases r with
  | nil => cases fe <;> simp [joinChunks, tailOf]
  | cons a t => simp [joinChunks, tailOf]

theorem bnd_tailOf (fe crlf : Bool) (r : List (Str × Bool)) : Bnd (tailOf fe crlf r) := by
  cases r with
  | nil =>
    cases fe
    · exact Or.inl rfl
    · simpa [tailOf] using bnd_eol crlf []
  | cons a t => exact bnd_eol crlf _

theorem tdFind_tailOf (kw : Str) (fe crlf : Bool) (r : List (Str × Bool)) :
    tdFind kw 0 (tailOf fe crlf r) = tdFind kw 0 (joinChunks fe r) := by
  cases r with
  | nil =>
    cases fe
    · rfl
    · have := (eol_cuts kw crlf []).1
      simpa [tailOf, joinChunks] using this
  | cons a t => exact (eol_cuts kw crlf _).1

/-- one chunk of the file, as the reader sees it: its text, the text with the struct blocks cut out
(`mid`), with all typedef blocks cut out (`resid`, one line), the definitions found in it, and what
the line loop does with the residual line -/
structure ChunkInfo (F : Type) where
  text : Str
  mid : Str
  resid : Str
  crlf : Bool
  sdefs : List TDef
  edefs : List TDef
  eff : LoopSt F → LoopSt F

def plainInfo (l : Str) (crlf : Bool) (eff : LoopSt F → LoopSt F) : ChunkInfo F := ⟨l, l, l, crlf, [], [], eff⟩

/-- what the loop does with a keyword line -/
def pairEff (kv : Str × Str) : LoopSt F → LoopSt F := fun s => { s with pairs := setPair s.pairs kv.1 kv.2 }
/-- what the loop does with a data line -/
def rowEff (name : Str) (r : List (Cell F)) : LoopSt F → LoopSt F :=
  fun s => { s with rows := addRow s.rows (upper name) r }

def crOf (crlf : Bool) : Str := if crlf then ['\r'] else []

theorem eol_crOf (crlf : Bool) : eol crlf = crOf crlf ++ ['\n'] := by cases crlf <;> rfl

/-- the chunk does what its description says, whatever follows it: `B` is the rest of the file (`Bnd`: a
chunk is followed by a line end or by nothing), `cr` the CR that splitting a CRLF file at LF leaves at the
end of a line.  As in `_parse`, both searches run on the text, while the enum blocks are removed from what the
removal of the struct blocks left (`findE` on `text`, `remE` on `mid`) -/
structure InfoOK (io : FloatIO F) (specs : List (Str × Except String (List ColSpec))) (i : ChunkInfo F) : Prop where
  findS : ∀ B, Bnd B → tdFind kS 0 (i.text ++ B) = i.sdefs ++ tdFind kS 0 B
  findE : ∀ B, Bnd B → tdFind kE 0 (i.text ++ B) = i.edefs ++ tdFind kE 0 B
  remS : ∀ B, Bnd B → tdRemove kS 0 (i.text ++ B) = i.mid ++ tdRemove kS 0 B
  remE : ∀ B, Bnd B → tdRemove kE 0 (i.mid ++ B) = i.resid ++ tdRemove kE 0 B
  noNl : '\n' ∉ i.resid
  step : ∀ cr, (cr = [] ∨ cr = ['\r']) → ∀ st, lineStep io specs st (i.resid ++ cr) = .ok (i.eff st)

def textChunks (infos : List (ChunkInfo F)) : List (Str × Bool) := infos.map (fun i => (i.text, i.crlf))
def residChunks (infos : List (ChunkInfo F)) : List (Str × Bool) := infos.map (fun i => (i.resid, i.crlf))

theorem tdFind_nil (kw : Str) : tdFind kw 0 [] = [] := rfl
theorem tdRemove_nil (kw : Str) : tdRemove kw 0 [] = [] := rfl

/-- a text function `T` that acts chunk by chunk (and turns line ends into line ends) acts on the file; `tdRemove kw 0`,
`contGo 0` and `univNl` are such functions -/
theorem joinChunks_acts (T : Str → Str) (φ : Bool → Bool) (hnil : T [] = [])
    (heol : ∀ c R, T (eol c ++ R) = eol (φ c) ++ T R) (fe : Bool) : ∀ (cs cs' : List (Str × Bool)),
    all2 (fun a b => (∀ B, Bnd B → T (a.1 ++ B) = b.1 ++ T B) ∧ b.2 = φ a.2) cs cs' →
      T (joinChunks fe cs) = joinChunks fe cs'
  | [], [], _ => hnil
  | [], _ :: _, h => h.elim
  | _ :: _, [], h => h.elim
  | (l, c) :: r, (l', c') :: r', ⟨⟨h1, h2⟩, hrest⟩ => by
    simp only at h1 h2
    subst h2
    rw [joinChunks_cons, joinChunks_cons, h1 _ (bnd_tailOf _ _ _)]
    congr 1
    -- what follows the first chunk: nothing, the last line end, or a line end and the other chunks
    have ih := joinChunks_acts T φ hnil heol fe r r' hrest
    cases r with
    | nil =>
      cases r' with
      | nil =>
        cases fe
        · exact hnil
        · simpa [tailOf, hnil] using heol c []
      | cons _ _ => exact hrest.elim
    | cons a t =>
      cases r' with
      | nil => exact hrest.elim
      | cons _ _ =>
        simp only [tailOf]
        rw [heol, ih]

/-- `Cuts` (Lemmas/YannyFront.lean: in front of any text, the scan for `kw` finds `defs` in `X` and its removal leaves `X'`)
in front of what may follow a chunk -/
def CutsB (kw X : Str) (defs : List TDef) (X' : Str) : Prop :=
  ∀ B, Bnd B → tdFind kw 0 (X ++ B) = defs ++ tdFind kw 0 B ∧ tdRemove kw 0 (X ++ B) = X' ++ tdRemove kw 0 B

theorem cuts_appendB {kw X Y X' Y' : Str} {d e : List TDef} (h1 : Cuts kw X d X') (h2 : CutsB kw Y e Y') :
    CutsB kw (X ++ Y) (d ++ e) (X' ++ Y') := by
  intro B hB
  rw [List.append_assoc, (h1 _).1, (h1 _).2, (h2 B hB).1, (h2 B hB).2, List.append_assoc, List.append_assoc]
  exact ⟨rfl, rfl⟩

/-- a piece without `typedef` at the end of a chunk: what follows starts no letter of the word -/
theorem cutsB_plain (kw l : Str) (h : noTypedef l = true) : CutsB kw l [] l :=
  fun B hB => have hn := noMatchIn_piece kw l B h (bnd_piece B hB)
    ⟨tdFind_noMatch kw l B hn, tdRemove_noMatch kw l B hn⟩

/-- of the enum scan on `text` only the definitions found are kept (what it leaves, `X1`, is free), of the enum scan on
`mid` only what is left (what it finds, `E2`, is free) -/
theorem infoOK_of_cuts (io : FloatIO F) (specs) (i : ChunkInfo F) (X1 : Str) (E2 : List TDef)
    (hS : CutsB kS i.text i.sdefs i.mid) (hE : CutsB kE i.text i.edefs X1) (hE' : CutsB kE i.mid E2 i.resid)
    (hnl : '\n' ∉ i.resid)
    (hstep : ∀ cr, (cr = [] ∨ cr = ['\r']) → ∀ st, lineStep io specs st (i.resid ++ cr) = .ok (i.eff st)) :
    InfoOK io specs i :=
  ⟨fun B hB => (hS B hB).1, fun B hB => (hE B hB).1, fun B hB => (hS B hB).2, fun B hB => (hE' B hB).2, hnl, hstep⟩

theorem chunks_find (kw : Str) (fe : Bool) (infos : List (ChunkInfo F)) (defs : ChunkInfo F → List TDef)
    (h : ∀ i ∈ infos, ∀ B, Bnd B → tdFind kw 0 (i.text ++ B) = defs i ++ tdFind kw 0 B) :
    tdFind kw 0 (joinChunks fe (textChunks infos)) = (infos.map defs).flatten := by
  induction infos with
  | nil => rfl
  | cons i t ih =>
    have ih' := ih (fun x hx => h x (by simp [hx]))
    simp only [textChunks, List.map_cons] at ih' ⊢
    rw [joinChunks_cons, h i (by simp) _ (bnd_tailOf _ _ _), tdFind_tailOf, ih']
    simp

theorem chunks_rem (kw : Str) (fe : Bool) (infos : List (ChunkInfo F)) (src dst : ChunkInfo F → Str)
    (h : ∀ i ∈ infos, ∀ B, Bnd B → tdRemove kw 0 (src i ++ B) = dst i ++ tdRemove kw 0 B) :
    tdRemove kw 0 (joinChunks fe (infos.map (fun i => (src i, i.crlf)))) =
      joinChunks fe (infos.map (fun i => (dst i, i.crlf))) :=
  joinChunks_acts (tdRemove kw 0) id rfl (fun c R => (eol_cuts kw c R).2) fe _ _
    (all2_maps _ _ _ infos (fun i hi => ⟨h i hi, rfl⟩))

theorem crOf_cases (crlf : Bool) : crOf crlf = [] ∨ crOf crlf = ['\r'] := by cases crlf <;> simp [crOf]

theorem eol_shift (x : Str) (crlf : Bool) (R : Str) : x ++ (eol crlf ++ R) = (x ++ crOf crlf) ++ '\n' :: R := by
  rw [eol_crOf, List.append_assoc, List.append_assoc]
  rfl

theorem chunks_loop (io : FloatIO F) (specs) (fe : Bool) (infos : List (ChunkInfo F))
    (h : ∀ i ∈ infos, InfoOK io specs i) (st : LoopSt F) :
    lineLoop io specs st (splitNl (joinChunks fe (residChunks infos))) =
      .ok (infos.foldl (fun s i => i.eff s) st) := by
  induction infos generalizing st with
  | nil => exact lineLoop_skip io specs st [[]] (List.forall_mem_singleton.mpr skipLine_nil)
  | cons i t ih =>
    have hi := h i (by simp)
    have ih' := ih (fun x hx => h x (by simp [hx]))
    have hn : '\n' ∉ i.resid ++ crOf i.crlf := by
      intro hm
      rcases List.mem_append.mp hm with hm | hm
      · exact hi.noNl hm
      · cases hc : i.crlf <;> simp [crOf, hc] at hm
    have hstep := hi.step (crOf i.crlf) (crOf_cases i.crlf) st
    have hstep0 := hi.step [] (Or.inl rfl) st
    simp only [List.append_nil] at hstep0
    simp only [residChunks, List.map_cons] at ih' ⊢
    rw [joinChunks_cons]
    cases t with
    | nil =>
      cases fe
      · simp only [List.map_nil, tailOf, Bool.false_eq_true, if_false, List.append_nil, List.foldl]
        rw [splitNl_one _ hi.noNl]
        simp only [lineLoop, hstep0]
      · simp only [List.map_nil, tailOf, if_true, List.foldl]
        rw [show i.resid ++ eol i.crlf = i.resid ++ (eol i.crlf ++ []) by simp, eol_shift,
          splitNl_cut, splitNl_one _ hn]
        simp only [List.cons_append, List.nil_append, lineLoop, hstep]
        exact lineLoop_skip io specs _ [[]] (List.forall_mem_singleton.mpr skipLine_nil)
    | cons j u =>
      simp only [List.map_cons, tailOf, List.foldl]
      rw [eol_shift, splitNl_cut, splitNl_one _ hn]
      simp only [List.cons_append, List.nil_append, lineLoop, hstep]
      have := ih' (i.eff st)
      simp only [List.map_cons, List.foldl] at this
      exact this

theorem blank_not_letter (c : Char) (h : isBlank c = true) : c ∉ "typedef".toList ∧ c ≠ 't' := by
  simp only [isBlank, Bool.or_eq_true, beq_iff_eq] at h
  rcases h with rfl | rfl <;> decide

theorem commentOK_all (c : Str) (h : commentOK (some c) = true) :
    '\n' ∉ c ∧ '\r' ∉ c ∧ noTypedef c = true :=
  let ⟨_, _, _, a, b, d⟩ := commentOK_props c h
  ⟨a, b, d⟩

theorem noTypedef_comment (X : Str) (cm : Option Str) (hc : commentOK cm = true) (h : noTypedef X = true) :
    noTypedef (X ++ commentText cm) = true := by
  cases cm with
  | none => simpa [commentText] using h
  | some c =>
    exact noTypedef_glue X c '#' h (commentOK_all c hc).2.2 (by decide)

theorem eol_comment (cm : Option Str) (hc : commentOK cm = true) (d : Char) (hd : d = '\n' ∨ d = '\r') :
    d ∉ commentText cm := by
  cases cm with
  | none => simp [commentText]
  | some c =>
    intro hm
    rcases List.mem_cons.mp hm with e | hm
    · rcases hd with rfl | rfl <;> cases e
    · rcases hd with rfl | rfl
      · exact (commentOK_all c hc).1 hm
      · exact (commentOK_all c hc).2.1 hm

theorem nl_comment (cm : Option Str) (hc : commentOK cm = true) : '\n' ∉ commentText cm :=
  eol_comment cm hc _ (Or.inl rfl)

theorem blanks_no_t (ws : Str) (h : ∀ c ∈ ws, isBlank c = true) : ∀ c ∈ ws, c ≠ 't' :=
  fun c hc => (blank_not_letter c (h c hc)).2

theorem infoOK_plain (io : FloatIO F) (specs) (l : Str) (crlf : Bool) (eff : LoopSt F → LoopSt F)
    (hnt : noTypedef l = true) (hnl : '\n' ∉ l)
    (hstep : ∀ cr, (cr = [] ∨ cr = ['\r']) → ∀ st, lineStep io specs st (l ++ cr) = .ok (eff st)) :
    InfoOK io specs (plainInfo l crlf eff) :=
  infoOK_of_cuts io specs _ l [] (cutsB_plain kS l hnt) (cutsB_plain kE l hnt) (cutsB_plain kE l hnt) hnl hstep

theorem fillerOK_props (text : Str) (h : fillerOK text = true) :
    noTypedef text = true ∧ '\n' ∉ text ∧ '\r' ∉ text := by
  obtain ⟨bl, rest, rfl, hb, hrest⟩ := fillerOK_cases text h
  have hbl : ∀ d, d = '\n' ∨ d = '\r' → d ∉ bl := by
    rintro d (rfl | rfl) hm <;> exact absurd (hb _ hm) (by decide)
  rcases hrest with rfl | ⟨t, rfl, _, a3, a4, a5⟩
  · rw [List.append_nil]
    exact ⟨noTypedef_no_t _ (fun hm => blanks_no_t _ hb _ hm rfl), hbl _ (Or.inl rfl), hbl _ (Or.inr rfl)⟩
  · have hd' : ∀ d, d = '\n' ∨ d = '\r' → d ∉ t → d ∉ bl ++ '#' :: t := by
      intro d hd hnt hm
      rcases List.mem_append.mp hm with hm | hm
      · exact hbl d hd hm
      · rcases List.mem_cons.mp hm with e | hm
        · rcases hd with rfl | rfl <;> cases e
        · exact hnt hm
    exact ⟨noTypedef_left _ _ (blanks_no_t _ hb) (noTypedef_left ['#'] t (by decide) a5),
      hd' _ (Or.inl rfl) a3, hd' _ (Or.inr rfl) a4⟩

theorem infoOK_filler (io : FloatIO F) (specs) (text : Str) (crlf : Bool) (h : fillerOK text = true) :
    InfoOK io specs (plainInfo text crlf id) := by
  obtain ⟨a, b, _⟩ := fillerOK_props text h
  exact infoOK_plain io specs text crlf id a b
    (fun cr hcr st => lineStep_skip io specs st _ (skipLine_filler text cr h hcr))

/-- the symbol table the line loop works with: the same list as C01's `docSpecs`, which stands in Props/C01.lean, where
no lemma file can import it -/
def laySpecs (d : Doc F) : List (Str × Except String (List ColSpec)) :=
  d.tables.map (fun t => (upper t.name, .ok (t.cols.map specOfCol)))

theorem scKind_of_scOK (c : Col) (labs : Option (List Str)) (arr : Bool) (v : Sc F)
    (h : scOK c.ty labs arr v = true) : scKind (convOfCol c) v = true := by
  cases v with
  | int n =>
    simp only [scOK, Bool.or_eq_true, Bool.and_eq_true, beq_iff_eq] at h
    rcases h with (⟨ht, _⟩ | ⟨ht, _⟩) | ⟨ht, _⟩ <;> simp [scKind, convOfCol, ht]
  | flt w x =>
    simp only [scOK, Bool.or_eq_true, Bool.and_eq_true, beq_iff_eq] at h
    rcases h with ⟨ht, hw⟩ | ⟨ht, hw⟩ <;> simp [scKind, convOfCol, ht, hw]
  | str s =>
    simp only [scOK, Bool.and_eq_true] at h
    obtain ⟨⟨hlen, _⟩, _⟩ := h
    cases hty : c.ty <;> rw [hty] at hlen <;> simp at hlen <;> simp [scKind, convOfCol, hty]

theorem rowKinds_of_cellsOK (enums : List EnumDecl) (cols : List Col) (r : List (Cell F))
    (h : cellsOK enums cols r = true) : rowKinds (cols.map specOfCol) r = true := by
  induction cols generalizing r with
  | nil =>
    cases r with
    | nil => rfl
    | cons a t => simp [cellsOK] at h
  | cons c cs ih =>
    cases r with
    | nil => simp [cellsOK] at h
    | cons x xs =>
      simp only [cellsOK, Bool.and_eq_true] at h
      simp only [List.map, rowKinds, Bool.and_eq_true]
      refine ⟨?_, ih xs h.2⟩
      cases x with
      | one v =>
        have h1 := h.1
        simp only [cellOK, Bool.and_eq_true, beq_iff_eq] at h1
        have h0 : ¬ c.alen > 0 := by omega
        simp [cellKind, specOfCol, h0, scKind_of_scOK c _ false v h1.2]
      | many vs =>
        have h1 := h.1
        simp only [cellOK, Bool.and_eq_true, decide_eq_true_eq, beq_iff_eq, List.all_eq_true] at h1
        obtain ⟨⟨h0, _⟩, hv⟩ := h1
        simp only [cellKind, specOfCol, h0, decide_true, Bool.true_and, List.all_eq_true]
        exact fun v hvm => scKind_of_scOK c _ true v (hv v hvm)

theorem word_no_nl (s : Str) (h : wordOK s = true) : '\n' ∉ s := by
  intro hm
  obtain ⟨_, hch⟩ := wordOK_props s h
  exact (word_char_props _ (hch _ hm).1).2.2.2.1 rfl

theorem infoOK_row (io : FloatIO F) (h1 : H1 io) (d : Doc F) (tb : TableD F) (r : List (Cell F))
    (lay : RowLay) (l : Str) (hl : rowLayOK io tb r lay = true) (hr : renderRow Sep.logical io r lay = some l)
    (hspec : lookupSpec (laySpecs d) (upper tb.name) = some (.ok (tb.cols.map specOfCol)))
    (hcells : cellsOK d.enums tb.cols r = true) :
    InfoOK io (laySpecs d) (plainInfo l lay.crlf (rowEff lay.name r)) := by
  obtain ⟨b, hp⟩ := rowLayOK_props io tb r lay hl
  simp only [renderRow, hp.body, Option.some.injEq] at hr
  subst hr
  have hk := rowKinds_of_cellsOK d.enums tb.cols r hcells
  have bnl := (renderCells_follows io r lay.cells b hp.cells hp.body).nonl
  apply infoOK_plain
  · apply noTypedef_comment _ _ hp.com
    apply noTypedef_right _ _ (fun c hc => (blank_not_letter c (hp.trail c hc)).1)
    rw [List.append_assoc]
    exact noTypedef_left _ _ (blanks_no_t _ hp.lead) hp.nt
  · intro hm
    simp only [List.mem_append] at hm
    rcases hm with (((hm | hm) | hm) | hm) | hm
    · exact blank_nonl _ hp.lead hm
    · exact word_no_nl _ hp.name hm
    · exact bnl hm
    · exact blank_nonl _ hp.trail hm
    · exact nl_comment _ hp.com hm
  · intro cr hcr st
    exact lineStep_row_lay io h1 (laySpecs d) st _ r lay b cr hp.lead hp.trail (wordOK_bare _ hp.name) hp.com
      hp.cells hp.body hp.db hk (by rw [hp.up]; exact hspec) hcr

theorem infoOK_pair (io : FloatIO F) (d : Doc F) (kv : Str × Str) (lay : PairLay)
    (hp : pairOK2 (d.tables.map (fun t => upper t.name)) kv = true) (hl : pairLayOK kv lay = true) :
    InfoOK io (laySpecs d) (plainInfo (renderPair Sep.logical kv lay) lay.crlf (pairEff kv)) := by
  obtain ⟨hpo, hvs⟩ := pairOK2_props _ kv hp
  have hq := pairLayOK_props kv lay hl
  have a2 : ∀ c ∈ kv.1, isSpace c = false ∧ c ≠ '#' := fun c hc => ⟨(hpo.key c hc).1, (hpo.key c hc).2.2⟩
  have hdb := hpo.db
  have hnt := hpo.nt
  have hws : ∀ c ∈ lay.sep.logical, isBlank c = true := sep_logical_blank _ hq.blank
  have hwne : lay.sep.logical = [] → kv.2 = [] := fun hw => Decidable.byContradiction fun hv => hq.sepne hv hw
  have hk' : noTypedef kv.1 = true := noTypedef_prefix kv.1 _ hnt
  have hv' : noTypedef kv.2 = true := by
    apply noTypedef_suffix (kv.1 ++ [' ']) kv.2
    simpa using hnt
  -- `pairOK` speaks of `key ++ ' ' :: value`; both facts survive putting any run of blanks for the one blank
  -- (the empty run only in front of an empty value)
  have hcore : noTypedef (kv.1 ++ lay.sep.logical ++ kv.2) = true ∧ dbFree (kv.1 ++ lay.sep.logical ++ kv.2) = true := by
    cases hw : lay.sep.logical with
    | nil =>
      rw [hwne hw]
      simp only [List.append_nil]
      exact ⟨hk', dbFree_prefix kv.1 _ hdb⟩
    | cons c ws =>
      rw [hw] at hws
      refine ⟨?_, ?_⟩
      · rw [List.append_assoc, List.cons_append]
        apply noTypedef_glue _ _ c hk' _ (blank_not_letter c (hws c (by simp))).1
        exact noTypedef_left _ _ (blanks_no_t _ (fun x hx => hws x (by simp [hx]))) hv'
      · exact dbFree_respace kv.1 kv.2 (c :: ws) (fun x hx => (a2 x hx).1)
          (fun x hx => isBlank_isSpace x (hws x hx)) hdb
  unfold renderPair
  apply infoOK_plain
  · apply noTypedef_comment _ _ hq.com
    apply noTypedef_right _ _ (fun c hc => (blank_not_letter c (hq.trail c hc)).1)
    have : lay.lead ++ kv.1 ++ lay.sep.logical ++ kv.2 = lay.lead ++ (kv.1 ++ lay.sep.logical ++ kv.2) := by
      simp only [List.append_assoc]
    rw [this]
    exact noTypedef_left _ _ (blanks_no_t _ hq.lead) hcore.1
  · intro hm
    simp only [List.mem_append] at hm
    rcases hm with ((((hm | hm) | hm) | hm) | hm) | hm
    · exact blank_nonl _ hq.lead hm
    · exact (hpo.key _ hm).2.1 rfl
    · exact blank_nonl _ hws hm
    · exact hpo.val_nonl hm
    · exact blank_nonl _ hq.trail hm
    · exact nl_comment _ hq.com hm
  · intro cr hcr st
    exact lineStep_pair_lay io (laySpecs d) st lay.lead kv.1 lay.sep.logical kv.2 lay.trail lay.comment cr hq.lead hws
      hq.trail hq.com hpo.kne a2 hpo.kq hpo.kb hpo.vh hvs (fun hv hw => hv (hwne hw)) hcore.2
      (specs_none d.tables _ hpo.tn) hcr

end PydlVerif.YannyLay
