/-
djs_reject (C17; the iterfit, combine and trace proofs call it too).  Over an ordered field the working array `badness` of a
pixel vanishes iff none of the three tests fires or the pixel is excluded; the grow block is a dilation of the rejected
set.
-/
import PydlVerif.Model.Reject
import PydlVerif.Lemmas.ScalarField

namespace PydlVerif.Reject

section field
variable {K : Type} [Field K] [LinearOrder K] [IsStrictOrderedRing K] [FloorRing K]
attribute [local instance] fieldScalar
-- numerals in the statements below are the field's, not the Scalar class's
attribute [-instance] Scalar.instOfNat Scalar.instOfScientific

/-- residual exceeds the lower limit, in units of sigma or of 1/sqrt(invvar) (`diff*sqrt(invvar) < -lower`) -/
def LowEx (sqrt : K → K) (o : Opts K) (p : Pix K) : Prop :=
  ∃ lo, o.lower = some lo ∧
    (if o.useSigma then p.d - p.m < -(lo * p.s) else (p.d - p.m) * sqrt p.s < -lo)

def UpEx (sqrt : K → K) (o : Opts K) (p : Pix K) : Prop :=
  ∃ up, o.upper = some up ∧
    (if o.useSigma then p.d - p.m > up * p.s else (p.d - p.m) * sqrt p.s > up)

def DevEx (o : Opts K) (p : Pix K) : Prop := ∃ md, o.maxdev = some md ∧ |p.d - p.m| > md

theorem castB_true : (castB true : K) = 1 := by simp [castB]
theorem castB_false : (castB false : K) = 0 := by simp [castB]

theorem isZero_iff (a : K) : (isZero a = true) ↔ a = 0 := by
  simp [isZero, BEq.beq, Scalar.beq]

theorem sig_pos (s : K) (h : 0 ≤ s) : 0 < s + castB (isZero s) := by
  by_cases h0 : s = 0
  · rw [(isZero_iff s).2 h0, castB_true, h0, zero_add]; exact zero_lt_one
  · rw [Bool.eq_false_iff.2 (mt (isZero_iff s).1 h0), castB_false, add_zero]
    exact lt_of_le_of_ne h (Ne.symm h0)

/-- the shape shared by the three accumulation steps: `b` grows by some `t ≥ 0` that vanishes iff the test `P` fails.
Here the step adds `bool * bool` with the first factor implied by the second -/
theorem addStep_and {A B P : Prop} [Decidable A] [Decidable B] (b : K) (hAB : B → A) (hP : P ↔ B) :
    ∃ t : K, 0 ≤ t ∧ (t = 0 ↔ ¬ P) ∧ b + castB (decide A && decide B) = b + t := by
  by_cases hB : B
  · refine ⟨1, zero_le_one, ⟨fun e => absurd e one_ne_zero, fun n => absurd (hP.2 hB) n⟩, ?_⟩
    rw [decide_eq_true (hAB hB), decide_eq_true hB, Bool.and_self, castB_true]
  · refine ⟨0, le_refl _, ⟨fun _ => mt hP.1 hB, fun _ => rfl⟩, ?_⟩
    rw [decide_eq_false hB, Bool.and_false, castB_false]

omit [IsStrictOrderedRing K] [FloorRing K] in
theorem addStep_none {P : Prop} (b : K) (h : ¬ P) : ∃ t : K, 0 ≤ t ∧ (t = 0 ↔ ¬ P) ∧ b = b + t :=
  ⟨0, le_refl _, ⟨fun _ => h, fun _ => rfl⟩, (add_zero b).symm⟩

theorem addLow_eq (sqrt : K → K) (o : Opts K) (p : Pix K) (b : K)
    (hlo : ∀ lo, o.lower = some lo → 0 ≤ lo) (hs : o.useSigma = true → 0 ≤ p.s) :
    ∃ t : K, 0 ≤ t ∧ (t = 0 ↔ ¬ LowEx sqrt o p) ∧ addLow sqrt o p b = b + t := by
  unfold addLow LowEx
  cases hl : o.lower with
  | none => exact addStep_none b (fun ⟨_, h, _⟩ => nomatch h)
  | some lo =>
    simp only [scalar_lit, Nat.cast_zero, Option.some.injEq, exists_eq_left']
    cases hu : o.useSigma with
    | true =>
      simp only [if_true]
      refine addStep_and b (fun hq => div_pos (neg_pos.2 (lt_of_lt_of_le hq ?_)) (sig_pos p.s (hs hu))) (by rw [neg_mul])
      rw [neg_mul]
      exact neg_nonpos.2 (mul_nonneg (hlo lo hl) (hs hu))
    | false =>
      simp only [Bool.false_eq_true, if_false]
      exact addStep_and b (fun hq => by
        rw [neg_mul]; exact neg_pos.2 (lt_of_lt_of_le hq (neg_nonpos.2 (hlo lo hl)))) Iff.rfl

theorem addUp_eq (sqrt : K → K) (o : Opts K) (p : Pix K) (b : K)
    (hup : ∀ up, o.upper = some up → 0 ≤ up) (hs : o.useSigma = true → 0 ≤ p.s) :
    ∃ t : K, 0 ≤ t ∧ (t = 0 ↔ ¬ UpEx sqrt o p) ∧ addUp sqrt o p b = b + t := by
  unfold addUp UpEx
  cases hl : o.upper with
  | none => exact addStep_none b (fun ⟨_, h, _⟩ => nomatch h)
  | some up =>
    simp only [scalar_lit, Nat.cast_zero, Option.some.injEq, exists_eq_left']
    cases hu : o.useSigma with
    | true =>
      simp only [if_true]
      exact addStep_and b (fun hq => div_pos (lt_of_le_of_lt (mul_nonneg (hup up hl) (hs hu)) hq)
        (sig_pos p.s (hs hu))) Iff.rfl
    | false =>
      simp only [Bool.false_eq_true, if_false]
      exact addStep_and b (fun hq => lt_of_le_of_lt (hup up hl) hq) Iff.rfl

theorem addDev_eq (o : Opts K) (p : Pix K) (b : K) (hmd : ∀ md, o.maxdev = some md → 0 < md) :
    ∃ t : K, 0 ≤ t ∧ (t = 0 ↔ ¬ DevEx o p) ∧ addDev o p b = b + t := by
  unfold addDev DevEx
  cases hl : o.maxdev with
  | none => exact addStep_none b (fun ⟨_, h, _⟩ => nomatch h)
  | some md =>
    have hmd' := hmd md hl
    have habs : (if p.d - p.m < 0 then -(p.d - p.m) else p.d - p.m) = |p.d - p.m| := by
      split
      · rw [abs_of_neg]; assumption
      · rw [abs_of_nonneg]; exact not_lt.1 ‹_›
    simp only [scalar_lit, Nat.cast_zero, Option.some.injEq, exists_eq_left', habs]
    by_cases hq : |p.d - p.m| > md
    · have : |p.d - p.m| / md > 0 := div_pos (lt_trans hmd' hq) hmd'
      refine ⟨|p.d - p.m| / md, le_of_lt this, ⟨fun e => absurd e (ne_of_gt this), fun n => absurd hq n⟩, ?_⟩
      rw [decide_eq_true hq, castB_true, mul_one]
    · refine ⟨0, le_refl _, ⟨fun _ => hq, fun _ => rfl⟩, ?_⟩
      rw [decide_eq_false hq, castB_false, mul_zero]

/-- the pixel is considered for rejection: not excluded by inmask, nor (sticky) by the previous outmask -/
def Eligible (o : Opts K) (p : Pix K) : Prop :=
  (o.hasIn = true → p.inm = true) ∧ (o.sticky = true → p.prev = true)

/-- the pixel is newly rejected by one of the three tests -/
def IsBad (sqrt : K → K) (o : Opts K) (p : Pix K) : Prop :=
  Eligible o p ∧ (LowEx sqrt o p ∨ UpEx sqrt o p ∨ DevEx o p)

/-- the factors `* inmask` (if given) and `* outmask` (if sticky) that close `badness` -/
theorem maskFactors_zero_iff (B : K) (hasIn sticky inm prev : Bool) (X : Prop) (hb : B = 0 ↔ ¬ X) :
    (if sticky = true then (if hasIn = true then B * castB inm else B) * castB prev
      else (if hasIn = true then B * castB inm else B)) = 0 ↔
    ¬ (((hasIn = true → inm = true) ∧ (sticky = true → prev = true)) ∧ X) := by
  cases hasIn <;> cases sticky <;> cases inm <;> cases prev <;>
    simp [castB_true, castB_false, hb]

theorem badness_zero_iff (sqrt : K → K) (o : Opts K) (p : Pix K)
    (hlo : ∀ lo, o.lower = some lo → 0 ≤ lo) (hup : ∀ up, o.upper = some up → 0 ≤ up)
    (hmd : ∀ md, o.maxdev = some md → 0 < md) (hs : o.useSigma = true → 0 ≤ p.s) :
    isZero (badness sqrt o p) = true ↔ ¬ IsBad sqrt o p := by
  rw [isZero_iff]
  unfold badness IsBad Eligible
  obtain ⟨t1, h1, z1, e1⟩ := addLow_eq sqrt o p (Scalar.ofNat 0) hlo hs
  obtain ⟨t2, h2, z2, e2⟩ := addUp_eq sqrt o p (addLow sqrt o p (Scalar.ofNat 0)) hup hs
  obtain ⟨t3, h3, z3, e3⟩ := addDev_eq o p (addUp sqrt o p (addLow sqrt o p (Scalar.ofNat 0))) hmd
  have hb : addDev o p (addUp sqrt o p (addLow sqrt o p (Scalar.ofNat 0))) = 0 ↔
      ¬ (LowEx sqrt o p ∨ UpEx sqrt o p ∨ DevEx o p) := by
    rw [e3, e2, e1, scalar_ofNat, Nat.cast_zero, zero_add, add_eq_zero_iff_of_nonneg (add_nonneg h1 h2) h3,
      add_eq_zero_iff_of_nonneg h1 h2, z1, z2, z3, not_or, not_or, and_assoc]
  exact maskFactors_zero_iff _ o.hasIn o.sticky p.inm p.prev _ hb

end field

theorem setFalse_length (idxs : List Nat) (m : List Bool) : (setFalse m idxs).length = m.length := by
  unfold setFalse
  induction idxs generalizing m with
  | nil => rfl
  | cons k ks ih => simp only [List.foldl_cons]; rw [ih]; simp

theorem setFalse_true (idxs : List Nat) (m : List Bool) (i : Nat) :
    (setFalse m idxs)[i]? = some true ↔ m[i]? = some true ∧ i ∉ idxs := by
  unfold setFalse
  induction idxs generalizing m with
  | nil => simp
  | cons k ks ih =>
    simp only [List.foldl_cons, List.mem_cons, not_or]
    rw [ih, List.getElem?_set]
    by_cases hk : k = i
    · subst hk; simp
    · simp [hk]; intro _ _; exact fun h => hk h.symm

theorem growLoop_length (irej : List Nat) (n : Nat) (ks : List Nat) (m : List Bool) :
    (ks.foldl (fun acc k => setFalse (setFalse acc (irej.map (· - k)))
        (irej.map (fun r => min (r + k) n))) m).length = m.length := by
  induction ks generalizing m with
  | nil => rfl
  | cons k ks ih => simp only [List.foldl_cons]; rw [ih, setFalse_length, setFalse_length]

theorem growLoop_true (irej : List Nat) (n : Nat) (ks : List Nat) (m : List Bool) (i : Nat) :
    (ks.foldl (fun acc k => setFalse (setFalse acc (irej.map (· - k)))
        (irej.map (fun r => min (r + k) n))) m)[i]? = some true ↔
    m[i]? = some true ∧ ∀ k ∈ ks, ∀ r ∈ irej, r - k ≠ i ∧ min (r + k) n ≠ i := by
  induction ks generalizing m with
  | nil => simp
  | cons k ks ih =>
    simp only [List.foldl_cons]
    rw [ih, setFalse_true, setFalse_true]
    simp only [List.mem_map, not_exists, not_and, List.mem_cons, forall_eq_or_imp]
    constructor
    · rintro ⟨⟨⟨h1, h2⟩, h3⟩, h4⟩
      exact ⟨h1, fun r hr => ⟨h2 r hr, h3 r hr⟩, h4⟩
    · rintro ⟨h1, h2, h4⟩
      exact ⟨⟨⟨h1, fun r hr => (h2 r hr).1⟩, fun r hr => (h2 r hr).2⟩, h4⟩

theorem growMask_length (g : Nat) (m : List Bool) : (growMask g m).length = m.length := by
  unfold growMask
  simp only
  split
  · rw [growLoop_length]
  · rfl

theorem growMask_true (g : Nat) (m : List Bool) (i : Nat) (hi : i < m.length) :
    (growMask g m)[i]? = some true ↔
      ∀ j, j < m.length → i ≤ j + g → j ≤ i + g → m[j]? = some true := by
  have mem_irej : ∀ r, r ∈ (List.range m.length).filter (fun i => !(m.getD i true)) ↔
      r < m.length ∧ m[r]? ≠ some true := by
    intro r
    rw [List.mem_filter, List.mem_range, List.getD_eq_getElem?_getD]
    refine and_congr_right fun hr => ?_
    rw [List.getElem?_eq_getElem hr]
    cases m[r] <;> simp
  -- both branches of the code: `m` with the shifted copies of the rejected positions cleared
  have hloop : (growMask g m)[i]? = some true ↔ m[i]? = some true ∧
      ∀ k ∈ List.range' 1 g, ∀ r ∈ (List.range m.length).filter (fun i => !(m.getD i true)),
        r - k ≠ i ∧ min (r + k) (m.length - 1) ≠ i := by
    unfold growMask
    simp only
    split
    · exact growLoop_true _ _ _ m i
    · rename_i hc
      refine ⟨fun h => ⟨h, fun k hk r hr => absurd ⟨?_, List.ne_nil_of_mem hr⟩ hc⟩, And.left⟩
      have := List.mem_range'_1.1 hk
      omega
  rw [hloop]
  constructor
  · rintro ⟨h0, hall⟩ j hj h1 h2
    by_contra hf
    have hr := (mem_irej j).2 ⟨hj, hf⟩
    -- `j` lies `k` to the right or to the left of `i`: the copy shifted by `k` clears `i`
    rcases Nat.lt_trichotomy i j with hlt | rfl | hlt
    · obtain ⟨k, rfl⟩ := Nat.exists_eq_add_of_lt hlt
      exact (hall (k + 1) (List.mem_range'_1.2 (by omega)) _ hr).1 (by omega)
    · exact hf h0
    · obtain ⟨k, rfl⟩ := Nat.exists_eq_add_of_lt hlt
      exact (hall (k + 1) (List.mem_range'_1.2 (by omega)) _ hr).2 (by omega)
  · intro h
    refine ⟨h i hi (Nat.le_add_right _ _) (Nat.le_add_right _ _), fun k hk r hr => ?_⟩
    have hk := List.mem_range'_1.1 hk
    obtain ⟨hrl, hrf⟩ := (mem_irej r).1 hr
    exact ⟨fun e => hrf (h r hrl (by omega) (by omega)), fun e => hrf (h r hrl (by omega) (by omega))⟩

section anyScalar
variable {α : Type} [Scalar α]

theorem growMask_zero (m : List Bool) : growMask 0 m = m := by
  unfold growMask
  exact if_neg fun h => absurd h.1 (Nat.lt_irrefl 0)

/-- one `& mask` step at the end of `djs_reject` (`& inmask`; `& outmask` if sticky), taken when `c` holds -/
theorem andMask_true {β : Type} (c : Bool) (f : β → Bool) (l : List Bool) (px : List β) (i : Nat)
    (hi : i < px.length) :
    (if c = true then List.zipWith (fun a p => a && f p) l px else l)[i]? = some true ↔
      l[i]? = some true ∧ (c = true → f px[i] = true) := by
  cases c
  · simp only [Bool.false_eq_true, if_false, false_imp_iff, and_true]
  · rw [if_pos rfl, List.getElem?_zipWith, List.getElem?_eq_getElem hi]
    cases l[i]? with
    | none => simp
    | some a => cases a <;> simp

theorem andMask_length {β : Type} (c : Bool) (f : β → Bool) (l : List Bool) (px : List β)
    (h : l.length = px.length) :
    (if c = true then List.zipWith (fun a p => a && f p) l px else l).length = px.length := by
  cases c
  · exact h
  · simp only [if_true, List.length_zipWith, h, Nat.min_self]

theorem finishMask_length (o : Opts α) (px : List (Pix α)) (bad : List α) (hlen : bad.length = px.length) :
    (finishMask o px bad).1.length = px.length :=
  andMask_length o.sticky (fun p : Pix α => p.prev) _ px
    (andMask_length o.hasIn (fun p : Pix α => p.inm) _ px (by rw [growMask_length, List.length_map, hlen]))

theorem finishMask_true (o : Opts α) (px : List (Pix α)) (bad : List α) (i : Nat) (hi : i < px.length) :
    (finishMask o px bad).1[i]? = some true ↔
      ((growMask o.grow (bad.map isZero))[i]? = some true ∧ (o.hasIn = true → px[i].inm = true)) ∧
        (o.sticky = true → px[i].prev = true) := by
  unfold finishMask
  rw [andMask_true _ _ _ _ _ hi, andMask_true _ _ _ _ _ hi]

theorem finishMask_badness (sqrt : α → α) (o : Opts α) (px : List (Pix α)) :
    finishMask o px (px.map (badness sqrt o)) = djsRejectPix sqrt o px := by
  unfold finishMask djsRejectPix
  simp only [List.map_map, Function.comp_def]

theorem djsReject_model (sqrt : α → α) (o : Opts α) (d mdl sv : List α) (outmask inmask : Option (List Bool)) :
    djsReject sqrt o d (some mdl) outmask inmask sv =
      if (∀ om, outmask = some om → om.length = d.length) ∧ mdl.length = d.length ∧
          (∀ im, inmask = some im → im.length = d.length) ∧ sv.length = d.length then
        .ok (djsRejectPix sqrt { o with hasIn := inmask.isSome } ((List.range d.length).map fun i =>
          ⟨d.getD i 0, mdl.getD i 0, sv.getD i 0, (inmask.getD (List.replicate d.length true)).getD i true,
            (outmask.getD (List.replicate d.length true)).getD i true⟩))
      else .error "ValueError" := by
  unfold djsReject
  rcases outmask with _ | om <;> rcases inmask with _ | im <;>
    simp only [bind, Except.bind, pure, Except.pure, throw, throwThe, MonadExceptOf.throw, ne_eq, ite_not,
      Option.some.injEq, forall_eq', reduceCtorEq, false_imp_iff, implies_true, true_and, Option.getD_some,
      Option.getD_none, Option.isSome_some, Option.isSome_none, ite_and]

end anyScalar

end PydlVerif.Reject
