/-
The array program of `bsplvn` (`bsplvnStep`/`bsplvnLoop`) computes the Cox-de Boor pieces `coxDeBoorAt` of Model/BSpline.lean
on one knot interval; what it returns sums to one and is non-negative because the pieces do.
-/
import PydlVerif.Lemmas.BSplineField
import PydlVerif.Lemmas.Sums
import Mathlib.Tactic.Ring
import Mathlib.Tactic.NormNum
import Mathlib.Algebra.BigOperators.Intervals
namespace PydlVerif.C08
open PydlVerif PydlVerif.BSpline PydlVerif.AtField

variable {K : Type} [Field K] [LinearOrder K] [IsStrictOrderedRing K] [FloorRing K]

theorem step_cons (dp dm : ℕ → K) (j l : ℕ) (vp v : K) (vs : List K) :
    stepK dp dm j l vp (v :: vs) =
      (v / (dp l + dm (j - l)) * dp l + vp) :: stepK dp dm j (l+1) (v / (dp l + dm (j - l)) * dm (j - l)) vs := rfl
theorem loop_succ (dp dm : ℕ → K) (fuel j : ℕ) (v : List K) :
    loopK dp dm (fuel+1) j v = loopK dp dm fuel (j+1) (stepK dp dm j 0 0 v) := by
  rw [← scalar_zero]; rfl
theorem bsplvn_unfold (t : ℕ → K) (k i : ℕ) (x : K) :
    bsplvnK t k x i = loopK (fun a => t (i + a + 1) - x) (fun b => x - t (i - b)) (k-1) 0 [1] := by
  rw [← scalar_one]; rfl

theorem step_length (dp dm : ℕ → K) (j : ℕ) (vs : List K) (l : ℕ) (vp : K) :
    (stepK dp dm j l vp vs).length = vs.length + 1 := by
  induction vs generalizing l vp with
  | nil => rfl
  | cons v vs ih => rw [step_cons, List.length_cons, ih, List.length_cons]

theorem loop_length (dp dm : ℕ → K) (fuel j : ℕ) (v : List K) (hlen : v.length = j + 1) :
    (loopK dp dm fuel j v).length = j + fuel + 1 := by
  induction fuel generalizing j v with
  | zero => exact hlen
  | succ f ih => rw [loop_succ, ih (j+1) _ (by rw [step_length, hlen])]; omega

/-- `bsplvn` returns `nord` values for every point -/
theorem bsplvn_length (t : ℕ → K) (k i : ℕ) (x : K) (hk : 1 ≤ k) : (bsplvnK t k x i).length = k := by
  rw [bsplvn_unfold, loop_length _ _ _ 0 _ rfl]; omega

theorem cdbAt_succ2 (t : ℕ → K) (i k j : ℕ) (x : K) :
    cdbAtK t i (k+2) j x = WK t j (k+1) x * cdbAtK t i (k+1) j x + W'K t (j+1) (k+1) x * cdbAtK t i (k+1) (j+1) x := by
  simp only [coxDeBoorAt, sc_add, sc_mul]

theorem cdbAt_one (t : ℕ → K) (i j : ℕ) (x : K) : cdbAtK t i 1 j x = if j = i then 1 else 0 := by
  simp only [coxDeBoorAt]
  split
  · exact scalar_one
  · exact scalar_zero

theorem W_pos (t : ℕ → K) (j k : ℕ) (x : K) (h : t j < t (j+k)) : WK t j k x = (x - t j) / (t (j+k) - t j) := by
  simp only [cdbW, sc_lt, sc_sub, sc_div]; rw [if_pos h]
theorem W'_pos (t : ℕ → K) (j k : ℕ) (x : K) (h : t j < t (j+k)) : W'K t j k x = (t (j+k) - x) / (t (j+k) - t j) := by
  simp only [cdbW', sc_lt, sc_sub, sc_div]; rw [if_pos h]

theorem cdbAt_zero (t : ℕ → K) (i : ℕ) (x : K) : ∀ k j, j + k ≤ i ∨ i < j → cdbAtK t i k j x = 0
  | 0, _, _ => by simp only [coxDeBoorAt]; exact scalar_zero
  | 1, j, h => by simp only [coxDeBoorAt]; rw [if_neg (by omega)]; exact scalar_zero
  | k+2, j, h => by
    rw [cdbAt_succ2, cdbAt_zero t i x (k+1) j (by omega), cdbAt_zero t i x (k+1) (j+1) (by omega), mul_zero, mul_zero,
      add_zero]

theorem support_lt {β : Type} [Preorder β] (t : ℕ → β) (N i q k : ℕ) (hmono : ∀ a b, a ≤ b → b ≤ N → t a ≤ t b) (hstrict : t i < t (i+1))
    (hq : q ≤ i) (hi : i < q + k) (hN : q + k ≤ N) : t q < t (q + k) :=
  lt_of_le_of_lt (hmono q i hq (by omega)) (lt_of_lt_of_le hstrict (hmono (i+1) (q+k) (by omega) hN))

/-- de Boor's recurrence for the coefficients (the second half of each term shifted by one; the two end terms
of the shifted sum vanish).  No hypothesis on the knots. -/
theorem cdbAt_deBoor (t : ℕ → K) (i N k : ℕ) (x : K) (c : ℕ → K) (hiN : i < N) (hk : k + 1 ≤ i) :
    ∑ j ∈ Finset.range N, c j * cdbAtK t i (k+2) j x =
      ∑ j ∈ Finset.range N, (c j * WK t j (k+1) x + c (j-1) * W'K t j (k+1) x) * cdbAtK t i (k+1) j x := by
  have h := Finset.sum_range_succ' (fun j => c (j-1) * W'K t j (k+1) x * cdbAtK t i (k+1) j x) N
  rw [Finset.sum_range_succ, cdbAt_zero t i x (k+1) N (Or.inr hiN), cdbAt_zero t i x (k+1) 0 (Or.inl (by omega)),
    mul_zero, mul_zero, add_zero, add_zero] at h
  simp_rw [add_mul, cdbAt_succ2, mul_add]
  rw [Finset.sum_add_distrib, Finset.sum_add_distrib, h]
  simp only [Nat.add_sub_cancel, mul_assoc]

theorem cdbAt_sum_congr (t : ℕ → K) (i N k : ℕ) (x : K) (f g : ℕ → K) (h : ∀ j, j ≤ i → i < j + k → f j = g j) :
    ∑ j ∈ Finset.range N, f j * cdbAtK t i k j x = ∑ j ∈ Finset.range N, g j * cdbAtK t i k j x := by
  refine Finset.sum_congr rfl fun j _ => ?_
  by_cases hj : j ≤ i ∧ i < j + k
  · rw [h j hj.1 hj.2]
  · rw [cdbAt_zero t i x k j (by omega), mul_zero, mul_zero]

theorem W_add_W' (t : ℕ → K) (j k : ℕ) (x : K) (h : t j < t (j+k)) : WK t j k x + W'K t j k x = 1 := by
  rw [W_pos t j k x h, W'_pos t j k x h, ← add_div, sub_add_sub_cancel', div_self (sub_pos.2 h).ne']

/-- partition of unity, at every `x`: the recurrence with all coefficients one; on the support `W j + W' j = 1` -/
theorem cdbAt_sum_one (t : ℕ → K) (i N : ℕ) (x : K) (hiN : i < N) (hstrict : t i < t (i+1)) :
    ∀ m, m ≤ i → (∀ a b, a ≤ b → b ≤ i + m → t a ≤ t b) → ∑ j ∈ Finset.range N, cdbAtK t i (m+1) j x = 1 := by
  intro m
  induction m with
  | zero =>
    intro _ _
    simp only [Nat.zero_add, cdbAt_one]
    rw [Finset.sum_ite_eq' (Finset.range N) i (fun _ => (1 : K)), if_pos (Finset.mem_range.2 hiN)]
  | succ k ih =>
    intro hk hmono
    have h := cdbAt_deBoor t i N k x (fun _ => 1) hiN hk
    simp only [one_mul] at h
    rw [h, cdbAt_sum_congr t i N (k+1) x _ (fun _ => 1) fun j h1 h2 =>
      W_add_W' t j (k+1) x (support_lt t _ i j (k+1) hmono hstrict h1 h2 (by omega))]
    simp only [one_mul]
    exact ih (by omega) fun a b hab hb => hmono a b hab (by omega)

theorem W_nonneg (t : ℕ → K) (j k : ℕ) (x : K) (h : t j ≤ x) : 0 ≤ WK t j k x := by
  by_cases hlt : t j < t (j+k)
  · rw [W_pos t j k x hlt]; exact div_nonneg (sub_nonneg.2 h) (sub_pos.2 hlt).le
  · exact ((if_neg hlt).trans scalar_zero).ge

theorem W'_nonneg (t : ℕ → K) (j k : ℕ) (x : K) (h : x ≤ t (j+k)) : 0 ≤ W'K t j k x := by
  by_cases hlt : t j < t (j+k)
  · rw [W'_pos t j k x hlt]; exact div_nonneg (sub_nonneg.2 h) (sub_pos.2 hlt).le
  · exact ((if_neg hlt).trans scalar_zero).ge

/-- a weight counts only where its piece does
not vanish, and there `t j ≤ t i ≤ x ≤ t (i+1) ≤ t (j+k)` -/
theorem cdbAt_nonneg (t : ℕ → K) (i : ℕ) (x : K) (hlo : t i ≤ x) (hhi : x ≤ t (i+1)) :
    ∀ k j, (∀ a b, a ≤ b → b ≤ i + k - 1 → t a ≤ t b) → 0 ≤ cdbAtK t i k j x
  | 0, _, _ => by simp only [coxDeBoorAt]; exact scalar_zero.ge
  | 1, j, _ => by rw [cdbAt_one]; split <;> norm_num
  | k+2, j, hm => by
    have ih := fun j => cdbAt_nonneg t i x hlo hhi (k+1) j fun a b h1 h2 => hm a b h1 (by omega)
    rw [cdbAt_succ2]
    refine add_nonneg ?_ ?_
    · by_cases hj : j ≤ i
      · exact mul_nonneg (W_nonneg t j _ x ((hm j i hj (by omega)).trans hlo)) (ih j)
      · rw [cdbAt_zero t i x (k+1) j (Or.inr (by omega)), mul_zero]
    · by_cases hj : j + 1 ≤ i ∧ i < j + 1 + (k+1)
      · exact mul_nonneg (W'_nonneg t _ _ x (hhi.trans (hm _ _ (by omega) (by omega)))) (ih _)
      · rw [cdbAt_zero t i x (k+1) (j+1) (by omega), mul_zero]

/-- one column of `bsplvn` is one level of the Cox-de Boor triangle: with `l` entries done and `d` still to do, `q+1` the position
of the next piece of order `j+1` and the carried value the left half of piece `q` of order `j+2` -/
theorem step_cdb (t : ℕ → K) (i j : ℕ) (x : K) (hlt : ∀ q, q ≤ i → i < q + (j+1) → t q < t (q + (j+1))) :
    ∀ d l q, l + d = j + 1 → q + 1 + j = i + l →
    stepK (fun a => t (i + a + 1) - x) (fun b => x - t (i - b)) j l
      (WK t q (j+1) x * cdbAtK t i (j+1) q x)
      ((List.range' (q+1) d).map (fun q => cdbAtK t i (j+1) q x))
    = (List.range' q (d+1)).map (fun q => cdbAtK t i (j+2) q x) := by
  intro d
  induction d with
  | zero =>
    intro l q hl hq
    show [_] = [cdbAtK t i (j+2) q x]
    rw [cdbAt_succ2, cdbAt_zero t i x (j+1) (q+1) (Or.inr (by omega)), mul_zero, add_zero]
  | succ d ih =>
    intro l q hl hq
    have hq1 := hlt (q+1) (by omega) (by omega)
    have e1 : i + l + 1 = q + 1 + (j + 1) := by omega
    have e2 : i - (j - l) = q + 1 := by omega
    rw [List.range'_succ (s := q+1) (n := d), List.map_cons, step_cons, List.range'_succ (s := q) (n := d+1),
      List.map_cons]
    rw [e1, e2, cdbAt_succ2 t i j q x, W'_pos t (q+1) (j+1) x hq1, ← ih (l+1) (q+1) (by omega) (by omega),
      W_pos t (q+1) (j+1) x hq1]
    congr 1
    · ring
    · congr 1
      ring

theorem loop_cdb (t : ℕ → K) (i : ℕ) (x : K) (hstrict : t i < t (i+1)) :
    ∀ fuel j, j + fuel ≤ i → (∀ a b, a ≤ b → b ≤ i + (j + fuel) → t a ≤ t b) →
    loopK (fun a => t (i + a + 1) - x) (fun b => x - t (i - b)) fuel j
      ((List.range' (i - j) (j+1)).map (fun q => cdbAtK t i (j+1) q x))
    = (List.range' (i - (j+fuel)) (j+fuel+1)).map (fun q => cdbAtK t i (j+fuel+1) q x) := by
  intro fuel
  induction fuel with
  | zero => intro j _ _; rfl
  | succ f ih =>
    intro j hj hmono
    have hstep := step_cdb t i j x
      (fun q hq hi => support_lt t _ i q (j+1) hmono hstrict hq hi (by omega)) (j+1) 0 (i-j-1) (by omega) (by omega)
    rw [cdbAt_zero t i x (j+1) (i-j-1) (Or.inl (by omega)), mul_zero, show i - j - 1 + 1 = i - j by omega] at hstep
    have hih := ih (j+1) (by omega) (fun a b h1 h2 => hmono a b h1 (by omega))
    rw [show j + 1 + f = j + (f + 1) by omega] at hih
    rw [loop_succ, hstep]
    exact hih

/-- the `m`-th value `bsplvn` returns for interval `i` is the Cox-de Boor function
`B_{i-k+1+m, k}` (its piece on interval `i`), at every `x` -/
theorem bsplvn_eq_coxDeBoorAt (t : ℕ → K) (k i : ℕ) (x : K) (hk : 1 ≤ k) (hik : k ≤ i + 1)
    (hmono : ∀ a b, a ≤ b → b ≤ i + k - 1 → t a ≤ t b) (hstrict : t i < t (i+1)) :
    bsplvnK t k x i = (List.range k).map (fun m => cdbAtK t i k (i + 1 - k + m) x) := by
  have h := loop_cdb t i x hstrict (k-1) 0 (by omega) (fun a b h1 h2 => hmono a b h1 (by omega))
  rw [show 0 + (k - 1) + 1 = k by omega, show i - (0 + (k - 1)) = i + 1 - k by omega,
    List.range'_eq_map_range (s := i + 1 - k) (n := k), List.map_map] at h
  rw [bsplvn_unfold]
  refine Eq.trans ?_ h
  show loopK _ _ (k-1) 0 [1] = loopK _ _ (k-1) 0 [cdbAtK t i 1 (i - 0) x]
  rw [cdbAt_one, if_pos (Nat.sub_zero i)]

/-- on a half-open interval `t i ≤ x < t (i+1)` of non-decreasing knots the textbook recursion
(order-1 functions = indicator of `[t_j, t_{j+1})`) is the polynomial-piece form -/
theorem cdb_eq_cdbAt (t : ℕ → K) (N i : ℕ) (x : K) (hmono : ∀ a b, a ≤ b → b ≤ N → t a ≤ t b)
    (hi : i + 1 ≤ N) (hlo : t i ≤ x) (hhi : x < t (i+1)) :
    ∀ k j, j + k ≤ N → cdbK t k j x = cdbAtK t i k j x
  | 0, _, _ => by simp only [coxDeBoor, coxDeBoorAt]
  | 1, j, h => by
    simp only [coxDeBoor, coxDeBoorAt, sc_le, sc_lt]
    by_cases hj : j = i
    · rw [if_pos hj, hj, if_pos ⟨hlo, hhi⟩]
    · rw [if_neg hj, if_neg]
      intro hc
      rcases Nat.lt_or_gt_of_ne hj with h1 | h1
      · exact lt_irrefl _ (lt_of_lt_of_le hc.2 (le_trans (hmono (j+1) i (by omega) (by omega)) hlo))
      · exact lt_irrefl _ (lt_of_lt_of_le hhi (le_trans (hmono (i+1) j (by omega) (by omega)) hc.1))
  | k+2, j, h => by
    simp only [coxDeBoor, coxDeBoorAt]
    rw [cdb_eq_cdbAt t N i x hmono hi hlo hhi (k+1) j (by omega),
      cdb_eq_cdbAt t N i x hmono hi hlo hhi (k+1) (j+1) (by omega)]

/-- `bsplvn_sum_one` without `t i ≤ x ≤ t (i+1)`: the values sum to one at every `x` -/
theorem bsplvn_sum_one_at (t : ℕ → K) (k i : ℕ) (x : K) (hk : 1 ≤ k) (hik : k ≤ i + 1)
    (hmono : ∀ a b, a ≤ b → b ≤ i + k - 1 → t a ≤ t b) (hstrict : t i < t (i+1)) : (bsplvnK t k x i).sum = 1 := by
  obtain ⟨m, rfl⟩ : ∃ m, k = m + 1 := ⟨k - 1, by omega⟩
  rw [bsplvn_eq_coxDeBoorAt t _ i x hk hik hmono hstrict,
    ← sum_range_support (fun j => cdbAtK t i (m+1) j x) (i+1) (i + 1 - (m+1)) (m+1) (by omega)
      fun j _ hj => cdbAt_zero t i x (m+1) j (by omega)]
  exact cdbAt_sum_one t i (i+1) x (Nat.lt_succ_self i) hstrict m (by omega) hmono

/-- a point in a non-empty knot interval `i`: the knots are non-decreasing up to `t (i+k-1)`, the last of the `2(k-1)` knots `bsplvn`
reads, and `t i < t (i+1)` (so that it divides by non-zero numbers), and `t i ≤ x ≤ t (i+1)` (for the sign of what it returns) -/
structure Bracket (t : ℕ → K) (k i : ℕ) (x : K) : Prop where
  hk : 1 ≤ k
  hik : k ≤ i + 1
  mono : ∀ a b, a ≤ b → b ≤ i + k - 1 → t a ≤ t b
  lo : t i ≤ x
  hi : x ≤ t (i+1)
  strict : t i < t (i+1)

/-- at a point of a non-empty knot interval the `nord` values returned by `bsplvn` sum to one -/
theorem bsplvn_sum_one (t : ℕ → K) (k i : ℕ) (x : K) (h : Bracket t k i x) : (bsplvnK t k x i).sum = 1 :=
  bsplvn_sum_one_at t k i x h.hk h.hik h.mono h.strict

/-- at a point of a non-empty knot interval the values returned by `bsplvn` are non-negative -/
theorem bsplvn_nonneg (t : ℕ → K) (k i : ℕ) (x : K) (h : Bracket t k i x) : ∀ w ∈ bsplvnK t k x i, 0 ≤ w := by
  rw [bsplvn_eq_coxDeBoorAt t k i x h.hk h.hik h.mono h.strict]
  exact List.forall_mem_map.2 fun m _ => cdbAt_nonneg t i x h.lo h.hi k _ h.mono

end PydlVerif.C08
