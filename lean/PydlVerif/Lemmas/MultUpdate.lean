/-
The multiplicative (Lee-Seung) update `x_k ← x_k · num_k / den_k` of non-negative weighted least squares, with and
without the smoothing terms of HMF in numerator and denominator, does not increase the objective `Lsq.Q`.
-/
import PydlVerif.Lemmas.Lsq
import PydlVerif.Lemmas.PathSmooth
open Finset
namespace PydlVerif.C15
open PydlVerif.Lsq
section
variable {K : Type} [Field K] [LinearOrder K] [IsStrictOrderedRing K]

/-- Cauchy-Schwarz with the non-negative weights `B_ik x_k` (the quadratic part of the Lee-Seung bound) -/
theorem cs_quad_le {n m : ℕ} (B : Fin n → Fin m → K) (w : Fin n → K) (x t : Fin m → K)
    (hB : ∀ i k, 0 ≤ B i k) (hw : ∀ i, 0 ≤ w i) (hx : ∀ k, 0 ≤ x k) :
    ∑ i, w i * (∑ k, B i k * (x k * t k)) ^ 2 ≤ ∑ k, x k * t k ^ 2 * ∑ i, w i * B i k * ∑ l, B i l * x l := by
  -- row by row, Cauchy-Schwarz for `B x t = √(B x) · √(B x) t`; then the order of summation is exchanged
  refine (Finset.sum_le_sum fun i _ => mul_le_mul_of_nonneg_left
    (Finset.sum_sq_le_sum_mul_sum_of_sq_le_mul (Finset.univ : Finset (Fin m))
      (r := fun k => B i k * (x k * t k)) (f := fun k => B i k * x k) (g := fun k => B i k * x k * t k ^ 2)
      (fun k _ => mul_nonneg (hB i k) (hx k)) (fun k _ => mul_nonneg (mul_nonneg (hB i k) (hx k)) (sq_nonneg _))
      (fun k _ => le_of_eq (by ring))) (hw i)).trans (le_of_eq ?_)
  simp_rw [Finset.mul_sum _ _ (_ * _ ^ 2)]
  rw [Finset.sum_comm]
  refine Finset.sum_congr rfl fun i _ => ?_
  generalize ∑ l, B i l * x l = P
  rw [Finset.mul_sum, Finset.mul_sum]
  exact Finset.sum_congr rfl fun k _ => by ring

/-- the multiplicative update with extra terms in numerator and denominator, `r_k = (num_k + E_k) / (den_k + d·x_k)`
(smoothing: `d` = ε·degree, `E` = ε·old neighbours; `d = 0`, `E = 0`: Lee-Seung), the ratio given by the equation it
solves.  `Q` is expanded around `x`, the quadratic term bounded by `cs_quad_le`, and
`num - den = (r - 1)(den + d·x) + d·x - E` in the linear term. -/
theorem mult_update_gen_le {n m : ℕ} (B : Fin n → Fin m → K) (w y : Fin n → K) (x : Fin m → K)
    (hB : ∀ i k, 0 ≤ B i k) (hw : ∀ i, 0 ≤ w i) (hx : ∀ k, 0 ≤ x k) (num den : Fin m → K)
    (hnum : ∀ k, num k = ∑ i, w i * B i k * y i) (hden : ∀ k, den k = ∑ i, w i * B i k * ∑ l, B i l * x l)
    (E r : Fin m → K) (d : K) (hr : ∀ k, r k * (den k + d * x k) = num k + E k) :
    Q B w y (fun k => x k * r k) + ∑ k, x k * (r k - 1) ^ 2 * den k
        + 2 * ∑ k, (x k * r k - x k) * (d * (x k * r k) - E k)
      ≤ Q B w y x ∧
    0 ≤ ∑ k, x k * (r k - 1) ^ 2 * den k := by
  refine ⟨?_, Finset.sum_nonneg fun k _ => mul_nonneg (mul_nonneg (hx k) (sq_nonneg _)) (hden k ▸
    Finset.sum_nonneg fun i _ =>
      mul_nonneg (mul_nonneg (hw i) (hB i k)) (Finset.sum_nonneg fun l _ => mul_nonneg (hB i l) (hx l)))⟩
  have hstep : ∀ k, x k - x k * r k = -(x k * (r k - 1)) := fun k => by ring
  have hres : ∀ k, ∑ i, w i * B i k * (y i - ∑ l, B i l * x l) = num k - den k := fun k => by
    rw [hnum, hden]; simp only [mul_sub, Finset.sum_sub_distrib]
  have hk : ∀ k, x k * (r k - 1) * (num k - den k)
      = x k * (r k - 1) ^ 2 * den k + (x k * r k - x k) * (d * (x k * r k) - E k) := fun k => by
    linear_combination (x k * (r k - 1)) * (-hr k)
  have hcs := cs_quad_le B w x (fun k => r k - 1) hB hw hx
  simp only [← hden] at hcs
  rw [Q_expand B w y x]
  simp only [hstep, hres, hk, mul_neg, neg_mul, Finset.sum_neg_distrib, neg_sq, Finset.sum_add_distrib]
  linarith

/-- the Lee-Seung update `x_k ← x_k · num_k / den_k` (`num = Bᵀ W y`, `den = Bᵀ W B x`) does not increase the objective;
the data `y` may have any sign -/
theorem mult_update_noninc {n m : ℕ} {B : Fin n → Fin m → K} {w y : Fin n → K} {x num den : Fin m → K}
    (hB : ∀ i k, 0 ≤ B i k) (hw : ∀ i, 0 ≤ w i) (hx : ∀ k, 0 ≤ x k)
    (hnum : ∀ k, num k = ∑ i, w i * B i k * y i) (hden : ∀ k, den k = ∑ i, w i * B i k * ∑ l, B i l * x l)
    (hd0 : ∀ k, den k ≠ 0) : Q B w y (fun k => x k * (num k / den k)) ≤ Q B w y x := by
  obtain ⟨hle, hdec⟩ := mult_update_gen_le B w y x hB hw hx num den hnum hden (fun _ => 0) (fun k => num k / den k) 0
    (fun k => by rw [zero_mul, add_zero, add_zero, div_mul_cancel₀ _ (hd0 k)])
  simp only [zero_mul, sub_self, mul_zero, Finset.sum_const_zero, add_zero] at hle
  linarith

/-- the multiplicative g-update WITH smoothing, as pure algebra.  The `if`s in `hx`, `hden` are the
model's `epsRhs` (old neighbours: one at either end of the row, two inside) and `epsDiag · g` (ε at the ends, 2ε
inside) for `M = m + 1` pixels, spelled out as `gstepnn` has them.  With `P = diag(den/g)` the step is
`δ = -P⁻¹·(half gradient)` and `2P - H = [diag(Qg/g) - Q] + diag(Qg/g) + e·(D + Adj)` is positive semi-definite. -/
theorem nn_smooth_step_le (N m Kc : ℕ) (hm : 1 ≤ m) (s w a g : ℕ → ℕ → K) (e : K) (he : 0 ≤ e)
    (ha : ∀ (i : Fin N) (k : Fin Kc), 0 ≤ a i k) (hw : ∀ i j, 0 ≤ w i j) (hg : ∀ (k : Fin Kc) j, 0 ≤ g k j)
    (x : ℕ → ℕ → K)
    (hx : ∀ (k : Fin Kc) j, j < m + 1 → x k j = g k j *
      (((∑ i : Fin N, a i k * (s i j * w i j))
          + (if j + 1 = m + 1 then e * g k (m + 1 - 2) else if j = 0 then e * g k 1 else e * (g k (j - 1) + g k (j + 1))))
        / ((∑ i : Fin N, a i k * ((∑ l : Fin Kc, a i l * g l j) * w i j))
          + (if 0 < j ∧ j + 1 < m + 1 then e * g k j * 2 else e * g k j))))
    (hden : ∀ (k : Fin Kc) j, j < m + 1 → (∑ i : Fin N, a i k * ((∑ l : Fin Kc, a i l * g l j) * w i j))
          + (if 0 < j ∧ j + 1 < m + 1 then e * g k j * 2 else e * g k j) ≠ 0) :
    (∑ j : Fin (m + 1), Q (fun (i : Fin N) (k : Fin Kc) => a i k) (fun i => w i j) (fun i => s i j) (fun k => x k j))
        + e * ∑ k : Fin Kc, ∑ j ∈ range m, (x k (j + 1) - x k j) ^ 2
      ≤ (∑ j : Fin (m + 1), Q (fun (i : Fin N) (k : Fin Kc) => a i k) (fun i => w i j) (fun i => s i j) (fun k => g k j))
        + e * ∑ k : Fin Kc, ∑ j ∈ range m, (g k (j + 1) - g k j) ^ 2 := by
  have hDg : ∀ (k j : ℕ), (if 0 < j ∧ j + 1 < m + 1 then e * g k j * 2 else e * g k j)
      = (if 0 < j ∧ j + 1 < m + 1 then e * 2 else e) * g k j := fun k j => by rw [ite_mul, mul_right_comm]
  simp only [hDg] at hx hden
  -- every column is a multiplicative update with the smoothing terms `E`, `d` of `mult_update_gen_le`
  have hcol := fun j : Fin (m + 1) =>
    mult_update_gen_le (fun (i : Fin N) (k : Fin Kc) => a i k) (fun i => w i j) (fun i => s i j)
      (fun k => g k j) ha (fun i => hw i j) (fun k => hg k j)
      (fun k => ∑ i : Fin N, a i k * (s i j * w i j))
      (fun k => ∑ i : Fin N, a i k * ((∑ l : Fin Kc, a i l * g l j) * w i j))
      (fun k => Finset.sum_congr rfl fun i _ => by ring)
      (fun k => Finset.sum_congr rfl fun i _ => by ring)
      (fun k => if (j : ℕ) + 1 = m + 1 then e * g k (m + 1 - 2) else if (j : ℕ) = 0 then e * g k 1
        else e * (g k (j - 1) + g k (j + 1))) _
      (if 0 < (j : ℕ) ∧ (j : ℕ) + 1 < m + 1 then e * 2 else e)
      (fun k => div_mul_cancel₀ _ (hden k j j.isLt))
  simp only [← hx _ _ (Fin.isLt _)] at hcol
  have hsum := Finset.sum_le_sum (s := Finset.univ) fun j _ => (hcol j).1
  have hpos := Finset.sum_nonneg (s := Finset.univ) fun j _ => (hcol j).2
  simp only [Finset.sum_add_distrib] at hsum
  -- summed over the columns, the pairings of the step with `d·x' - E` and the change of the penalty are
  -- `e · Σ_edges (δ_j + δ_{j+1})²` (`path_edge_rows`), which is not negative
  linarith [path_edge_rows m Kc hm e g x, mul_nonneg he (Finset.sum_nonneg (s := Finset.univ) fun (k : Fin Kc) _ =>
    Finset.sum_nonneg (s := range m) fun j _ => sq_nonneg (x k j - g k j + (x k (j + 1) - g k (j + 1))))]
end
end PydlVerif.C15
